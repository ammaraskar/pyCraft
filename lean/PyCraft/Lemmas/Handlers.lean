import PyCraft.Model.Handlers
import PyCraft.Lemmas.Dispatch
/-!
Specification vocabulary and helper lemmas for C14 (exception-handler routing).
-/
namespace PyCraft

/-- The exception in play after a sequence of calls, starting from `e`: every call that raised
replaces it. -/
def lastExc (e : Exc) (tr : List CallEv) : Exc :=
  tr.foldl (fun x ev => ev.raised.getD x) e

/-- Every call of the sequence was offered the exception in play at that moment (recursive form;
`argsChained_split` gives the positional reading). -/
def argsChained (e : Exc) : List CallEv → Prop
  | [] => True
  | ev :: rest => ev.arg = e ∧ argsChained (ev.raised.getD e) rest

/-- The reactor-replaced exception: what the handler loop starts with. -/
def RBeh.replace (r : RBeh) (e : Exc) : Exc :=
  match r with
  | .raises e' => e'
  | _ => e

theorem lastExc_nil (e : Exc) : lastExc e [] = e := rfl

theorem lastExc_cons (e : Exc) (ev : CallEv) (tr : List CallEv) :
    lastExc e (ev :: tr) = lastExc (ev.raised.getD e) tr := rfl

theorem lastExc_append (e : Exc) (a b : List CallEv) :
    lastExc e (a ++ b) = lastExc (lastExc e a) b := by
  simp [lastExc, List.foldl_append]

theorem argsChained_append (a b : List CallEv) : ∀ (e : Exc),
    argsChained e (a ++ b) ↔ argsChained e a ∧ argsChained (lastExc e a) b := by
  induction a with
  | nil => intro e; simp [argsChained, lastExc_nil]
  | cons ev a ih =>
    intro e
    simp only [List.cons_append, argsChained, ih, lastExc_cons, and_assoc]

/-- Positional reading of `argsChained`. -/
theorem argsChained_split {e : Exc} {tr : List CallEv} (h : argsChained e tr)
    (a : List CallEv) (ev : CallEv) (b : List CallEv) (ht : tr = a ++ ev :: b) :
    ev.arg = lastExc e a := by
  subst ht
  rw [argsChained_append] at h
  exact h.2.1

/-! ## The loop is the chain -/

theorem foldl_loopStep_broke (hier : Hier) (hs : List Handler) (st : LoopSt)
    (h : st.broke = true) : hs.foldl (loopStep hier) st = st := by
  induction hs with
  | nil => rfl
  | cons a hs ih => simp [List.foldl_cons, loopStep, h, ih]

theorem foldl_loopStep_chain (hier : Hier) (hs : List Handler) : ∀ (st : LoopSt),
    st.broke = false →
      hs.foldl (loopStep hier) st =
        { exc := (tryExceptChain hier hs st.exc).2.exc,
          calls := st.calls ++ (tryExceptChain hier hs st.exc).1,
          broke := (tryExceptChain hier hs st.exc).2.isCaught } := by
  induction hs with
  | nil =>
    intro st hb
    cases st
    simp_all [tryExceptChain, ChainResult.exc, ChainResult.isCaught]
  | cons h hs ih =>
    intro st hb
    simp only [List.foldl_cons, tryExceptChain]
    by_cases hh : h.handles hier st.exc = true
    · cases hbeh : h.beh with
      | returns =>
        simp only [loopStep, hb, hh, hbeh, Bool.false_eq_true, ↓reduceIte]
        rw [foldl_loopStep_broke _ _ _ rfl]
        simp [ChainResult.exc, ChainResult.isCaught]
      | raises e' =>
        simp only [loopStep, hb, hh, hbeh, Bool.false_eq_true, ↓reduceIte]
        rw [ih _ rfl]
        simp
    · simp only [Bool.not_eq_true] at hh
      have : loopStep hier st h = st := by simp [loopStep, hb, hh]
      rw [this, ih _ hb]
      simp [hh]

theorem handlerLoop_eq_chain (hier : Hier) (hs : List Handler) (e : Exc) :
    handlerLoop hier hs e =
      { exc := (tryExceptChain hier hs e).2.exc, calls := (tryExceptChain hier hs e).1,
        broke := (tryExceptChain hier hs e).2.isCaught } := by
  unfold handlerLoop
  rw [foldl_loopStep_chain _ _ _ rfl]
  simp

theorem chain_all_handler (hier : Hier) (hs : List Handler) (e : Exc) :
    ∀ ev ∈ (tryExceptChain hier hs e).1, ev.isHandler = true := by
  fun_induction tryExceptChain hier hs e
  case case1 => nofun
  case case2 => exact List.forall_mem_singleton.mpr rfl
  case case3 ih => exact List.forall_mem_cons.mpr ⟨rfl, ih⟩
  case case4 ih => exact ih

/-- Every call in the chain is a call of a registered handler whose types match the exception it
was given, and what it raised is that handler's behaviour. -/
theorem chain_sound (hier : Hier) (hs : List Handler) (e : Exc) :
    ∀ ev ∈ (tryExceptChain hier hs e).1,
      ∃ h ∈ hs, h.handles hier ev.arg = true ∧ ev = .handler h.id ev.arg h.beh.raised := by
  have later : ∀ {h : Handler} {hs : List Handler} {P : Handler → Prop},
      (∃ h' ∈ hs, P h') → ∃ h' ∈ h :: hs, P h' :=
    fun ⟨h', h1, h2⟩ => ⟨h', List.mem_cons_of_mem _ h1, h2⟩
  fun_induction tryExceptChain hier hs e
  case case1 => nofun
  case case2 h _ _ hh hb =>
    exact List.forall_mem_singleton.mpr
      ⟨h, List.mem_cons_self, hh, by simp [CallEv.arg, hb, Beh.raised]⟩
  case case3 h _ _ hh _ hb _ ih =>
    exact List.forall_mem_cons.mpr
      ⟨⟨h, List.mem_cons_self, hh, by simp [CallEv.arg, hb, Beh.raised]⟩,
        fun ev hev => later (ih ev hev)⟩
  case case4 ih => exact fun ev hev => later (ih ev hev)

theorem chain_argsChained (hier : Hier) (hs : List Handler) (e : Exc) :
    argsChained e (tryExceptChain hier hs e).1 ∧
      lastExc e (tryExceptChain hier hs e).1 = (tryExceptChain hier hs e).2.exc := by
  fun_induction tryExceptChain hier hs e
  case case1 => exact ⟨trivial, rfl⟩
  case case2 => exact ⟨⟨rfl, trivial⟩, rfl⟩
  case case3 ih => exact ⟨⟨rfl, ih.1⟩, ih.2⟩
  case case4 ih => exact ih

theorem chain_head (hier : Hier) (hs : List Handler) (e : Exc) :
    (tryExceptChain hier hs e).1.head? =
      (hs.find? (fun h => h.handles hier e)).map (fun h => .handler h.id e h.beh.raised) := by
  fun_induction tryExceptChain hier hs e
  case case1 => rfl
  case case2 hh hb => simp [hh, hb, Beh.raised]
  case case3 hh _ hb _ _ => simp [hh, hb, Beh.raised]
  case case4 hh ih => simpa [hh] using ih

/-- Ids called by the chain form a sublist of the registered ids: registration order, no handler
consulted twice. -/
theorem chain_ids_sublist (hier : Hier) (hs : List Handler) (e : Exc) :
    ((tryExceptChain hier hs e).1.filterMap CallEv.handlerId?).Sublist (hs.map (·.id)) := by
  fun_induction tryExceptChain hier hs e
  case case1 => exact .slnil
  case case2 => simp [CallEv.handlerId?]
  case case3 ih => exact ih.cons_cons _
  case case4 ih => exact ih.cons _

/-- The chain over `pre ++ h :: post` when `pre` does not catch, `h` matches what is then in play
and raises `e'`: the rest is the chain over `post` on `e'`. -/
theorem chain_append_raise (hier : Hier) (h : Handler) (post : List Handler) (e' : Exc)
    (hb : h.beh = .raises e') : ∀ (pre : List Handler) (e : Exc),
    (tryExceptChain hier pre e).2.isCaught = false →
    h.handles hier (tryExceptChain hier pre e).2.exc = true →
    tryExceptChain hier (pre ++ h :: post) e =
      ((tryExceptChain hier pre e).1 ++
          .handler h.id (tryExceptChain hier pre e).2.exc (some e') ::
            (tryExceptChain hier post e').1,
        (tryExceptChain hier post e').2) := by
  intro pre
  induction pre with
  | nil =>
    intro e _ hh
    simp only [tryExceptChain, ChainResult.exc] at hh
    simp [tryExceptChain, hh, hb, ChainResult.exc]
  | cons a pre ih =>
    intro e hc hh
    simp only [tryExceptChain] at hc hh
    simp only [List.cons_append, tryExceptChain]
    by_cases ha : a.handles hier e = true
    · cases hbeh : a.beh with
      | returns => simp [ha, hbeh, ChainResult.isCaught] at hc
      | raises e'' =>
        simp only [ha, hbeh, ↓reduceIte] at hc hh
        simp [ha, ih e'' hc hh]
    · simp only [Bool.not_eq_true] at ha
      simp only [ha, Bool.false_eq_true, ↓reduceIte] at hc hh
      simp [ha, ih e hc hh]

/-! ## `handleException` in terms of the chain -/

/-- What the reactor's handler raised. -/
def RBeh.raisedExc : RBeh → Option Exc
  | .raises e' => some e'
  | _ => none

/-- Calls made by the final-handler stage when `x` is in play. -/
def finCalls (fin : Final) (x : Exc) : List CallEv :=
  match fin with
  | .fn b => [.final x b.raised]
  | _ => []

/-- Exception in play after the final-handler stage. -/
def finExc (fin : Final) (x : Exc) : Exc :=
  match fin with
  | .fn b => b.raised.getD x
  | _ => x

theorem handleException_retTrue (hier : Hier) (hs : List Handler) (fin : Final) (e : Exc) :
    handleException hier .retTrue hs fin e =
      { trace := [.reactor e none], caught := false, loopExc := none, recorded := none,
        reraised := none, swallowedByReactor := true } := rfl

theorem handleException_of_ne (hier : Hier) (r : RBeh) (hs : List Handler) (fin : Final) (e : Exc)
    (hr : r ≠ .retTrue) :
    handleException hier r hs fin e =
      { trace := .reactor e r.raisedExc :: (tryExceptChain hier hs (r.replace e)).1 ++
          finCalls fin (tryExceptChain hier hs (r.replace e)).2.exc,
        caught := (tryExceptChain hier hs (r.replace e)).2.isCaught,
        loopExc := some (tryExceptChain hier hs (r.replace e)).2.exc,
        recorded := some (finExc fin (tryExceptChain hier hs (r.replace e)).2.exc),
        reraised :=
          if fin = .none ∧ (tryExceptChain hier hs (r.replace e)).2.isCaught = false then
            some (finExc fin (tryExceptChain hier hs (r.replace e)).2.exc)
          else none,
        swallowedByReactor := false } := by
  cases r with
  | retTrue => exact absurd rfl hr
  | _ =>
    simp only [handleException, handlerLoop_eq_chain, RBeh.replace, RBeh.raisedExc, Option.getD]
    cases fin with
    | fn b => cases b <;> simp [finCalls, finExc, Beh.raised]
    | _ => simp [finCalls, finExc]

theorem replace_eq (r : RBeh) (e : Exc) : r.raisedExc.getD e = r.replace e := by
  cases r <;> rfl

theorem lastExc_finCalls (fin : Final) (x : Exc) : lastExc x (finCalls fin x) = finExc fin x := by
  cases fin <;> simp [finCalls, finExc, lastExc, CallEv.raised]

theorem argsChained_finCalls (fin : Final) (x : Exc) : argsChained x (finCalls fin x) := by
  cases fin <;> simp [finCalls, argsChained, CallEv.arg]

/-- The handler calls of `_handle_exception` are the chain on the exception in play after the
reactor's handler. -/
theorem handlerCalls_eq (hier : Hier) (r : RBeh) (hs : List Handler) (fin : Final) (e : Exc)
    (hr : r ≠ .retTrue) :
    (handleException hier r hs fin e).trace.filter CallEv.isHandler =
      (tryExceptChain hier hs (r.replace e)).1 := by
  rw [handleException_of_ne _ _ _ _ _ hr]
  cases fin <;>
    simp [finCalls, CallEv.isHandler, List.filter_eq_self.mpr (chain_all_handler hier hs _)]

theorem not_isFinal_of_isHandler {ev : CallEv} (h : ev.isHandler = true) : ev.isFinal = false := by
  cases ev <;> simp_all [CallEv.isHandler, CallEv.isFinal]

theorem registerHandler_early (hs : List Handler) (h : Handler) :
    registerHandler hs h true = h :: hs := rfl

theorem registerHandler_late (hs : List Handler) (h : Handler) :
    registerHandler hs h false = hs ++ [h] := rfl

theorem registerHandlers_eq (rs : List (Handler × Bool)) : ∀ (hs : List Handler),
    registerHandlers hs rs =
      ((rs.filter (fun r => r.2)).map (·.1)).reverse ++ hs ++
        (rs.filter (fun r => !r.2)).map (·.1) := by
  induction rs with
  | nil => intro hs; simp [registerHandlers]
  | cons r rs ih =>
    intro hs
    obtain ⟨h, b⟩ := r
    have := ih (registerHandler hs h b)
    simp only [registerHandlers, List.foldl_cons] at this ⊢
    rw [this]
    cases b
    · simp [registerHandler_late]
    · simp [registerHandler_early]

end PyCraft
