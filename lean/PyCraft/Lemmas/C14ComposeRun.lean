import PyCraft.Lemmas.C14Compose
import PyCraft.Lemmas.C14ComposeHx
/-!
Helper lemmas for `Props/C14Compose.lean`, sequential part (after `Lemmas/C14Compose.lean`: one
packet, and `Lemmas/C14ComposeHx.lean`: `_handle_exception`): the shape of the thread log
(`readLoop`, `runLoop`, `runThreadWith`) for every `Code` whose `_react` satisfies its
specification (`CodeOK`; `pyCode_ok`: the real code does).  What is proved of a piece of the run is
one judgment, `Stretch`: its log, what it let escape, the connection and the read script before and
after; the loops are sequential compositions of stretches (`Stretch.seq`), following their own case
structure (`fun_induction`, `fun_cases`); everything about a whole run is read off
`runThreadWith_shape`.  At the end: what the real `except` clause does to the connection
(`pyPrologue_le`, `thread_ended`) and the two specifications as predicates on a run
(`EscapesEnterChain`, `ClosedUnlessReconnected`), the form in which changed code is tested.
-/
namespace PyCraft.ExcFlow
open PyCraft

/-- No event of the log let an exception escape. -/
def Clean (log : List TEv) : Prop := ∀ x ∈ log, x.raisedExc = none

/-- Only events of `_run` / `_handle_exit`. -/
def AllAct (log : List TEv) : Prop := ∀ x ∈ log, x.isActivity = true

/-- The LAST event of the log let `e` escape and no earlier event let anything escape. -/
def EndsIn (log : List TEv) (e : Exc) : Prop :=
  ∃ pre ev, log = pre ++ [ev] ∧ ev.raisedExc = some e ∧ Clean pre

theorem Clean.nil : Clean [] := fun _ h => nomatch h

theorem Clean.single {x : TEv} (hx : x.raisedExc = none) : Clean [x] := by
  intro y hy
  rw [List.mem_singleton.mp hy]; exact hx

theorem Clean.append {a b : List TEv} (ha : Clean a) (hb : Clean b) : Clean (a ++ b) :=
  fun x hx => (List.mem_append.mp hx).elim (ha x) (hb x)

theorem AllAct.nil : AllAct [] := fun _ h => nomatch h

theorem AllAct.single {x : TEv} (hx : x.isActivity = true) : AllAct [x] := by
  intro y hy
  rw [List.mem_singleton.mp hy]; exact hx

theorem AllAct.append {a b : List TEv} (ha : AllAct a) (hb : AllAct b) : AllAct (a ++ b) :=
  fun x hx => (List.mem_append.mp hx).elim (ha x) (hb x)

theorem AllAct.cbs (l : List DEv) : AllAct (l.map TEv.cb) := by
  intro x hx
  obtain ⟨d, -, rfl⟩ := List.mem_map.mp hx
  rfl

theorem EndsIn.single {ev : TEv} {e : Exc} (h : ev.raisedExc = some e) : EndsIn [ev] e :=
  ⟨[], ev, rfl, h, Clean.nil⟩

theorem EndsIn.prepend {a b : List TEv} {e : Exc} (ha : Clean a) (hb : EndsIn b e) :
    EndsIn (a ++ b) e := by
  obtain ⟨pre, ev, rfl, h1, h2⟩ := hb
  exact ⟨a ++ pre, ev, by simp, h1, ha.append h2⟩

theorem EndsIn.snoc {a : List TEv} {ev : TEv} {e : Exc} (ha : Clean a)
    (h : ev.raisedExc = some e) : EndsIn (a ++ [ev]) e :=
  ⟨a, ev, rfl, h, ha⟩

/-- In a log `act ++ tail` where `act` ends in its only escaping event and `tail` has none, an
escaping event can only be that one. -/
theorem escape_position {act tail pre post : List TEv} {ev : TEv} {e e0 : Exc}
    (ha : EndsIn act e0) (ht : Clean tail) (hl : act ++ tail = pre ++ ev :: post)
    (he : ev.raisedExc = some e) : e = e0 ∧ act = pre ++ [ev] ∧ post = tail ∧ Clean pre := by
  obtain ⟨p, l, rfl, h1, h2⟩ := ha
  have hne : ∀ {x}, x.raisedExc = none → x ≠ ev := fun hx hxe => by
    rw [hxe, he] at hx; cases hx
  have hl' : p ++ (l :: tail) = pre ++ (ev :: post) := by simpa using hl
  -- `ev` lies neither inside `p` nor inside `tail`: the two splittings coincide
  rcases List.append_eq_append_iff.mp hl' with ⟨a', e1, e2⟩ | ⟨c', e1, e2⟩
  · cases a' with
    | nil =>
      obtain ⟨rfl, rfl⟩ := List.cons.inj e2
      rw [List.append_nil] at e1
      subst e1
      exact ⟨Option.some.inj (he.symm.trans h1), rfl, rfl, h2⟩
    | cons z zs =>
      exact absurd rfl (hne (ht ev (by rw [(List.cons.inj e2).2]; simp)))
  · cases c' with
    | nil =>
      obtain ⟨rfl, rfl⟩ := List.cons.inj e2
      rw [List.append_nil] at e1
      subst e1
      exact ⟨Option.some.inj (he.symm.trans h1), rfl, rfl, h2⟩
    | cons z zs =>
      exact absurd rfl (hne (h2 ev (by rw [e1, ← (List.cons.inj e2).1]; simp)))

/-- A log that ends in an escaping event has exactly that one. -/
theorem EndsIn.unique {log : List TEv} {e : Exc} (h : EndsIn log e) (pre : List TEv) (ev : TEv)
    (post : List TEv) (x : Exc) (hl : log = pre ++ ev :: post) (hx : ev.raisedExc = some x) :
    post = [] ∧ x = e ∧ Clean pre := by
  obtain ⟨r1, -, r3, r4⟩ := escape_position h Clean.nil (by simpa using hl) hx
  exact ⟨r3, r1, r4⟩

/-! ## Stretches of the run -/

/-- A stretch of the thread's execution: what it logged (activity only), the exception it let
escape as its last event (`none`: it ran to its end and nothing escaped), the connection before and
after (only API calls in between), the read script before and after. -/
structure Stretch (log : List TEv) (exc : Option Exc) (c c' : Conn) (rest rs : List RdRes) :
    Prop where
  ends : match exc with
    | some e => EndsIn log e
    | none => Clean log
  act : AllAct log
  le : c.Le c'
  suffix : rest <:+ rs

theorem Stretch.nil {c : Conn} {rs : List RdRes} : Stretch [] none c c rs rs :=
  ⟨Clean.nil, AllAct.nil, Conn.Le.refl c, List.suffix_refl rs⟩

/-- One activity event that touches neither the connection nor the script. -/
theorem Stretch.one {c : Conn} {rs : List RdRes} (x : TEv) (ha : x.isActivity = true) :
    Stretch [x] x.raisedExc c c rs rs := by
  refine ⟨?_, AllAct.single ha, Conn.Le.refl c, List.suffix_refl rs⟩
  cases h : x.raisedExc
  · exact Clean.single h
  · exact EndsIn.single h

/-- Sequential composition: a stretch that ran to its end, followed by another. -/
theorem Stretch.seq {a b : List TEv} {x : Option Exc} {c c' c'' : Conn} {r1 r2 rs : List RdRes}
    (h1 : Stretch a none c c' r1 rs) (h2 : Stretch b x c' c'' r2 r1) :
    Stretch (a ++ b) x c c'' r2 rs := by
  refine ⟨?_, h1.act.append h2.act, h1.le.trans h2.le, h2.suffix.trans h1.suffix⟩
  cases x
  · exact h1.ends.append h2.ends
  · exact EndsIn.prepend h1.ends h2.ends

/-- A harmless activity event in front. -/
theorem Stretch.cons {b : List TEv} {r : Option Exc} {c c' : Conn} {rest rs : List RdRes}
    (h : Stretch b r c c' rest rs) (x : TEv) (ha : x.isActivity = true)
    (hx : x.raisedExc = none) : Stretch (x :: b) r c c' rest rs :=
  Stretch.seq (hx ▸ Stretch.one x ha) h

/-- The stretch began one item earlier in the script. -/
theorem Stretch.read {log : List TEv} {x : Option Exc} {c c' : Conn} {rest rs : List RdRes}
    (h : Stretch log x c c' rest rs) (r : RdRes) : Stretch log x c c' rest (r :: rs) :=
  ⟨h.ends, h.act, h.le, h.suffix.trans (List.suffix_cons r rs)⟩

/-- The exception a stretch of dispatch code lets escape. -/
def RRes.escaped? : RRes → Option Exc
  | .escaped e => some e
  | _ => none

/-- The exception that ended `_run`. -/
def LoopRes.raised? : LoopRes → Option Exc
  | .raised e => some e
  | _ => none

/-! ## Code fragments that satisfy the specification -/

/-- What the loop proofs need to know about the code fragments: `_react` is a stretch that lets
escape exactly what its result says (it reads nothing), and `_run` sees the result of `read_packet`
unchanged. -/
structure CodeOK (K : Code) : Prop where
  react : ∀ cls c rs, Stretch ((K.react cls c).1.map TEv.cb) (K.react cls c).2.2.escaped? c
    (K.react cls c).2.1 rs rs
  seen : ∀ r, K.readSeen r = r

theorem applyDiscs_le (log : List DEv) : ∀ c : Conn, c.Le (applyDiscs c log) := by
  induction log with
  | nil => intro c; exact Conn.Le.refl c
  | cons ev log ih =>
    intro c
    simp only [applyDiscs, List.foldl_cons]
    split
    · exact (disconnect_le c).trans (ih _)
    · exact ih _

/-- `cutAfterFirst`: everything before the cut fails the test, the last element (if the test ever
succeeds) passes it. -/
theorem cut_shape {α : Type} (p : α → Bool) (xs : List α) :
    (xs.find? p = none ∧ cutAfterFirst p xs = xs ∧ ∀ x ∈ xs, p x = false) ∨
    (∃ pre ev, xs.find? p = some ev ∧ cutAfterFirst p xs = pre ++ [ev] ∧ p ev = true ∧
      ∀ x ∈ pre, p x = false) := by
  induction xs with
  | nil => left; simp [cutAfterFirst_nil]
  | cons x xs ih =>
    by_cases hx : p x = true
    · right
      exact ⟨[], x, by simp [hx], by simp [cutAfterFirst_cons, hx], hx, by simp⟩
    · simp only [Bool.not_eq_true] at hx
      rcases ih with ⟨h1, h2, h3⟩ | ⟨pre, ev, h1, h2, h3, h4⟩
      · left
        exact ⟨by simp [hx, h1], by simp [cutAfterFirst_cons, hx, h2],
          List.forall_mem_cons.mpr ⟨hx, h3⟩⟩
      · right
        exact ⟨x :: pre, ev, by simp [hx, h1], by simp [cutAfterFirst_cons, hx, h2], h3,
          List.forall_mem_cons.mpr ⟨hx, h4⟩⟩

theorem clean_cbs {l : List DEv} (h : ∀ d ∈ l, d.notOk = false) : Clean (l.map TEv.cb) := by
  intro x hx
  obtain ⟨d, hd, rfl⟩ := List.mem_map.mp hx
  have := h d hd
  cases ho : d.out <;> simp_all [DEv.notOk, LOut.isOk, TEv.raisedExc, LOut.raised]

/-- One dispatch is a stretch: nothing escapes before the cut, and the callback at the cut decides
how the dispatch ends. -/
theorem dispatch_log (xs : List DEv) (c : Conn) (rs : List RdRes) :
    Stretch ((cutAfterFirst DEv.notOk xs).map TEv.cb) (classify (xs.find? DEv.notOk)).escaped? c
      (applyDiscs c (cutAfterFirst DEv.notOk xs)) rs rs := by
  refine ⟨?_, AllAct.cbs _, applyDiscs_le _ c, List.suffix_refl rs⟩
  rcases cut_shape DEv.notOk xs with ⟨hf, hc, hall⟩ | ⟨pre, ev, hf, hc, -, hpre⟩
  · rw [hf, hc]
    exact clean_cbs hall
  · rw [hf, hc, List.map_append]
    cases ho : ev.out <;> simp only [classify, ho, RRes.escaped?]
    · exact (clean_cbs hpre).append (Clean.single (by simp [TEv.raisedExc, LOut.raised, ho]))
    · exact (clean_cbs hpre).append (Clean.single (by simp [TEv.raisedExc, LOut.raised, ho]))
    · exact EndsIn.snoc (clean_cbs hpre) (by simp [TEv.raisedExc, LOut.raised, ho])

theorem pyCode_ok (S : Setup) : CodeOK (pyCode S) :=
  ⟨fun cls c rs => by simp only [pyCode, reactX_eq]; exact dispatch_log _ c rs, fun _ => rfl⟩

theorem forgivenEv_ok (pend : Option Exc) (d : Bool) {c : Conn} {rs : List RdRes} :
    Stretch (forgivenEv pend d) none c c rs rs := by
  cases pend with
  | none => exact .nil
  | some e =>
    cases d
    · exact .nil
    · exact .one (.forgiven e) rfl

theorem mem_forgiven_log (r : RdRes) (cbs : List DEv) (pend : Option Exc) (d : Bool)
    (l : List TEv) (e : Exc) :
    TEv.forgiven e ∈ TEv.read r :: cbs.map TEv.cb ++ forgivenEv pend d ++ l ↔
      (pend = some e ∧ d = true) ∨ TEv.forgiven e ∈ l := by
  cases pend <;> cases d <;> simp [forgivenEv, eq_comm]

theorem readLoop_shape (K : Code) (hK : CodeOK K) (rs : List RdRes) (np : Nat)
    (pend : Option Exc) (c : Conn) :
    Stretch (readLoop K rs np pend c).log (readLoop K rs np pend c).exc c
      (readLoop K rs np pend c).conn (readLoop K rs np pend c).rest rs := by
  fun_induction readLoop K rs np pend c
  case case1 => exact .one (.read .none) rfl
  case case2 r rs hs =>
    rw [hK.seen] at hs; subst hs
    exact (Stretch.one (.read .none) rfl).read _
  case case3 r rs e0 hs =>
    rw [hK.seen] at hs; subst hs
    exact (Stretch.one (.read (.raises e0)) rfl).read _
  case case4 c _ r rs cls d hs _ e0 hx =>
    rw [hK.seen] at hs; subst hs
    have hr := hK.react cls c rs
    rw [hx] at hr
    exact (hr.cons _ rfl rfl).read _
  case case5 pend c _ r rs cls d hs _ _ _ hx ih =>
    rw [hK.seen] at hs; subst hs
    have hr := hK.react cls c rs
    have hn : (K.react cls c).2.2.escaped? = none := by
      cases h : (K.react cls c).2.2 <;> first | rfl | exact absurd h (hx _)
    rw [hn] at hr
    -- the read, the dispatch, the forgiving of the write error, the rest of the loop
    exact (((hr.seq (forgivenEv_ok pend d)).seq ih).cons _ rfl rfl).read _
  case case6 => exact .nil

/-- Fate of the deferred write error inside the read loop: it is still pending at the end, or it
was forgiven — and it is forgiven only at a disconnect packet that was read and dispatched. -/
theorem readLoop_pend (K : Code) (hK : CodeOK K) (rs : List RdRes) (np : Nat)
    (pend : Option Exc) (c : Conn) :
    ((readLoop K rs np pend c).pend = pend ∨
      ((readLoop K rs np pend c).pend = none ∧
        ∃ e0, pend = some e0 ∧ TEv.forgiven e0 ∈ (readLoop K rs np pend c).log)) ∧
    (∀ e, TEv.forgiven e ∈ (readLoop K rs np pend c).log →
      pend = some e ∧ (readLoop K rs np pend c).pend = none ∧ ∃ a cls b,
        (readLoop K rs np pend c).log = a ++ TEv.read (.packet cls true) :: b) := by
  fun_induction readLoop K rs np pend c
  case case5 pend c _ r rs cls d hs x pend' k hx ih =>
    rw [hK.seen] at hs; subst hs
    obtain ⟨i1, i2⟩ := ih
    simp only [mem_forgiven_log]
    cases d with
    | true =>
      -- the error, if any, is forgiven right here; the rest of the loop runs with none pending
      simp only [pend', ↓reduceIte] at i1 i2
      have hk : k.pend = none := by rcases i1 with g | ⟨g, -⟩ <;> exact g
      refine ⟨?_, fun e he => ?_⟩
      · cases pend with
        | none => exact .inl hk
        | some e0 => exact .inr ⟨hk, e0, rfl, .inl ⟨rfl, rfl⟩⟩
      · rcases he with ⟨he, -⟩ | he
        · exact ⟨he, hk, [], cls, _, rfl⟩
        · cases (i2 e he).1
    | false =>
      simp only [pend', Bool.false_eq_true, ↓reduceIte] at i1 i2
      refine ⟨?_, fun e he => ?_⟩
      · rcases i1 with g | ⟨g, e0, g1, g2⟩
        · exact .inl g
        · exact .inr ⟨g, e0, g1, .inr g2⟩
      · rcases he with ⟨-, he⟩ | he
        · cases he
        · obtain ⟨j1, j3, a, cls', b, j2⟩ := i2 e he
          exact ⟨j1, j3, TEv.read (.packet cls false) ::
            (List.map TEv.cb x.1 ++ forgivenEv pend false ++ a), cls', b, by
              rw [show k.log = _ from j2]; simp⟩
  all_goals simp

theorem runLoop_shape (K : Code) (hK : CodeOK K) (ws : List WRes) (rs : List RdRes) (c : Conn) :
    Stretch (runLoop K ws rs c).log (runLoop K ws rs c).res.raised? c (runLoop K ws rs c).conn
      (runLoop K ws rs c).rest rs := by
  fun_induction runLoop K ws rs c
  case case1 | case2 => exact .nil
  case case3 e0 => exact .one (.write (.raises e0)) rfl
  -- the read phase let `e0` escape
  case case4 k e0 hx | case6 k e0 hx =>
    have hk : Stretch k.log k.exc _ k.conn k.rest _ := readLoop_shape K hK _ _ _ _
    rw [hx] at hk
    exact hk.cons _ rfl rfl
  -- the write error is still pending at the end of the iteration
  case case7 k hx e1 hp =>
    have hk : Stretch k.log k.exc _ k.conn k.rest _ := readLoop_shape K hK _ _ _ _
    rw [hx] at hk
    exact (hk.seq (.one (.deferred e1) rfl)).cons _ rfl rfl
  -- next iteration
  case case5 k hx m ih | case8 k hx _ m ih =>
    have hk : Stretch k.log k.exc _ k.conn k.rest _ := readLoop_shape K hK _ _ _ _
    rw [hx] at hk
    exact (hk.seq ih).cons _ rfl rfl

/-- `_run` returns only when `self.interrupt` is set. -/
theorem runLoop_returned (K : Code) : ∀ (ws : List WRes) (rs : List RdRes) (c : Conn),
    (runLoop K ws rs c).res = .returned → (runLoop K ws rs c).conn.selfIntr = true := by
  intro ws rs c
  fun_induction runLoop K ws rs c
  case case1 h => exact fun _ => h
  case case5 ih | case8 ih => exact ih
  all_goals nofun

theorem excPath_rest (K : Code) (S : Setup) (n0 : Nat) (log : List TEv) (rest : List RdRes)
    (c : Conn) (e : Exc) : (excPath K S n0 log rest c e).rest = rest := rfl

theorem HxOut.events_quiet (h : HxOut) :
    ∀ x ∈ [TEv.setIntr] ++ h.events ++ [TEv.slotCleared],
      x.raisedExc = none ∧ x.isActivity = false := by
  intro x hx
  simp only [List.mem_append, List.mem_singleton, HxOut.events, List.mem_map] at hx
  rcases hx with (rfl | ⟨p, -, rfl⟩ | hx) | rfl
  · exact ⟨rfl, rfl⟩
  · exact ⟨rfl, rfl⟩
  · -- the one event of the final block, whichever it is
    cases hc : h.cleanup <;> rw [hc] at hx <;> simp at hx
    all_goals
      subst hx
      exact ⟨rfl, rfl⟩
  · exact ⟨rfl, rfl⟩

section Thread
variable (K : Code) (hK : CodeOK K) (S : Setup) (ws : List WRes) (rs : List RdRes) (c : Conn)
include hK

/-- Master description of `run` for code that satisfies the specification: the log is a stretch
of `_run` / `_handle_exit` activity `act`; either nothing escaped (the thread is still running, or
it left through `finally` with nothing else logged), or the LAST activity event let `e` escape and
everything else is `excPath` with exactly that exception. -/
theorem runThreadWith_shape :
    (runThreadWith K S ws rs c).rest <:+ rs ∧
    ∃ act c1, AllAct act ∧ c.Le c1 ∧
      ((Clean act ∧
          (runThreadWith K S ws rs c =
              { log := act, conn := c1, rest := (runThreadWith K S ws rs c).rest, ended := false,
                entered := none, hx := none, reraised := none } ∨
           runThreadWith K S ws rs c =
              { log := act ++ [.slotCleared], conn := { c1 with nt := none },
                rest := (runThreadWith K S ws rs c).rest, ended := true, entered := none,
                hx := none, reraised := none })) ∨
       (∃ e, EndsIn act e ∧
          runThreadWith K S ws rs c =
            excPath K S c.conns act (runThreadWith K S ws rs c).rest c1 e)) := by
  have hs := runLoop_shape K hK ws rs c
  have he := hs.ends
  fun_cases runThreadWith K S ws rs c
  case case1 r hres =>
    rw [show (runLoop K ws rs c).res = _ from hres] at he
    exact ⟨hs.suffix, _, _, hs.act, hs.le, .inl ⟨he, .inl rfl⟩⟩
  case case2 r e hres =>
    rw [show (runLoop K ws rs c).res = _ from hres] at he
    exact ⟨hs.suffix, _, _, hs.act, hs.le, .inr ⟨e, he, rfl⟩⟩
  case case3 r hres cb _ q e _ =>
    rw [show (runLoop K ws rs c).res = _ from hres] at he
    exact ⟨hs.suffix, r.log ++ [.exitCb (some e)], _, hs.act.append (AllAct.single rfl),
      hs.le.trans (runActs_le S.inv cb.acts r.conn), .inr ⟨e, EndsIn.snoc he rfl, rfl⟩⟩
  case case4 r hres cb _ q _ =>
    rw [show (runLoop K ws rs c).res = _ from hres] at he
    exact ⟨hs.suffix, r.log ++ [.exitCb none], _, hs.act.append (AllAct.single rfl),
      hs.le.trans (runActs_le S.inv cb.acts r.conn),
      .inl ⟨he.append (Clean.single rfl), .inr (by rw [List.append_assoc]; rfl)⟩⟩
  case case5 r hres _ =>
    rw [show (runLoop K ws rs c).res = _ from hres] at he
    exact ⟨hs.suffix, _, _, hs.act, hs.le, .inl ⟨he, .inr rfl⟩⟩

/-- Every event of a thread log that let an exception escape is the last activity event, and the
rest of the run is the exception path with exactly that exception. -/
theorem thread_escape (pre : List TEv) (ev : TEv) (post : List TEv) (e : Exc)
    (hl : (runThreadWith K S ws rs c).log = pre ++ ev :: post) (he : ev.raisedExc = some e) :
    ∃ c1, c.Le c1 ∧ AllAct (pre ++ [ev]) ∧ Clean pre ∧
      runThreadWith K S ws rs c =
        excPath K S c.conns (pre ++ [ev]) (runThreadWith K S ws rs c).rest c1 e ∧
      post = [TEv.setIntr] ++ (hx S.hier S.inv (if c1.conns = c.conns then S.rh else S.rhNew)
        S.handlers S.fin e e (K.excPrologue c1)).events ++ [TEv.slotCleared] := by
  have noesc : ¬ Clean (runThreadWith K S ws rs c).log := fun hcl => by
    have := hcl ev (by rw [hl]; simp)
    rw [he] at this; cases this
  obtain ⟨-, act, c1, h1, h2, h3⟩ := runThreadWith_shape K hK S ws rs c
  rcases h3 with ⟨hc, h3 | h3⟩ | ⟨e0, h3, h4⟩
  · exact absurd (by rw [h3]; exact hc) noesc
  · exact absurd (by rw [h3]; exact hc.append (Clean.single rfl)) noesc
  · have hlog : (runThreadWith K S ws rs c).log =
        act ++ ([TEv.setIntr] ++ (hx S.hier S.inv (if c1.conns = c.conns then S.rh else S.rhNew)
          S.handlers S.fin e0 e0 (K.excPrologue c1)).events ++ [TEv.slotCleared]) := by
      rw [h4]; simp [excPath]
    rw [hlog] at hl
    obtain ⟨rfl, rfl, r3, r4⟩ := escape_position h3
      (fun x hx => (HxOut.events_quiet _ x hx).1) hl he
    exact ⟨c1, h2, h1, r4, h4, r3⟩

/-- `_handle_exception` is entered only with an exception that an activity event let escape, and
with `exc_info[1]` being that exception. -/
theorem thread_entered (e i : Exc) (h : (runThreadWith K S ws rs c).entered = some (e, i)) :
    i = e ∧ ∃ pre ev post, (runThreadWith K S ws rs c).log = pre ++ ev :: post ∧
      ev.raisedExc = some e := by
  obtain ⟨-, act, c1, h1, h2, h3⟩ := runThreadWith_shape K hK S ws rs c
  rcases h3 with ⟨hc, h3 | h3⟩ | ⟨e0, ⟨p, l, rfl, g1, g2⟩, h4⟩
  · rw [h3] at h; cases h
  · rw [h3] at h; cases h
  · rw [h4] at h ⊢
    simp only [excPath, Option.some.injEq, Prod.mk.injEq] at h
    obtain ⟨rfl, rfl⟩ := h
    exact ⟨rfl, p, l, [TEv.setIntr] ++
      (hx S.hier S.inv (if c1.conns = c.conns then S.rh else S.rhNew) S.handlers S.fin e0 e0
        (K.excPrologue c1)).events ++ [TEv.slotCleared], by simp [excPath], g1⟩

/-- If `_handle_exception` is not entered, nothing escaped and nothing leaves `run`. -/
theorem thread_quiet (h : (runThreadWith K S ws rs c).entered = none) :
    (runThreadWith K S ws rs c).hx = none ∧ (runThreadWith K S ws rs c).reraised = none ∧
    Clean (runThreadWith K S ws rs c).log ∧
    ((runThreadWith K S ws rs c).ended = true → (runThreadWith K S ws rs c).conn.nt = none) := by
  obtain ⟨-, act, c1, h1, h2, h3⟩ := runThreadWith_shape K hK S ws rs c
  rcases h3 with ⟨hc, h3 | h3⟩ | ⟨e0, -, h4⟩
  · rw [h3]; exact ⟨rfl, rfl, hc, fun hh => by cases hh⟩
  · rw [h3]; exact ⟨rfl, rfl, hc.append (Clean.single rfl), fun _ => rfl⟩
  · rw [h4] at h; simp [excPath] at h

/-- `_handle_exception` runs only on the exception path. -/
theorem thread_hx (h : HxOut) (hh : (runThreadWith K S ws rs c).hx = some h) :
    ∃ act c1 e, EndsIn act e ∧ c.Le c1 ∧
      runThreadWith K S ws rs c =
        excPath K S c.conns act (runThreadWith K S ws rs c).rest c1 e := by
  obtain ⟨-, act, c1, -, h2, h3⟩ := runThreadWith_shape K hK S ws rs c
  rcases h3 with ⟨-, h3 | h3⟩ | ⟨e0, h3, h4⟩
  · rw [h3] at hh; cases hh
  · rw [h3] at hh; cases hh
  · exact ⟨act, c1, e0, h3, h2, h4⟩

end Thread

/-- The `except` clause of `run` in the real code only sets the own flag. -/
theorem pyPrologue_le (S : Setup) (c : Conn) : c.Le ((pyCode S).excPrologue c) := by
  -- only `nt` changes, and only its flag
  exact { slot := fun h => by simpa [pyCode] using h
          intr := fun h => by simp [pyCode, h]
          conns := Nat.le_refl _
          closed := ⟨[], (List.append_nil _).symm⟩
          fresh := id
          same := fun _ => .inl rfl
          noNew := fun _ h => h
          sockKept := fun _ _ h => .inl h }

/-- The real thread's `_handle_exception`: it was entered with an escaped exception `e` as both
`exc` and `exc_info[1]`, on a connection that only API calls and the `except` clause have changed;
its re-raise and its connection (slot cleared) are the thread's. -/
theorem runThread_hx (S : Setup) (ws : List WRes) (rs : List RdRes) (c : Conn) (h : HxOut)
    (hh : (runThread S ws rs c).hx = some h) :
    ∃ c1 e, c.Le c1 ∧
      hx S.hier S.inv (if c1.conns = c.conns then S.rh else S.rhNew) S.handlers S.fin e e
        ((pyCode S).excPrologue c1) = h ∧
      (runThread S ws rs c).entered = some (e, e) ∧
      (runThread S ws rs c).reraised = h.out.reraised ∧
      (runThread S ws rs c).conn = { h.conn with nt := none } := by
  obtain ⟨act, c1, e, -, hle, h4⟩ := thread_hx (pyCode S) (pyCode_ok S) S ws rs c h hh
  unfold runThread at hh ⊢
  rw [h4] at hh ⊢
  simp only [excPath, Option.some.injEq] at hh
  subst hh
  exact ⟨c1, e, hle, rfl, rfl, rfl, rfl⟩

/-- A thread that has ended has cleared its slot; the rest of the connection is what the API calls
of the run made of it. -/
theorem thread_ended (S : Setup) (ws : List WRes) (rs : List RdRes) (c : Conn)
    (hend : (runThreadWith (pyCode S) S ws rs c).ended = true) :
    ∃ c2, c.Le c2 ∧ (runThreadWith (pyCode S) S ws rs c).conn = { c2 with nt := none } := by
  obtain ⟨-, act, c1, h1, h2, h3⟩ := runThreadWith_shape (pyCode S) (pyCode_ok S) S ws rs c
  rcases h3 with ⟨hc, h3 | h3⟩ | ⟨e0, -, h4⟩
  · rw [h3] at hend; cases hend
  · exact ⟨c1, h2, by rw [h3]⟩
  · exact ⟨_, (h2.trans (pyPrologue_le S c1)).trans (hx_le S.hier S.inv
      (if c1.conns = c.conns then S.rh else S.rhNew) S.handlers S.fin e0 e0 _), by rw [h4]; rfl⟩

/-! ## The specifications as predicates on a run, so that changed code can be tested against them -/

/-- ORIGIN → CHAIN: every event of the log that let an exception `e` escape — a listener's
callback, the reaction, `read_packet`, the write phase, the deferred write error, the exit
callback — makes the thread enter `_handle_exception` with `(e, exc_info)` where
`exc_info[1] is e`, ends the thread, and is followed by no further activity (no read, no write, no
dispatch). -/
def EscapesEnterChain (o : ThreadOut) : Prop :=
  ∀ pre ev post e, o.log = pre ++ ev :: post → ev.raisedExc = some e →
    o.entered = some (e, e) ∧ o.ended = true ∧ ∀ x ∈ post, x.isActivity = false

/-- CHAIN → CLEANUP: unless the reactor's handler swallowed the exception or an uninterrupted
`new_networking_thread` exists when the final block runs, the connection is closed afterwards. -/
def ClosedUnlessReconnected (o : ThreadOut) : Prop :=
  ∀ h, o.hx = some h → h.effR ≠ .retTrue → h.connAtCleanup.new ≠ some false →
    o.conn.sock = none ∧ o.conn.connected = false

end PyCraft.ExcFlow
