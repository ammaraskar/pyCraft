/-!
The Python dict as an association list, once.  Lookup is core's `List.lookup` (first match wins);
`Assoc.set` is the assignment `d[k] = v` of an insertion-ordered dict (replace in place, or append).
Every getter and in-place setter of the models is one of the two under another name and argument
order; a lemma file that needs these laws states its bridge (`X.get k l = l.lookup k`,
`X.set k v l = Assoc.set l k v`, each by a two-line induction) next to its first use.
-/
namespace PyCraft.Assoc
variable {α : Type u} {β : Type v} [DecidableEq α]

/-- `d[k] = v`: an existing key keeps its position (and its key object), a new key goes to the end. -/
def set : List (α × β) → α → β → List (α × β)
  | [], k, v => [(k, v)]
  | (k', v') :: rest, k, v => if k' = k then (k', v) :: rest else (k', v') :: set rest k v

theorem lookup_cons (k a : α) (b : β) (l : List (α × β)) :
    List.lookup k ((a, b) :: l) = if a = k then some b else l.lookup k := by
  rw [List.lookup_cons]
  by_cases h : a = k
  · subst h; simp
  · rw [if_neg h, beq_eq_false_iff_ne.mpr (Ne.symm h)]

theorem mem_of_lookup {d : List (α × β)} {k : α} {v : β} (h : d.lookup k = some v) : (k, v) ∈ d := by
  induction d with
  | nil => cases h
  | cons e r ih =>
    obtain ⟨a, b⟩ := e
    rw [lookup_cons] at h
    split at h
    · next he => cases h; rw [← he]; exact List.mem_cons_self
    · exact List.mem_cons_of_mem _ (ih h)

theorem lookup_eq_none (d : List (α × β)) (k : α) : d.lookup k = none ↔ k ∉ d.map (·.1) := by
  induction d with
  | nil => simp
  | cons e d ih =>
    obtain ⟨a, b⟩ := e
    rw [lookup_cons, List.map_cons, List.mem_cons, not_or]
    split
    · next h => simp [h]
    · next h => simp [ih, Ne.symm h]

theorem lookup_isSome (d : List (α × β)) (k : α) : (d.lookup k).isSome ↔ k ∈ d.map (·.1) := by
  cases h : d.lookup k with
  | none => simp [(lookup_eq_none d k).mp h]
  | some v => simp only [Option.isSome_some, true_iff]; exact List.mem_map.2 ⟨_, mem_of_lookup h, rfl⟩

/-- In a dict (distinct keys) the items are exactly the key/value associations. -/
theorem mem_iff_lookup {d : List (α × β)} (hd : (d.map (·.1)).Nodup) (k : α) (v : β) :
    (k, v) ∈ d ↔ d.lookup k = some v := by
  refine ⟨fun h => ?_, mem_of_lookup⟩
  induction d with
  | nil => cases h
  | cons e d ih =>
    obtain ⟨k', v'⟩ := e
    simp only [List.map_cons, List.nodup_cons] at hd
    rw [lookup_cons]
    rcases List.mem_cons.mp h with h | h
    · cases h; rw [if_pos rfl]
    · rw [if_neg fun (e : k' = k) => hd.1 (e ▸ List.mem_map.2 ⟨_, h, rfl⟩), ih hd.2 h]

theorem lookup_set (d : List (α × β)) (k k' : α) (v : β) :
    (set d k v).lookup k' = if k = k' then some v else d.lookup k' := by
  induction d with
  | nil => rw [set, lookup_cons]
  | cons e d ih =>
    obtain ⟨a, b⟩ := e
    simp only [set]
    split
    · next h => subst h; simp only [lookup_cons]; split <;> rfl
    · next h =>
      simp only [lookup_cons, ih]
      split
      · next h' => subst h'; rw [if_neg (Ne.symm h)]
      · rfl

theorem set_of_not_mem (d : List (α × β)) (k : α) (v : β) (h : k ∉ d.map (·.1)) :
    set d k v = d ++ [(k, v)] := by
  induction d with
  | nil => rfl
  | cons e d ih =>
    simp only [List.map_cons, List.mem_cons, not_or] at h
    simp only [set, if_neg (Ne.symm h.1), ih h.2, List.cons_append]

theorem keys_set (d : List (α × β)) (k : α) (v : β) :
    (set d k v).map (·.1) = if k ∈ d.map (·.1) then d.map (·.1) else d.map (·.1) ++ [k] := by
  induction d with
  | nil => simp [set]
  | cons e d ih =>
    simp only [set]
    split
    · next h => simp [h]
    · next h =>
      simp only [List.map_cons, ih, List.mem_cons, Ne.symm h, false_or]
      split <;> rfl

theorem mem_set {d : List (α × β)} {k : α} {v : β} {e : α × β} (h : e ∈ set d k v) :
    e ∈ d ∨ e = (k, v) := by
  induction d with
  | nil => exact .inr (List.mem_singleton.mp h)
  | cons e' d ih =>
    simp only [set] at h
    split at h
    · next hk =>
      rcases List.mem_cons.mp h with h | h
      · exact .inr (h ▸ hk ▸ rfl)
      · exact .inl (List.mem_cons_of_mem _ h)
    · rcases List.mem_cons.mp h with h | h
      · exact .inl (h ▸ List.mem_cons_self)
      · exact (ih h).imp_left (List.mem_cons_of_mem _)

end PyCraft.Assoc
