import PyCraft.Lemmas.RefCheck
import PyCraft.Generated.C07Named
import PyCraft.Generated.Versions
import PyCraft.Ref.Protocol
import PyCraft.Ref.C07Named
/-!
Lookups, checkers and helper lemmas for `Props/C07Named.lean` (the comparison with the published
protocol that keeps the field NAMES and compares the wire types EXACTLY, not up to the
identification `i8 ≡ u8`), and the comparison of the id and layout tables that `Props/C07.lean` shares.

Two LIVE sources are compared with the named reference `Ref.named` (from `harness/refproto.py`,
names kept):

* `Gen.C07Named.live` (`harness/gen/c07named.py`): per core class and supported release, the
  run-time `id` / `definition` of a packet instance (`packet.py` l.22-24, l.40-43) — read through
  `liveObsIn`;
* `Gen.layoutTables` (`harness/extract.py`): the variants of `get_definition` with the
  versions using each — read through `lookupLayoutNamed` (names kept, unlike `C07.lookupLayout`).

All lookups are parametric in the table, so that a table describing CHANGED code can be run through
the very same checker (`Props/C07Named.lean`, refutations).
-/
namespace PyCraft.C07Named
open PyCraft PyCraft.Gen PyCraft.C07

abbrev LiveRow := Gen.C07Named.LiveRow
abbrev LiveTable := List ((String × String) × List LiveRow)
/-- a row of the named reference: (release, published id, published named layout) -/
abbrev NRow := Nat × Int × Layout
abbrev RefTable := List (String × List NRow)

/-- what one side says about one packet under one protocol version -/
inductive Obs
  /-- no such packet in that version (pyCraft: no class of that name is registered) -/
  | absent
  /-- pyCraft only: several classes of that name, a hand-written codec, `id`/`definition` raising
  or not an integer / not a field list, or the version is not tabulated at all -/
  | irregular
  /-- the packet id and the layout as (attribute name, wire type) pairs, in wire order -/
  | packet (id : Int) (lay : Layout)
deriving DecidableEq, Repr

def Obs.layout? : Obs → Option Layout
  | .packet _ L => some L
  | _ => none

def Obs.id? : Obs → Option Int
  | .packet i _ => some i
  | _ => none

/-- reading of one generated live row `(protocol, number of registered classes of that name, regular
generic codec?, id, named layout)` -/
def obsOfRow : LiveRow → Obs
  | (_, 0, _, _, _) => .absent
  | (_, 1, true, some i, some L) => .packet i L
  | _ => .irregular

/-- the live rows of one class read at version `v` -/
def liveObsRows (rows : List LiveRow) (v : Nat) : Obs :=
  match rows.find? fun r => r.1 == v with
  | none => .irregular
  | some r => obsOfRow r

/-- the reference rows of one packet read at release `v` -/
def refObsRows (rows : List NRow) (v : Nat) : Obs :=
  match rows.find? fun r => r.1 == v with
  | none => .absent
  | some r => .packet r.2.1 r.2.2

/-- pyCraft's packet `cls` of table `table` under protocol `v`, according to the live table `tbl` -/
def liveObsIn (tbl : LiveTable) (table cls : String) (v : Nat) : Obs :=
  match tbl.lookup (table, cls) with
  | none => .irregular
  | some rows => liveObsRows rows v

/-- the published packet `name` in release `v`, according to the reference table `tbl`
(`irregular` only if the reference does not know the packet at all) -/
def refObsIn (tbl : RefTable) (name : String) (v : Nat) : Obs :=
  match tbl.lookup name with
  | none => .irregular
  | some rows => refObsRows rows v

def liveObs : String → String → Nat → Obs := liveObsIn Gen.C07Named.live
def refObs : String → Nat → Obs := refObsIn Ref.named

/-- the whole comparison, as one Boolean: every core packet × every reference release (the two
table lookups are done once per packet) -/
def checkNamed (live : LiveTable) (ref : RefTable) : Bool :=
  Ref.core.all fun c =>
    match live.lookup (c.2.1, c.2.2), ref.lookup c.1 with
    | some lr, some rr =>
      Ref.releases.all fun rel => decide (liveObsRows lr rel = refObsRows rr rel)
    | _, _ => false

theorem checkNamed_sound (live : LiveTable) (ref : RefTable) (h : checkNamed live ref = true) :
    ∀ c ∈ Ref.core, ∀ rel ∈ Ref.releases,
      liveObsIn live c.2.1 c.2.2 rel = refObsIn ref c.1 rel := by
  intro c hc rel hrel
  simp only [checkNamed, List.all_eq_true] at h
  have h1 := h c hc
  unfold liveObsIn refObsIn
  cases hl : live.lookup (c.2.1, c.2.2) with
  | none => simp [hl] at h1
  | some lr =>
    cases hr : ref.lookup c.1 with
    | none => simp [hl, hr] at h1
    | some rr =>
      simp only [hl, hr, List.all_eq_true] at h1
      exact of_decide_eq_true (h1 rel hrel)

/-- the checker rejects a pair of tables as soon as they disagree on one core packet at one release -/
theorem checkNamed_eq_false (live : LiveTable) (ref : RefTable) (c : String × String × String)
    (rel : Nat)
    (h : c ∈ Ref.core ∧ rel ∈ Ref.releases ∧ liveObsIn live c.2.1 c.2.2 rel ≠ refObsIn ref c.1 rel) :
    checkNamed live ref = false :=
  Bool.eq_false_iff.mpr fun hk => h.2.2 (checkNamed_sound live ref hk c h.1 rel h.2.1)

/-! ### the reference: which (packet, release) pairs exist -/

/-- the only core packet that does not exist in every reference release: the teleport confirmation
was introduced with protocol 107 (1.9) -/
def isException (name : String) (rel : Nat) : Bool := name == "teleport_confirm" && rel == 47

/-- forget the field names of a reference row / entry -/
def eraseRow (r : NRow) : C07.RefRow := (r.1, r.2.1, r.2.2.map fun f => f.2)
def eraseEntry (e : String × List NRow) : String × List C07.RefRow := (e.1, e.2.map eraseRow)

/-- a `packet` answer of the reference comes from a row of the table -/
theorem refObsIn_packet_mem (ref : RefTable) (name : String) (v : Nat) (i : Int) (L : Layout)
    (h : refObsIn ref name v = .packet i L) :
    ∃ e ∈ ref, e.1 = name ∧ (v, i, L) ∈ e.2 := by
  unfold refObsIn refObsRows at h
  split at h
  · cases h
  · next rows hr =>
    split at h
    · cases h
    · next r hf =>
      cases h
      have hv : r.1 = v := by simpa using List.find?_some hf
      subst hv
      exact ⟨(name, rows), Assoc.mem_of_lookup hr, rfl, List.mem_of_find?_eq_some hf⟩

/-- in a reference table that repeats no name, and no release within an entry, a row is what the
lookup answers for its packet and release … -/
theorem refObsIn_row (ref : RefTable) (hn : (ref.map (·.1)).Nodup) (e : String × List NRow)
    (he : e ∈ ref) (hr : (e.2.map (·.1)).Nodup) (row : NRow) (hrow : row ∈ e.2) :
    refObsIn ref e.1 row.1 = .packet row.2.1 row.2.2 := by
  simp only [refObsIn, (Assoc.mem_iff_lookup hn e.1 e.2).mp he, refObsRows,
    find?_key_of_mem_nodup (·.1) e.2 row hr hrow]

/-- … and a release that no row of the entry carries is answered `absent` -/
theorem refObsIn_absent (ref : RefTable) (hn : (ref.map (·.1)).Nodup) (e : String × List NRow)
    (he : e ∈ ref) (v : Nat) (hv : v ∉ e.2.map (·.1)) : refObsIn ref e.1 v = .absent := by
  have : e.2.find? (fun r => r.1 == v) = none :=
    List.find?_eq_none.mpr fun r hr hrv => hv (List.mem_map.mpr ⟨r, hr, by simpa using hrv⟩)
  simp only [refObsIn, (Assoc.mem_iff_lookup hn e.1 e.2).mp he, refObsRows, this]

/-! ### `Gen.layoutTables`, names kept -/

/-- the named layout of the FIRST variant listing version `v` (`C07.lookupLayout` keeps only the
types) -/
def lookupLayoutNamed (variants : List Variant) (v : Nat) : Option Layout :=
  match variants.find? fun var => var.2.contains v with
  | none => none
  | some var => var.1

def variantsOf (table cls : String) : Option (List Variant) :=
  match layoutTables.lookup table with
  | none => none
  | some rows => rows.lookup cls

/-- the named layout of pyCraft's class `cls` of table `table` under protocol `v`, from
`Gen.layoutTables` -/
def genLayoutNamed (table cls : String) (v : Nat) : Option Layout :=
  match variantsOf table cls with
  | none => none
  | some variants => lookupLayoutNamed variants v

theorem lookupLayout_eq_named (variants : List Variant) (v : Nat) :
    lookupLayout variants v = (lookupLayoutNamed variants v).map fun L => L.map fun f => f.2 := by
  unfold lookupLayout lookupLayoutNamed
  cases variants.find? fun var => var.2.contains v with
  | none => rfl
  | some var => rfl

/-- `C07.genLayout` is `genLayoutNamed` with the names dropped -/
theorem genLayout_eq_named (table cls : String) (v : Nat) :
    genLayout table cls v = (genLayoutNamed table cls v).map fun L => L.map fun f => f.2 := by
  unfold genLayout genLayoutNamed variantsOf
  cases h1 : layoutTables.lookup table with
  | none => rfl
  | some rows =>
    cases h2 : rows.lookup cls with
    | none => simp [h2]
    | some variants => simpa [h2] using lookupLayout_eq_named variants v

/-- `v ∈ xs`, written with `Nat.beq` so that the kernel evaluates it quickly -/
def memNat (v : Nat) : List Nat → Bool
  | [] => false
  | x :: xs => Nat.beq x v || memNat v xs

theorem memNat_iff (v : Nat) : ∀ xs : List Nat, memNat v xs = true ↔ v ∈ xs := by
  intro xs
  induction xs with
  | nil => simp [memNat]
  | cons x xs ih =>
    have hb : Nat.beq x v = true ↔ v = x :=
      ⟨fun h => (Nat.eq_of_beq_eq_true h).symm, fun h => by subst h; exact Nat.beq_refl v⟩
    simp only [memNat, Bool.or_eq_true, ih, List.mem_cons, hb]

/-- the reference releases as a bit set: membership in one step -/
def releaseBits : Nat := Ref.releases.foldl (fun m v => m ||| 1 <<< v) 0

/-- The versions a variant lists, cut down from some 300 to those in `releaseBits`.  It is the same
closed term for every row of the reference, so the kernel computes it once per variant, and looking
a release up in it takes a few steps.  Nothing below depends on which numbers `releaseBits` holds:
a release looked up is checked to be in it. -/
def listed (var : Variant) : List Nat := var.2.filter fun v => releaseBits.testBit v

theorem memNat_listed {v : Nat} (hb : releaseBits.testBit v = true) (var : Variant) :
    memNat v (listed var) = true ↔ v ∈ var.2 := by
  rw [memNat_iff, listed, List.mem_filter, hb]
  exact and_iff_left rfl

/-- every row's version is listed by some variant, and EVERY variant listing it (not only the
first) carries exactly the row's named layout -/
def variantsOk (variants : List Variant) (rows : List NRow) : Bool :=
  rows.all fun row => match row with
    | (v, _, L) => releaseBits.testBit v &&
      (variants.any fun var => memNat v (listed var)) &&
      variants.all fun var => !memNat v (listed var) || decide (var.1 = some L)

theorem variantsOk_sound (variants : List Variant) (rows : List NRow)
    (h : variantsOk variants rows = true) : ∀ row ∈ rows,
      (∃ var ∈ variants, row.1 ∈ var.2) ∧
      (∀ var ∈ variants, row.1 ∈ var.2 → var.1 = some row.2.2) ∧
      lookupLayoutNamed variants row.1 = some row.2.2 := by
  intro row hrow
  simp only [variantsOk, List.all_eq_true, List.any_eq_true, Bool.and_eq_true, Bool.or_eq_true,
    Bool.not_eq_true', decide_eq_true_eq] at h
  obtain ⟨⟨hb, w, hw, hwm⟩, hall⟩ := h row hrow
  have hwc : row.1 ∈ w.2 := (memNat_listed hb w).mp hwm
  have all' : ∀ var ∈ variants, row.1 ∈ var.2 → var.1 = some row.2.2 := fun var hvar hv =>
    (hall var hvar).resolve_left (by simp [(memNat_listed hb var).mpr hv])
  refine ⟨⟨w, hw, hwc⟩, all', ?_⟩
  unfold lookupLayoutNamed
  cases hf : variants.find? (fun var => var.2.contains row.1) with
  | none =>
    have := List.find?_eq_none.mp hf w hw
    exact absurd (by simpa using hwc) this
  | some var =>
    have h1 := List.mem_of_find?_eq_some hf
    have h2 : var.2.contains row.1 = true := by simpa using List.find?_some hf
    exact all' var h1 (by simpa using h2)

/-- the comparison of `Gen.idTables` and `Gen.layoutTables` with the named reference: the ids by one
walk over the id rows per packet (`walkIds`), the layouts variant by variant -/
def checkGenNamed (ref : RefTable) : Bool :=
  Ref.core.all fun c => ref.all fun e =>
    !(e.1 == c.1) ||
      match idTables.lookup c.2.1, variantsOf c.2.1 c.2.2 with
      | some idrows, some variants =>
        walkIds c.2.2 idrows (e.2.map eraseRow) && variantsOk variants e.2
      | _, _ => false

theorem checkGenNamed_sound (ref : RefTable) (h : checkGenNamed ref = true)
    (hnd : ∀ t ∈ idTables, (t.2.map (·.1)).Nodup) :
    ∀ c ∈ Ref.core, ∀ e ∈ ref, e.1 = c.1 → ∃ variants, variantsOf c.2.1 c.2.2 = some variants ∧
      ∀ row ∈ e.2,
        genId c.2.1 c.2.2 row.1 = some row.2.1 ∧
        (∃ var ∈ variants, row.1 ∈ var.2) ∧
        (∀ var ∈ variants, row.1 ∈ var.2 → var.1 = some row.2.2) ∧
        genLayoutNamed c.2.1 c.2.2 row.1 = some row.2.2 := by
  intro c hc e he hname
  simp only [checkGenNamed, List.all_eq_true] at h
  have h1 := h c hc e he
  simp only [hname, beq_self_eq_true, Bool.not_true, Bool.false_or] at h1
  unfold genId genLayoutNamed
  cases hi : idTables.lookup c.2.1 with
  | none => simp [hi] at h1
  | some idrows =>
    cases hv : variantsOf c.2.1 c.2.2 with
    | none => simp [hi, hv] at h1
    | some variants =>
      simp only [hi, hv, Bool.and_eq_true] at h1
      refine ⟨variants, rfl, fun row hrow => ⟨?_, variantsOk_sound variants e.2 h1.2 row hrow⟩⟩
      exact of_decide_eq_true (walkIds_sound c.2.2 idrows _ h1.1
        (hnd _ (Assoc.mem_of_lookup hi)) (eraseRow row) (List.mem_map_of_mem hrow))

/-! ### the comparisons with `Ref.named`, two of which `Props/C07.lean` shares

The statements of `Props/C07.lean` about `Ref.table` (types only, up to `normT`) follow from the
exact comparison of the id and layout tables with `Ref.named`, since `Ref.table` is `Ref.named` with
the names dropped. -/

/-- Evaluated together: the three comparisons read the same rows of `Ref.named`, whose field
names the kernel then decodes once. -/
theorem named_ok : checkNamed Gen.C07Named.live Ref.named = true ∧
    checkGenNamed Ref.named = true ∧ Ref.named.map eraseEntry = Ref.table := by decide +kernel

theorem checkNamed_ok : checkNamed Gen.C07Named.live Ref.named = true := named_ok.1
theorem checkGenNamed_ok : checkGenNamed Ref.named = true := named_ok.2.1
theorem erase_ok : Ref.named.map eraseEntry = Ref.table := named_ok.2.2

/-! ### tables describing CHANGED code (for the refutations) -/

/-- exchange the attribute names `a` and `b` in a layout: what `definition` yields after the two
entries have been swapped in the class body when both have the same type -/
def swapNames (a b : String) (L : Layout) : Layout :=
  L.map fun f => if f.1 == a then (b, f.2) else if f.1 == b then (a, f.2) else f

/-- … which a names-blind comparison cannot see: the type sequence is unchanged -/
theorem swapNames_types (a b : String) (L : Layout) :
    (swapNames a b L).map (fun f => f.2) = L.map fun f => f.2 := by
  unfold swapNames
  rw [List.map_map]
  apply List.map_congr_left
  intro f _
  simp only [Function.comp]
  split
  · rfl
  · split <;> rfl

/-- give field `a` the type `t` -/
def retype (a : String) (t : WType) (L : Layout) : Layout :=
  L.map fun f => if f.1 == a then (a, t) else f

/-- apply `f v` to the layout of class `key` in every row (version `v`) of a live table -/
def mutateLive (key : String × String) (f : Nat → Layout → Layout) (tbl : LiveTable) : LiveTable :=
  tbl.map fun e =>
    if e.1 == key then
      (e.1, e.2.map fun r => (r.1, r.2.1, r.2.2.1, r.2.2.2.1, r.2.2.2.2.map (f r.1)))
    else e

end PyCraft.C07Named

#print axioms PyCraft.C07Named.checkNamed_ok
#print axioms PyCraft.C07Named.checkGenNamed_ok
#print axioms PyCraft.C07Named.erase_ok
