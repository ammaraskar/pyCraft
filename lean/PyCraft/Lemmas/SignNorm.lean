import PyCraft.Lemmas.Layout
/-!
Helper definitions and lemmas for C07: the identification of the two single-byte integer types
(`i8` ≡ `u8`: the same octet on the wire, read with or without a sign), and why two layouts that
agree up to this identification produce the same bytes.
-/
namespace PyCraft.C07
open PyCraft

def normI : IntT → IntT
  | .i8 => .u8
  | t => t

/-- identify `Byte` with `UnsignedByte`, also inside arrays -/
def normT : WType → WType
  | .int t => .int (normI t)
  | .array l t => .array l (normT t)
  | t => t

/-- the unsigned reading of every single byte of a decoded value -/
def signNorm : WType → Value → Value
  | .int .i8, .int i => .int (i % 256)
  | .array _ t, .list vs => .list (vs.map (signNorm t))
  | _, v => v

theorem normT_idem (t : WType) : normT (normT t) = normT t := by
  induction t with
  | int t => cases t <;> rfl
  | array l t ih => simp [normT, ih]
  | _ => rfl

/-- To prove `P a b` for all types with the same normal form it suffices to prove it for equal
types, for two single integers with the same normal form, and for arrays with the same prefix
whose elements have the same normal form and satisfy `P`. -/
theorem normT_rel {P : WType → WType → Prop} (hrefl : ∀ a, P a a)
    (hint : ∀ ta tb, normI ta = normI tb → P (.int ta) (.int tb))
    (harr : ∀ l t t', normT t = normT t' → P t t' → P (.array l t) (.array l t')) :
    ∀ a b, normT a = normT b → P a b := by
  intro a
  induction a with
  | array l t ih =>
    intro b h
    cases b <;> simp only [normT, reduceCtorEq, WType.array.injEq] at h
    obtain ⟨rfl, h⟩ := h
    exact harr _ _ _ h (ih _ h)
  | int ta =>
    intro b h
    cases b <;> simp only [normT, reduceCtorEq, WType.int.injEq] at h
    exact hint _ _ h
  | _ =>
    intro b h
    cases b <;> simp only [normT, reduceCtorEq] at h <;> try cases h
    all_goals exact hrefl _

theorem normI_eq_cases (ta tb : IntT) (h : normI ta = normI tb) :
    ta = tb ∨ (ta = .i8 ∧ tb = .u8) ∨ (ta = .u8 ∧ tb = .i8) := by
  cases ta <;> cases tb <;> simp [normI] at h ⊢

theorem pack_i8_u8 (i : Int) (h1 : IntT.i8.inDom i) (h2 : IntT.u8.inDom i) :
    IntT.i8.pack i = IntT.u8.pack i := by
  have c1 : -128 ≤ i ∧ i < 128 := by simpa [IntT.inDom, IntT.signed, IntT.width] using h1
  have c2 : 0 ≤ i ∧ i < 256 := by simpa [IntT.inDom, IntT.signed, IntT.width] using h2
  have d1 : -((256 : Int) ^ 1 / 2) ≤ i ∧ i < (256 : Int) ^ 1 / 2 := by omega
  have d2 : 0 ≤ i ∧ i < (256 : Int) ^ 1 := by omega
  have e : (i % (256 : Int) ^ 1).toNat = i.toNat := by omega
  show (if IntT.i8.signed = true then packS 1 i else packU 1 i) =
    (if IntT.u8.signed = true then packS 1 i else packU 1 i)
  have s1 : IntT.i8.signed = true := rfl
  have s2 : ¬ (IntT.u8.signed = true) := by decide
  rw [if_pos s1, if_neg s2, packS, packU, if_pos d1, if_pos d2, e]

theorem encEach_congr (f g : Value → Except Err Bytes) : ∀ vs : List Value,
    (∀ v ∈ vs, f v = g v) → encEach f vs = encEach g vs := by
  intro vs
  induction vs with
  | nil => intro _; rfl
  | cons v vs ih =>
    intro h
    simp only [encEach, h v List.mem_cons_self, ih (fun w hw => h w (List.mem_cons_of_mem _ hw))]

/-- two types with the same normal form encode every value that is in the domain of BOTH to the
same bytes (the only non-trivial case: `i8` vs `u8` on `0 … 127`) -/
theorem encode_norm (cc : CustomCodec) (cw : CustomT → Value → Prop) : ∀ (a b : WType),
    normT a = normT b → ∀ v, WellTyped cw a v → WellTyped cw b v →
    encode cc a v = encode cc b v := by
  refine normT_rel (fun _ _ _ _ => rfl) (fun ta tb hn v h1 h2 => ?_) (fun l t t' _ ih v h1 h2 => ?_)
  · cases v <;> try (simp [WellTyped] at h1; done)
    rename_i i
    rcases normI_eq_cases _ _ hn with rfl | ⟨rfl, rfl⟩ | ⟨rfl, rfl⟩
    · rfl
    · exact pack_i8_u8 i h1 h2
    · exact (pack_i8_u8 i h2 h1).symm
  · cases v <;> try (simp [WellTyped] at h1; done)
    rename_i vs
    obtain ⟨_, hv1⟩ := wellTyped_array h1
    obtain ⟨_, hv2⟩ := wellTyped_array h2
    simp only [encode, encEach_congr _ _ vs (fun w hw => ih w (hv1 w hw) (hv2 w hw))]

/-- the types of a layout, normalised -/
def normL (L : Layout) : List WType := L.map fun f => normT f.2

/-- To prove `P L1 L2` for all layouts with the same normalised types it suffices to prove it for
the empty layouts and for two layouts that each gain a field, the two fields of types with the same
normal form. -/
theorem normL_rel {P : Layout → Layout → Prop} (hnil : P [] [])
    (hcons : ∀ n1 t1 n2 t2 L1 L2, normT t1 = normT t2 → P L1 L2 →
      P ((n1, t1) :: L1) ((n2, t2) :: L2)) :
    ∀ L1 L2, normL L1 = normL L2 → P L1 L2
  | [], [], _ => hnil
  | [], _ :: _, h => by simp [normL] at h
  | _ :: _, [], h => by simp [normL] at h
  | (n1, t1) :: L1, (n2, t2) :: L2, h => by
    simp only [normL, List.map_cons, List.cons.injEq] at h
    exact hcons n1 t1 n2 t2 L1 L2 h.1 (normL_rel hnil hcons L1 L2 h.2)

theorem encodeFields_norm (cc : CustomCodec) (cw : CustomT → Value → Prop) : ∀ (L1 L2 : Layout),
    normL L1 = normL L2 → ∀ vals, WellTypedFields cw L1 vals → WellTypedFields cw L2 vals →
    encodeFields cc L1 vals = encodeFields cc L2 vals := by
  refine normL_rel (fun _ _ _ => rfl) (fun n1 t1 n2 t2 L1 L2 ht ih vals h1 h2 => ?_)
  obtain ⟨v, vs, rfl, hv1, hvs1⟩ := wtf_cons h1
  obtain ⟨hv2, hvs2⟩ : WellTyped cw t2 v ∧ WellTypedFields cw L2 vs := h2
  simp only [encodeFields, encode_norm cc cw t1 t2 ht v hv1 hv2, ih vs hvs1 hvs2]

/-! ### reading -/

/-- Two computations whose results agree once mapped by `m` resp. `m'`, continued by computations
that agree (up to `r`, `r'`) whenever the intermediate results agree, agree up to `r`, `r'`. -/
theorem bind_map_congr {ε α α' β β' γ δ : Type} {x : Except ε α} {y : Except ε α'}
    {m : α → γ} {m' : α' → γ} {k : α → Except ε β} {k' : α' → Except ε β'}
    {r : β → δ} {r' : β' → δ} (hxy : x.map m = y.map m')
    (hk : ∀ a a', m a = m' a' → (k a).map r = (k' a').map r') :
    (x >>= k).map r = (y >>= k').map r' := by
  cases x <;> cases y <;>
    simp only [Except.map, Except.ok.injEq, Except.error.injEq, reduceCtorEq] at hxy
  · exact congrArg _ hxy
  · exact hk _ _ hxy

theorem repeatDec_norm (f g : Bytes → Except Err (Value × Bytes)) (p q : Value → Value)
    (h : ∀ bs, (f bs).map (fun x => (p x.1, x.2)) = (g bs).map (fun x => (q x.1, x.2))) :
    ∀ (n : Nat) (bs : Bytes),
      (repeatDec f n bs).map (fun x => (x.1.map p, x.2)) =
      (repeatDec g n bs).map (fun x => (x.1.map q, x.2)) := by
  intro n
  induction n with
  | zero => intro bs; rfl
  | succ n ih =>
    intro bs
    refine bind_map_congr (h bs) ?_
    rintro ⟨v, r⟩ ⟨v', r'⟩ hv
    obtain ⟨hv, rfl⟩ := Prod.mk.inj hv
    refine bind_map_congr (ih r) ?_
    rintro ⟨vs, s⟩ ⟨vs', s'⟩ hvs
    obtain ⟨hvs, rfl⟩ := Prod.mk.inj hvs
    simp only at hv hvs
    simp [Except.map, pure, Except.pure, hv, hvs]

theorem decode_i8_u8 (cc : CustomCodec) (bs : Bytes) :
    (decode cc (.int .i8) bs).map (fun x => (signNorm (.int .i8) x.1, x.2)) =
    (decode cc (.int .u8) bs).map (fun x => (signNorm (.int .u8) x.1, x.2)) := by
  cases bs with
  | nil => rfl
  | cons b rest =>
    have hb := b.toNat_lt
    simp [decode, IntT.unpack, IntT.signed, IntT.width, unpackS, unpackU, takeN, bind, Except.bind,
      pure, Except.pure, Except.map, signNorm, beValue]
    split <;> omega

/-- two types with the same normal form read every byte string alike: both fail with the same
error, or both succeed, consume the same bytes and return values that agree up to the sign reading
of single bytes -/
theorem decode_norm (cc : CustomCodec) : ∀ (a b : WType), normT a = normT b → ∀ bs,
    (decode cc a bs).map (fun x => (signNorm a x.1, x.2)) =
    (decode cc b bs).map (fun x => (signNorm b x.1, x.2)) := by
  refine normT_rel (fun _ _ => rfl) (fun ta tb hn bs => ?_) (fun l t t' _ ih bs => ?_)
  · rcases normI_eq_cases _ _ hn with rfl | ⟨rfl, rfl⟩ | ⟨rfl, rfl⟩
    · rfl
    · exact decode_i8_u8 cc bs
    · exact (decode_i8_u8 cc bs).symm
  · refine bind_map_congr (m := id) (m' := id) rfl ?_
    rintro ⟨n, r⟩ _ rfl
    refine bind_map_congr
      (repeatDec_norm (decode cc t) (decode cc t') (signNorm t) (signNorm t') ih n r) ?_
    rintro ⟨vs, s⟩ ⟨vs', s'⟩ hvs
    obtain ⟨hvs, rfl⟩ := Prod.mk.inj hvs
    simp only at hvs
    simp [Except.map, pure, Except.pure, signNorm, hvs]

/-- field-wise `signNorm` -/
def signNormL : Layout → List Value → List Value
  | (_, t) :: L, v :: vs => signNorm t v :: signNormL L vs
  | _, vs => vs

theorem decodeFields_norm (cc : CustomCodec) : ∀ (L1 L2 : Layout), normL L1 = normL L2 → ∀ bs,
    (decodeFields cc L1 bs).map (fun x => (signNormL L1 x.1, x.2)) =
    (decodeFields cc L2 bs).map (fun x => (signNormL L2 x.1, x.2)) := by
  refine normL_rel (fun _ => rfl) (fun n1 t1 n2 t2 L1 L2 ht ih bs => ?_)
  refine bind_map_congr (decode_norm cc t1 t2 ht bs) ?_
  rintro ⟨v, r⟩ ⟨v', r'⟩ hv
  obtain ⟨hv, rfl⟩ := Prod.mk.inj hv
  refine bind_map_congr (ih r) ?_
  rintro ⟨vs, s⟩ ⟨vs', s'⟩ hvs
  obtain ⟨hvs, rfl⟩ := Prod.mk.inj hvs
  simp only at hv hvs
  simp [Except.map, pure, Except.pure, signNormL, hv, hvs]

end PyCraft.C07
