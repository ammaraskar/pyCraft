import PyCraft.Model.C09Status
import PyCraft.Lemmas.Negotiate
/-!
Specification vocabulary and helper lemmas for `PyCraft/Props/C09Status.lean`.

"The first model" below is `PyCraft.Neg` of `Model/Negotiate.lean` (five reply shapes, `doPing` a
parameter); `abstractReply`, `nameJV`, `embedOutcome` and `isFallbackShape` translate between it and
the model `NegS` of `Model/C09Status.lean`.  `keyThen` names the step `handle_status` takes twice.
-/
namespace PyCraft.NegS
open PyCraft PyCraft.Neg

/-! ## Specification vocabulary -/

/-- A packet the status reactor ignores. -/
def IsOther (p : StatusPkt) : Prop := p = .other

/-- An action that only the loop (the reactor) produces. -/
def SAct.isLoopAct {J : Type} : SAct J → Bool
  | .sendPing _ => true
  | .disconnect => true
  | .callStatus _ _ => true
  | .callPing _ _ => true
  | _ => false

def _root_.PyCraft.Neg.StatusPkt.isResponse : StatusPkt → Bool
  | .response _ => true
  | _ => false

def SAct.isSendPing {J : Type} : SAct J → Bool
  | .sendPing _ => true
  | _ => false

def SAct.isCallStatus {J : Type} : SAct J → Bool
  | .callStatus _ _ => true
  | _ => false

/-- "Pings exactly when latency was requested", as a property of a `do_ping` rule: on any script
in which a parsable response arrives (after ignorable packets), a ping is sent iff `handle_ping`
was not `False`. -/
def PingIffRequested (dp : HArg → Bool) : Prop :=
  ∀ (p : ConnParams) (ctx : Nat) (hs hp : HArg) (exitCb : Bool) (parse : String → Except Err String)
    (clock : Nat → Nat) (others rest : List StatusPkt) (j d : String),
    (∀ q ∈ others, IsOther q) → parse j = .ok d →
    ((∃ t, SAct.sendPing t ∈
        (statusCallWith dp p ctx hs hp exitCb parse clock (others ++ .response j :: rest)).acts) ↔
      hp ≠ .disabled)

/-- `'k' not in x` where that expression is defined and true. -/
def lacksKey (k : String) : JV → Bool
  | .obj kvs => (lookup kvs k).isNone
  | .arr l => !(l.any (JV.isStr k))
  | .str s => !(hasInfix k.toList s.toList)
  | _ => false

/-- "The reply carries no version, or the server closed without replying": end of stream; or a
non-empty JSON object / a list / a string that does not contain `'version'`; or a JSON object whose
`'version'` is an object / list / string that does not contain `'protocol'`. -/
def noVersion : Reply → Bool
  | .closed => true
  | .json (.obj []) => false
  | .json (.obj kvs) =>
    match lookup kvs "version" with
    | none => true
    | some x => lacksKey "protocol" x
  | .json v => lacksKey "version" v
  | _ => false

/-- "Falls back only when …", as a property of the exception test of
`PlayingStatusReactor.handle_exception`. -/
def FallbackOnlyWhenNoVersion (test : Raised → Bool) : Prop :=
  ∀ (env : VEnv) (kn : List (String × Nat)) (allowed : List Nat) (dflt : Nat) (r : Reply) (v : Nat),
    evalReplyWith test env kn allowed dflt r = .connect v true ↔ (v = dflt ∧ noVersion r = true)

/-- What the five reply shapes of `Neg.StatusReply` stand for. `none`: the reply is outside the first
model's domain. -/
def abstractReply : Reply → Option StatusReply
  | .closed => some .closedBeforeReply
  | .json (.obj []) => some .emptyObj
  | .json (.obj kvs) =>
    match lookup kvs "version" with
    | none => some .noVersion
    | some (.obj xk) =>
      match lookup xk "protocol" with
      | none => some .noProtocolKey
      | some (.int n) =>
        match lookup xk "name" with
        | none => some (.proto n none)
        | some .null => some (.proto n none)
        | some (.str s) => some (.proto n (some s))
        | _ => none
      | _ => none
    | _ => none
  | _ => none

/-- `version.get('name')` of the first model (`none` = absent or `None`) as a JSON value. -/
def nameJV : Option String → JV
  | none => .null
  | some s => .str s

/-- The first model's outcome in the vocabulary of this one (`fb`: was it `handle_failure`). -/
def embedOutcome (fb : Bool) : NegOutcome → Outcome
  | .connect v => .connect v fb
  | .mismatch n name b => .raised (.mismatch (.int n) (nameJV name) b)
  | .invalidStatus => .raised .invalidStatus

/-- Does a `connect` outcome on this reply shape come from `handle_failure()`?  On every shape but
`proto` (on `emptyObj` there is no `connect` outcome and the flag is not looked at). -/
def isFallbackShape : StatusReply → Bool
  | .proto _ _ => false
  | _ => true

/-! ## The status loop -/

section Loop
variable {J : Type} (parse : String → Except Err J) (clock : Nat → Nat) (doPing : Bool)
  (cs cp : Callee)

theorem runLoopS_nil (st : TSt) : runLoopS parse clock doPing cs cp st [] = (st, [], none) := rfl

/-! The step equations of the loop; what they speak of is read off the goal they rewrite. -/
section
variable {parse clock doPing cs cp}

theorem runLoopS_interrupted {st : TSt} {script : List StatusPkt} (h : st.interrupt = true) :
    runLoopS parse clock doPing cs cp st script = (st, [], none) := by
  cases script with
  | nil => rfl
  | cons p ps => simp [runLoopS, h]

theorem runLoopS_other {st : TSt} {rest : List StatusPkt} :
    runLoopS parse clock doPing cs cp st (.other :: rest) =
      runLoopS parse clock doPing cs cp st rest := by
  by_cases h : st.interrupt = true
  · rw [runLoopS_interrupted h, runLoopS_interrupted h]
  · simp [runLoopS, h, reactS]

theorem runLoopS_others {st : TSt} {others rest : List StatusPkt} (ho : ∀ q ∈ others, IsOther q) :
    runLoopS parse clock doPing cs cp st (others ++ rest) =
      runLoopS parse clock doPing cs cp st rest := by
  induction others with
  | nil => rfl
  | cons q qs ih =>
    have hq : q = .other := ho q (by simp)
    subst hq
    rw [List.cons_append, runLoopS_other]
    exact ih (fun q hq => ho q (by simp [hq]))

theorem runLoopS_response_ok {st : TSt} {j : String} {d : J} {rest : List StatusPkt}
    (hi : st.interrupt = false) (hp : parse j = .ok d) :
    runLoopS parse clock doPing cs cp st (.response j :: rest) =
      if doPing then
        ((runLoopS parse clock doPing cs cp st.tick rest).1,
          [.sendPing (clock st.reads), .callStatus cs d] ++
            (runLoopS parse clock doPing cs cp st.tick rest).2.1,
          (runLoopS parse clock doPing cs cp st.tick rest).2.2)
      else (st.disc, [.disconnect, .callStatus cs d], none) := by
  cases doPing with
  | true => simp [runLoopS, hi, reactS, hp]
  | false =>
    simp [runLoopS, hi, reactS, hp, runLoopS_interrupted (st := st.disc) (script := rest) rfl]

theorem runLoopS_response_err {st : TSt} {j : String} {e : Err} {rest : List StatusPkt}
    (hi : st.interrupt = false) (hp : parse j = .error e) :
    runLoopS parse clock doPing cs cp st (.response j :: rest) = (st, [], some e) := by
  simp [runLoopS, hi, reactS, hp]

theorem runLoopS_pong {st : TSt} {t : Int} {rest : List StatusPkt} (hi : st.interrupt = false) :
    runLoopS parse clock doPing cs cp st (.pong t :: rest) =
      if doPing then
        (st.tick.disc, [.disconnect, .callPing cp ((clock st.reads : Int) - t)], none)
      else runLoopS parse clock doPing cs cp st rest := by
  cases doPing with
  | true =>
    simp [runLoopS, hi, reactS, runLoopS_interrupted (st := st.tick.disc) (script := rest) rfl]
  | false => simp [runLoopS, hi, reactS]

end

/-- What holds of an action `react` logs: it is a reactor action, a handler call goes to the installed
callable, and pings and latency reports occur only with `do_ping`. -/
structure SAct.AsLogged {J : Type} (doPing : Bool) (cs cp : Callee) (a : SAct J) : Prop where
  loopAct : a.isLoopAct = true
  status : ∀ w d, a = .callStatus w d → w = cs
  ping : ∀ w l, a = .callPing w l → w = cp ∧ doPing = true
  sendPing : ∀ t, a = .sendPing t → doPing = true

theorem reactS_acts {st st' : TSt} {pkt : StatusPkt} {acts : List (SAct J)}
    (h : reactS parse clock doPing cs cp st pkt = .ok (st', acts)) :
    ∀ a ∈ acts, a.AsLogged doPing cs cp := by
  have two : ∀ {P : SAct J → Prop} {b c : SAct J}, P b → P c → ∀ a ∈ [b, c], P a :=
    fun hb hc a ha => (List.mem_cons.1 ha).elim (· ▸ hb) (fun ha => List.mem_singleton.1 ha ▸ hc)
  cases pkt with
  | other => cases h; intro a ha; cases ha
  | pong t =>
    cases doPing with
    | false => cases h; intro a ha; cases ha
    | true =>
      cases h
      -- `disconnect`, then the latency to the installed ping callable
      exact two ⟨rfl, nofun, nofun, nofun⟩
        ⟨rfl, nofun, fun _ _ h => by cases h; exact ⟨rfl, rfl⟩, nofun⟩
  | response j =>
    simp only [reactS] at h
    cases hp : parse j with
    | error e => rw [hp] at h; cases h
    | ok d =>
      rw [hp] at h
      cases doPing with
      | false =>
        cases h
        -- `disconnect`, then the status to the installed status callable
        exact two ⟨rfl, nofun, nofun, nofun⟩
          ⟨rfl, fun _ _ h => by cases h; rfl, nofun, nofun⟩
      | true =>
        cases h
        -- the ping, then the status to the installed status callable
        exact two ⟨rfl, nofun, nofun, fun _ _ => rfl⟩
          ⟨rfl, fun _ _ h => by cases h; rfl, nofun, nofun⟩

theorem runLoopS_acts (script : List StatusPkt) (st : TSt) :
    ∀ a ∈ (runLoopS parse clock doPing cs cp st script).2.1,
      a.AsLogged doPing cs cp := by
  fun_induction runLoopS parse clock doPing cs cp st script with
  | case1 | case2 | case3 => nofun
  | case4 st pkt rest _ st' acts hr r ih =>
    exact fun a ha => (List.mem_append.1 ha).elim (reactS_acts parse clock doPing cs cp hr a) (ih a)

/-- Shape of any run from a live connection: either nothing was closed (still connected, not
interrupted, no `disconnect` logged), or the loop ended normally right after one `disconnect`
followed by exactly one handler call. -/
theorem runLoopS_shape (script : List StatusPkt) (st : TSt) (hc : st.connected = true)
    (hi : st.interrupt = false) :
    ((runLoopS parse clock doPing cs cp st script).1.connected = true ∧
        (runLoopS parse clock doPing cs cp st script).1.interrupt = false ∧
        SAct.disconnect ∉ (runLoopS parse clock doPing cs cp st script).2.1) ∨
      ((runLoopS parse clock doPing cs cp st script).2.2 = none ∧
        (runLoopS parse clock doPing cs cp st script).1.connected = false ∧
        (runLoopS parse clock doPing cs cp st script).1.interrupt = true ∧
        ∃ pre a, (runLoopS parse clock doPing cs cp st script).2.1 = pre ++ [.disconnect, a] ∧
          SAct.disconnect ∉ pre ∧
          (((∃ d, a = .callStatus cs d) ∧ doPing = false) ∨
            ((∃ l, a = .callPing cp l) ∧ doPing = true))) := by
  induction script generalizing st with
  | nil => exact .inl ⟨hc, hi, fun h => by cases h⟩
  | cons pkt rest ih =>
    cases pkt with
    | other =>
      rw [runLoopS_other]
      exact ih st hc hi
    | pong t =>
      rw [runLoopS_pong hi]
      cases doPing with
      | false => exact ih st hc hi
      | true =>
        exact .inr ⟨rfl, rfl, rfl, [], _, rfl, (fun h => by cases h), .inr ⟨⟨_, rfl⟩, rfl⟩⟩
    | response j =>
      cases hp : parse j with
      | error e =>
        rw [runLoopS_response_err hi hp]
        exact .inl ⟨hc, hi, fun h => by cases h⟩
      | ok d =>
        rw [runLoopS_response_ok hi hp]
        cases doPing with
        | false =>
          exact .inr ⟨rfl, rfl, rfl, [], _, rfl, (fun h => by cases h), .inl ⟨⟨_, rfl⟩, rfl⟩⟩
        | true =>
          rw [if_pos rfl]
          -- the ping and the status call go in front of what the rest of the run logs
          have hnd : ∀ {l : List (SAct J)}, SAct.disconnect ∉ l →
              SAct.disconnect ∉ SAct.sendPing (clock st.reads) :: SAct.callStatus cs d :: l :=
            fun hl h => by
              cases h with
              | tail _ h => cases h with
                | tail _ h => exact hl h
          rcases ih st.tick hc hi with ⟨a1, a2, a3⟩ | ⟨b0, b1, b2, pre, a, e, hpre, hla⟩
          · exact .inl ⟨a1, a2, hnd a3⟩
          · exact .inr ⟨b0, b1, b2, SAct.sendPing (clock st.reads) :: SAct.callStatus cs d :: pre,
              a, by rw [e]; rfl, hnd hpre, hla⟩

/-- Without `do_ping` only the first response counts: `disconnect` then the status handler if it
parses, the parse error if not; no ping, no latency report, no clock reading. -/
theorem runLoopS_noping_eq (script : List StatusPkt) (st : TSt) (hi : st.interrupt = false) :
    runLoopS parse clock false cs cp st script =
      match script.find? StatusPkt.isResponse with
      | some (.response j) =>
        match parse j with
        | .ok d => (st.disc, [.disconnect, .callStatus cs d], none)
        | .error e => (st, [], some e)
      | _ => (st, [], none) := by
  induction script with
  | nil => rfl
  | cons pkt rest ih =>
    cases pkt with
    | other => rw [runLoopS_other, ih]; rfl
    | pong t => rw [runLoopS_pong hi, if_neg Bool.false_ne_true, ih]; rfl
    | response j =>
      cases hp : parse j with
      | error e =>
        rw [runLoopS_response_err hi hp, List.find?_cons_of_pos (by rfl)]
        simp only [hp]
      | ok d =>
        rw [runLoopS_response_ok hi hp, List.find?_cons_of_pos (by rfl)]
        simp only [hp]
        rfl

/-- Clock bookkeeping.  Every ping is stamped with a reading taken during this run; a latency
report uses the LAST reading taken, minus the time carried by some pong of the script. -/
theorem runLoopS_reads (script : List StatusPkt) (st : TSt) :
    st.reads ≤ (runLoopS parse clock doPing cs cp st script).1.reads ∧
    (∀ t₁, SAct.sendPing t₁ ∈ (runLoopS parse clock doPing cs cp st script).2.1 →
      ∃ i, st.reads ≤ i ∧ i < (runLoopS parse clock doPing cs cp st script).1.reads ∧
        t₁ = clock i) ∧
    (∀ w l, SAct.callPing w l ∈ (runLoopS parse clock doPing cs cp st script).2.1 →
      ∃ t, StatusPkt.pong t ∈ script ∧
        st.reads < (runLoopS parse clock doPing cs cp st script).1.reads ∧
        l = (clock ((runLoopS parse clock doPing cs cp st script).1.reads - 1) : Int) - t) := by
  induction script generalizing st with
  | nil => simp [runLoopS]
  | cons pkt rest ih =>
    by_cases hi : st.interrupt = true
    · rw [runLoopS_interrupted hi]
      simp
    · have hi' : st.interrupt = false := by simpa using hi
      have lift : (st.reads ≤ (runLoopS parse clock doPing cs cp st rest).1.reads ∧
          (∀ t₁, SAct.sendPing t₁ ∈ (runLoopS parse clock doPing cs cp st rest).2.1 →
            ∃ i, st.reads ≤ i ∧ i < (runLoopS parse clock doPing cs cp st rest).1.reads ∧
              t₁ = clock i) ∧
          (∀ w l, SAct.callPing w l ∈ (runLoopS parse clock doPing cs cp st rest).2.1 →
            ∃ t, StatusPkt.pong t ∈ pkt :: rest ∧
              st.reads < (runLoopS parse clock doPing cs cp st rest).1.reads ∧
              l = (clock ((runLoopS parse clock doPing cs cp st rest).1.reads - 1) : Int) - t)) := by
        obtain ⟨h1, h2, h3⟩ := ih st
        refine ⟨h1, h2, fun w l h => ?_⟩
        obtain ⟨t, ht, hr⟩ := h3 w l h
        exact ⟨t, List.mem_cons_of_mem _ ht, hr⟩
      cases pkt with
      | other =>
        rw [runLoopS_other]
        exact lift
      | pong t =>
        rw [runLoopS_pong hi']
        cases doPing with
        | false => exact lift
        | true =>
          simp only [if_true, TSt.tick, TSt.disc, List.mem_cons, List.not_mem_nil, or_false,
            reduceCtorEq, false_or, SAct.callPing.injEq, Nat.add_sub_cancel]
          refine ⟨by omega, ?_, ?_⟩
          · intro _ h; cases h
          · rintro w l ⟨_, rfl⟩
            exact ⟨t, .inl rfl, by omega, rfl⟩
      | response j =>
        cases hp : parse j with
        | error e =>
          rw [runLoopS_response_err hi' hp]
          simp
        | ok d =>
          rw [runLoopS_response_ok hi' hp]
          cases doPing with
          | false => simp [TSt.disc]
          | true =>
            obtain ⟨h1, h2, h3⟩ := ih st.tick
            have hr : st.tick.reads = st.reads + 1 := rfl
            rw [hr] at h1 h2 h3
            simp only [if_true, List.cons_append, List.nil_append, List.mem_cons, reduceCtorEq,
              false_or, SAct.sendPing.injEq]
            refine ⟨by omega, ?_, ?_⟩
            · rintro t₁ (rfl | h)
              · exact ⟨st.reads, Nat.le_refl _, by omega, rfl⟩
              · obtain ⟨i, hi1, hi2, hi3⟩ := h2 t₁ h
                exact ⟨i, by omega, hi2, hi3⟩
            · intro w l h
              obtain ⟨t, ht, hlt, hl⟩ := h3 w l h
              exact ⟨t, by simp [ht], by omega, hl⟩

end Loop

/-! ## The networking thread around the loop -/

/-- The three ways a status thread can stand at the end of a server script. -/
def ThreadShape {J : Type} (doPing : Bool) (cs cp : Callee) (exitCb : Bool) (frames : List Frame)
    (run : StatusRunS J) : Prop :=
  -- still waiting for packets: nothing closed
  (∃ acts, run = ⟨frames, acts, true, false, none⟩ ∧ (∀ a ∈ acts, a.isLoopAct = true) ∧
      SAct.disconnect ∉ acts) ∨
  -- an exception ended the loop: handlers, then an immediate disconnect; no exit callback
  (∃ pre e, run = ⟨frames, pre ++ [.excHandlers e, .disconnectImmediate], false, true, some e⟩ ∧
      (∀ a ∈ pre, a.isLoopAct = true) ∧ SAct.disconnect ∉ pre) ∨
  -- normal end: one `disconnect`, then the one handler call of that packet, then the exit callback
  (∃ pre a, run = ⟨frames, pre ++ [.disconnect, a] ++ (if exitCb then [.exit] else []), false, true,
        none⟩ ∧
      (∀ a ∈ pre, a.isLoopAct = true) ∧ SAct.disconnect ∉ pre ∧
      (((∃ d, a = .callStatus cs d) ∧ doPing = false) ∨ ((∃ l, a = .callPing cp l) ∧ doPing = true)))

def SAct.isExit {J : Type} : SAct J → Bool
  | .exit => true
  | _ => false

theorem ThreadShape.exit_last {J : Type} {doPing : Bool} {cs cp : Callee} {exitCb : Bool}
    {frames : List Frame} {run : StatusRunS J} (h : ThreadShape doPing cs cp exitCb frames run) :
    (SAct.exit ∈ run.acts ↔ exitCb = true ∧ SAct.disconnect ∈ run.acts) ∧
    (SAct.exit ∈ run.acts → run.acts.getLast? = some .exit ∧ run.connected = false ∧
      run.threadEnded = true ∧ run.error = none) ∧
    (SAct.disconnect ∈ run.acts → run.connected = false ∧ run.threadEnded = true ∧
      run.error = none) ∧
    run.acts.countP SAct.isExit ≤ 1 := by
  -- a list of loop actions has no `exit`
  have nl : ∀ {l : List (SAct J)}, (∀ a ∈ l, a.isLoopAct = true) → SAct.exit ∉ l :=
    fun hl he => by cases hl _ he
  have nc : ∀ {l : List (SAct J)}, (∀ a ∈ l, a.isLoopAct = true) → l.countP SAct.isExit = 0 :=
    fun hl => List.countP_eq_zero.2 fun a ha he => by
      cases a <;> first | exact Bool.noConfusion he | exact Bool.noConfusion (hl _ ha)
  have notMemPair : ∀ {x b c : SAct J}, x ≠ b → x ≠ c → x ∉ [b, c] := fun hb hc h =>
    (List.mem_cons.1 h).elim hb (fun h => hc (List.mem_singleton.1 h))
  rcases h with ⟨acts, rfl, h1, h2⟩ | ⟨pre, e, rfl, h1, h2⟩ | ⟨pre, a, rfl, h1, h2, h3⟩
  · exact ⟨⟨fun he => absurd he (nl h1), fun he => absurd he.2 h2⟩, fun he => absurd he (nl h1),
      fun he => absurd he h2, by rw [nc h1]; omega⟩
  · have hne : SAct.exit ∉ pre ++ [SAct.excHandlers e, .disconnectImmediate] := fun he =>
      (List.mem_append.1 he).elim (nl h1) (notMemPair (fun h => by cases h) (fun h => by cases h))
    have hnd : SAct.disconnect ∉ pre ++ [SAct.excHandlers e, .disconnectImmediate] := fun he =>
      (List.mem_append.1 he).elim h2 (notMemPair (fun h => by cases h) (fun h => by cases h))
    refine ⟨⟨fun he => absurd he hne, fun he => absurd he.2 hnd⟩, fun he => absurd he hne,
      fun he => absurd he hnd, ?_⟩
    show (pre ++ [SAct.excHandlers e, .disconnectImmediate]).countP SAct.isExit ≤ 1
    rw [List.countP_append, nc h1]
    exact Nat.le_succ 0
  · have hax : SAct.isExit a = false ∧ a ≠ .exit := by
      rcases h3 with ⟨⟨d, rfl⟩, _⟩ | ⟨⟨l, rfl⟩, _⟩ <;> exact ⟨rfl, fun h => by cases h⟩
    have hd : SAct.disconnect ∈ pre ++ [SAct.disconnect, a] :=
      List.mem_append_right _ List.mem_cons_self
    have hc : (pre ++ [SAct.disconnect, a]).countP SAct.isExit = 0 := by
      rw [List.countP_append, nc h1, List.countP_cons, List.countP_singleton, hax.1]
      rfl
    have hne : SAct.exit ∉ pre ++ [SAct.disconnect, a] := fun he =>
      (List.mem_append.1 he).elim (nl h1) (notMemPair (fun h => by cases h) (Ne.symm hax.2))
    cases exitCb with
    | false =>
      rw [if_neg Bool.false_ne_true, List.append_nil]
      exact ⟨⟨fun he => absurd he hne, fun he => by cases he.1⟩, fun he => absurd he hne,
        fun _ => ⟨rfl, rfl, rfl⟩, by rw [hc]; omega⟩
    | true =>
      rw [if_pos rfl]
      have he : SAct.exit ∈ pre ++ [SAct.disconnect, a] ++ [SAct.exit] :=
        List.mem_append_right _ List.mem_cons_self
      refine ⟨⟨fun _ => ⟨rfl, List.mem_append_left _ hd⟩, fun _ => he⟩,
        fun _ => ⟨List.getLast?_concat .., rfl, rfl, rfl⟩, fun _ => ⟨rfl, rfl, rfl⟩, ?_⟩
      rw [List.countP_append, hc]
      exact Nat.le_refl 1

section Thread
variable {J : Type} (parse : String → Except Err J) (clock : Nat → Nat) (doPing : Bool)
  (cs cp : Callee) (exitCb : Bool) (frames : List Frame) (script : List StatusPkt)

theorem threadRun_shape :
    ThreadShape doPing cs cp exitCb frames
      (threadRun parse clock doPing cs cp exitCb frames script) := by
  have h1 := fun a ha => (runLoopS_acts parse clock doPing cs cp script TSt.init a ha).loopAct
  have h2 := runLoopS_shape parse clock doPing cs cp script TSt.init rfl rfl
  unfold threadRun
  generalize runLoopS parse clock doPing cs cp TSt.init script = res at h1 h2
  obtain ⟨st, acts, err⟩ := res
  simp only at h1 h2
  rcases h2 with ⟨a1, a2, a3⟩ | ⟨b0, b1, b2, pre, a, e, hpre, hla⟩
  · cases err with
    | some e => exact .inr (.inl ⟨acts, e, rfl, h1, a3⟩)
    | none =>
      refine .inl ⟨acts, ?_, h1, a3⟩
      simp only [a2, Bool.false_eq_true, if_false, a1]
  · subst b0
    subst e
    refine .inr (.inr ⟨pre, a, ?_, fun x hx => h1 x (by simp [hx]), hpre, hla⟩)
    simp only [b2, if_true, b1, Bool.not_false, Bool.true_and]

section
variable {parse clock doPing cs cp exitCb frames script}

/-- A reactor action is in the thread's log iff the loop logged it: what the thread appends
(`excHandlers`, `disconnectImmediate`, `exit`) are no reactor actions. -/
theorem threadRun_loopAct_iff {a : SAct J} (hl : a.isLoopAct = true) :
    a ∈ (threadRun parse clock doPing cs cp exitCb frames script).acts ↔
      a ∈ (runLoopS parse clock doPing cs cp TSt.init script).2.1 := by
  have key : ∀ (l c : List (SAct J)), (∀ b ∈ c, b.isLoopAct = false) → (a ∈ l ++ c ↔ a ∈ l) :=
    fun l c hc => ⟨fun h => (List.mem_append.1 h).resolve_right
      (fun h' => Bool.noConfusion ((hc a h').symm.trans hl)), List.mem_append_left c⟩
  unfold threadRun
  generalize runLoopS parse clock doPing cs cp TSt.init script = res
  obtain ⟨st, acts, err⟩ := res
  cases err with
  | some e => exact key _ _ (by simp [SAct.isLoopAct])
  | none =>
    dsimp only
    split
    · exact key _ _ (by split <;> simp [SAct.isLoopAct])
    · rfl

end

end Thread

/-! ## `calleeOf`, `doPingOf` -/

theorem calleeOf_spec (h : HArg) :
    (calleeOf h = .noop ↔ h = .disabled) ∧ (calleeOf h = .user ↔ h = .custom) ∧
      (calleeOf h = .printer ↔ h = .dflt) := by
  cases h <;> decide

theorem doPingOf_spec (hp : HArg) : doPingOf hp = true ↔ hp ≠ .disabled := by
  cases hp <;> decide

/-! ## Negotiation on arbitrary replies -/

section OnReplies
variable (env : VEnv) (kn : List (String × Nat)) (allowed : List Nat) (dflt : Nat)

theorem versionMismatchX_not_eof (sp sv : JV) :
    isEOFError (versionMismatchX env kn sp sv) = false := by
  have key : ∀ (r : Except Err JV), isEOFError (match r with
      | .error e => Raised.py e
      | .ok .null => .mismatch .null sv false
      | .ok x =>
        match fmtD x with
        | some e => .py e
        | none => .mismatch x sv (inIntList x env.supportedProtocols)) = false := by
    intro r
    split <;> (try split) <;> rfl
  unfold versionMismatchX
  exact key _

/-- Whatever `handle_proto_version` is given, it is not a fallback. -/
theorem handleProtoVersionX_cases (proto : JV) :
    (∃ n, proto = .flt (.integral n) ∧ handleProtoVersionX proto = .connectFloat n) ∨
    (∃ n, intKey proto = some n ∧ (∀ m, proto ≠ .flt (.integral m)) ∧
        handleProtoVersionX proto = .connect n.toNat false) ∨
    (intKey proto = none ∧ handleProtoVersionX proto = .raised (.py .other)) := by
  cases proto with
  | flt f =>
    cases f with
    | integral n => exact .inl ⟨n, rfl, rfl⟩
    | fractional | nan | inf => exact .inr (.inr ⟨rfl, rfl⟩)
  | bool _ | int _ => exact .inr (.inl ⟨_, rfl, (fun _ h => by cases h), rfl⟩)
  | null | str _ | arr _ | obj _ => exact .inr (.inr ⟨rfl, rfl⟩)

theorem inIntSet_true (x : JV) (s : List Nat) (h : inIntSet x s = .ok true) :
    ∃ v ∈ s, intKey x = some (v : Int) := by
  unfold inIntSet at h
  split at h
  · cases hk : intKey x with
    | none => simp [hk] at h
    | some n =>
      simp only [hk, Except.ok.injEq] at h
      obtain ⟨v, hv, rfl⟩ := (inZ_iff _ _).1 h
      exact ⟨v, hv, rfl⟩
  · cases h

theorem inIntSet_false (x : JV) (s : List Nat) (h : inIntSet x s = .ok false) :
    ∀ v ∈ s, intKey x ≠ some (v : Int) := by
  unfold inIntSet at h
  split at h
  · cases hk : intKey x with
    | none => intro v _ hv; cases hv
    | some n =>
      simp only [hk, Except.ok.injEq] at h
      intro v hv he
      cases he
      have : inZ (v : Int) s = true := (inZ_iff _ _).2 ⟨v, hv, rfl⟩
      rw [this] at h
      cases h
  · cases h

theorem afterProto_cases (x proto : JV) :
    (∃ r, afterProto env kn allowed x proto = .raised r ∧ isEOFError r = false ∧
      ∀ sp sv b, r = .mismatch sp sv b → ∃ name, pyDictGet "name" x = .ok name ∧
        inIntSet proto allowed = .ok false ∧ versionMismatchX env kn proto name = .mismatch sp sv b) ∨
    (∃ n, afterProto env kn allowed x proto = .connectFloat n ∧ proto = .flt (.integral n) ∧
      ∃ v ∈ allowed, (v : Int) = n) ∨
    (∃ v, v ∈ allowed ∧ intKey proto = some (v : Int) ∧ (∀ m, proto ≠ .flt (.integral m)) ∧
      afterProto env kn allowed x proto = .connect v false) := by
  unfold afterProto
  cases hs : inIntSet proto allowed with
  | error e => exact .inl ⟨_, rfl, rfl, fun _ _ _ h => by cases h⟩
  | ok b =>
    cases b with
    | false =>
      simp only
      cases hn : pyDictGet "name" x with
      | error e => exact .inl ⟨_, rfl, rfl, fun _ _ _ h => by cases h⟩
      | ok name =>
        exact .inl ⟨_, rfl, versionMismatchX_not_eof _ _ _ _,
          fun sp sv b h => ⟨name, rfl, trivial, h⟩⟩
    | true =>
      simp only
      obtain ⟨v, hv, hk⟩ := inIntSet_true proto allowed hs
      rcases handleProtoVersionX_cases proto with ⟨n, hp, h⟩ | ⟨n, hn, hne, h⟩ | ⟨hn, _⟩
      · refine .inr (.inl ⟨n, h, hp, v, hv, ?_⟩)
        subst hp
        simp only [intKey, Option.some.injEq] at hk
        exact hk.symm
      · rw [hk] at hn
        cases hn
        refine .inr (.inr ⟨v, hv, hk, hne, ?_⟩)
        rw [h]
        simp
      · rw [hk] at hn; cases hn

/-- A value that equals an allowed integer and is not a float is accepted as that integer. -/
theorem afterProto_of_member (x proto : JV) (v : Nat) (hv : v ∈ allowed)
    (hk : intKey proto = some (v : Int))
    (hne : ∀ m, proto ≠ .flt (.integral m)) :
    afterProto env kn allowed x proto = .connect v false := by
  have hh : hashable proto = true := by
    cases proto <;> first | rfl | (simp [intKey] at hk)
  have hs : inIntSet proto allowed = .ok true := by
    unfold inIntSet
    simp only [hh, if_true, hk]
    rw [(inZ_iff _ _).2 ⟨v, hv, rfl⟩]
  unfold afterProto
  simp only [hs]
  rcases handleProtoVersionX_cases proto with ⟨n, hp, _⟩ | ⟨n, hn, _, h⟩ | ⟨hn, _⟩
  · exact absurd hp (hne n)
  · rw [hk] at hn
    cases hn
    rw [h]
    simp
  · rw [hk] at hn; cases hn

/-- The step `handle_status` takes twice, for `'version'` in the status and for `'protocol'` in
`status['version']`: `if k not in v: return self.handle_failure()`, else go on with `v[k]`. -/
def keyThen (dflt : Nat) (k : String) (v : JV) (f : JV → Outcome) : Outcome :=
  match pyIn k v with
  | .error e => .raised (.py e)
  | .ok false => .connect dflt true
  | .ok true =>
    match pyGetItem k v with
    | .error e => .raised (.py e)
    | .ok x => f x

theorem keyThen_obj (k : String) (kvs : List (String × JV)) (f : JV → Outcome) :
    keyThen dflt k (.obj kvs) f =
      match lookup kvs k with
      | none => .connect dflt true
      | some x => f x := by
  cases hl : lookup kvs k <;> simp only [keyThen, pyIn, hl, Option.isSome_none, Option.isSome_some,
    pyGetItem]

/-- `keyThen` by the shape of `v`: the fallback exactly when `k not in v` is defined and true; on a
dict that has the key, `f` of its value; and `TypeError` from `v[k]` on a list or string containing
`k`, or from `k in v` on a scalar. -/
theorem keyThen_cases (k : String) (v : JV) (f : JV → Outcome) :
    (lacksKey k v = true ∧ keyThen dflt k v f = .connect dflt true) ∨
    (lacksKey k v = false ∧
      ((∃ kvs x, v = .obj kvs ∧ lookup kvs k = some x ∧ keyThen dflt k v f = f x) ∨
       ((∀ kvs, v ≠ .obj kvs) ∧ keyThen dflt k v f = .raised (.py .type)))) := by
  cases v with
  | obj kvs =>
    cases hl : lookup kvs k with
    | none => exact .inl ⟨by simp only [lacksKey, hl, Option.isNone_none],
        by rw [keyThen_obj, hl]⟩
    | some x =>
      exact .inr ⟨by simp only [lacksKey, hl, Option.isNone_some],
        .inl ⟨kvs, x, rfl, hl, by rw [keyThen_obj, hl]⟩⟩
  | arr l =>
    cases ha : l.any (JV.isStr k) with
    | false =>
      exact .inl ⟨by simp only [lacksKey, ha, Bool.not_false], by simp only [keyThen, pyIn, ha]⟩
    | true =>
      exact .inr ⟨by simp only [lacksKey, ha, Bool.not_true],
        .inr ⟨nofun, by simp only [keyThen, pyIn, ha, pyGetItem]⟩⟩
  | str s =>
    cases ha : hasInfix k.toList s.toList with
    | false =>
      exact .inl ⟨by simp only [lacksKey, ha, Bool.not_false], by simp only [keyThen, pyIn, ha]⟩
    | true =>
      exact .inr ⟨by simp only [lacksKey, ha, Bool.not_true],
        .inr ⟨nofun, by simp only [keyThen, pyIn, ha, pyGetItem]⟩⟩
  | null | bool _ | int _ | flt _ => exact .inr ⟨rfl, .inr ⟨nofun, rfl⟩⟩

theorem afterVersion_eq (x : JV) :
    afterVersion env kn allowed dflt x = keyThen dflt "protocol" x (afterProto env kn allowed x) :=
  rfl

/-- Every status value but `{}` goes through the `'version'` step. -/
theorem handleStatusX_eq (v : JV) (hv : v ≠ .obj []) :
    handleStatusX env kn allowed dflt v =
      keyThen dflt "version" v (afterVersion env kn allowed dflt) := by
  cases v with
  | obj kvs =>
    cases kvs with
    | nil => exact absurd rfl hv
    | cons e es => rfl
  | null | bool _ | int _ | flt _ | str _ | arr _ => rfl

/-! ### `handle_status` by the shape of the status value -/

theorem handleStatusX_obj_nil :
    handleStatusX env kn allowed dflt (.obj []) = .raised .invalidStatus := rfl

/-- `handle_status` on a status object whose `'version'` is itself an object: the fallback when
that has no `'protocol'`, else the membership test on its value. -/
theorem handleStatusX_version_obj {kvs xk : List (String × JV)}
    (h : lookup kvs "version" = some (.obj xk)) :
    handleStatusX env kn allowed dflt (.obj kvs) =
      match lookup xk "protocol" with
      | none => .connect dflt true
      | some proto => afterProto env kn allowed (.obj xk) proto := by
  have hne : JV.obj kvs ≠ .obj [] := fun he => by cases he; cases h
  rw [handleStatusX_eq env kn allowed dflt _ hne, keyThen_obj, h]
  exact keyThen_obj dflt "protocol" xk _

/-! ### `evalReply` -/

/-- `handle_exception` lets everything but `EOFError` through. -/
theorem evalReply_json {v : JV} {o : Outcome} (h : handleStatusX env kn allowed dflt v = o)
    (hr : ∀ r, o = .raised r → isEOFError r = false) :
    evalReply env kn allowed dflt (.json v) = o := by
  subst h
  simp only [evalReply, evalReplyWith]
  split
  · rename_i r hx
    rw [hx, handleExceptionWith, hr r hx]; rfl
  · rfl

theorem afterProto_not_eof {x proto : JV} {r : Raised}
    (h : afterProto env kn allowed x proto = .raised r) : isEOFError r = false := by
  rcases afterProto_cases env kn allowed x proto with ⟨r', h1, h2, _⟩ | ⟨n, h1, _⟩ | ⟨v, _, _, _, h1⟩ <;>
    rw [h1] at h <;> cases h
  exact h2

/-- A status object whose `'version'` is an object: the fallback when that has no `'protocol'`, else
the membership test on its value. -/
theorem evalReply_version_obj {kvs xk : List (String × JV)}
    (h : lookup kvs "version" = some (.obj xk)) :
    evalReply env kn allowed dflt (.json (.obj kvs)) =
      match lookup xk "protocol" with
      | none => .connect dflt true
      | some proto => afterProto env kn allowed (.obj xk) proto := by
  refine evalReply_json env kn allowed dflt (handleStatusX_version_obj env kn allowed dflt h) ?_
  cases lookup xk "protocol" with
  | none => nofun
  | some proto => exact fun r => afterProto_not_eof env kn allowed

/-- Which replies get as far as the membership test of `handle_status`, and what happens to the
others. -/
theorem evalReply_shape (r : Reply) :
    (noVersion r = true ∧ evalReply env kn allowed dflt r = .connect dflt true) ∨
    (noVersion r = false ∧
      ((∃ kvs xk proto, r = .json (.obj kvs) ∧ lookup kvs "version" = some (.obj xk) ∧
          lookup xk "protocol" = some proto ∧
          evalReply env kn allowed dflt r = afterProto env kn allowed (.obj xk) proto) ∨
       (∃ e, evalReply env kn allowed dflt r = .raised e ∧ ∀ sp sv b, e ≠ .mismatch sp sv b))) := by
  cases r with
  | closed => exact .inl ⟨rfl, rfl⟩
  | badJson => exact .inr ⟨rfl, .inr ⟨.json, rfl, nofun⟩⟩
  | ioError => exact .inr ⟨rfl, .inr ⟨.os, rfl, nofun⟩⟩
  | json v =>
    by_cases hv : v = .obj []
    · subst hv
      exact .inr ⟨rfl, .inr ⟨_, rfl, nofun⟩⟩
    have hx := handleStatusX_eq env kn allowed dflt v hv
    rcases keyThen_cases dflt "version" v (afterVersion env kn allowed dflt) with
      ⟨h1, h2⟩ | ⟨h1, ⟨kvs, x, rfl, hl, h2⟩ | ⟨hno, h2⟩⟩
    · -- `'version' not in status`
      refine .inl ⟨?_, evalReply_json _ _ _ _ (hx.trans h2) nofun⟩
      cases v with
      | obj kvs =>
        cases kvs with
        | nil => exact absurd rfl hv
        | cons e es =>
          simp only [lacksKey, Option.isNone_iff_eq_none] at h1
          simp only [noVersion, h1]
      | null | bool _ | int _ | flt _ | str _ | arr _ => exact h1
    · -- `status['version']` is `x`: the same step for `'protocol'`
      have hnv : noVersion (.json (.obj kvs)) = lacksKey "protocol" x := by
        cases kvs with
        | nil => exact absurd rfl hv
        | cons e es => simp only [noVersion, hl]
      rw [hnv]
      rw [h2, afterVersion_eq] at hx
      rcases keyThen_cases dflt "protocol" x (afterProto env kn allowed x) with
        ⟨g1, g2⟩ | ⟨g1, ⟨xk, proto, rfl, gl, g2⟩ | ⟨_, g2⟩⟩
      · exact .inl ⟨g1, evalReply_json _ _ _ _ (hx.trans g2) nofun⟩
      · exact .inr ⟨g1, .inl ⟨kvs, xk, proto, rfl, hl, gl, evalReply_json _ _ _ _ (hx.trans g2)
          fun _ => afterProto_not_eof env kn allowed⟩⟩
      · exact .inr ⟨g1, .inr ⟨_, evalReply_json _ _ _ _ (hx.trans g2) (fun _ h => by cases h; rfl),
          nofun⟩⟩
    · -- a list or string containing `'version'`, or a scalar: `TypeError`
      refine .inr ⟨?_, .inr ⟨_, evalReply_json _ _ _ _ (hx.trans h2) (fun _ h => by cases h; rfl),
        nofun⟩⟩
      cases v with
      | obj kvs => exact absurd rfl (hno kvs)
      | null | bool _ | int _ | flt _ | str _ | arr _ => exact h1



/-! ### `_version_mismatch`, the first model, texts -/

theorem inIntList_iff (x : JV) (l : List Nat) :
    inIntList x l = true ↔ ∃ p ∈ l, intKey x = some (p : Int) := by
  unfold inIntList
  cases hk : intKey x with
  | none => simp
  | some n =>
    simp only [inZ_iff, Option.some.injEq]
    constructor
    · rintro ⟨v, hv, rfl⟩; exact ⟨v, hv, rfl⟩
    · rintro ⟨v, hv, rfl⟩; exact ⟨v, hv, rfl⟩

/-- What a raised `VersionMismatch` records: the name as given; the protocol as given, unless it
was `None`, in which case it is looked up by NAME in `KNOWN_MINECRAFT_VERSIONS` (and stays `None`
if the name is not a known string); and the wording is decided by membership of that protocol in
`SUPPORTED_PROTOCOL_VERSIONS`. -/
theorem versionMismatchX_spec (sp0 sv0 sp sv : JV) (b : Bool)
    (h : versionMismatchX env kn sp0 sv0 = .mismatch sp sv b) :
    sv = sv0 ∧ b = inIntList sp env.supportedProtocols ∧
    ((sp0 ≠ .null ∧ sp = sp0) ∨
     (sp0 = .null ∧ ((sp = .null ∧ ∀ s p, sv0 = .str s → dictGet kn s ≠ some p) ∨
        ∃ s p, sv0 = .str s ∧ dictGet kn s = some p ∧ sp = .int p))) := by
  -- connection.py l.554-555: where the protocol that is formatted comes from
  have origin : ∀ x, (match sp0 with
        | .null => lookupKnown kn sv0
        | x => .ok x) = Except.ok x →
      (sp0 ≠ .null ∧ x = sp0) ∨
      (sp0 = .null ∧ ((x = .null ∧ ∀ s p, sv0 = .str s → dictGet kn s ≠ some p) ∨
        ∃ s p, sv0 = .str s ∧ dictGet kn s = some p ∧ x = .int p)) := by
    intro x hx
    cases sp0 with
    | null =>
      refine .inr ⟨rfl, ?_⟩
      cases sv0 with
      | str s =>
        cases hd : dictGet kn s with
        | none =>
          simp only [lookupKnown, hd] at hx
          cases hx
          exact .inl ⟨rfl, fun s' p hs' => by cases hs'; rw [hd]; nofun⟩
        | some p =>
          simp only [lookupKnown, hd] at hx
          cases hx
          exact .inr ⟨s, p, rfl, hd, rfl⟩
      | arr _ | obj _ => cases hx
      | null | bool _ | int _ | flt _ => cases hx; exact .inl ⟨rfl, nofun⟩
    | bool _ | int _ | flt _ | str _ | arr _ | obj _ => cases hx; exact .inl ⟨nofun, rfl⟩
  revert h
  fun_cases versionMismatchX env kn sp0 sv0
  all_goals intro h; cases h
  · rename_i hsp
    exact ⟨rfl, rfl, origin _ hsp⟩
  · rename_i hsp _
    exact ⟨rfl, rfl, origin _ hsp⟩

/-- An integer protocol with a string-or-absent name always yields the mismatch of the first
model (`Neg.versionMismatch`). -/
theorem versionMismatchX_int (n : Int) (name : Option String) :
    versionMismatchX env kn (.int n) (nameJV name) =
      .mismatch (.int n) (nameJV name) (inZ n env.supportedProtocols) := by
  simp only [versionMismatchX, fmtD, inIntList, intKey]

theorem mismatchText_int (n : Int) (name : Option String) (b : Bool) :
    mismatchText (.int n) (nameJV name) b = some (mismatchMessage n name b) := by
  cases name <;> rfl

/-- The first model is this model restricted to the replies it can express. -/
theorem evalReply_refines (r : Reply) (a : StatusReply) (h : abstractReply r = some a) :
    evalReply env kn allowed dflt r =
      embedOutcome (isFallbackShape a) (evalStatus env allowed dflt a) := by
  -- `version.protocol` is the integer `n`, `version.get('name')` is `name`
  have key : ∀ kvs xk n name, lookup kvs "version" = some (.obj xk) →
      lookup xk "protocol" = some (.int n) → (lookup xk "name").getD .null = nameJV name →
      evalReply env kn allowed dflt (.json (.obj kvs)) =
        embedOutcome false (evalStatus env allowed dflt (.proto n name)) := by
    intro kvs xk n name hl hp hname
    rw [evalReply_version_obj env kn allowed dflt hl, hp]
    show afterProto env kn allowed (.obj xk) (.int n) = _
    cases hz : inZ n allowed with
    | true =>
      obtain ⟨w, hw, rfl⟩ := (inZ_iff _ _).1 hz
      rw [afterProto_of_member env kn allowed (.obj xk) (.int w) w hw rfl (fun _ h => by cases h)]
      simp [evalStatus, hz, handleProtoVersion, embedOutcome]
    | false =>
      simp [afterProto, inIntSet, hashable, intKey, hz, pyDictGet, hname, versionMismatchX_int,
        evalStatus, versionMismatch, embedOutcome]
  revert h
  fun_cases abstractReply r
  -- outside the first model's domain there is nothing to show
  all_goals intro h; cases h
  · rfl
  · rfl
  · rename_i kvs hne hl
    have hv : JV.obj kvs ≠ .obj [] := fun he => hne (JV.obj.inj he)
    exact evalReply_json env kn allowed dflt
      (by rw [handleStatusX_eq env kn allowed dflt _ hv, keyThen_obj, hl]; rfl) nofun
  · rename_i hl hp
    rw [evalReply_version_obj env kn allowed dflt hl, hp]
    rfl
  · rename_i hl n hp hn
    exact key _ _ n none hl hp (by rw [hn]; rfl)
  · rename_i hl n hp hn
    exact key _ _ n none hl hp (by rw [hn]; rfl)
  · rename_i hl n hp s hn
    exact key _ _ n (some s) hl hp (by rw [hn]; rfl)

/-- An allowed integer (or the boolean equal to it) reported in `version.protocol` is accepted. -/
theorem evalReply_of_reported (kvs xk : List (String × JV)) (proto : JV) (v : Nat)
    (h1 : lookup kvs "version" = some (.obj xk)) (h2 : lookup xk "protocol" = some proto)
    (hv : v ∈ allowed) (hk : intKey proto = some (v : Int)) (hne : ∀ m, proto ≠ .flt (.integral m)) :
    evalReply env kn allowed dflt (.json (.obj kvs)) = .connect v false := by
  rw [evalReply_version_obj env kn allowed dflt h1, h2]
  exact afterProto_of_member env kn allowed _ _ v hv hk hne

/-- A float equal to an allowed version passes the membership test and is handed on AS A FLOAT. -/
theorem evalReply_of_float (kvs xk : List (String × JV)) (v : Nat)
    (h1 : lookup kvs "version" = some (.obj xk))
    (h2 : lookup xk "protocol" = some (.flt (.integral (v : Int)))) (hv : v ∈ allowed) :
    evalReply env kn allowed dflt (.json (.obj kvs)) = .connectFloat (v : Int) := by
  rw [evalReply_version_obj env kn allowed dflt h1, h2]
  have hz : inZ (v : Int) allowed = true := (inZ_iff _ _).2 ⟨v, hv, rfl⟩
  simp only [afterProto, inIntSet, hashable, if_true, intKey, hz, handleProtoVersionX]

end OnReplies

end PyCraft.NegS
