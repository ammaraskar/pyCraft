import PyCraft.Model.C14Compose
import PyCraft.Lemmas.C16EndsReuse
/-!
Helper lemmas for `Props/C14Compose.lean`, concurrent part: the exception path of a networking
thread in the transition system `Model/Lifecycle.lean` — the flag set by `except Exception:
self.interrupt = True` is still set when the final block of `_handle_exception` reads it, the
thread never returns to I/O, it terminates, and unless somebody has connected in the meantime the
connection is closed and can be used again.
-/
namespace PyCraft.Life

/-! ### Views of the program counter -/

/-- Inside `_handle_exception`, i.e. after `self.interrupt = True`. -/
def NPc.inHandler : NPc → Bool
  | .hRun | .hChk | .hRel => true
  | .call .handler | .callRel .handler _ => true
  | .call .react | .call .listen | .callRel .react _ | .callRel .listen _ => false
  | .unborn | .waitPrev | .takeOver | .tkRel | .loopChk | .wBody | .wRel | .wFailRel | .rChk
  | .rRead | .exit | .exc | .epilogue | .epRel | .fin | .dead => false

/-- From the `except` clause of `run` to the death of the thread. -/
def NPc.onExcPath : NPc → Bool
  | .exc | .hRun | .hChk | .hRel | .epilogue | .epRel | .fin | .dead => true
  | .call .handler | .callRel .handler _ => true
  | .call .react | .call .listen | .callRel .react _ | .callRel .listen _ => false
  | .unborn | .waitPrev | .takeOver | .tkRel | .loopChk | .wBody | .wRel | .wFailRel | .rChk
  | .rRead | .exit => false

/-- After the final locked block of `_handle_exception` (for a thread on the exception path). -/
def NPc.pastChk : NPc → Bool
  | .hRel | .epilogue | .epRel | .fin | .dead => true
  | .unborn | .waitPrev | .takeOver | .tkRel | .loopChk | .wBody | .wRel | .wFailRel | .rChk
  | .rRead | .call _ | .callRel _ _ | .exit | .exc | .hRun | .hChk => false

/-- Events of the packet loop: reading the own flag, the write phase, `read_packet`, the exit
callback. -/
def Ev.isLoop : Ev → Bool
  | .chk _ | .wr _ | .wrFail | .rd _ _ | .exit => true
  | _ => false

theorem inHandler_callRel (site : Site) (out : Outcome) :
    (NPc.callRel site out).inHandler = (NPc.call site).inHandler := by cases site <;> rfl

theorem onExcPath_callRel (site : Site) (out : Outcome) :
    (NPc.callRel site out).onExcPath = (NPc.call site).onExcPath := by cases site <;> rfl

theorem afterCall_inHandler (s : Sys) (site : Site) (out : Outcome) :
    (afterCall s site out).inHandler = (NPc.call site).inHandler := by
  cases site <;> simp only [afterCall] <;> repeat' split
  all_goals rfl

theorem afterCall_pastChk (s : Sys) (site : Site) (out : Outcome) :
    (afterCall s site out).pastChk = false :=
  afterCall_forall (·.pastChk = false) rfl rfl rfl rfl s site out

theorem afterCall_onExcPath (s : Sys) (site : Site) (out : Outcome)
    (h : (NPc.call site).onExcPath = true) : (afterCall s site out).onExcPath = true := by
  cases site <;> simp_all [afterCall, NPc.onExcPath]

/-! ### The flag is set throughout `_handle_exception` -/

/-- Every thread inside `_handle_exception` has its `interrupt` flag set (a part of `Ends.OInv`:
every program counter inside the handler is one at which the own flag is set). -/
def HInv (s : Sys) : Prop := ∀ i, (s.net i).pc.inHandler = true → (s.net i).intr = true

theorem over_of_inHandler (pc : NPc) (h : pc.inHandler = true) : Ends.over pc = true := by
  cases pc
  case call site => cases site <;> first | rfl | cases h
  case callRel site out => rfl
  all_goals first | rfl | cases h

theorem reach_hinv (env : List Beh) (progs : List (List Op)) (rl rh : Nat) (sched : List Tid) :
    HInv (run env (init progs rl rh) sched) :=
  fun i hi => Ends.reach_over env progs rl rh sched i (over_of_inHandler _ hi)

/-! ### The exception path is never left -/

/-- How an action that takes a thread from `pc` to `pc'` with event `e` is related to the exception
path: the path is not left, nothing on it belongs to the packet loop, and its final locked block
is passed only by executing it. -/
def excOk (pc pc' : NPc) (e : Ev) : Bool :=
  !pc.onExcPath ||
    (pc'.onExcPath && !e.isLoop && (!pc'.pastChk || pc.pastChk || pc == .hChk))

theorem excOk_iff (pc pc' : NPc) (e : Ev) : excOk pc pc' e = true ↔
    (pc.onExcPath = true → pc'.onExcPath = true ∧ e.isLoop = false ∧
      (pc'.pastChk = true → pc.pastChk = true ∨ pc = .hChk)) := by
  cases h2 : pc.onExcPath <;> cases h3 : pc'.pastChk <;> simp [excOk, h2, h3, and_assoc]

theorem Quiet.excPath {env : List Beh} {s : Sys} {x x' : NetThr} {rh' : Nat} {e : Ev}
    (hq : Quiet env s x x' rh' e) : excOk x.pc x'.pc e = true := by
  obtain ⟨b, pv, pc⟩ := x
  cases hq
  all_goals
    cases ‹NetThr.pc _ = _›
    cases b <;> rfl

theorem Locked.excPath {env : List Beh} {s c : Sys} {i : Nat} {pc' : NPc} {e : Ev}
    (hl : Locked env s i c pc' e) : excOk (s.net i).pc pc' e = true := by
  cases hl
  case call site out hpc hb => rw [hpc]; cases site <;> rfl
  all_goals
    rw [‹(s.net i).pc = _›]
    rfl

theorem Release.excPath {s : Sys} {pc pc' : NPc} {rl' : Nat} {e : Ev}
    (hr : Release s pc pc' rl' e) : excOk pc pc' e = true := by
  cases hr
  case callRel site out =>
    cases site
    · simp only [afterCall]; split <;> rfl
    · simp only [afterCall]; split <;> rfl
    · rfl
  all_goals rfl

/-- Every action of a networking thread logs one event, related to the exception path by
`excOk`. -/
theorem Step.excPath {env : List Beh} {s s' : Sys} {i : Nat} (hs : Step env s (.net i) s') :
    ∃ e, s'.log = s.log ++ [(.net i, e)] ∧ excOk (s.net i).pc (s'.net i).pc e = true :=
  hs.rows (fun pc _ pc' e => excOk pc pc' e) Quiet.excPath (fun _ => Locked.excPath)
    (fun _ => Release.excPath) (fun _ => rfl) (fun _ => rfl)

theorem onExcPath_step (env : List Beh) (s s' : Sys) (t : Tid) (h : LInv s)
    (hs : step env s t = some s') (i : Nat) (hp : (s.net i).pc.onExcPath = true) :
    (s'.net i).pc.onExcPath = true := by
  have hS := step_Step env s s' t hs
  by_cases ht : t = .net i
  · subst ht
    obtain ⟨e, -, hok⟩ := hS.excPath
    exact (((excOk_iff _ _ _).mp hok) hp).1
  · rw [pc_other env s s' t h hs i (by intro hc; rw [hc] at hp; cases hp) ht]; exact hp

/-- A thread on the exception path emits no event of the packet loop. -/
theorem onExcPath_event (env : List Beh) (s s' : Sys) (i : Nat)
    (hs : step env s (.net i) = some s') (hp : (s.net i).pc.onExcPath = true) :
    ∃ e, s'.log = s.log ++ [(.net i, e)] ∧ e.isLoop = false := by
  obtain ⟨e, he, hok⟩ := (step_Step env s s' _ hs).excPath
  exact ⟨e, he, (((excOk_iff _ _ _).mp hok) hp).2.1⟩

/-- Under any schedule a thread on the exception path stays on it, and everything it appends to
the log is outside the packet loop. -/
theorem onExcPath_run (env : List Beh) (i : Nat) : ∀ (more : List Tid) (s : Sys), LInv s →
    (s.net i).pc.onExcPath = true →
    ((run env s more).net i).pc.onExcPath = true ∧
    ∃ ext, (run env s more).log = s.log ++ ext ∧
      ∀ e, (Tid.net i, e) ∈ ext → e.isLoop = false := by
  intro more
  induction more with
  | nil => intro s _ hp; exact ⟨hp, [], by simp [run], fun _ h => by cases h⟩
  | cons t ts ih =>
    intro s h hp
    simp only [run]
    cases hst : step env s t with
    | none => exact ih s h hp
    | some s' =>
      obtain ⟨a, ext, b, c⟩ := ih s' (step_inv env s s' t h hst)
        (onExcPath_step env s s' t h hst i hp)
      refine ⟨a, ?_⟩
      by_cases ht : t = .net i
      · subst ht
        obtain ⟨e, he, hl⟩ := onExcPath_event env s s' i hst hp
        refine ⟨(.net i, e) :: ext, by rw [b, he]; simp, ?_⟩
        intro e' hm
        rcases List.mem_cons.mp hm with hm | hm
        · cases hm; exact hl
        · exact c e' hm
      · obtain ⟨e, he⟩ := (step_Step env s s' t hst).frame.2.2.2
        refine ⟨(t, e) :: ext, by rw [b, he]; simp, ?_⟩
        intro e' hm
        rcases List.mem_cons.mp hm with hm | hm
        · cases hm; exact absurd rfl ht
        · exact c e' hm

/-! ### Bounded number of own steps, termination -/

/-- Under ANY schedule a thread that is at the `except` clause of `run` (or already interrupted)
executes at most `rank` more actions. -/
theorem rank_run' (env : List Beh) (sched : List Tid) (i : Nat) :
    ∀ s, LInv s → (s.net i).pc ≠ .unborn → ((s.net i).intr = true ∨ (s.net i).pc = .exc) →
      ((run env s sched).net i).pc.rank + stepsOf env s (.net i) sched ≤ (s.net i).pc.rank :=
  fun s h hb hi => (rank_run_exc env sched i s h hb hi).2.2.2

/-- "Interrupted, or still at the `except` clause" is stable, and the thread object stays. -/
theorem exc_or_intr_run (env : List Beh) (i : Nat) : ∀ (sched : List Tid) (s : Sys), LInv s →
    (s.net i).pc ≠ .unborn → ((s.net i).intr = true ∨ (s.net i).pc = .exc) →
      ((run env s sched).net i).intr = true ∨ ((run env s sched).net i).pc = .exc :=
  fun sched s h hb hi => (rank_run_exc env sched i s h hb hi).2.1

/-- From the `except` clause, some schedule of at most 48 entries kills the thread. -/
theorem exc_can_terminate (env : List Beh) (s : Sys) (h : LInv s) (i : Nat)
    (hpc : (s.net i).pc = .exc) :
    ∃ sched, sched.length ≤ 48 ∧ ((run env s sched).net i).pc = .dead := by
  obtain ⟨s1, hs1, hi, hp, -, -⟩ := exc_step env s i hpc
  obtain ⟨sched, hl, hd⟩ := can_terminate env s1 (step_inv env s s1 _ h hs1) i
    (by rw [hp]; simp) hi
  refine ⟨.net i :: sched, by simp; omega, ?_⟩
  simp only [run, hs1]; exact hd

/-- From the `except` clause the thread dies, and stays dead, on every weakly fair schedule. -/
theorem exc_eventually_dead (env : List Beh) (U i : Nat) (s : Sys) (σ : Nat → Tid) (h : LInv s)
    (hub : UB U s) (hpc : (s.net i).pc = .exc) (hf : WeakFair env s σ) :
    ∃ n, ∀ m, n ≤ m → ((runN env s σ m).net i).pc = .dead :=
  eventually_always_dead env U i s σ h hub (by rw [hpc]; nofun) (.inr hpc) hf

/-! ### No connection attempt since the exception: closed, and free to connect again -/

theorem conns_step (env : List Beh) (s s' : Sys) (t : Tid) (hs : step env s t = some s') :
    s.conns ≤ s'.conns := by
  obtain ⟨c, he, ha⟩ := (step_Step env s s' t hs).effect
  rw [ha.conns]
  cases he
  case refused | direct | succ => exact Nat.le_succ _
  all_goals exact Nat.le_refl _

theorem conns_run (env : List Beh) (more : List Tid) (s : Sys) :
    s.conns ≤ (run env s more).conns :=
  run_induct env (fun x => s.conns ≤ x.conns)
    (fun x x' t hp hs => Nat.le_trans hp (conns_step env x x' t hs)) more s (Nat.le_refl _)

/-- Thread `i` is on its exception path, and no connection attempt has been made since it got
there (`conns` is still `n`, nobody waits in `new_networking_thread`). -/
structure ExcQ (i n : Nat) (s : Sys) : Prop where
  path : (s.net i).pc.onExcPath = true
  conns : s.conns = n
  noNew : s.newNt = none
  slot : s.nt = some i ∨ s.nt = none
  flag : (s.net i).pc ≠ .exc → (s.net i).intr = true
  closed : (s.net i).pc.pastChk = true → s.socket = .none ∧ s.connected = false

theorem excq_noNew (env : List Beh) (s s' : Sys) (t : Tid) (i n : Nat) (q : ExcQ i n s)
    (hs : step env s t = some s') (hc : s'.conns = n) : s'.newNt = none := by
  obtain ⟨c, he, ha⟩ := (step_Step env s s' t hs).effect
  rw [ha.newNt]
  rw [ha.conns, ← q.conns] at hc
  cases he
  case refused | direct | succ => exact absurd hc (Nat.succ_ne_self _)
  case take => rfl
  all_goals exact q.noNew

theorem excq_slot (env : List Beh) (s s' : Sys) (t : Tid) (i n : Nat) (h : LInv s)
    (q : ExcQ i n s) (hs : step env s t = some s') (hc : s'.conns = n) :
    s'.nt = some i ∨ s'.nt = none := by
  obtain ⟨c, he, ha⟩ := (step_Step env s s' t hs).effect
  rw [ha.nt]
  rw [ha.conns, ← q.conns] at hc
  cases he
  case refused | direct | succ => exact absurd hc (Nat.succ_ne_self _)
  case take k _ hpc =>
    -- the thread taking over would be waiting in `new_networking_thread`
    have := (h.new_iff k).mpr (by rw [hpc]; rfl)
    rw [q.noNew] at this; cases this
  case epi => exact .inr rfl
  all_goals exact q.slot

theorem excq_flag (env : List Beh) (s s' : Sys) (t : Tid) (i n : Nat) (h : LInv s)
    (q : ExcQ i n s) (hs : step env s t = some s') :
    (s'.net i).pc ≠ .exc → (s'.net i).intr = true := by
  intro hne
  have hb : (s.net i).pc ≠ .unborn := by intro hc; have := q.path; rw [hc] at this; cases this
  by_cases hx : (s.net i).pc = .exc
  · by_cases ht : t = .net i
    · subst ht
      obtain ⟨s1, hs1, hi, -⟩ := exc_step env s i hx
      rw [hs] at hs1; cases hs1; exact hi
    · rw [pc_other env s s' t h hs i hb ht] at hne; exact absurd hx hne
  · exact intr_sticky env s s' t h hs i hb (q.flag hx)

/-- Without a connection attempt, a closed connection stays closed. -/
theorem Effect.closed {env : List Beh} {s c : Sys} {t : Tid} (he : Effect env s t c)
    (hc : c.conns = s.conns) (h : s.socket = .none ∧ s.connected = false) :
    c.socket = .none ∧ c.connected = false := by
  cases he
  case refused | direct | succ => exact absurd hc (Nat.succ_ne_self _)
  case disc => exact ⟨rfl, rfl⟩
  all_goals exact h

theorem excq_closed (env : List Beh) (s s' : Sys) (t : Tid) (i n : Nat) (h : LInv s)
    (q : ExcQ i n s) (hs : step env s t = some s') (hc : s'.conns = n) :
    (s'.net i).pc.pastChk = true → s'.socket = .none ∧ s'.connected = false := by
  intro hp
  have hS := step_Step env s s' t hs
  have hb : (s.net i).pc ≠ .unborn := by intro hc; have := q.path; rw [hc] at this; cases this
  -- either the final block had been passed before, or this step is the final block
  have hpre : (s.net i).pc.pastChk = true ∨ (t = .net i ∧ (s.net i).pc = .hChk) := by
    by_cases ht : t = .net i
    · subst ht
      obtain ⟨e, -, hok⟩ := hS.excPath
      exact ((((excOk_iff _ _ _).mp hok) q.path).2.2 hp).imp_right fun hx => ⟨rfl, hx⟩
    · rw [pc_other env s s' t h hs i hb ht] at hp; exact .inl hp
  rcases hpre with hp0 | ⟨rfl, hx⟩
  · obtain ⟨c, he, ha⟩ := hS.effect
    rw [ha.socket, ha.connected]
    exact he.closed (by rw [← ha.conns, hc, q.conns]) (q.closed hp0)
  · -- the thread still holds the slot, nobody waits behind it and its flag is set: the block
    -- reads its own flag and disconnects
    have hnt := (h.nt_iff i).mpr (by rw [hx]; rfl)
    have htg : target s = some i := by simp [target, q.noNew, hnt]
    have hi := q.flag (by rw [hx]; nofun)
    obtain ⟨-, -, -, hcase⟩ := hchk_step env s s' i hx hs
    rcases hcase with ⟨j, -, -, hsh, -⟩ | ⟨j, hj, hji, -⟩ | ⟨hn, -⟩
    · have h1 := congrArg Shared.socket hsh
      have h2 := congrArg Shared.connected hsh
      exact ⟨h1, h2⟩
    · rw [htg] at hj; cases hj; rw [hi] at hji; cases hji
    · rw [htg] at hn; cases hn

theorem excq_step (env : List Beh) (s s' : Sys) (t : Tid) (i n : Nat) (h : LInv s)
    (q : ExcQ i n s) (hs : step env s t = some s') (hc : s'.conns = n) : ExcQ i n s' :=
  ⟨onExcPath_step env s s' t h hs i q.path, hc, excq_noNew env s s' t i n q hs hc,
   excq_slot env s s' t i n h q hs hc, excq_flag env s s' t i n h q hs,
   excq_closed env s s' t i n h q hs hc⟩

theorem excq_run (env : List Beh) (i n : Nat) : ∀ (more : List Tid) (s : Sys), LInv s →
    ExcQ i n s → (run env s more).conns = n → ExcQ i n (run env s more) := by
  intro more
  induction more with
  | nil => intro s _ q _; exact q
  | cons t ts ih =>
    intro s h q hc
    simp only [run] at hc ⊢
    cases hst : step env s t with
    | none => simp only [hst] at hc; exact ih s h q hc
    | some s' =>
      simp only [hst] at hc
      have h1 := conns_step env s s' t hst
      have h2 := conns_run env ts s'
      have h3 := q.conns
      exact ih s' (step_inv env s s' t h hst) (excq_step env s s' t i n h q hst (by omega)) hc

/-- At the `except` clause with nobody waiting in `new_networking_thread`. -/
theorem excq_init (s : Sys) (h : LInv s) (i : Nat) (hpc : (s.net i).pc = .exc)
    (hnew : s.newNt = none) : ExcQ i s.conns s :=
  ⟨by rw [hpc]; rfl, rfl, hnew, .inl ((h.nt_iff i).mpr (by rw [hpc]; rfl)),
   fun hne => absurd hpc hne, fun hp => by rw [hpc] at hp; cases hp⟩

/-- Past the `except` clause and with no connection attempt since, `_check_connection` passes. -/
theorem excq_not_busy (s : Sys) (i n : Nat) (q : ExcQ i n s) (hne : (s.net i).pc ≠ .exc) :
    busy s = false := by
  have hi := q.flag hne
  unfold busy
  rw [q.noNew]
  rcases q.slot with h | h <;> simp [h, hi]

/-- The two models read the same flag in the final block: that of `new_networking_thread` if
there is one, else that of `networking_thread`. -/
theorem cleanupFlag_eq (s : Sys) :
    cleanupFlag s =
      match s.newNt.map fun j => (s.net j).intr with
      | some b => some b
      | none => s.nt.map fun j => (s.net j).intr := by
  unfold cleanupFlag target
  cases s.newNt <;> rfl

/-! ### The specification as a predicate on the run function (to test changed code against it) -/

/-- EXCEPTION → CLOSED: whenever a networking thread `i` is at the `except` clause of `run` with
nobody waiting in `new_networking_thread`, then in every later state in which no connection
attempt has been made since and the thread is past the final block of `_handle_exception`, the
socket is `None` and `connected` is false. -/
def ExcClosesConn (runf : List Beh → Sys → List Tid → Sys) : Prop :=
  ∀ (env : List Beh) (progs : List (List Op)) (rl rh : Nat) (sched more : List Tid) (i : Nat),
    ((runf env (init progs rl rh) sched).net i).pc = .exc →
    (runf env (init progs rl rh) sched).newNt = none →
    (runf env (runf env (init progs rl rh) sched) more).conns =
      (runf env (init progs rl rh) sched).conns →
    ((runf env (runf env (init progs rl rh) sched) more).net i).pc.pastChk = true →
    (runf env (runf env (init progs rl rh) sched) more).socket = .none ∧
    (runf env (runf env (init progs rl rh) sched) more).connected = false

end PyCraft.Life
