import PyCraft.Model.C16Carry
/-!
Helper lemmas for `Props/C16Carry.lean`: the invariant `Inv` of the unchanged program
(`Variant.real`) and its preservation by every block of `Model/C16Carry.lean` — `connect()` and
`status()` through their common specification `StartSpec`; frame lemmas for the fields `exc`,
`connected`, `hasExit`, `exits`; and what `_handle_exception` records when the reactor's own
handler does not intervene (`endByError_exc`).
-/
namespace PyCraft.Carry

/-- The invariant carried along every history of the unchanged program:
* every logged session start is clean;
* the framing `_write_packet` would use is the one negotiated on the current transport;
* a connected socket is wrapped iff encryption was negotiated on the current transport;
* every frame written so far was written that way. -/
structure Inv (s : Obj) : Prop where
  starts : ∀ e ∈ s.starts, e.clean = true
  comp : s.thrArg = s.srvThr
  enc : ∀ e, s.socket = .open e → e = s.srvEnc
  wire : ∀ w ∈ s.wire, w.thr = w.srvThr ∧ w.enc = w.srvEnc

theorem inv_fresh (c : Cfg) : Inv (fresh c) :=
  ⟨by simp [fresh], by simp [fresh, Obj.thrArg], by simp [fresh], by simp [fresh]⟩

variable {s : Obj}

theorem inv_writePacket (p : Pkt) (f : Bool) (h : Inv s) : Inv (writePacket s p f).1 := by
  unfold writePacket
  split
  · exact h
  · exact h
  · rename_i e he
    split
    · exact h
    · refine ⟨h.starts, h.comp, h.enc, ?_⟩
      intro w hw
      simp only [List.mem_append, List.mem_singleton] at hw
      rcases hw with hw | hw
      · exact h.wire w hw
      · subst hw
        exact ⟨h.comp, h.enc e he⟩

theorem inv_drain (q : List Pkt) (b : Nat) (f : Option Nat) (h : Inv s) :
    Inv (drain s q b f).1 := by
  fun_induction drain s q b f
  case case1 | case2 => exact ⟨h.starts, h.comp, h.enc, h.wire⟩
  case case3 s p _ _ f _ hw ih =>
    have := inv_writePacket p (f == some 0) h
    rw [hw] at this
    exact ih this
  case case4 s p _ _ f _ _ _ hw =>
    have := inv_writePacket p (f == some 0) h
    rw [hw] at this
    exact ⟨this.starts, this.comp, this.enc, this.wire⟩

theorem inv_push (p : Pkt) (h : Inv s) : Inv (push s p) :=
  ⟨h.starts, h.comp, h.enc, h.wire⟩

theorem inv_flushAll (f : Option Nat) (h : Inv s) : Inv (flushAll s f) := by
  unfold flushAll
  split
  · exact inv_drain _ _ _ h
  · exact h

theorem inv_interruptTarget (h : Inv s) : Inv (interruptTarget s) := by
  unfold interruptTarget
  split <;> exact ⟨h.starts, h.comp, h.enc, h.wire⟩

theorem inv_closeSocket (h : Inv s) : Inv (closeSocket s) := by
  unfold closeSocket
  split
  · exact ⟨h.starts, h.comp, (by intro e he; cases he), h.wire⟩
  · exact h

theorem inv_disconnect (imm : Bool) (f : Option Nat) (h : Inv s) :
    Inv (disconnect .real s imm f) := by
  have h0 : Inv { s with connected := false } := ⟨h.starts, h.comp, h.enc, h.wire⟩
  simp only [disconnect, Variant.real, Bool.false_eq_true, if_false]
  apply inv_closeSocket
  apply inv_interruptTarget
  split
  · exact inv_flushAll _ h0
  · exact h0

/-- What `connect()` and `status()` have in common: returning normally they log a clean start on a
new transport with nothing negotiated; raising they leave the logs, the compression options and
the negotiated state alone, the socket being untouched or a new unconnected object; and they are
always enabled. -/
def StartSpec (kind : StartKind) (s s' : Obj) : Outcome → Prop
  | .ok => (Start.mk kind s.allowed s.proto s'.view).clean = true ∧
      s'.starts = s.starts ++ [⟨kind, s.allowed, s.proto, s'.view⟩] ∧
      s'.thrArg = none ∧ s'.srvThr = none ∧ s'.srvEnc = false ∧ s'.socket = .open false ∧
      s'.wire = s.wire
  | .exc _ => s'.starts = s.starts ∧ s'.thrArg = s.thrArg ∧ s'.srvThr = s.srvThr ∧
      s'.srvEnc = s.srvEnc ∧ (s'.socket = s.socket ∨ s'.socket = .unconnected) ∧ s'.wire = s.wire
  | .skip => False

theorem connect_spec (s : Obj) (r : Net) :
    StartSpec .connect s (connect .real s r).1 (connect .real s r).2 := by
  unfold connect
  split
  · simp [StartSpec]
  · cases r <;> simp only [connectSock, Variant.real, Bool.false_eq_true, if_false]
    · by_cases h1 : s.allowed.length = 1 <;> cases hn : s.nt <;>
        simp_all [StartSpec, startThread, busy, push, logStart, Obj.view, Start.clean,
          cleanConnectView, Obj.thrArg]
    · simp [StartSpec, Obj.thrArg]
    · simp [StartSpec, Obj.thrArg]

theorem status_spec (s : Obj) (ping : Bool) (r : Net) :
    StartSpec (.status ping) s (status .real s ping r).1 (status .real s ping r).2 := by
  unfold status
  split
  · simp [StartSpec]
  · cases r <;> simp only [connectSock, Variant.real, Bool.false_eq_true, if_false]
    · cases hn : s.nt <;>
        simp_all [StartSpec, startThread, busy, push, logStart, Obj.view, Start.clean,
          cleanStatusView, Obj.thrArg]
    · simp [StartSpec, Obj.thrArg]
    · simp [StartSpec, Obj.thrArg]

/-- A `connect()` that returns normally produces the clean start view, whatever the state it
started from. -/
theorem connect_ok_view {s s' : Obj} {r : Net} (h : connect .real s r = (s', .ok)) :
    s'.view = cleanConnectView s.allowed := by
  have := connect_spec s r
  rw [h] at this
  exact eq_of_beq this.1

theorem inv_of_start {kind : StartKind} {s s' : Obj} {o : Outcome} (hs : StartSpec kind s s' o)
    (h : Inv s) : Inv s' := by
  cases o with
  | ok =>
    obtain ⟨hc, hs, ht, hsrv, henc, hsock, hw⟩ := hs
    refine ⟨?_, by rw [ht, hsrv], ?_, by rw [hw]; exact h.wire⟩
    · rw [hs]
      exact List.forall_mem_append.mpr ⟨h.starts, List.forall_mem_singleton.mpr hc⟩
    · intro e he
      rw [hsock] at he
      cases he
      exact henc.symm
  | exc k =>
    obtain ⟨hs, ht, hsrv, henc, hsock, hw⟩ := hs
    refine ⟨by rw [hs]; exact h.starts, by rw [ht, hsrv]; exact h.comp, ?_,
      by rw [hw]; exact h.wire⟩
    intro e he
    rcases hsock with hsock | hsock
    · rw [hsock] at he; rw [henc]; exact h.enc e he
    · rw [hsock] at he; cases he
  | skip => exact hs.elim

theorem inv_connect (r : Net) (h : Inv s) : Inv (connect .real s r).1 :=
  inv_of_start (connect_spec s r) h

theorem inv_status (ping : Bool) (r : Net) (h : Inv s) : Inv (status .real s ping r).1 :=
  inv_of_start (status_spec s ping r) h

theorem inv_reactLogin (p : InPkt) (h : Inv s) : Inv (reactLogin s p).1 := by
  cases p with
  | encryptionRequest =>
    have hw := inv_writePacket .encResponse false h
    simp only [reactLogin]
    split
    · rename_i s' heq
      rw [heq] at hw
      refine ⟨hw.starts, hw.comp, ?_, hw.wire⟩
      intro e he
      cases hs : s'.socket <;> simp_all
    · rename_i s' heq; rw [heq] at hw; exact hw
    · rename_i s' heq; rw [heq] at hw; exact hw
  | setCompression t => exact ⟨h.starts, by simp [Obj.thrArg, reactLogin], h.enc, h.wire⟩
  | pluginRequest id =>
    simp only [reactLogin]
    split
    · exact inv_push _ h
    · exact h
  | loginSuccess => exact ⟨h.starts, h.comp, h.enc, h.wire⟩
  | _ => exact h

theorem inv_reactPlay (p : InPkt) (h : Inv s) : Inv (reactPlay .real s p).1 := by
  cases p with
  | setCompression t =>
    simp only [reactPlay]
    split
    · exact ⟨h.starts, by simp [Obj.thrArg], h.enc, h.wire⟩
    · exact h
  | keepAlive id => exact inv_push _ h
  | position tid =>
    simp only [reactPlay]
    split
    · exact ⟨h.starts, h.comp, h.enc, h.wire⟩
    · exact ⟨h.starts, h.comp, h.enc, h.wire⟩
  | disconnect f => exact inv_disconnect _ _ h
  | _ => exact h

theorem inv_reactStatus (ping : Bool) (p : InPkt) (h : Inv s) :
    Inv (reactStatus .real s ping p).1 := by
  cases p with
  | response pr r =>
    simp only [reactStatus]
    split
    · exact inv_push _ h
    · exact inv_disconnect _ _ h
  | pong =>
    simp only [reactStatus]
    split
    · exact inv_disconnect _ _ h
    · exact h
  | _ => exact h

theorem inv_setAllowed (l : List Nat) (h : Inv s) : Inv { s with allowed := l } :=
  ⟨h.starts, h.comp, h.enc, h.wire⟩

theorem inv_reactPlayingStatus (p : InPkt) (h : Inv s) :
    Inv (reactPlayingStatus .real s p).1 := by
  cases p with
  | response pr r =>
    have hd := inv_disconnect false none h
    simp only [reactPlayingStatus]
    cases pr with
    | none => exact inv_connect r (inv_setAllowed _ hd)
    | some p =>
      simp only
      split
      · exact inv_connect r (inv_setAllowed _ hd)
      · exact hd
  | _ => exact h

theorem inv_react (p : InPkt) (h : Inv s) : Inv (react .real s p).1 := by
  unfold react
  split
  · exact h
  · exact inv_reactLogin p h
  · exact inv_reactPlay p h
  · exact inv_reactStatus _ p h
  · exact inv_reactPlayingStatus p h

theorem inv_epilogue (h : Inv s) : Inv (epilogue s) := by
  unfold epilogue
  split <;> exact ⟨h.starts, h.comp, h.enc, h.wire⟩

theorem inv_reactorHandles (e : ExcKind) (hd : Handler) (h : Inv s) :
    Inv (reactorHandles .real s e hd).1 := by
  unfold reactorHandles
  split
  · have hc := inv_connect hd.net (inv_setAllowed [(disconnect .real s true none).dflt]
      (inv_disconnect true none h))
    dsimp only
    -- raised or not, the state is the one `connect()` left
    split
    all_goals
      rename_i heq
      simp only [heq] at hc
      exact hc
  · exact h

theorem inv_userHandlers (e : ExcKind) (hd : Handler) (h : Inv s) :
    Inv (userHandlers .real s e hd).1 := by
  unfold userHandlers
  split
  · have hc := inv_connect hd.net h
    split
    all_goals
      rename_i heq
      simp only [heq] at hc
      exact hc
  · exact h

theorem inv_finalCheck (h : Inv s) : Inv (finalCheck .real s) := by
  unfold finalCheck
  split
  · split
    · exact inv_disconnect _ _ h
    · exact h
  · split
    · exact inv_disconnect _ _ h
    · exact h
  · exact h

theorem inv_handleException (t : Thr) (e : ExcKind) (hd : Handler) (h : Inv s) :
    Inv (handleException .real s t e hd) := by
  unfold handleException
  simp only
  split
  · exact inv_reactorHandles e hd h
  · apply inv_finalCheck
    have := inv_userHandlers (reactorHandles .real s e hd).2.1 hd (inv_reactorHandles e hd h)
    exact ⟨this.starts, this.comp, this.enc, this.wire⟩

theorem inv_endByError (e : ExcKind) (hd : Handler) (h : Inv s) :
    Inv (endByError .real s e hd) := by
  unfold endByError
  split
  · exact h
  · apply inv_epilogue
    apply inv_handleException
    exact ⟨h.starts, h.comp, h.enc, h.wire⟩

theorem inv_handleExit (t : Thr) (h : Inv s) : Inv (handleExit .real s t).1 := by
  unfold handleExit
  split
  · exact ⟨h.starts, h.comp, h.enc, h.wire⟩
  · exact h

theorem inv_endByExit (t : Thr) (rc : Option Net) (h : Inv s) :
    Inv (endByExit .real s t rc).1 := by
  have hx := inv_handleExit t h
  unfold endByExit
  split
  · rename_i s1 heq
    rw [heq] at hx
    cases rc with
    | none => exact inv_epilogue hx
    | some r =>
      have hc := inv_connect r hx
      simp only
      split
      · rename_i heq2; simp only [heq2] at hc
        exact inv_epilogue (inv_handleException _ _ _ hc)
      · rename_i heq2; simp only [heq2] at hc
        exact inv_epilogue hc
  · rename_i s1 heq
    rw [heq] at hx
    exact inv_epilogue hx

theorem inv_step (op : Op) (h : Inv s) : Inv (step .real s op).1 := by
  cases op with
  | connect r => exact inv_connect r h
  | status ping r => exact inv_status ping r h
  | write n =>
    simp only [step]
    split
    · exact h
    · exact inv_push _ h
  | disconnect imm f => exact inv_disconnect imm f h
  | flush n f =>
    simp only [step]
    split
    · split
      · exact h
      · split
        · exact h
        · rename_i q _
          have hd := inv_drain q n f h
          split
          all_goals
            rename_i heq
            simp only [heq] at hd
            exact hd
    · exact h
  | recv p hd =>
    simp only [step]
    split
    · split
      · exact h
      · have hr := inv_react p h
        split
        · rename_i heq
          simp only [heq] at hr
          exact hr
        · rename_i heq
          simp only [heq] at hr
          exact inv_endByError _ _ hr
    · exact h
  | error e hd =>
    simp only [step]
    split
    · exact inv_endByError _ _ h
    · exact h
  | exit rc =>
    simp only [step]
    split
    · split
      · exact inv_endByExit _ _ h
      · exact h
    · exact h

theorem inv_run (ops : List Op) : ∀ {s : Obj}, Inv s → Inv (run .real s ops) := by
  induction ops with
  | nil => intro s h; exact h
  | cons op ops ih => intro s h; exact ih (inv_step op h)

/-! ### frame lemmas: what `drain` / `disconnect` / `connect` / `epilogue` leave alone -/

theorem writePacket_frame (s : Obj) (p : Pkt) (f : Bool) :
    ∃ w, (writePacket s p f).1 = { s with wire := w } := by
  unfold writePacket
  split
  · exact ⟨s.wire, rfl⟩
  · exact ⟨s.wire, rfl⟩
  · split
    · exact ⟨s.wire, rfl⟩
    · exact ⟨_, rfl⟩

theorem drain_frame (q : List Pkt) (s : Obj) (b : Nat) (f : Option Nat) :
    ∃ w q', (drain s q b f).1 = { s with wire := w, queue := q' } := by
  fun_induction drain s q b f
  case case1 s _ _ => exact ⟨s.wire, some [], rfl⟩
  case case2 s p q _ => exact ⟨s.wire, some (p :: q), rfl⟩
  case case3 s p _ _ f s' hw ih =>
    obtain ⟨w0, hw0⟩ := writePacket_frame s p (f == some 0)
    rw [hw] at hw0
    obtain ⟨w, q', h⟩ := ih
    exact ⟨w, q', by rw [h, show s' = _ from hw0]⟩
  case case4 s p q _ f s' _ _ hw =>
    obtain ⟨w0, hw0⟩ := writePacket_frame s p (f == some 0)
    rw [hw] at hw0
    exact ⟨w0, some q, by rw [show s' = _ from hw0]⟩

theorem flushAll_frame (s : Obj) (f : Option Nat) :
    ∃ w q', flushAll s f = { s with wire := w, queue := q' } := by
  unfold flushAll
  split
  · exact drain_frame _ _ _ _
  · exact ⟨s.wire, s.queue, rfl⟩

theorem closeSocket_frame (s : Obj) :
    ∃ fl sk, closeSocket s = { s with file := fl, socket := sk } := by
  unfold closeSocket
  split
  · exact ⟨_, _, rfl⟩
  · exact ⟨s.file, s.socket, rfl⟩

/-- `interruptTarget` reads and writes the two thread slots only. -/
theorem interruptTarget_frame (s s1 : Obj) (h1 : s1.newNt = s.newNt) (h2 : s1.nt = s.nt) :
    interruptTarget s1 =
      { s1 with nt := (interruptTarget s).nt, newNt := (interruptTarget s).newNt } := by
  cases s1
  cases hn : s.newNt <;> cases ht : s.nt <;> simp_all [interruptTarget]

/-- `disconnect` in one equation, for every variant: the flush touches `wire` and `queue`,
interrupting the two thread slots, closing `file` and `socket`, variant (1) the two compression
options; every other field is the old one. -/
theorem disconnect_frame (v : Variant) (s : Obj) (imm : Bool) (f : Option Nat) :
    ∃ w q fl sk ce ct, disconnect v s imm f =
      { s with connected := false, wire := w, queue := q, file := fl, socket := sk,
               nt := (interruptTarget s).nt, newNt := (interruptTarget s).newNt,
               compEnabled := ce, compThreshold := ct } := by
  obtain ⟨w, q, hf⟩ : ∃ w q,
      (if (!imm && ({ s with connected := false } : Obj).socket != SockSt.none) = true
        then flushAll { s with connected := false } f else { s with connected := false }) =
      { s with connected := false, wire := w, queue := q } := by
    split
    · exact flushAll_frame _ f
    · exact ⟨s.wire, s.queue, rfl⟩
  obtain ⟨fl, sk, hc⟩ := closeSocket_frame
    (interruptTarget { s with connected := false, wire := w, queue := q })
  unfold disconnect
  simp only [hf, hc]
  rw [interruptTarget_frame s { s with connected := false, wire := w, queue := q } rfl rfl]
  split <;> exact ⟨_, _, _, _, _, _, rfl⟩

theorem epilogue_exc (s : Obj) : (epilogue s).exc = s.exc := by
  unfold epilogue; split <;> rfl

theorem finalCheck_exc (v : Variant) (s : Obj) : (finalCheck v s).exc = s.exc := by
  obtain ⟨w, q, fl, sk, ce, ct, hd⟩ := disconnect_frame v s true none
  unfold finalCheck
  rw [hd]
  repeat' split
  all_goals rfl

theorem reactorHandles_passive (v : Variant) (s : Obj) (e : ExcKind) (h : Handler)
    (hre : ¬(s.reactor = .playingStatus ∧ e = .eof)) : reactorHandles v s e h = (s, e, false) := by
  unfold reactorHandles
  rw [if_neg hre]

/-- What `_handle_exception` records when the reactor's own handler does not intervene. -/
theorem endByError_exc (s : Obj) (t : Thr) (e : ExcKind) (h : Handler) (hnt : s.nt = some t)
    (hre : ¬(s.reactor = .playingStatus ∧ e = .eof)) :
    (endByError .real s e h).exc =
      some ⟨t.sess, (userHandlers .real { s with nt := some { t with intr := true } } e h).2⟩ := by
  have hp := reactorHandles_passive .real { s with nt := some { t with intr := true } } e h hre
  simp only [endByError, hnt, handleException, hp, epilogue_exc, finalCheck_exc,
    Bool.false_eq_true, if_false]

end PyCraft.Carry
