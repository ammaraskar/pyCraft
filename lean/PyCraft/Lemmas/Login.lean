import PyCraft.Model.Login
/-!
Lemmas for C10.  The recogniser of the "Outdated …" messages is compared with its declarative
reading.  `react` is analysed once (`react_eq`: what an event does to every field); from there an
observation that flushes do not change is a fold over the processed events whatever the schedule
(`exec_closed`), and a property of the modes (cipher, threshold) that every step preserves holds of
every frame written (`exec_stamped`).
-/
namespace PyCraft.Login
open PyCraft

/-! ### The recogniser -/

theorem stripPrefix_eq_some (p l r : List Char) : stripPrefix p l = some r ↔ l = p ++ r := by
  fun_induction stripPrefix p l <;> simp_all [eq_comm]

theorem stripPrefix_eq_none (p l : List Char) : stripPrefix p l = none ↔ ∀ r, l ≠ p ++ r := by
  constructor
  · intro h r hr
    have := (stripPrefix_eq_some p l r).2 hr
    rw [h] at this; cases this
  · intro h
    cases hs : stripPrefix p l with
    | none => rfl
    | some r => exact absurd ((stripPrefix_eq_some p l r).1 hs) (h r)

/-- Declarative reading of `(?P<ver>\S+)$` on the rest of the string. -/
def VerTail (rest v : List Char) : Prop :=
  (rest = v ∨ rest = v ++ ['\n']) ∧ v ≠ [] ∧ ∀ c ∈ v, pyIsSpace c = false

private theorem takeWhile_all {α} (p : α → Bool) (l : List α) : ∀ a ∈ l.takeWhile p, p a = true := by
  induction l with
  | nil => simp
  | cons x xs ih =>
    intro a ha
    rw [List.takeWhile_cons] at ha
    by_cases hx : p x = true
    · simp [hx] at ha
      rcases ha with rfl | ha
      · exact hx
      · exact ih a ha
    · simp [hx] at ha

theorem verTail_eq_some (rest v : List Char) : verTail rest = some v ↔ VerTail rest v := by
  unfold verTail VerTail
  constructor
  · intro h
    simp only at h
    split at h
    · rename_i hc
      cases h
      refine ⟨?_, hc.1, ?_⟩
      · have hsplit := List.takeWhile_append_dropWhile (p := fun c => !pyIsSpace c) (l := rest)
        rcases hc.2 with h0 | h1
        · left; rw [h0] at hsplit; simpa using hsplit.symm
        · right; rw [h1] at hsplit; exact hsplit.symm
      · intro c hc'
        have := takeWhile_all (fun c => !pyIsSpace c) rest c hc'
        simpa using this
    · cases h
  · rintro ⟨hr, hne, hall⟩
    have hall' : ∀ a ∈ v, (fun c => !pyIsSpace c) a = true := fun a ha => by simp [hall a ha]
    -- `rest` is `v` followed by nothing or by the one newline, at which both scans stop
    obtain ⟨tl, rfl, htl⟩ : ∃ tl, rest = v ++ tl ∧ (tl = [] ∨ tl = ['\n']) := by
      rcases hr with h | h
      · exact ⟨[], by rw [h, List.append_nil], .inl rfl⟩
      · exact ⟨_, h, .inr rfl⟩
    have hnl : pyIsSpace '\n' = true := by decide
    rw [List.takeWhile_append_of_pos hall', List.dropWhile_append_of_pos hall']
    rcases htl with rfl | rfl <;> simp [hne, hnl]

/-- Declarative reading of the whole pattern on a character list. -/
def OutdatedL (msg v : List Char) : Prop :=
  ∃ p ∈ outdatedPrefixes, ∃ rest, msg = p ++ rest ∧ VerTail rest v

/-- Two prefixes that no list starts with both: where one is stripped, the other is not. -/
theorem stripPrefix_of_disjoint {p q : List Char} (hpq : ∀ r r', q ++ r ≠ p ++ r')
    {msg rest : List Char} (h : stripPrefix p msg = some rest) : stripPrefix q msg = none := by
  rw [stripPrefix_eq_none]
  intro r hr
  exact hpq r rest (hr ▸ (stripPrefix_eq_some p msg rest).1 h)

theorem outdatedVersionL_eq_some (msg v : List Char) :
    outdatedVersionL msg = some v ↔ OutdatedL msg v := by
  unfold outdatedVersionL OutdatedL outdatedPrefixes
  -- all that matters about the two alternatives is that no message starts with both
  have hpq : ∀ r r', "Outdated server! I'm still on ".toList ++ r ≠
      "Outdated client! Please use ".toList ++ r' := by simp
  generalize "Outdated client! Please use ".toList = p at hpq ⊢
  generalize "Outdated server! I'm still on ".toList = q at hpq ⊢
  simp only [List.mem_cons, List.not_mem_nil, or_false, exists_eq_or_imp, exists_eq_left,
    ← stripPrefix_eq_some, ← verTail_eq_some]
  cases hp : stripPrefix p msg with
  | some rest => simp [stripPrefix_of_disjoint hpq hp]
  | none => cases hq : stripPrefix q msg <;> simp

/-- The pattern on strings: `msg` is one of the two fixed prefixes followed by `ver`, a non-empty
run of non-whitespace, optionally followed by one final newline. -/
def Outdated (msg ver : String) : Prop := OutdatedL msg.toList ver.toList

theorem outdatedVersion_eq_some (msg v : String) : outdatedVersion msg = some v ↔ Outdated msg v := by
  unfold outdatedVersion Outdated
  rw [Option.map_eq_some_iff]
  constructor
  · rintro ⟨l, hl, rfl⟩
    rw [String.toList_ofList]; exact (outdatedVersionL_eq_some _ _).1 hl
  · intro h
    exact ⟨v.toList, (outdatedVersionL_eq_some _ _).2 h, String.ofList_toList⟩

theorem outdatedVersion_eq_none (msg : String) : outdatedVersion msg = none ↔ ∀ v, ¬ Outdated msg v := by
  constructor
  · intro h v hv
    rw [(outdatedVersion_eq_some msg v).2 hv] at h; cases h
  · intro h
    cases hs : outdatedVersion msg with
    | none => rfl
    | some v => exact absurd ((outdatedVersion_eq_some msg v).1 hs) (h v)

/-- The message the recogniser is applied to. -/
def disconnectMessage (P : LoginParams) (json : String) : String :=
  match P.jsonText json with
  | .str t => t
  | _ => json

theorem classify_str (P : LoginParams) (j : String) :
    classifyDisconnect P j =
      match outdatedVersion (disconnectMessage P j) with
      | some v => .versionMismatch v
      | none => .loginDisconnect (disconnectMessage P j) := by
  unfold classifyDisconnect disconnectMessage
  cases hj : P.jsonText j <;> rfl

theorem exec_nil (P : LoginParams) (s : ClientState) : exec P s [] = s := rfl

section
variable (P : LoginParams)

/-! ### `react`, field by field -/

/-- The error a processed event raises. -/
def errOf : LoginEv → Option LoginErr
  | .disconnect j => some (classifyDisconnect P j)
  | _ => none

/-- What `react` does to each field (the only case analysis of `react`): an event switches the
cipher on, sets the threshold, enters play, queues a plugin response, writes the encryption
response at once with the modes in force BEFORE it, calls `join`, raises. -/
theorem react_eq (s : ClientState) (e : LoginEv) :
    react P s e =
      { encrypted := s.encrypted || e.isEncRequest
        threshold := match e with
          | .setCompression t => some t
          | _ => s.threshold
        reactor := if e = .success then .play else s.reactor
        queue := s.queue ++ (expectedPluginReply P e).toList
        outbox := s.outbox ++ match e with
          | .encRequest _ pk tok =>
            [⟨.encResp (P.rsa.enc pk P.secret) (P.rsa.enc pk tok), s.encrypted, s.threshold, true⟩]
          | _ => []
        joins := s.joins ++ (expectedJoin P e).toList
        err := (errOf P e).or s.err } := by
  cases e with
  | encRequest sid pk tok =>
    by_cases h1 : sid = "-" <;> by_cases h2 : P.hasToken = true <;>
      simp [react, ClientState.writeNow, expectedJoin, expectedPluginReply, errOf,
        LoginEv.isEncRequest, h1, h2]
  | setCompression t => simp [react, expectedJoin, expectedPluginReply, errOf, LoginEv.isEncRequest]
  | pluginRequest i c d =>
    simp [react, ClientState.enqueue, expectedJoin, expectedPluginReply, errOf, LoginEv.isEncRequest]
  | success => simp [react, expectedJoin, expectedPluginReply, errOf, LoginEv.isEncRequest]
  | disconnect j => simp [react, expectedJoin, expectedPluginReply, errOf, LoginEv.isEncRequest]

theorem react_encRequest (s : ClientState) (sid : String) (pk tok : Bytes) :
    (react P s (.encRequest sid pk tok)).outbox =
        s.outbox ++ [⟨.encResp (P.rsa.enc pk P.secret) (P.rsa.enc pk tok), s.encrypted,
          s.threshold, true⟩] ∧
      (react P s (.encRequest sid pk tok)).encrypted = true := by
  rw [react_eq]
  exact ⟨rfl, Bool.or_true _⟩

/-! ### `exec` basics -/

/-- The login reactor is still reading: no exception so far and not yet in play. -/
def ClientState.alive (s : ClientState) : Bool := s.err.isNone && s.reactor == .login

theorem alive_iff (s : ClientState) : s.alive = true ↔ s.err = none ∧ s.reactor = .login := by
  simp [ClientState.alive]

theorem exec_cons (s : ClientState) (a : Step) (r : List Step) :
    exec P s (a :: r) = exec P (step P s a) r := rfl

theorem exec_append (s : ClientState) (a b : List Step) :
    exec P s (a ++ b) = exec P (exec P s a) b := by
  simp [exec, List.foldl_append]

theorem exec_snoc (s : ClientState) (pre : List Step) (a : Step) :
    exec P s (pre ++ [a]) = step P (exec P s pre) a := by
  rw [exec_append]; rfl

theorem exec_mid (s : ClientState) (pre post : List Step) (a : Step) :
    exec P s (pre ++ a :: post) = exec P (step P (exec P s pre) a) post := by
  rw [exec_append, exec_cons]

theorem events_append (a b : List Step) : events (a ++ b) = events a ++ events b := by
  fun_induction events a <;> simp_all [events]

theorem events_mid (pre post : List Step) (e : LoginEv) :
    events (pre ++ .recv e :: post) = events pre ++ e :: events post := by
  rw [events_append]; rfl

theorem mem_events {e : LoginEv} {steps : List Step} : e ∈ events steps ↔ .recv e ∈ steps := by
  fun_induction events steps <;> simp_all

theorem events_sched (cap k : Nat) (script : List LoginEv) : events (sched cap k script) = script := by
  fun_induction sched cap k script <;> simp_all [events]

theorem events_schedule (cap : Nat) (script : List LoginEv) : events (schedule cap script) = script :=
  events_sched cap 0 script

theorem sched_ends_flush (cap k : Nat) (script : List LoginEv) :
    ∃ pre, sched cap k script = pre ++ [.flush] := by
  induction script generalizing k with
  | nil => exact ⟨[], by cases k <;> simp [sched]⟩
  | cons e es ih =>
    cases k with
    | zero => obtain ⟨pre, h⟩ := ih (cap - 1); exact ⟨.flush :: .recv e :: pre, by simp [sched, h]⟩
    | succ k => obtain ⟨pre, h⟩ := ih k; exact ⟨.recv e :: pre, by simp [sched, h]⟩

/-- After an exception nothing happens any more. -/
theorem exec_err (s : ClientState) (steps : List Step) (h : s.err.isSome = true) :
    exec P s steps = s := by
  induction steps with
  | nil => rfl
  | cons a r ih =>
    have : step P s a = s := by cases a <;> simp [step, h]
    rw [exec_cons, this, ih]

theorem flushQueue_idem (s : ClientState) : s.flushQueue.flushQueue = s.flushQueue := by
  simp [ClientState.flushQueue]

/-- A dead reactor (exception raised, or already in play) ignores what it receives. -/
theorem step_recv_dead (s : ClientState) (e : LoginEv) (h : s.alive = false) :
    step P s (.recv e) = s := by
  have : (s.err.isSome || s.reactor == .play) = true := by
    simp only [ClientState.alive] at h
    cases hs : s.err <;> cases hr : s.reactor <;> simp_all
  simp [step, this]

/-- Whatever is not alive only changes by flushes: an observation that a flush does not change
stays as it is. -/
theorem exec_not_alive {β : Type} (g : ClientState → β) (hflush : ∀ s, g s.flushQueue = g s)
    (s : ClientState) (steps : List Step) (h : s.alive = false) : g (exec P s steps) = g s := by
  induction steps generalizing s with
  | nil => rfl
  | cons a r ih =>
    rw [exec_cons]
    cases a with
    | recv e => rw [step_recv_dead P s e h]; exact ih s h
    | flush =>
      simp only [step]
      split
      · exact ih s h
      · rw [ih _ (by simpa [ClientState.alive, ClientState.flushQueue] using h), hflush]

theorem alive_react (s : ClientState) (e : LoginEv) (h : s.alive = true)
    (ht : e.isTerminal = false) : (react P s e).alive = true := by
  obtain ⟨h1, h2⟩ := (alive_iff s).1 h
  rw [alive_iff, react_eq]
  cases e <;> simp_all [errOf, LoginEv.isTerminal]

theorem alive_after_terminal (s : ClientState) (e : LoginEv)
    (ht : e.isTerminal = true) : (react P s e).alive = false := by
  rw [react_eq]
  cases e <;> simp_all [errOf, LoginEv.isTerminal, ClientState.alive]

theorem step_recv_alive (s : ClientState) (e : LoginEv) (h : s.alive = true) :
    step P s (.recv e) = react P s e := by
  obtain ⟨h1, h2⟩ := (alive_iff s).1 h
  simp [step, h1, h2]

theorem step_flush_alive (s : ClientState) (h : s.alive = true) :
    step P s .flush = s.flushQueue ∧ s.flushQueue.alive = true := by
  obtain ⟨h1, h2⟩ := (alive_iff s).1 h
  exact ⟨by simp [step, h1], by simp [ClientState.alive, ClientState.flushQueue, h1, h2]⟩

/-- No terminal event so far: the reactor is still alive. -/
theorem exec_alive (s : ClientState) (steps : List Step) (h : s.alive = true)
    (hn : ∀ e ∈ events steps, e.isTerminal = false) : (exec P s steps).alive = true := by
  induction steps generalizing s with
  | nil => exact h
  | cons a r ih =>
    rw [exec_cons]
    cases a with
    | flush =>
      obtain ⟨h1, h2⟩ := step_flush_alive P s h
      rw [h1]; exact ih _ h2 (by simpa [events] using hn)
    | recv e =>
      rw [step_recv_alive P s e h]
      simp only [events, List.mem_cons, forall_eq_or_imp] at hn
      exact ih _ (alive_react P s e h hn.1) hn.2

theorem init_alive : ClientState.init.alive = true := rfl

/-! ### Closed forms for the fields that do not depend on the schedule -/

theorem processed_cons_terminal (e : LoginEv) (es : List LoginEv) (h : e.isTerminal = true) :
    processed (e :: es) = [e] := by simp [processed, h]

theorem processed_cons_live (e : LoginEv) (es : List LoginEv) (h : e.isTerminal = false) :
    processed (e :: es) = e :: processed es := by simp [processed, h]

theorem processed_of_live (l : List LoginEv) (h : ∀ e ∈ l, e.isTerminal = false) :
    processed l = l := by
  fun_induction processed l <;> simp_all

theorem processed_append_terminal (a b : List LoginEv) (e : LoginEv)
    (h : ∀ x ∈ a, x.isTerminal = false) (he : e.isTerminal = true) :
    processed (a ++ e :: b) = a ++ [e] := by
  induction a with
  | nil => simp [processed, he]
  | cons x xs ih =>
    simp only [List.mem_cons, forall_eq_or_imp] at h
    rw [List.cons_append, processed_cons_live x _ h.1, ih h.2]; rfl

/-- Any observation `g` of the state that a flush does not change and that a processed event
updates by `upd` is the fold of `upd` over the processed events — whatever the schedule. -/
theorem exec_closed {β : Type} (g : ClientState → β) (upd : β → LoginEv → β)
    (hflush : ∀ s, g s.flushQueue = g s)
    (hreact : ∀ s e, s.alive = true → g (react P s e) = upd (g s) e)
    (s : ClientState) (steps : List Step) (h : s.alive = true) :
    g (exec P s steps) = (processed (events steps)).foldl upd (g s) := by
  induction steps generalizing s with
  | nil => simp [exec_nil, events, processed]
  | cons a r ih =>
    rw [exec_cons]
    cases a with
    | flush =>
      obtain ⟨h1, h2⟩ := step_flush_alive P s h
      rw [h1, ih _ h2, hflush]; simp [events]
    | recv e =>
      rw [step_recv_alive P s e h]
      by_cases ht : e.isTerminal = true
      · have hna := alive_after_terminal P s e ht
        rw [exec_not_alive P g hflush _ r hna, hreact s e h]
        simp [events, processed_cons_terminal e _ ht]
      · have ht' : e.isTerminal = false := by simpa using ht
        rw [ih _ (alive_react P s e h ht'), hreact s e h]
        simp [events, processed_cons_live e _ ht']

private theorem foldl_append_toList {α β : Type} (f : α → Option β) (l : List α) (a : List β) :
    l.foldl (fun acc e => acc ++ (f e).toList) a = a ++ l.filterMap f := by
  induction l generalizing a with
  | nil => simp
  | cons x xs ih =>
    simp only [List.foldl_cons, ih, List.filterMap_cons]
    cases f x <;> simp

theorem joins_exec (s : ClientState) (steps : List Step) (h : s.alive = true) :
    (exec P s steps).joins = s.joins ++ (processed (events steps)).filterMap (expectedJoin P) := by
  rw [← foldl_append_toList]
  exact exec_closed P (fun s => s.joins) _ (fun _ => rfl) (fun s e _ => by rw [react_eq]) s steps h

private theorem foldl_orElse {α β : Type} (f : α → Option β) (l : List α) (a : Option β) :
    l.foldl (fun acc e => acc.or (f e)) a = a.or (l.findSome? f) := by
  induction l generalizing a with
  | nil => cases a <;> simp
  | cons x xs ih =>
    simp only [List.foldl_cons, ih, List.findSome?_cons]
    cases a <;> cases f x <;> simp

theorem err_exec (s : ClientState) (steps : List Step) (h : s.alive = true) :
    (exec P s steps).err = (processed (events steps)).findSome? (errOf P) := by
  have := exec_closed P (fun s => s.err) (fun acc e => acc.or (errOf P e)) (fun _ => rfl)
    (fun s e hal => by rw [react_eq, ((alive_iff s).1 hal).1]; simp) s steps h
  rw [this, foldl_orElse, ((alive_iff s).1 h).1]; simp

theorem errOf_eq_none {e : LoginEv} (h : e.isDisconnect = false) :
    errOf P e = none := by
  cases e <;> first | rfl | cases h

theorem not_disconnect_of_live {e : LoginEv} (h : e.isTerminal = false) :
    e.isDisconnect = false := by
  cases e <;> first | rfl | cases h

/-- No disconnect packet processed: no exception. -/
theorem err_exec_none (steps : List Step)
    (h : ∀ e ∈ processed (events steps), e.isDisconnect = false) :
    (exec P .init steps).err = none := by
  rw [err_exec P .init _ init_alive, List.findSome?_eq_none_iff]
  exact fun e he => errOf_eq_none P (h e he)

private theorem foldl_reactor (l : List LoginEv) (a : Reactor) :
    l.foldl (fun acc e => if e = LoginEv.success then Reactor.play else acc) a =
      if l.contains .success then .play else a := by
  induction l generalizing a with
  | nil => simp
  | cons x xs ih =>
    simp only [List.foldl_cons, ih, List.contains_cons]
    by_cases hx : x = .success
    · subst hx; simp
    · have : (LoginEv.success == x) = false := by
        simp only [beq_eq_false_iff_ne, ne_eq]; exact fun h => hx h.symm
      simp [hx, this]

theorem reactor_exec (s : ClientState) (steps : List Step) (h : s.alive = true) :
    (exec P s steps).reactor =
      if (processed (events steps)).contains .success then .play else .login := by
  have := exec_closed P (fun s => s.reactor)
    (fun acc e => if e = LoginEv.success then Reactor.play else acc) (fun _ => rfl)
    (fun s e _ => by rw [react_eq]) s steps h
  rw [this, foldl_reactor, ((alive_iff s).1 h).2]

/-- Packets written or still queued, in order of `write_packet` calls within each kind. -/
def ClientState.pluginTrace (s : ClientState) : List ClientPkt :=
  (s.outbox.map (·.pkt) ++ s.queue).filter ClientPkt.isPlugResp

theorem pluginTrace_flush (s : ClientState) : s.flushQueue.pluginTrace = s.pluginTrace := by
  simp [ClientState.pluginTrace, ClientState.flushQueue, List.map_map, Function.comp_def]

theorem plugin_exec (s : ClientState) (steps : List Step) (h : s.alive = true) :
    (exec P s steps).pluginTrace =
      s.pluginTrace ++ (processed (events steps)).filterMap (expectedPluginReply P) := by
  rw [← foldl_append_toList]
  apply exec_closed P (fun s => s.pluginTrace) _ pluginTrace_flush _ s steps h
  intro s e _
  have hr : ∀ i c d, (pluginReply P i c d).isPlugResp = true := by
    intro i c d
    unfold pluginReply
    split <;> rfl
  rw [react_eq]
  cases e with
  | pluginRequest i c d =>
    simp [ClientState.pluginTrace, expectedPluginReply, List.filter_append, hr]
  | _ => simp [ClientState.pluginTrace, expectedPluginReply, List.filter_append, ClientPkt.isPlugResp]

/-! ### Frames: append-only outbox, modes at write time -/

/-- A step appends frames, each stamped with the modes in force before the step. -/
theorem step_frames (s : ClientState) (a : Step) :
    ∃ later, (step P s a).outbox = s.outbox ++ later ∧
      ∀ f ∈ later, f.encrypted = s.encrypted ∧ f.threshold = s.threshold := by
  cases a with
  | flush =>
    simp only [step]
    split
    · exact ⟨[], by simp⟩
    · exact ⟨_, rfl, by simp⟩
  | recv e =>
    simp only [step]
    split
    · exact ⟨[], by simp⟩
    · rw [react_eq]
      refine ⟨_, rfl, ?_⟩
      cases e <;> simp

/-- The cipher stays on; only a set-compression packet changes the threshold; only an encryption
request changes the cipher state. -/
theorem step_modes (s : ClientState) (a : Step) :
    (s.encrypted = true → (step P s a).encrypted = true) ∧
      ((∀ e, a = .recv e → e.isSetCompression = false) → (step P s a).threshold = s.threshold) ∧
      ((∀ e, a = .recv e → e.isEncRequest = false) → (step P s a).encrypted = s.encrypted) := by
  cases a with
  | flush =>
    simp only [step]
    split <;> simp [ClientState.flushQueue]
  | recv e =>
    simp only [step]
    split
    · simp
    · rw [react_eq]
      cases e <;> simp [LoginEv.isEncRequest, LoginEv.isSetCompression]

/-- Frames carry the modes in force when they are written: a property `M` of the pair (cipher on,
threshold) that holds now and that every step of the run preserves holds at the end and of every
frame written on the way. -/
theorem exec_stamped (M : Bool → Option Int → Prop) (steps : List Step)
    (hM : ∀ s, ∀ a ∈ steps, M s.encrypted s.threshold →
      M (step P s a).encrypted (step P s a).threshold)
    (s : ClientState) (h : M s.encrypted s.threshold) :
    M (exec P s steps).encrypted (exec P s steps).threshold ∧
      ∃ later, (exec P s steps).outbox = s.outbox ++ later ∧
        ∀ f ∈ later, M f.encrypted f.threshold := by
  induction steps generalizing s with
  | nil => exact ⟨h, [], by simp [exec_nil], by simp⟩
  | cons a r ih =>
    obtain ⟨l1, ho, hf⟩ := step_frames P s a
    obtain ⟨h2, l2, ho2, hf2⟩ :=
      ih (fun s b hb => hM s b (by simp [hb])) (step P s a) (hM s a (by simp) h)
    refine ⟨h2, l1 ++ l2, by rw [exec_cons, ho2, ho, List.append_assoc], ?_⟩
    intro f hfm
    rcases List.mem_append.1 hfm with hm | hm
    · rw [(hf f hm).1, (hf f hm).2]; exact h
    · exact hf2 f hm

/-- Once the cipher is installed it stays, and every later frame is encrypted. -/
theorem exec_encrypted (s : ClientState) (steps : List Step) (h : s.encrypted = true) :
    (exec P s steps).encrypted = true ∧
      ∃ later, (exec P s steps).outbox = s.outbox ++ later ∧ ∀ f ∈ later, f.encrypted = true :=
  exec_stamped P (fun e _ => e = true) steps (fun t a _ => (step_modes P t a).1) s h

/-- Without a set-compression packet the threshold is constant and stamps every frame. -/
theorem exec_threshold (s : ClientState) (steps : List Step)
    (hn : ∀ e ∈ events steps, e.isSetCompression = false) :
    (exec P s steps).threshold = s.threshold ∧
      ∃ later, (exec P s steps).outbox = s.outbox ++ later ∧
        ∀ f ∈ later, f.threshold = s.threshold :=
  exec_stamped P (fun _ t => t = s.threshold) steps
    (fun t a ha h =>
      ((step_modes P t a).2.1 fun e he => hn e (mem_events.2 (he ▸ ha))).trans h) s rfl

/-- Without an encryption request the cipher state is constant and stamps every frame. -/
theorem exec_plain (s : ClientState) (steps : List Step)
    (hn : ∀ e ∈ events steps, e.isEncRequest = false) :
    (exec P s steps).encrypted = s.encrypted ∧
      ∃ later, (exec P s steps).outbox = s.outbox ++ later ∧
        ∀ f ∈ later, f.encrypted = s.encrypted :=
  exec_stamped P (fun e _ => e = s.encrypted) steps
    (fun t a ha h =>
      ((step_modes P t a).2.2 fun e he => hn e (mem_events.2 (he ▸ ha))).trans h) s rfl

/-- A run that ends with a flush and raised nothing has an empty queue. -/
theorem queue_after_flush (s : ClientState) (pre : List Step)
    (h : (exec P s (pre ++ [.flush])).err = none) : (exec P s (pre ++ [.flush])).queue = [] := by
  rw [exec_append] at h ⊢
  generalize exec P s pre = t at h ⊢
  by_cases he : t.err.isSome = true
  · simp [exec, step, he] at h; simp [h] at he
  · simp [exec, step, he, ClientState.flushQueue]

end

/-- Parameters used by the non-vacuity examples: RSA is "prefix the key's first byte" with the
inverse "drop one byte" (so ciphertexts differ from plaintexts), a token is present, JSON text
extraction knows one object, and no plugin handler is installed. -/
def demoParams : LoginParams :=
  { rsa := { enc := fun k m => k.head! :: m, dec := fun _ c => c.drop 1,
             matching := fun _ _ => True, law := fun _ _ _ _ => rfl },
    secret := [1, 2, 3],
    hash := fun sid sec pk => sid ++ "/" ++ hexOut sec ++ "/" ++ hexOut pk,
    hasToken := true,
    jsonText := fun j =>
      if j = "{\"text\": \"Outdated server! I'm still on 1.8.9\"}" then
        .str "Outdated server! I'm still on 1.8.9"
      else if j = "{\"text\": 5}" then .nonStr else .absent,
    handler := fun _ _ _ => none }

end PyCraft.Login
