import PyCraft.Model.C18Keys
import PyCraft.Lemmas.LoginWire
import PyCraft.Lemmas.Cfb8
import PyCraft.Lemmas.Basic
import PyCraft.Generated.C18Keys
/-!
Lemmas for `Props/C18Keys.lean`, with the spec predicates and demo parameters its statements use.

Every fact about a run of `execWith` goes through three things: `execWith_induction` (what the write
phase and each reaction preserve holds after the run), `reactWith_encRequest` (the one case
analysis of the reaction to an encryption request, for any secret generator and cipher
constructor; `replied` is the state in the middle of it) and `reactWith_other` (nothing else touches
draws, layers, wire, log or joins).  Nested ciphers are handled by `Fac` / `factored`: a run from a
state with layers is the run from `s.inside` seen through those layers, so a request is always
"the first one" for the run inside it.  `SimInv` ties runs that reach at most one request to
`Model/Login.lean` (so what `Lemmas/LoginWire.lean` knows of the outbox holds of the log), `Wired`
gives their bytes: a bare state seen through one layer.
-/
namespace PyCraft.Keys
open PyCraft PyCraft.Login PyCraft.LoginWire

/-! ## the keyed channel -/

theorem create_of_len (secret : Bytes) (h : secret.length = 16) :
    KChan.create secret = .ok ⟨secret, secret, secret⟩ := by
  simp [KChan.create, aesKeyLenOk, h]

theorem create_err (secret : Bytes) (h : secret.length ≠ 16) :
    KChan.create secret = .error .value := by
  simp [KChan.create, h]

theorem create_ok_inv (secret : Bytes) (c : KChan) (h : KChan.create secret = .ok c) :
    secret.length = 16 ∧ c = ⟨secret, secret, secret⟩ := by
  by_cases hl : secret.length = 16
  · rw [create_of_len secret hl] at h
    exact ⟨hl, by injection h with h; exact h.symm⟩
  · rw [create_err secret hl] at h; cases h

theorem KChan.step_toChan (c : KChan) (op : Op) :
    (c.step op).2 = (c.toChan.step (aes128 c.key) op).2 ∧ (c.step op).1.key = c.key ∧
      (c.step op).1.toChan = (c.toChan.step (aes128 c.key) op).1 := by
  cases op <;> exact ⟨rfl, rfl, rfl⟩

/-- A run of the keyed channel is the run of `Model/Cfb8.lean`'s channel with the block function
`aes128 key`; the key never changes. -/
theorem KChan.run_toChan (c : KChan) (ops : List Op) :
    (KChan.run c ops).2 = (Chan.run (aes128 c.key) c.toChan ops).2 ∧
      (KChan.run c ops).1.key = c.key ∧
      (KChan.run c ops).1.toChan = (Chan.run (aes128 c.key) c.toChan ops).1 := by
  induction ops generalizing c with
  | nil => exact ⟨rfl, rfl, rfl⟩
  | cons op ops ih =>
    obtain ⟨s1, s2, s3⟩ := KChan.step_toChan c op
    obtain ⟨i1, i2, i3⟩ := ih (c.step op).1
    rw [s2, s3] at i1 i3
    rw [s2] at i2
    refine ⟨?_, ?_, ?_⟩
    · simp only [KChan.run, Chan.run, i1, s1]
    · simp only [KChan.run, i2]
    · simp only [KChan.run, Chan.run, i3]

/-! ## CFB8, index by index -/

/-- SP 800-38A §6.3 (s = 8) read off the ciphertext: byte `i` of the output is byte `i` of the
input XOR the first byte of `E` applied to the last `|iv|` bytes of `iv ‖ c[0..i)`. -/
theorem cfb8Enc_getElem (E : Bytes → Bytes) (iv p : Bytes) (hiv : iv ≠ []) (i : Nat)
    (hi : i < p.length) :
    (cfb8Enc E iv p).2[i]? =
      some (p[i] ^^^ cfb8Key E ((iv ++ (cfb8Enc E iv p).2.take i).drop i)) := by
  induction p generalizing iv i with
  | nil => simp at hi
  | cons x ps ih =>
    cases i with
    | zero => simp [cfb8Enc_cons]
    | succ i =>
      have hi' : i < ps.length := by simpa using hi
      have hne : cfb8Shift iv (x ^^^ cfb8Key E iv) ≠ [] := by simp [cfb8Shift]
      have := ih (cfb8Shift iv (x ^^^ cfb8Key E iv)) hne i hi'
      cases iv with
      | nil => exact absurd rfl hiv
      | cons v vs =>
        simp only [cfb8Enc_cons, List.getElem?_cons_succ, List.getElem_cons_succ, List.take_succ_cons,
          List.cons_append, List.drop_succ_cons]
        rw [this]
        simp [cfb8Shift, List.append_assoc]

/-- Decryption XORs the same key-stream byte onto the ciphertext (from the encryptor's form, since
encrypting what the decryptor returns gives the ciphertext back). -/
theorem cfb8Dec_getElem (E : Bytes → Bytes) (iv c : Bytes) (hiv : iv ≠ []) (i : Nat)
    (hi : i < c.length) :
    (cfb8Dec E iv c).2[i]? = some (c[i] ^^^ cfb8Key E ((iv ++ c.take i).drop i)) := by
  have hi' : i < (cfb8Dec E iv c).2.length := by rw [cfb8Dec_length]; exact hi
  have h := cfb8Enc_getElem E iv (cfb8Dec E iv c).2 hiv i hi'
  rw [(cfb8Enc_dec E iv c).1, List.getElem?_eq_getElem hi, Option.some.injEq] at h
  rw [List.getElem?_eq_getElem hi', h, UInt8.xor_assoc, UInt8.xor_self, UInt8.xor_zero]

theorem window_length (iv c : Bytes) (i : Nat) (hi : i ≤ c.length) :
    ((iv ++ c.take i).drop i).length = iv.length := by
  simp [List.length_drop, List.length_append, List.length_take]; omega

theorem cfb8Enc_reg_window (E : Bytes → Bytes) (iv p : Bytes) (hiv : iv ≠ []) :
    (cfb8Enc E iv p).1 = (iv ++ (cfb8Enc E iv p).2).drop p.length := by
  induction p generalizing iv with
  | nil => simp [cfb8Enc_nil]
  | cons x ps ih =>
    cases iv with
    | nil => exact absurd rfl hiv
    | cons v vs =>
      have := ih (cfb8Shift (v :: vs) (x ^^^ cfb8Key E (v :: vs))) (by simp [cfb8Shift])
      simp only [cfb8Enc_cons, this, List.length_cons, List.cons_append, List.drop_succ_cons]
      simp [cfb8Shift, List.append_assoc]

/-! ## the wrapper stack -/

theorem updates_append {σ : Type} (f : σ → Bytes → σ × Bytes) (s : σ) (xs ys : List Bytes) :
    updates f s (xs ++ ys) =
      ((updates f (updates f s xs).1 ys).1,
        (updates f s xs).2 ++ (updates f (updates f s xs).1 ys).2) := by
  induction xs generalizing s with
  | nil => rfl
  | cons x xs ih => simp [updates, ih]

theorem KChan.send_nil (c : KChan) : c.send [] = (c, []) := rfl

theorem KChan.send_append (c : KChan) (a b : Bytes) :
    c.send (a ++ b) = (((c.send a).1.send b).1, (c.send a).2 ++ ((c.send a).1.send b).2) := by
  simp [KChan.send, cfb8Enc_append]

theorem stackSend_nil (st : List KChan) : stackSend st [] = (st, []) := by
  induction st with
  | nil => rfl
  | cons c inner ih => simp [stackSend, KChan.send_nil, ih]

/-- The chunk law for the whole stack. -/
theorem stackSend_append (st : List KChan) (a b : Bytes) :
    stackSend st (a ++ b) =
      ((stackSend (stackSend st a).1 b).1,
        (stackSend st a).2 ++ (stackSend (stackSend st a).1 b).2) := by
  induction st generalizing a b with
  | nil => rfl
  | cons c inner ih => simp only [stackSend, KChan.send_append, ih]

theorem stackSend_length (st : List KChan) (d : Bytes) : (stackSend st d).2.length = d.length := by
  induction st generalizing d with
  | nil => rfl
  | cons c inner ih => simp [stackSend, ih, KChan.send, cfb8Enc_length]

/-- Sending through `t ++ b` = sending through `t`, then what comes out through `b`. -/
theorem stackSend_stack_append (t b : List KChan) (d : Bytes) :
    stackSend (t ++ b) d =
      ((stackSend t d).1 ++ (stackSend b (stackSend t d).2).1, (stackSend b (stackSend t d).2).2) := by
  induction t generalizing d with
  | nil => rfl
  | cons c t ih => simp [stackSend, ih]

theorem updates_stack_append (t b : List KChan) (cs : List Bytes) :
    updates stackSend (t ++ b) cs =
      ((updates stackSend t cs).1 ++ (updates stackSend b (updates stackSend t cs).2).1,
        (updates stackSend b (updates stackSend t cs).2).2) := by
  induction cs generalizing t b with
  | nil => simp [updates]
  | cons c cs ih => simp [updates, stackSend_stack_append, ih]

theorem stackSend_keys (st : List KChan) (d : Bytes) :
    (stackSend st d).1.map (·.key) = st.map (·.key) := by
  induction st generalizing d with
  | nil => rfl
  | cons c inner ih => simp [stackSend, ih, KChan.send]

theorem updates_stackSend_keys (st : List KChan) (cs : List Bytes) :
    (updates stackSend st cs).1.map (·.key) = st.map (·.key) := by
  induction cs generalizing st with
  | nil => rfl
  | cons c cs ih => simp [updates, ih, stackSend_keys]

theorem updates_stackSend_isEmpty (st : List KChan) (cs : List Bytes) :
    (updates stackSend st cs).1.isEmpty = st.isEmpty := by
  have h := congrArg List.length (updates_stackSend_keys st cs)
  simp only [List.length_map] at h
  cases hst : st <;> cases hr : (updates stackSend st cs).1 <;> simp_all

theorem updates_stackSend_nil (cs : List Bytes) : updates stackSend [] cs = ([], cs) := by
  induction cs with
  | nil => rfl
  | cons c cs ih => simp [updates, stackSend, ih]

/-- Any chunking of the sends through a stack is one send of the concatenation. -/
theorem updates_stack_flatten (st : List KChan) (cs : List Bytes) :
    ((updates stackSend st cs).1, (updates stackSend st cs).2.flatten) = stackSend st cs.flatten :=
  updates_flatten stackSend stackSend_nil stackSend_append st cs

/-- One layer: the CFB8 encryption under AES with the layer's key, from its register. -/
theorem stackSend_single (c : KChan) (d : Bytes) :
    stackSend [c] d =
      ([⟨c.key, (cfb8Enc (aes128 c.key) c.encReg d).1, c.decReg⟩],
        (cfb8Enc (aes128 c.key) c.encReg d).2) := rfl

/-- A layer on top of a stack: its output is what the rest of the stack is given. -/
theorem stackSend_cons (c : KChan) (inner : List KChan) (d : Bytes) :
    (stackSend (c :: inner) d).2 = (stackSend inner (cfb8Enc (aes128 c.key) c.encReg d).2).2 := rfl

/-! ## `execWith` basics -/

section exec
variable (gen : SecretGen) (mk : Bytes → Except Err KChan) (P : KeyParams)

/-- The login reactor is still reading. -/
def KState.alive (s : KState) : Bool := s.err.isNone && s.reactor == .login

theorem execWith_nil (s : KState) : execWith gen mk P s [] = s := rfl

theorem execWith_cons (s : KState) (a : Step) (r : List Step) :
    execWith gen mk P s (a :: r) = execWith gen mk P (stepWith gen mk P s a) r := rfl

theorem execWith_append (s : KState) (a b : List Step) :
    execWith gen mk P s (a ++ b) = execWith gen mk P (execWith gen mk P s a) b := by
  simp [execWith, List.foldl_append]

/-! ### what a sequence of writes does -/

/-- `writeNow` for each packet of `ps` in turn. -/
def writeAll (s : KState) (ps : List ClientPkt) : KState :=
  ps.foldl (fun t p => t.writeNow P p false) s

theorem flushQueue_eq (s : KState) : s.flushQueue P = { writeAll P s s.queue with queue := [] } := rfl

theorem writeAll_cons (s : KState) (p : ClientPkt) (ps : List ClientPkt) :
    writeAll P s (p :: ps) = writeAll P (s.writeNow P p false) ps := rfl

/-- What writing packets leaves alone. -/
structure SameControl (s t : KState) : Prop where
  nDraws : t.nDraws = s.nDraws
  threshold : t.threshold = s.threshold
  reactor : t.reactor = s.reactor
  joins : t.joins = s.joins
  err : t.err = s.err
  keys : t.layers.map (·.key) = s.layers.map (·.key)

theorem writeAll_same (s : KState) (ps : List ClientPkt) : SameControl s (writeAll P s ps) := by
  induction ps generalizing s with
  | nil => exact ⟨rfl, rfl, rfl, rfl, rfl, rfl⟩
  | cons p ps ih =>
    have h := ih (s.writeNow P p false)
    exact { h with keys := h.keys.trans (updates_stackSend_keys _ _) }

theorem flushQueue_same (s : KState) : SameControl s (s.flushQueue P) :=
  { writeAll_same P s s.queue with }

theorem flushQueue_idem (s : KState) : (s.flushQueue P).flushQueue P = s.flushQueue P := by
  simp [KState.flushQueue]

theorem keys_flush (s : KState) : (s.flushQueue P).keys = s.keys := by
  have h := (flushQueue_same P s).keys
  unfold KState.keys
  rw [List.map_reverse, List.map_reverse, h]

theorem stepWith_recv_alive (s : KState) (e : LoginEv) (h : s.alive = true) :
    stepWith gen mk P s (.recv e) = reactWith gen mk P s e := by
  simp only [KState.alive, Bool.and_eq_true] at h
  have h1 : s.err.isSome = false := by cases hs : s.err <;> simp_all
  have h2 : (s.reactor == Reactor.play) = false := by cases hr : s.reactor <;> simp_all
  simp [stepWith, h1, h2]

theorem stepWith_flush_alive (s : KState) (h : s.alive = true) :
    stepWith gen mk P s .flush = s.flushQueue P ∧ (s.flushQueue P).alive = true := by
  have f := flushQueue_same P s
  simp only [KState.alive, Bool.and_eq_true] at h
  have h1 : s.err.isSome = false := by cases hs : s.err <;> simp_all
  refine ⟨by simp [stepWith, h1], ?_⟩
  simp only [KState.alive, f.reactor, f.err, Bool.and_eq_true]; exact h

theorem alive_after_terminal (s : KState) (e : LoginEv) (ht : e.isTerminal = true) :
    (reactWith gen mk P s e).alive = false := by
  cases e <;> simp_all [reactWith, LoginEv.isTerminal, KState.alive]

theorem alive_of_guard (s : KState) (h : ¬(s.err.isSome || s.reactor == .play) = true) :
    s.alive = true := by
  cases hs : s.err <;> cases hr : s.reactor <;> simp_all [KState.alive]

/-- A property that the write phase preserves, and the reaction to every event of the script from
a state where the reactor is still reading, holds after the run. -/
theorem execWith_induction {I : KState → Prop} (steps : List Step)
    (hflush : ∀ s, I s → I (s.flushQueue P))
    (hreact : ∀ s, ∀ e ∈ events steps, s.alive = true → I s → I (reactWith gen mk P s e))
    {s : KState} (h : I s) : I (execWith gen mk P s steps) := by
  induction steps generalizing s with
  | nil => exact h
  | cons a r ih =>
    rw [execWith_cons]
    cases a with
    | flush =>
      apply ih hreact
      simp only [stepWith]; split
      · exact h
      · exact hflush s h
    | recv e =>
      apply ih fun s e' he' => hreact s e' (List.mem_cons_of_mem e he')
      simp only [stepWith]; split
      · exact h
      · next hg => exact hreact s e (List.mem_cons_self ..) (alive_of_guard s hg) h

/-- Once the reactor has stopped reading, the rest of the script can only flush the queue. -/
theorem execWith_not_alive (s : KState) (steps : List Step) (h : s.alive = false) :
    execWith gen mk P s steps = s ∨ execWith gen mk P s steps = s.flushQueue P := by
  have hf : (s.flushQueue P).alive = false := by
    simp only [KState.alive, (flushQueue_same P s).reactor, (flushQueue_same P s).err]; exact h
  refine execWith_induction gen mk P (I := fun t => t = s ∨ t = s.flushQueue P) steps
    (fun t ht => ?_) (fun t e _ hal ht => ?_) (Or.inl rfl)
  · rcases ht with rfl | rfl
    · exact Or.inr rfl
    · exact Or.inr (flushQueue_idem P s)
  · rcases ht with rfl | rfl
    · rw [h] at hal; cases hal
    · rw [hf] at hal; cases hal

/-- Only an encryption request touches the draw counter, the layers, the wire, the log or the
`join` calls. -/
theorem reactWith_other (s : KState) (e : LoginEv) (h : e.isEncRequest = false) :
    (reactWith gen mk P s e).nDraws = s.nDraws ∧ (reactWith gen mk P s e).layers = s.layers ∧
      (reactWith gen mk P s e).wire = s.wire ∧ (reactWith gen mk P s e).log = s.log ∧
      (reactWith gen mk P s e).joins = s.joins := by
  cases e with
  | encRequest sid pk tok => cases h
  | setCompression t => exact ⟨rfl, rfl, rfl, rfl, rfl⟩
  | pluginRequest i c d => exact ⟨rfl, rfl, rfl, rfl, rfl⟩
  | success => exact ⟨rfl, rfl, rfl, rfl, rfl⟩
  | disconnect j => exact ⟨rfl, rfl, rfl, rfl, rfl⟩

/-- The state in the middle of the reaction to an encryption request: the secret
`(gen P.rng s.nDraws).1` drawn, `join` called with its hash, the reply written through the layers
in place; the cipher not yet constructed. -/
def replied (s : KState) (sid : String) (pk tok : Bytes) : KState :=
  KState.writeNow P
    { s with nDraws := (gen P.rng s.nDraws).2,
             joins := s.joins ++ joinOf P (gen P.rng s.nDraws).1 sid pk }
    (replyOf P (gen P.rng s.nDraws).1 pk tok) true

/-- The reaction to an encryption request, for any secret generator and cipher constructor: the
constructor's layer goes on top of `replied`, or its error ends the thread. -/
theorem reactWith_encRequest (s : KState) (sid : String) (pk tok : Bytes) :
    reactWith gen mk P s (.encRequest sid pk tok) =
      match mk (gen P.rng s.nDraws).1 with
      | .error e => { replied gen P s sid pk tok with err := some (.cipher e) }
      | .ok c => { replied gen P s sid pk tok with layers := c :: (replied gen P s sid pk tok).layers } := by
  by_cases h1 : sid = "-" <;> by_cases h2 : P.base.hasToken = true <;>
    cases hmk : mk (gen P.rng s.nDraws).1 <;>
    simp [reactWith, replied, joinOf, replyOf, KState.writeNow, h1, h2, hmk]

end exec

/-! ### the code as it is: `reactK` -/

/-- The state after an encryption request, written out: ONE new draw (number `s.nDraws`), used in
the reply, in the `join` hash and as key and initial registers of the new outermost layer; the
reply itself went through the OLD layers. -/
theorem reactK_encRequest (P : KeyParams) (s : KState) (sid : String) (pk tok : Bytes) :
    reactK P s (.encRequest sid pk tok) =
      { nDraws := s.nDraws + 1,
        layers := ⟨P.rng.draw s.nDraws, P.rng.draw s.nDraws, P.rng.draw s.nDraws⟩ ::
          (updates stackSend s.layers (frameSends P.z s.threshold
            (payloadOf P.ids (replyOf P (P.rng.draw s.nDraws) pk tok)))).1,
        threshold := s.threshold, reactor := s.reactor, queue := s.queue,
        wire := s.wire ++ (updates stackSend s.layers (frameSends P.z s.threshold
            (payloadOf P.ids (replyOf P (P.rng.draw s.nDraws) pk tok)))).2,
        log := s.log ++ [⟨replyOf P (P.rng.draw s.nDraws) pk tok, !s.layers.isEmpty, s.threshold,
          true⟩],
        joins := s.joins ++ joinOf P (P.rng.draw s.nDraws) sid pk,
        err := s.err } := by
  refine (reactWith_encRequest genUrandom KChan.create P s sid pk tok).trans ?_
  rw [show (genUrandom P.rng s.nDraws).1 = P.rng.draw s.nDraws from rfl,
    create_of_len _ (P.rng.len16 s.nDraws)]
  rfl

theorem alive_reactK (P : KeyParams) (s : KState) (e : LoginEv) (h : s.alive = true)
    (ht : e.isTerminal = false) : (reactK P s e).alive = true := by
  cases e with
  | encRequest sid pk tok => rw [reactK_encRequest]; exact h
  | setCompression t => exact h
  | pluginRequest i c d => exact h
  | success => cases ht
  | disconnect j => cases ht

/-- Any observation `g` that a flush does not change and that a processed event updates by `upd`
is the fold of `upd` over the processed events — whatever the schedule (`Login.exec_closed` for
`execK`). -/
theorem execK_closed {β : Type} (P : KeyParams) (g : KState → β) (upd : β → LoginEv → β)
    (hflush : ∀ s, g (s.flushQueue P) = g s)
    (hreact : ∀ s e, s.alive = true → g (reactK P s e) = upd (g s) e)
    (s : KState) (steps : List Step) (h : s.alive = true) :
    g (execK P s steps) = (processed (events steps)).foldl upd (g s) := by
  induction steps generalizing s with
  | nil => simp [execWith_nil, events, processed]
  | cons a r ih =>
    show g (execWith genUrandom KChan.create P s (a :: r)) = _
    rw [execWith_cons]
    cases a with
    | flush =>
      obtain ⟨h1, h2⟩ := stepWith_flush_alive genUrandom KChan.create P s h
      rw [h1]
      have := ih _ h2
      rw [hflush] at this
      simpa [events] using this
    | recv e =>
      rw [stepWith_recv_alive genUrandom KChan.create P s e h]
      by_cases ht : e.isTerminal = true
      · have hna := alive_after_terminal genUrandom KChan.create P s e ht
        have hj : g (execWith genUrandom KChan.create P (reactK P s e) r) = g (reactK P s e) := by
          rcases execWith_not_alive genUrandom KChan.create P _ r hna with h1 | h1 <;> rw [h1]
          exact hflush _
        rw [hj, hreact s e h]
        simp [events, processed_cons_terminal e _ ht]
      · have ht' : e.isTerminal = false := by simpa using ht
        have := ih _ (alive_reactK P s e h ht')
        rw [hreact s e h] at this
        simpa [events, processed_cons_live e _ ht'] using this

theorem execK_alive (P : KeyParams) (s : KState) (steps : List Step) (h : s.alive = true)
    (hn : ∀ e ∈ events steps, e.isTerminal = false) : (execK P s steps).alive = true :=
  execWith_induction genUrandom KChan.create P steps
    (fun s hs => (stepWith_flush_alive genUrandom KChan.create P s hs).2)
    (fun s e he hs _ => alive_reactK P s e hs (hn e he)) h

theorem init_alive (n : Nat) : (KState.init n).alive = true := rfl

/-- What a processed event does to the pair (call counter, installed keys). -/
def drawUpd (P : KeyParams) (a : Nat × List Bytes) : LoginEv → Nat × List Bytes
  | .encRequest .. => (a.1 + 1, a.2 ++ [P.rng.draw a.1])
  | _ => a

theorem foldl_drawUpd (P : KeyParams) (evs : List LoginEv) (n : Nat) (ks : List Bytes) :
    evs.foldl (drawUpd P) (n, ks) =
      (n + (reqs evs).length, ks ++ (List.range' n (reqs evs).length).map P.rng.draw) := by
  induction evs generalizing n ks with
  | nil => simp [reqs]
  | cons e es ih =>
    cases e <;> simp only [List.foldl_cons, drawUpd, reqs, ih] <;>
      simp [List.range'_succ, Nat.add_assoc, Nat.add_comm 1]

theorem keys_reactK (P : KeyParams) (s : KState) (e : LoginEv) :
    ((reactK P s e).nDraws, (reactK P s e).keys) = drawUpd P (s.nDraws, s.keys) e := by
  cases e with
  | encRequest sid pk tok =>
    rw [reactK_encRequest]
    simp only [drawUpd, KState.keys, List.reverse_cons, List.map_append, List.map_cons, List.map_nil]
    rw [List.map_reverse, List.map_reverse, updates_stackSend_keys]
  | setCompression t => rfl
  | pluginRequest i c d => rfl
  | success => rfl
  | disconnect j => rfl

/-- Counter and keys after any run from a fresh connection. -/
theorem keys_execK (P : KeyParams) (n0 : Nat) (steps : List Step) :
    (execK P (.init n0) steps).nDraws = n0 + (reqs (processed (events steps))).length ∧
      (execK P (.init n0) steps).keys =
        (List.range' n0 (reqs (processed (events steps))).length).map P.rng.draw := by
  have h := execK_closed P (fun s => (s.nDraws, s.keys)) (drawUpd P)
    (fun s => by simp only [keys_flush, (flushQueue_same P s).nDraws])
    (fun s e _ => keys_reactK P s e) (.init n0) steps (init_alive n0)
  rw [foldl_drawUpd] at h
  simp only [KState.init, KState.keys, List.reverse_nil, List.map_nil, List.nil_append,
    Prod.mk.injEq] at h
  exact h

/-! ### growth: log, joins and keys only grow -/

/-- `t` extends `s`. -/
structure Grows (s t : KState) : Prop where
  log : s.log <+: t.log
  joins : s.joins <+: t.joins
  keys : s.keys <+: t.keys

theorem Grows.trans {a b c : KState} (h1 : Grows a b) (h2 : Grows b c) : Grows a c :=
  ⟨h1.log.trans h2.log, h1.joins.trans h2.joins, h1.keys.trans h2.keys⟩

theorem keys_writeNow (P : KeyParams) (s : KState) (p : ClientPkt) (f : Bool) :
    (s.writeNow P p f).keys = s.keys := by
  simp only [KState.keys, KState.writeNow]
  rw [List.map_reverse, List.map_reverse, updates_stackSend_keys]

theorem Grows.writeNow (P : KeyParams) (s : KState) (p : ClientPkt) (f : Bool) :
    Grows s (s.writeNow P p f) :=
  ⟨List.prefix_append _ _, List.prefix_rfl, by rw [keys_writeNow]; exact List.prefix_rfl⟩

theorem Grows.flush (P : KeyParams) (s : KState) : Grows s (s.flushQueue P) := by
  have h : ∀ (ps : List ClientPkt) (s : KState), Grows s (writeAll P s ps) := by
    intro ps
    induction ps with
    | nil => exact fun s => ⟨List.prefix_rfl, List.prefix_rfl, List.prefix_rfl⟩
    | cons p ps ih => exact fun s => (Grows.writeNow P s p false).trans (ih _)
  exact ⟨(h s.queue s).log, (h s.queue s).joins, (h s.queue s).keys⟩

section growth
variable (gen : SecretGen) (mk : Bytes → Except Err KChan) (P : KeyParams)

theorem Grows.react (s : KState) (e : LoginEv) : Grows s (reactWith gen mk P s e) := by
  cases e with
  | encRequest sid pk tok =>
    rw [reactWith_encRequest]
    have g : Grows s (replied gen P s sid pk tok) := by
      unfold replied
      refine Grows.trans ?_ (Grows.writeNow P _ _ true)
      exact ⟨List.prefix_rfl, List.prefix_append _ _, List.prefix_rfl⟩
    split
    · exact ⟨g.log, g.joins, g.keys⟩
    · rename_i c _
      refine ⟨g.log, g.joins, g.keys.trans ⟨[c.key], ?_⟩⟩
      simp only [KState.keys, List.reverse_cons, List.map_append, List.map_cons, List.map_nil]
  | setCompression t => exact ⟨List.prefix_rfl, List.prefix_rfl, List.prefix_rfl⟩
  | pluginRequest i c d => exact ⟨List.prefix_rfl, List.prefix_rfl, List.prefix_rfl⟩
  | success => exact ⟨List.prefix_rfl, List.prefix_rfl, List.prefix_rfl⟩
  | disconnect j => exact ⟨List.prefix_rfl, List.prefix_rfl, List.prefix_rfl⟩

theorem Grows.exec (s : KState) (steps : List Step) : Grows s (execWith gen mk P s steps) :=
  execWith_induction gen mk P (I := Grows s) steps (fun t h => h.trans (Grows.flush P t))
    (fun t e _ _ h => h.trans (Grows.react gen mk P t e))
    ⟨List.prefix_rfl, List.prefix_rfl, List.prefix_rfl⟩

end growth

/-! ## factoring a run through the layers present at its start -/

/-- Flag an entry as written through a cipher. -/
def flagged (f : Sent) : Sent := { f with encrypted := true }

theorem frameOfSent_flagged (z : ZlibOps) (ids : Ids) (f : Sent) :
    frameOfSent z ids (flagged f) = frameOfSent z ids f := rfl

/-- `b` is `a` run on top of the extra layers `base0` (as they were when `a` had written nothing):
same control state; `b`'s layers are `a`'s followed by the extra ones, moved on by everything `a`
handed to its "real socket"; `b`'s real socket got (after `w0`) exactly those chunks passed through
the extra layers; `b`'s log is (after `l0`) `a`'s, every entry flagged encrypted. -/
structure Fac (base0 : List KChan) (w0 : List Bytes) (l0 : List Sent) (a b : KState) : Prop where
  nDraws : b.nDraws = a.nDraws
  threshold : b.threshold = a.threshold
  reactor : b.reactor = a.reactor
  queue : b.queue = a.queue
  joins : b.joins = a.joins
  err : b.err = a.err
  layers : b.layers = a.layers ++ (updates stackSend base0 a.wire).1
  wire : b.wire = w0 ++ (updates stackSend base0 a.wire).2
  log : b.log = l0 ++ a.log.map flagged

theorem Fac.writeNow {base0 : List KChan} {w0 : List Bytes} {l0 : List Sent} {a b : KState}
    (hb : base0 ≠ []) (h : Fac base0 w0 l0 a b) (P : KeyParams) (p : ClientPkt) (f : Bool) :
    Fac base0 w0 l0 (a.writeNow P p f) (b.writeNow P p f) := by
  have hne : (a.layers ++ (updates stackSend base0 a.wire).1).isEmpty = false := by
    have := updates_stackSend_isEmpty base0 a.wire
    cases base0 with
    | nil => exact absurd rfl hb
    | cons c r => cases hu : (updates stackSend (c :: r) a.wire).1 <;> simp_all
  refine ⟨h.nDraws, h.threshold, h.reactor, h.queue, h.joins, h.err, ?_, ?_, ?_⟩
  · simp only [KState.writeNow, h.layers, h.threshold, updates_stack_append, updates_append]
  · simp only [KState.writeNow, h.layers, h.threshold, h.wire, updates_stack_append, updates_append,
      List.append_assoc]
  · simp only [KState.writeNow, h.layers, h.threshold, h.log, hne, List.map_append, List.map_cons,
      List.map_nil, List.append_assoc, flagged, Bool.not_false]

theorem Fac.writeAll {base0 : List KChan} {w0 : List Bytes} {l0 : List Sent} {a b : KState}
    (hb : base0 ≠ []) (h : Fac base0 w0 l0 a b) (P : KeyParams) (ps : List ClientPkt) :
    Fac base0 w0 l0 (writeAll P a ps) (writeAll P b ps) := by
  induction ps generalizing a b with
  | nil => exact h
  | cons p ps ih => exact ih (h.writeNow hb P p false)

theorem Fac.flush {base0 : List KChan} {w0 : List Bytes} {l0 : List Sent} {a b : KState}
    (hb : base0 ≠ []) (h : Fac base0 w0 l0 a b) (P : KeyParams) :
    Fac base0 w0 l0 (a.flushQueue P) (b.flushQueue P) := by
  have := h.writeAll hb P a.queue
  rw [flushQueue_eq, flushQueue_eq, h.queue]
  exact { this with queue := rfl }

section fac
variable (gen : SecretGen) (mk : Bytes → Except Err KChan) (P : KeyParams)

theorem Fac.react {base0 : List KChan} {w0 : List Bytes} {l0 : List Sent} {a b : KState}
    (hb : base0 ≠ []) (h : Fac base0 w0 l0 a b) (e : LoginEv) :
    Fac base0 w0 l0 (reactWith gen mk P a e) (reactWith gen mk P b e) := by
  cases e with
  | setCompression t => exact { h with threshold := rfl }
  | success => exact { h with reactor := rfl }
  | disconnect j => exact { h with err := rfl }
  | pluginRequest i c d => exact { h with queue := by simp [reactWith, h.queue] }
  | encRequest sid pk tok =>
    rw [reactWith_encRequest, reactWith_encRequest]
    have hp : Fac base0 w0 l0 (replied gen P a sid pk tok) (replied gen P b sid pk tok) := by
      unfold replied
      rw [h.nDraws, h.joins]
      refine Fac.writeNow hb ?_ P _ true
      exact { h with nDraws := rfl, joins := rfl }
    rw [h.nDraws]
    split
    · exact { hp with err := rfl }
    · exact { hp with layers := by simp only [hp.layers, List.cons_append] }

theorem Fac.step {base0 : List KChan} {w0 : List Bytes} {l0 : List Sent} {a b : KState}
    (hb : base0 ≠ []) (h : Fac base0 w0 l0 a b) (x : Step) :
    Fac base0 w0 l0 (stepWith gen mk P a x) (stepWith gen mk P b x) := by
  cases x with
  | flush =>
    simp only [stepWith, h.err]
    split
    · exact h
    · exact h.flush hb P
  | recv e =>
    simp only [stepWith, h.err, h.reactor]
    split
    · exact h
    · exact h.react gen mk P hb e

theorem Fac.exec {base0 : List KChan} {w0 : List Bytes} {l0 : List Sent} {a b : KState}
    (hb : base0 ≠ []) (h : Fac base0 w0 l0 a b) (steps : List Step) :
    Fac base0 w0 l0 (execWith gen mk P a steps) (execWith gen mk P b steps) := by
  induction steps generalizing a b with
  | nil => exact h
  | cons x r ih => rw [execWith_cons, execWith_cons]; exact ih (h.step gen mk P hb x)

/-- `s` as seen from inside the cipher layers it has: the same control state on a bare socket
that has written nothing. -/
def KState.inside (s : KState) : KState := { s with layers := [], wire := [], log := [] }

/-- A run from a state with at least one layer is the run from `s.inside`, seen through those
layers: on the real socket, what was there and then everything `s.inside` writes, as one stream
through the stack; in the log, the same entries flagged encrypted. -/
theorem factored (s : KState) (hl : s.layers ≠ []) (steps : List Step) :
    (execWith gen mk P s steps).wire.flatten =
        s.wire.flatten ++
          (stackSend s.layers (execWith gen mk P s.inside steps).wire.flatten).2 ∧
      (execWith gen mk P s steps).log =
        s.log ++ (execWith gen mk P s.inside steps).log.map flagged := by
  have h0 : Fac s.layers s.wire s.log s.inside s :=
    ⟨rfl, rfl, rfl, rfl, rfl, rfl, by simp [KState.inside, updates], by simp [KState.inside, updates],
      by simp [KState.inside]⟩
  have h := h0.exec gen mk P hl steps
  rw [h.wire, List.flatten_append, ← updates_stack_flatten]
  exact ⟨rfl, h.log⟩

end fac

/-! ### runs that install no cipher on a bare socket write plaintext frames -/

/-- No layer and the log's frames are exactly what the real socket got. -/
def Bare (P : KeyParams) (s : KState) : Prop :=
  s.layers = [] ∧ s.wire.flatten = (s.log.map (frameOfSent P.z P.ids)).flatten ∧
    ∀ f ∈ s.log, f.encrypted = false

theorem Bare.writeNow {P : KeyParams} {s : KState} (h : Bare P s) (p : ClientPkt) (f : Bool) :
    Bare P (s.writeNow P p f) := by
  obtain ⟨h1, h2, h3⟩ := h
  refine ⟨?_, ?_, ?_⟩
  · simp [KState.writeNow, h1, updates_stackSend_nil]
  · simp only [KState.writeNow, h1, updates_stackSend_nil, List.flatten_append, h2, List.map_append,
      List.map_cons, List.map_nil, List.flatten_cons, List.flatten_nil, List.append_nil,
      frameSends_flatten']
    rfl
  · intro g hg
    simp only [KState.writeNow, h1, List.mem_append, List.mem_singleton] at hg
    rcases hg with hg | hg
    · exact h3 g hg
    · subst hg; rfl

theorem Bare.writeAll {P : KeyParams} {s : KState} (h : Bare P s) (ps : List ClientPkt) :
    Bare P (writeAll P s ps) := by
  induction ps generalizing s with
  | nil => exact h
  | cons p ps ih => exact ih (h.writeNow p false)

theorem Bare.flush {P : KeyParams} {s : KState} (h : Bare P s) : Bare P (s.flushQueue P) :=
  h.writeAll s.queue

theorem Bare.other {gen : SecretGen} {mk : Bytes → Except Err KChan} {P : KeyParams} {s : KState}
    (h : Bare P s) (e : LoginEv) (he : e.isEncRequest = false) : Bare P (reactWith gen mk P s e) := by
  obtain ⟨-, hl, hw, hg, -⟩ := reactWith_other gen mk P s e he
  unfold Bare
  rw [hl, hw, hg]
  exact h

theorem Bare.exec (gen : SecretGen) (mk : Bytes → Except Err KChan) {P : KeyParams} {s : KState}
    (h : Bare P s) (steps : List Step) (hn : ∀ e ∈ events steps, e.isEncRequest = false) :
    Bare P (execWith gen mk P s steps) :=
  execWith_induction gen mk P steps (fun _ h => h.flush) (fun _ e he _ h => h.other e (hn e he)) h

theorem nDraws_noreq (gen : SecretGen) (mk : Bytes → Except Err KChan) (P : KeyParams) (s : KState)
    (steps : List Step) (hn : ∀ e ∈ events steps, e.isEncRequest = false) :
    (execWith gen mk P s steps).nDraws = s.nDraws :=
  execWith_induction gen mk P (I := fun t => t.nDraws = s.nDraws) steps
    (fun t h => (flushQueue_same P t).nDraws.trans h)
    (fun t e he _ h => (reactWith_other gen mk P t e (hn e he)).1.trans h) rfl

theorem wireGo_allplain (z : ZlibOps) (E : Bytes → Bytes) (ids : Ids) (reg : Bytes) (l : List Sent)
    (h : ∀ f ∈ l, f.encrypted = false) :
    (wireGo z E ids reg l).flatten = (l.map (frameOfSent z ids)).flatten := by
  have := wireGo_plain_append z E ids l [] reg h
  simpa [wireGo] using this

/-! ## a request in the middle of a run; several logins -/

theorem execK_recv (P : KeyParams) (s : KState) (e : LoginEv) (post : List Step)
    (h : s.alive = true) : execK P s (.recv e :: post) = execK P (reactK P s e) post := by
  show execWith genUrandom KChan.create P s (_ :: post) = _
  rw [execWith_cons, stepWith_recv_alive genUrandom KChan.create P s e h]

theorem execK_mid (P : KeyParams) (s : KState) (pre post : List Step) (e : LoginEv)
    (h : s.alive = true) (hpre : ∀ e ∈ events pre, e.isTerminal = false) :
    execK P s (pre ++ .recv e :: post) = execK P (reactK P (execK P s pre) e) post := by
  show execWith genUrandom KChan.create P s (pre ++ .recv e :: post) = _
  rw [execWith_append]
  exact execK_recv P _ e post (execK_alive P s pre h hpre)

theorem range'_map_snoc (f : Nat → Bytes) (n k : Nat) :
    (List.range' n k).map f ++ [f (n + k)] = (List.range' n (k + 1)).map f := by
  rw [List.range'_concat]; simp

theorem bare_inside (P : KeyParams) (s : KState) : Bare P s.inside :=
  ⟨rfl, rfl, by intro f hf; cases hf⟩

/-! ### several logins -/

theorem drawIdxs_ge (n : Nat) (l : List (Nat × Nat)) : ∀ i ∈ drawIdxs n l, n ≤ i := by
  induction l generalizing n with
  | nil => intro i hi; cases hi
  | cons x rest ih =>
    obtain ⟨gap, k⟩ := x
    intro i hi
    simp only [drawIdxs, List.mem_append, List.mem_range'_1] at hi
    rcases hi with hi | hi
    · omega
    · have := ih _ i hi; omega

theorem drawIdxs_pairwise (n : Nat) (l : List (Nat × Nat)) : (drawIdxs n l).Pairwise (· < ·) := by
  induction l generalizing n with
  | nil => exact List.Pairwise.nil
  | cons x rest ih =>
    obtain ⟨gap, k⟩ := x
    simp only [drawIdxs]
    rw [List.pairwise_append]
    refine ⟨List.pairwise_lt_range', ih _, ?_⟩
    intro a ha b hb
    have := drawIdxs_ge _ _ b hb
    simp only [List.mem_range'_1] at ha
    omega

/-- All keys installed by a sequence of logins, in order, are the draws with the indices
`drawIdxs`. -/
theorem logins_keys (P : KeyParams) (n : Nat) (runs : List (Nat × List Step)) :
    (logins P n runs).flatMap KState.keys =
      (drawIdxs n (runs.map fun r => (r.1, (reqs (processed (events r.2))).length))).map
        P.rng.draw := by
  induction runs generalizing n with
  | nil => rfl
  | cons r rest ih =>
    obtain ⟨gap, steps⟩ := r
    obtain ⟨hn, hk⟩ := keys_execK P (n + gap) steps
    show (execK P (.init (n + gap)) steps).keys ++
      (logins P (execK P (.init (n + gap)) steps).nDraws rest).flatMap KState.keys = _
    rw [hn, ih, hk]
    simp [drawIdxs]

/-! ## RSAES-PKCS1-v1_5 -/

theorem os2ip_snoc (bs : Bytes) (b : UInt8) : os2ip (bs ++ [b]) = 256 * os2ip bs + b.toNat := by
  simp [os2ip, List.foldl_append]

theorem os2ip_zero_cons (r : Bytes) : os2ip (0 :: r) = os2ip r := by
  simp [os2ip]

theorem toBE_length (x k : Nat) : (toBE x k).length = k := by
  induction k generalizing x with
  | zero => rfl
  | succ k ih => simp [toBE, ih]

theorem os2ip_lt (bs : Bytes) : os2ip bs < 256 ^ bs.length := by
  induction bs using snoc_induction with
  | nil => simp [os2ip]
  | snoc bs b ih =>
    have hb : b.toNat < 256 := b.toNat_lt
    rw [os2ip_snoc, List.length_append, List.length_singleton, Nat.pow_succ]
    omega

theorem toBE_os2ip (bs : Bytes) : toBE (os2ip bs) bs.length = bs := by
  induction bs using snoc_induction with
  | nil => rfl
  | snoc bs b ih =>
    have hb : b.toNat < 256 := b.toNat_lt
    rw [os2ip_snoc, List.length_append, List.length_singleton]
    have h1 : (256 * os2ip bs + b.toNat) / 256 = os2ip bs := by omega
    have h2 : (256 * os2ip bs + b.toNat) % 256 = b.toNat := by omega
    simp only [toBE, h1, h2, ih, UInt8.ofNat_toNat]

theorem os2ip_toBE (x k : Nat) (h : x < 256 ^ k) : os2ip (toBE x k) = x := by
  induction k generalizing x with
  | zero => simp at h; simp [toBE, os2ip, h]
  | succ k ih =>
    have hd : x / 256 < 256 ^ k := by
      rw [Nat.pow_succ] at h
      exact Nat.div_lt_of_lt_mul (by rw [Nat.mul_comm]; exact h)
    simp only [toBE, os2ip_snoc, ih _ hd, UInt8.toNat_ofNat']
    omega

theorem dropWhile_ps (ps m : Bytes) (h : ∀ b ∈ ps, b ≠ 0) :
    (ps ++ 0 :: m).dropWhile (· ≠ 0) = 0 :: m ∧ (ps ++ 0 :: m).takeWhile (· ≠ 0) = ps := by
  induction ps with
  | nil => simp
  | cons a r ih =>
    have ha : a ≠ 0 := h a (by simp)
    obtain ⟨i1, i2⟩ := ih fun b hb => h b (by simp [hb])
    have hpa : decide (a ≠ 0) = true := by simp [ha]
    simp only [List.cons_append, List.dropWhile_cons, List.takeWhile_cons, hpa, if_true, i1, i2,
      and_self]

/-- The encoded message: `k` octets, the first of them zero (so its integer is below `256^(k-1)`,
hence below any `k`-octet modulus), and the decoder opens it to `m`. -/
theorem emeDecode_encode (k : Nat) (ps m : Bytes) (hps : PsOK k ps m) (hm : m.length + 11 ≤ k) :
    ∃ em, emeEncode k ps m = .ok em ∧ em.length = k ∧ os2ip em < 256 ^ (k - 1) ∧
      emeDecode em = .ok m := by
  obtain ⟨hl, hnz⟩ := hps
  obtain ⟨d1, d2⟩ := dropWhile_ps ps m hnz
  refine ⟨0 :: ([0x02] ++ ps ++ [0x00] ++ m), by simp [emeEncode, hm],
    by simp [List.length_append]; omega, ?_, ?_⟩
  · rw [os2ip_zero_cons]
    have := os2ip_lt ([0x02] ++ ps ++ [0x00] ++ m : Bytes)
    rwa [show ([0x02] ++ ps ++ [0x00] ++ m : Bytes).length = k - 1 by
      simp [List.length_append]; omega] at this
  · have h8 : 8 ≤ ps.length := by omega
    simp only [List.cons_append, List.nil_append, List.append_assoc, emeDecode, d1, d2, h8,
      and_self, if_true]

/-- The law `Model/Login.lean` assumes of RSA, derived: whatever (lawful) padding string the
library draws, the holder of the private key gets the message back exactly; the ciphertext has the
length of the modulus. -/
theorem rsaes_dec_enc (T : Trapdoor) (ps m : Bytes) (hps : PsOK T.k ps m)
    (hm : m.length + 11 ≤ T.k) :
    ∃ c, rsaesEncrypt T ps m = .ok c ∧ c.length = T.k ∧ rsaesDecrypt T c = .ok m := by
  obtain ⟨em, e1, e2, hlt, e3⟩ := emeDecode_encode T.k ps m hps hm
  have hx : os2ip em < T.n := Nat.lt_of_lt_of_le hlt T.n_lo
  have hf := T.f_lt _ hx
  have hfk : T.f (os2ip em) < 256 ^ T.k := Nat.lt_trans hf T.n_hi
  refine ⟨toBE (T.f (os2ip em)) T.k, ?_, toBE_length _ _, ?_⟩
  · simp only [rsaesEncrypt, e1, hx, if_true, i2osp, hfk]
  · have hk : 11 ≤ T.k := by omega
    have hxk : os2ip em < 256 ^ T.k := Nat.lt_trans hx T.n_hi
    simp only [rsaesDecrypt, toBE_length, hk, and_self, if_true, os2ip_toBE _ _ hfk, hf, T.inv _ hx,
      i2osp, hxk]
    have := toBE_os2ip em
    rw [e2] at this
    rw [this, e3]

theorem rsaes_too_long (T : Trapdoor) (ps m : Bytes) (h : T.k < m.length + 11) :
    rsaesEncrypt T ps m = .error .value := by
  have : ¬ m.length + 11 ≤ T.k := by omega
  simp [rsaesEncrypt, emeEncode, this]

/-! ## one and two requests, written out -/

theorem map_frames_flagged (z : ZlibOps) (ids : Ids) (l : List Sent) :
    (l.map flagged).map (frameOfSent z ids) = l.map (frameOfSent z ids) := by
  rw [List.map_map]; rfl

theorem flagged_all (l : List Sent) : ∀ f ∈ l.map flagged, f.encrypted = true := by
  intro f hf
  obtain ⟨g, _, rfl⟩ := List.mem_map.mp hf
  rfl

theorem reactK_layers_ne (P : KeyParams) (s : KState) (sid : String) (pk tok : Bytes) :
    (reactK P s (.encRequest sid pk tok)).layers ≠ [] := by
  rw [reactK_encRequest]; simp

/-- The first request on a bare, alive connection: the state right after it seen from inside the
new layer, and the continuation factored through that layer. -/
theorem first_request_aux (P : KeyParams) (s : KState) (hs : s.alive = true) (hb : Bare P s)
    (sid : String) (pk tok : Bytes) (post : List Step) (d : Bytes) (a0 : KState)
    (hd : d = P.rng.draw s.nDraws) (ha0 : a0 = (reactK P s (.encRequest sid pk tok)).inside) :
    a0.alive = true ∧ Bare P a0 ∧ a0.nDraws = s.nDraws + 1 ∧
    (execK P (reactK P s (.encRequest sid pk tok)) post).wire.flatten =
      (s.log.map (frameOfSent P.z P.ids)).flatten ++
        frame P.z s.threshold (payloadOf P.ids (replyOf P d pk tok)) ++
        (cfb8Enc (aes128 d) d (execK P a0 post).wire.flatten).2 ∧
    (execK P (reactK P s (.encRequest sid pk tok)) post).log =
      s.log ++ ⟨replyOf P d pk tok, false, s.threshold, true⟩ :: (execK P a0 post).log.map flagged := by
  obtain ⟨hl, hw, hfl⟩ := hb
  obtain ⟨w, l⟩ := factored genUrandom KChan.create P _ (reactK_layers_ne P s sid pk tok) post
  have hr := reactK_encRequest P s sid pk tok
  subst hd ha0
  refine ⟨?_, bare_inside P _, ?_, ?_, ?_⟩
  · rw [hr]; exact hs
  · rw [hr]; rfl
  · refine w.trans ?_
    simp only [hr, hl, updates_stackSend_nil, List.flatten_append, hw, frameSends_flatten',
      stackSend_single]
  · refine l.trans ?_
    simp only [hr, hl, List.isEmpty_nil, Bool.not_true, List.append_assoc,
      List.singleton_append]

theorem bare_init (P : KeyParams) (n : Nat) : Bare P (.init n) :=
  ⟨rfl, rfl, by intro f hf; cases hf⟩

/-! ## at most one request: a bare state seen through one layer -/

/-- Where a run from a fresh connection at call number `n0` stands.  No draw yet: a bare socket.
One draw: the state is a bare state `a` seen through the one layer keyed by that draw (`Fac`), what
was written before (`w0`, `l0`: up to and including the reply) being plaintext frames.  More draws:
nothing is claimed — beyond one request there is no `LoginParams` (one secret, one cipher flag)
that the run refines, which is what this invariant serves. -/
inductive Wired (P : KeyParams) (n0 : Nat) (s : KState) : Prop
  | none (hn : s.nDraws = n0) (hb : Bare P s)
  | one (hn : s.nDraws = n0 + 1) (a : KState) (w0 : List Bytes) (l0 : List Sent) (hb : Bare P a)
      (hl : ∀ f ∈ l0, f.encrypted = false)
      (hw : w0.flatten = (l0.map (frameOfSent P.z P.ids)).flatten)
      (hf : Fac [⟨P.rng.draw n0, P.rng.draw n0, P.rng.draw n0⟩] w0 l0 a s)
  | more (hn : n0 + 2 ≤ s.nDraws)

theorem Wired.flush {P : KeyParams} {n0 : Nat} {s : KState} (h : Wired P n0 s) :
    Wired P n0 (s.flushQueue P) := by
  have hn := (flushQueue_same P s).nDraws
  cases h with
  | none h0 hb => exact .none (hn.trans h0) hb.flush
  | one h0 a w0 l0 hb hl hw hf =>
    exact .one (hn.trans h0) _ w0 l0 hb.flush hl hw (hf.flush (by simp) P)
  | more h0 => exact .more (hn ▸ h0)

theorem Wired.react {P : KeyParams} {n0 : Nat} {s : KState} (h : Wired P n0 s) (e : LoginEv) :
    Wired P n0 (reactK P s e) := by
  by_cases he : e.isEncRequest = false
  · have hn := (reactWith_other genUrandom KChan.create P s e he).1
    cases h with
    | none h0 hb => exact .none (hn.trans h0) (hb.other e he)
    | one h0 a w0 l0 hb hl hw hf =>
      exact .one (hn.trans h0) _ w0 l0 (hb.other e he) hl hw
        (hf.react genUrandom KChan.create P (by simp) e)
    | more h0 => exact .more (hn ▸ h0)
  · obtain ⟨sid, pk, tok, rfl⟩ : ∃ sid pk tok, e = .encRequest sid pk tok := by
      cases e <;> first | exact ⟨_, _, _, rfl⟩ | exact absurd rfl he
    have hr := reactK_encRequest P s sid pk tok
    have hn : (reactK P s (.encRequest sid pk tok)).nDraws = s.nDraws + 1 := congrArg KState.nDraws hr
    cases h with
    | more h0 => exact .more (by omega)
    | one h0 a w0 l0 hb hl hw hf => exact .more (by omega)
    | none h0 hb =>
      -- the reply goes out on the bare socket (`Bare.writeNow`), then the layer keyed by draw `n0`
      have hrep : Bare P (replied genUrandom P s sid pk tok) := Bare.writeNow hb _ true
      have hlay : (reactK P s (.encRequest sid pk tok)).layers =
          [⟨P.rng.draw n0, P.rng.draw n0, P.rng.draw n0⟩] := by
        rw [hr, hb.1, updates_stackSend_nil, h0]
      refine .one (by omega) (reactK P s (.encRequest sid pk tok)).inside
        (reactK P s (.encRequest sid pk tok)).wire (reactK P s (.encRequest sid pk tok)).log
        (bare_inside P _) ?_ ?_ ?_
      · rw [hr]; exact hrep.2.2
      · rw [hr]; exact hrep.2.1
      · rw [← hlay]
        exact ⟨rfl, rfl, rfl, rfl, rfl, rfl, by simp [KState.inside, updates],
          by simp [KState.inside, updates], by simp [KState.inside]⟩

theorem wired_execK (P : KeyParams) (n0 : Nat) (steps : List Step) :
    Wired P n0 (execK P (.init n0) steps) :=
  execWith_induction genUrandom KChan.create P steps (fun _ h => h.flush)
    (fun _ e _ _ h => h.react e) (.none rfl (bare_init P n0))


section two_requests
/-! Two requests in one login (nothing terminal before the second, no third): `s0` the state before
the first, `a` the run between the requests and `b` the run after the second, each as seen from
inside the cipher installed just before it, `full` the whole run. -/
variable (P : KeyParams) (n0 : Nat) (pre mid post : List Step)
  (sid1 : String) (pk1 tok1 : Bytes) (sid2 : String) (pk2 tok2 : Bytes)
  (hpre : ∀ e ∈ events pre, e.isTerminal = false ∧ e.isEncRequest = false)
  (hmid : ∀ e ∈ events mid, e.isTerminal = false ∧ e.isEncRequest = false)
  (hpost : ∀ e ∈ events post, e.isEncRequest = false)
  (s0 a b full : KState) (hs0 : s0 = execK P (.init n0) pre)
  (ha : a = execK P (reactK P s0 (.encRequest sid1 pk1 tok1)).inside mid)
  (hb : b = execK P (reactK P a (.encRequest sid2 pk2 tok2)).inside post)
  (hfull : full = execK P (.init n0) (pre ++ .recv (.encRequest sid1 pk1 tok1) ::
    (mid ++ .recv (.encRequest sid2 pk2 tok2) :: post)))
include hpre hmid hpost hs0 ha hb hfull

/-- The first cipher encrypts, as one stream, the frames of `a`, the SECOND reply and the second
cipher's output, which encrypts the frames of `b`. -/
theorem two_requests_aux :
    (∀ f ∈ s0.log, f.encrypted = false) ∧
      full.log =
        s0.log ++ ⟨replyOf P (P.rng.draw n0) pk1 tok1, false, s0.threshold, true⟩ ::
          (a.log.map flagged ++ ⟨replyOf P (P.rng.draw (n0 + 1)) pk2 tok2, true, a.threshold, true⟩ ::
            (b.log.map flagged).map flagged) ∧
      full.wire.flatten =
        (s0.log.map (frameOfSent P.z P.ids)).flatten ++
          frame P.z s0.threshold (payloadOf P.ids (replyOf P (P.rng.draw n0) pk1 tok1)) ++
          (cfb8Enc (aes128 (P.rng.draw n0)) (P.rng.draw n0)
            ((a.log.map (frameOfSent P.z P.ids)).flatten ++
              frame P.z a.threshold (payloadOf P.ids (replyOf P (P.rng.draw (n0 + 1)) pk2 tok2)) ++
              (cfb8Enc (aes128 (P.rng.draw (n0 + 1))) (P.rng.draw (n0 + 1))
                (b.log.map (frameOfSent P.z P.ids)).flatten).2)).2 := by
  have hb0 : Bare P s0 :=
    hs0 ▸ Bare.exec genUrandom KChan.create (bare_init P n0) pre fun e he => (hpre e he).2
  have al0 : s0.alive = true :=
    hs0 ▸ execK_alive P _ pre (init_alive n0) fun e he => (hpre e he).1
  have n0eq : s0.nDraws = n0 :=
    hs0 ▸ nDraws_noreq genUrandom KChan.create P _ pre fun e he => (hpre e he).2
  rw [hfull, execK_mid P _ pre _ _ (init_alive n0) fun e he => (hpre e he).1, ← hs0]
  obtain ⟨ala, hba, nda, W, L⟩ := first_request_aux P _ al0 hb0 sid1 pk1 tok1
    (mid ++ .recv (.encRequest sid2 pk2 tok2) :: post) _ _ (congrArg _ n0eq).symm rfl
  rw [n0eq] at nda
  rw [execK_mid P _ mid post _ ala fun e he => (hmid e he).1, ← ha] at W L
  have hbm : Bare P a := ha ▸ Bare.exec genUrandom KChan.create hba mid fun e he => (hmid e he).2
  have alm : a.alive = true := ha ▸ execK_alive P _ mid ala fun e he => (hmid e he).1
  have ndm : a.nDraws = n0 + 1 := by
    rw [ha, nDraws_noreq genUrandom KChan.create P _ mid fun e he => (hmid e he).2, nda]
  obtain ⟨-, hbb, -, W2, L2⟩ := first_request_aux P _ alm hbm sid2 pk2 tok2 post _ _
    (congrArg _ ndm).symm rfl
  rw [← hb] at W2 L2
  have hin : Bare P b := hb ▸ Bare.exec genUrandom KChan.create hbb post hpost
  refine ⟨hb0.2.2, ?_, ?_⟩
  · rw [L, L2]
    simp only [List.map_append, List.map_cons, flagged]
  · rw [W, W2, hin.2.1]

/-- The bytes the real socket gets are the single-cipher wire of `Model/LoginWire.lean` for the
same log exactly when the second cipher returns the frames written after it unchanged: both wires
are the first cipher's stream over the same prefix, and `cfb8Enc` is injective. -/
theorem two_requests_single_iff :
    full.wire.flatten = wireBytes P.z (aes128 (P.rng.draw n0)) (P.rng.draw n0) P.ids full.log ↔
      (cfb8Enc (aes128 (P.rng.draw (n0 + 1))) (P.rng.draw (n0 + 1))
          (b.log.map (frameOfSent P.z P.ids)).flatten).2 =
        (b.log.map (frameOfSent P.z P.ids)).flatten := by
  obtain ⟨hpl, hlog, hwire⟩ := two_requests_aux P n0 pre mid post sid1 pk1 tok1 sid2 pk2 tok2
    hpre hmid hpost s0 a b full hs0 ha hb hfull
  have hplain : ∀ f ∈ s0.log ++
      [(⟨replyOf P (P.rng.draw n0) pk1 tok1, false, s0.threshold, true⟩ : Sent)],
      f.encrypted = false :=
    List.forall_mem_append.mpr ⟨hpl, by simp⟩
  have henc : ∀ f ∈ a.log.map flagged ++
      (⟨replyOf P (P.rng.draw (n0 + 1)) pk2 tok2, true, a.threshold, true⟩ : Sent) ::
        (b.log.map flagged).map flagged, f.encrypted = true :=
    List.forall_mem_append.mpr ⟨flagged_all _, List.forall_mem_cons.mpr ⟨rfl, flagged_all _⟩⟩
  rw [hwire, hlog, wireBytes, wireChunks, ← List.singleton_append, ← List.append_assoc,
    wireGo_plain_append _ _ _ _ _ _ hplain, wireGo_enc _ _ _ _ _ henc]
  simp only [List.map_append, List.map_cons, List.map_nil, List.flatten_append, List.flatten_cons,
    List.flatten_nil, List.append_nil, map_frames_flagged, List.append_assoc, frameOfSent,
    List.append_cancel_left_eq]
  constructor
  · intro h
    have := cfb8Enc_injective _ _ _ _ h
    simpa only [List.append_cancel_left_eq] using this
  · intro h
    rw [h]

end two_requests

/-- The reactor as it is never ends with the `ValueError` of `create_AES_cipher`. -/
theorem err_not_cipher (P : KeyParams) (s : KState) (steps : List Step)
    (h : ∀ e, s.err ≠ some (.cipher e)) : ∀ e, (execK P s steps).err ≠ some (.cipher e) := by
  refine execWith_induction genUrandom KChan.create P (I := fun s => ∀ e, s.err ≠ some (.cipher e))
    steps (fun s h => ?_) (fun s e _ _ h => ?_) h
  · rw [(flushQueue_same P s).err]; exact h
  · cases e with
    | encRequest sid pk tok =>
      show ∀ e, (reactK P s (.encRequest sid pk tok)).err ≠ _
      rw [reactK_encRequest]; exact h
    | setCompression t => exact h
    | pluginRequest i c d => exact h
    | success => exact h
    | disconnect j => intro e he; cases he

theorem keys_at (f : Nat → Bytes) (n0 k : Nat) (l later : List Bytes)
    (h : l = (List.range' n0 (k + 1)).map f ++ later) : l[k]? = some (f (n0 + k)) := by
  rw [h, ← range'_map_snoc, List.append_assoc]
  rw [List.getElem?_append_right (by simp)]
  simp

theorem nodup_draws (f : Nat → Bytes) (n0 k : Nat)
    (hinj : ∀ i j, i < k → j < k → f (n0 + i) = f (n0 + j) → i = j) :
    ((List.range' n0 k).map f).Nodup := by
  refine nodup_map_on f _ (fun a ha b hb e => ?_) List.nodup_range'
  rw [List.mem_range'_1] at ha hb
  have := hinj (a - n0) (b - n0) (by omega) (by omega)
    (by rwa [Nat.add_sub_cancel' ha.1, Nat.add_sub_cancel' hb.1])
  omega

/-- Every installed key is a value the secret generator returned (cipher constructor as it is). -/
theorem keys_from_gen (gen : SecretGen) (P : KeyParams) (p : Bytes → Prop)
    (hgen : ∀ n, p (gen P.rng n).1) (s : KState) (steps : List Step) (hs : ∀ k ∈ s.keys, p k) :
    ∀ k ∈ (execWith gen KChan.create P s steps).keys, p k := by
  refine execWith_induction gen KChan.create P (I := fun s => ∀ k ∈ s.keys, p k) steps
    (fun s hs => ?_) (fun s e _ _ hs => ?_) hs
  · rw [keys_flush]; exact hs
  · cases e with
    | encRequest sid pk tok =>
      rw [reactWith_encRequest]
      have hk : (replied gen P s sid pk tok).keys = s.keys := keys_writeNow P _ _ true
      split
      · exact fun k hk' => hs k (hk ▸ hk')
      · rename_i c hc
        intro k hk'
        have hk' : k ∈ (replied gen P s sid pk tok).keys ++ [c.key] := by
          simpa [KState.keys] using hk'
        rcases List.mem_append.mp hk' with hk' | hk'
        · exact hs k (hk ▸ hk')
        · rw [List.mem_singleton.mp hk', (create_ok_inv _ _ hc).2]
          exact hgen _
    | setCompression t => exact hs
    | pluginRequest i c d => exact hs
    | success => exact hs
    | disconnect j => exact hs

theorem logins_keys_from_gen (gen : SecretGen) (P : KeyParams) (p : Bytes → Prop)
    (hgen : ∀ n, p (gen P.rng n).1) (n : Nat) (runs : List (Nat × List Step)) :
    ∀ k ∈ (loginsWith gen KChan.create P n runs).flatMap KState.keys, p k := by
  induction runs generalizing n with
  | nil => intro k hk; cases hk
  | cons r rest ih =>
    obtain ⟨gap, steps⟩ := r
    intro k hk
    simp only [loginsWith, List.flatMap_cons, List.mem_append] at hk
    rcases hk with hk | hk
    · exact keys_from_gen gen P p hgen (.init (n + gap)) steps (by intro k hk; cases hk) k hk
    · exact ih _ k hk

/-! ## agreement with `Model/Login.lean` while at most one request has been reached -/

theorem writeAll_log (P : KeyParams) (s : KState) (ps : List ClientPkt) :
    (writeAll P s ps).log =
        s.log ++ ps.map (fun p => (⟨p, !s.layers.isEmpty, s.threshold, false⟩ : Sent)) ∧
      (writeAll P s ps).layers.isEmpty = s.layers.isEmpty := by
  induction ps generalizing s with
  | nil => simp [writeAll]
  | cons p ps ih =>
    obtain ⟨i1, i2⟩ := ih (s.writeNow P p false)
    rw [writeAll_cons, i1, i2]
    have hl : (s.writeNow P p false).layers.isEmpty = s.layers.isEmpty := by
      simp only [KState.writeNow]; exact updates_stackSend_isEmpty _ _
    refine ⟨?_, hl⟩
    rw [hl]
    simp [KState.writeNow]

/-- What the login model's reaction to an encryption request leaves alone, and its `join`. -/
theorem react_encRequest_rest (P : LoginParams) (s : ClientState) (sid : String) (pk tok : Bytes) :
    (react P s (.encRequest sid pk tok)).threshold = s.threshold ∧
      (react P s (.encRequest sid pk tok)).reactor = s.reactor ∧
      (react P s (.encRequest sid pk tok)).err = s.err ∧
      (react P s (.encRequest sid pk tok)).joins =
        s.joins ++ if sid ≠ "-" ∧ P.hasToken = true then [P.hash sid P.secret pk] else [] := by
  by_cases h1 : sid = "-" <;> by_cases h2 : P.hasToken = true <;>
    simp [react, ClientState.writeNow, h1, h2]

/-- The login model's state `cs` and this model's state `ks` agree on everything the login model
has. -/
structure Sim (cs : ClientState) (ks : KState) : Prop where
  log : ks.log = cs.outbox
  threshold : ks.threshold = cs.threshold
  reactor : ks.reactor = cs.reactor
  queue : ks.queue = cs.queue
  joins : ks.joins = cs.joins
  err : ks.err = cs.err.map KErr.login
  enc : cs.encrypted = !ks.layers.isEmpty

/-- Agreement as long as no second draw has been made. -/
def SimInv (n0 : Nat) (cs : ClientState) (ks : KState) : Prop :=
  n0 ≤ ks.nDraws ∧ (ks.nDraws ≤ n0 + 1 → Sim cs ks)

theorem Sim.errSome {cs : ClientState} {ks : KState} (h : Sim cs ks) :
    ks.err.isSome = cs.err.isSome := by
  rw [h.err]; cases cs.err <;> rfl

theorem nDraws_stepK (P : KeyParams) (s : KState) (a : Step) :
    s.nDraws ≤ (stepK P s a).nDraws := by
  cases a with
  | flush =>
    simp only [stepWith]; split
    · exact Nat.le_refl _
    · rw [(flushQueue_same P s).nDraws]; exact Nat.le_refl _
  | recv e =>
    simp only [stepWith]; split
    · exact Nat.le_refl _
    · cases e with
      | encRequest sid pk tok =>
        show s.nDraws ≤ (reactK P s (.encRequest sid pk tok)).nDraws
        rw [reactK_encRequest]; exact Nat.le_succ _
      | setCompression t => exact Nat.le_refl _
      | pluginRequest i c d => exact Nat.le_refl _
      | success => exact Nat.le_refl _
      | disconnect j => exact Nat.le_refl _

theorem SimInv.step (P : KeyParams) (n0 : Nat) {cs : ClientState} {ks : KState}
    (h : SimInv n0 cs ks) (a : Step) :
    SimInv n0 (step (P.login (P.rng.draw n0)) cs a) (stepK P ks a) := by
  obtain ⟨hge, hsim⟩ := h
  have hmono := nDraws_stepK P ks a
  refine ⟨Nat.le_trans hge hmono, fun hle => ?_⟩
  have hs := hsim (Nat.le_trans hmono hle)
  cases a with
  | flush =>
    simp only [stepWith, Login.step, hs.errSome]
    split
    · exact hs
    · obtain ⟨l1, l2⟩ := writeAll_log P ks ks.queue
      have f := flushQueue_same P ks
      refine ⟨?_, f.threshold.trans hs.threshold, f.reactor.trans hs.reactor, rfl,
        f.joins.trans hs.joins, f.err.trans hs.err, ?_⟩
      · show (writeAll P ks ks.queue).log = _
        rw [l1, hs.log, hs.queue, hs.threshold, ← hs.enc]; rfl
      · show cs.encrypted = !(writeAll P ks ks.queue).layers.isEmpty
        rw [l2]; exact hs.enc
  | recv e =>
    simp only [stepWith, Login.step, hs.errSome, hs.reactor]
    split
    · exact hs
    · cases e with
      | setCompression t => exact { hs with threshold := rfl }
      | success => exact { hs with reactor := rfl }
      | disconnect j => exact { hs with err := rfl }
      | pluginRequest i c d =>
        refine { hs with queue := ?_ }
        show ks.queue ++ [pluginReply P.base i c d] = cs.queue ++ [pluginReply _ i c d]
        rw [hs.queue]; rfl
      | encRequest sid pk tok =>
        rename_i hguard
        have hk : ¬ (ks.err.isSome || ks.reactor == Reactor.play) = true := by
          rw [hs.errSome, hs.reactor]; exact hguard
        have hstep : stepK P ks (.recv (.encRequest sid pk tok)) =
            reactK P ks (.encRequest sid pk tok) := by
          simp only [stepWith]; rw [if_neg hk]
        have hle' : (reactK P ks (.encRequest sid pk tok)).nDraws ≤ n0 + 1 := by
          rw [← hstep]; exact hle
        show Sim _ (reactK P ks (.encRequest sid pk tok))
        rw [reactK_encRequest] at hle' ⊢
        have hn : ks.nDraws = n0 := by
          have : ks.nDraws + 1 ≤ n0 + 1 := hle'
          omega
        obtain ⟨o1, o2⟩ := react_encRequest (P.login (P.rng.draw n0)) cs sid pk tok
        obtain ⟨r1, r2, r3, r4⟩ := react_encRequest_rest (P.login (P.rng.draw n0)) cs sid pk tok
        refine ⟨?_, hs.threshold.trans r1.symm, hs.reactor.trans r2.symm, ?_, ?_,
          hs.err.trans (congrArg _ r3.symm), ?_⟩
        · show ks.log ++ _ = _
          rw [o1, hs.log, hs.threshold, ← hs.enc, hn]; rfl
        · show ks.queue = _
          rw [hs.queue, react_encRequest_queue]
        · show ks.joins ++ joinOf P (P.rng.draw ks.nDraws) sid pk = _
          rw [r4, hs.joins, hn]; rfl
        · rw [o2]; rfl

theorem SimInv.exec (P : KeyParams) (n0 : Nat) {cs : ClientState} {ks : KState}
    (h : SimInv n0 cs ks) (steps : List Step) :
    SimInv n0 (exec (P.login (P.rng.draw n0)) cs steps) (execK P ks steps) := by
  induction steps generalizing cs ks with
  | nil => exact h
  | cons a r ih =>
    show SimInv n0 _ (execWith genUrandom KChan.create P ks (a :: r))
    rw [exec_cons, execWith_cons]
    exact ih (h.step P n0 a)


/-- Agreement of the two models after a run that reaches at most one request. -/
theorem sim_execK (P : KeyParams) (n0 : Nat) (steps : List Step)
    (h1 : (reqs (processed (events steps))).length ≤ 1) :
    Sim (exec (P.login (P.rng.draw n0)) .init steps) (execK P (.init n0) steps) :=
  (SimInv.exec P n0 (cs := .init) (ks := .init n0)
    ⟨Nat.le_refl _, fun _ => ⟨rfl, rfl, rfl, rfl, rfl, rfl, rfl⟩⟩ steps).2
    (by rw [(keys_execK P n0 steps).1]; omega)

/-! ### specifications as predicates on the two parameters of `reactWith` (for the refutations) -/

/-- What `C18Keys.pycraft_channel` says, as a predicate on the cipher constructor and the run
function of the wrappers. -/
def ChannelSpec (mk : Bytes → Except Err KChan) (run : KChan → List Op → List Bytes) : Prop :=
  ∀ secret c ops, mk secret = .ok c →
    (outsOf Op.isSend ops (run c ops)).flatten =
        (cfb8Enc (aes128 secret) secret (ops.flatMap Op.sent)).2 ∧
      (outsOf Op.isRecv ops (run c ops)).flatten =
        (cfb8Dec (aes128 secret) secret (ops.flatMap Op.rcvd)).2

/-- What `C18Keys.logins_use_disjoint_draws` says, as a predicate on the secret generator. -/
def FreshSpec (gen : SecretGen) : Prop :=
  ∀ (P : KeyParams) (n : Nat) (runs : List (Nat × List Step)),
    (loginsWith gen KChan.create P n runs).flatMap KState.keys =
      (drawIdxs n (runs.map fun r => (r.1, (reqs (processed (events r.2))).length))).map
        P.rng.draw

/-! ### concrete parameters for examples and refutations -/

/-- An oracle whose `n`-th draw is sixteen times the byte `n + 1`. -/
def demoRng : Urandom :=
  { draw := fun n => List.replicate 16 (UInt8.ofNat (n + 1)), len16 := fun _ => by simp }

/-- `Login.demoParams` (RSA = "prefix the key's first byte"), store-only zlib, ids 1/2. -/
def demoKP : KeyParams :=
  { base := demoParams, rng := demoRng, z := Zlib.ident.toZlibOps, ids := demoIds }

/-- One login: a request under key `[7, 8]` with token `[9]`, then a plugin request, then
success. -/
def demoLogin : List Step :=
  schedule 1 [.encRequest "srv" [7, 8] [9], .pluginRequest 5 "ch" [1], .success]

/-- Two requests in one login, a plugin request after each. -/
def demoTwice : List Step :=
  schedule 1 [.encRequest "srv" [7, 8] [9], .pluginRequest 5 "ch" [1],
    .encRequest "-" [3, 4] [6], .pluginRequest 6 "ch" [], .success]

/-! ### the generated table (`Generated/C18Keys.lean`) in the model's vocabulary -/

def opOf (c : Nat × Bytes × Bytes) : Op :=
  if c.1 = 0 then .send c.2.1 else if c.1 = 1 then .recv c.2.1 else .read c.2.1

/-- The draw index of a row that made exactly one call. -/
def rowIdx (draws : List (Nat × Nat)) : Nat := (draws.headD (0, 0)).1

end PyCraft.Keys
