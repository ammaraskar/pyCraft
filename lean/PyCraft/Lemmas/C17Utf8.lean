import PyCraft.Model.C17Utf8
import PyCraft.Lemmas.McHash
import PyCraft.Lemmas.Login
import PyCraft.Lemmas.Basic
/-!
Definitions and lemmas for `Props/C17Utf8.lean`.

* `utf8RefCp` / `utf8Ref` — an encoder written from the table of RFC 3629 §3 (arithmetic on the
  character number, no shifts or masks), `utf8DecodeRef` — a decoder written from the grammar of
  RFC 3629 §4 (shortest form only, no surrogates, nothing above U+10FFFF), `IsScalar`;
* Lean's `String.toUTF8`, the CPython mirror `pyUtf8Encode` and the reference agree;
  the decoder inverts the reference encoder;
* `ByteArray.toList` is the list of the bytes (core has no lemma about its loop);
* `C17Pad`: the facts about `Sha1.pad` (FIPS 180-4 §5.1.1);
* `expectedJoinReal`: what `auth_token.join` must receive, spelled with `mcHash`.
-/
namespace PyCraft.Utf8
open PyCraft

/-- The table of RFC 3629 §3, read as arithmetic on the character number `c`:
```
0000 0000-0000 007F | 0xxxxxxx
0000 0080-0000 07FF | 110xxxxx 10xxxxxx
0000 0800-0000 FFFF | 1110xxxx 10xxxxxx 10xxxxxx
0001 0000-0010 FFFF | 11110xxx 10xxxxxx 10xxxxxx 10xxxxxx
```
"fill in the bits marked x from the bits of the character number, putting the lowest-order bit in
the rightmost position of the last octet": the last octet carries `c % 2^6`, the one before
`c / 2^6 % 2^6`, …, the first one what is left. -/
def utf8RefCp (c : Nat) : Bytes :=
  if c < 2 ^ 7 then [UInt8.ofNat c]
  else if c < 2 ^ 11 then [UInt8.ofNat (0b11000000 + c / 2 ^ 6), UInt8.ofNat (0b10000000 + c % 2 ^ 6)]
  else if c < 2 ^ 16 then
    [UInt8.ofNat (0b11100000 + c / 2 ^ 12), UInt8.ofNat (0b10000000 + c / 2 ^ 6 % 2 ^ 6),
     UInt8.ofNat (0b10000000 + c % 2 ^ 6)]
  else
    [UInt8.ofNat (0b11110000 + c / 2 ^ 18), UInt8.ofNat (0b10000000 + c / 2 ^ 12 % 2 ^ 6),
     UInt8.ofNat (0b10000000 + c / 2 ^ 6 % 2 ^ 6), UInt8.ofNat (0b10000000 + c % 2 ^ 6)]

/-- The reference encoding of a character. -/
def utf8Ref (c : Char) : Bytes := utf8RefCp c.toNat

/-- Unicode scalar value: a code point `≤ 0x10FFFF` that is not a surrogate (RFC 3629 §3: "the
definition of UTF-8 prohibits encoding character numbers between U+D800 and U+DFFF"). -/
def IsScalar (c : Nat) : Prop := c < 0xD800 ∨ (0xDFFF < c ∧ c < 0x110000)
instance (c : Nat) : Decidable (IsScalar c) := by unfold IsScalar; infer_instance

theorem char_scalar (c : Char) : IsScalar c.toNat := c.valid

theorem byteArray_size_eq (bs : ByteArray) : bs.size = bs.data.toList.length := by
  cases bs; rfl

theorem byteArray_get!_eq (bs : ByteArray) (i : Nat) (h : i < bs.data.toList.length) :
    bs.get! i = bs.data.toList[i] := by
  cases bs with | mk d =>
  show d[i]! = d.toList[i]
  have h' : i < d.size := by simpa using h
  rw [getElem!_pos d i h']
  simp

theorem toList_loop (bs : ByteArray) : ∀ (k i : Nat) (r : List UInt8), bs.size - i = k →
    ByteArray.toList.loop bs i r = r.reverse ++ bs.data.toList.drop i := by
  intro k
  induction k with
  | zero =>
    intro i r h
    rw [ByteArray.toList.loop.eq_1]
    have : ¬ i < bs.size := by omega
    rw [if_neg this]
    have : bs.data.toList.length ≤ i := by
      rw [← byteArray_size_eq]
      omega
    rw [List.drop_eq_nil_of_le this, List.append_nil]
  | succ k ih =>
    intro i r h
    rw [ByteArray.toList.loop.eq_1]
    have hi : i < bs.size := by omega
    rw [if_pos hi, ih (i + 1) _ (by omega)]
    have hl : i < bs.data.toList.length := by
      rw [← byteArray_size_eq]
      exact hi
    rw [List.drop_eq_getElem_cons hl, byteArray_get!_eq bs i hl, List.reverse_cons,
      List.append_assoc]
    rfl

theorem byteArray_toList (bs : ByteArray) : bs.toList = bs.data.toList := by
  unfold ByteArray.toList
  rw [toList_loop bs _ 0 [] rfl]; rfl

theorem toUTF8_toList (s : String) :
    s.toUTF8.toList = s.toList.flatMap String.utf8EncodeChar := by
  rw [byteArray_toList]; exact utf8_bytes s

/-- Lean's encoder (division and remainder by 64, 4096, 262144) against the table. -/
theorem utf8EncodeChar_eq_ref (c : Char) : String.utf8EncodeChar c = utf8Ref c := by
  have hs := char_scalar c
  unfold IsScalar at hs
  unfold String.utf8EncodeChar utf8Ref utf8RefCp Char.toNat at *
  simp only []
  generalize c.val.toNat = v at hs ⊢
  by_cases h1 : v ≤ 127
  · rw [if_pos h1, if_pos (show v < 2 ^ 7 by omega)]
  · rw [if_neg h1, if_neg (show ¬ v < 2 ^ 7 by omega)]
    by_cases h2 : v ≤ 2047
    · rw [if_pos h2, if_pos (show v < 2 ^ 11 by omega)]
      have e1 : v / 64 % 32 + 192 = 0b11000000 + v / 2 ^ 6 := by omega
      have e2 : v % 64 + 128 = 0b10000000 + v % 2 ^ 6 := by omega
      rw [e1, e2]
    · rw [if_neg h2, if_neg (show ¬ v < 2 ^ 11 by omega)]
      have e2 : v % 64 + 128 = 0b10000000 + v % 2 ^ 6 := by omega
      have e3 : v / 64 % 64 + 128 = 0b10000000 + v / 2 ^ 6 % 2 ^ 6 := by omega
      by_cases h3 : v ≤ 65535
      · rw [if_pos h3, if_pos (show v < 2 ^ 16 by omega)]
        have e1 : v / 4096 % 16 + 224 = 0b11100000 + v / 2 ^ 12 := by omega
        rw [e1, e2, e3]
      · rw [if_neg h3, if_neg (show ¬ v < 2 ^ 16 by omega)]
        have e1 : v / 262144 % 8 + 240 = 0b11110000 + v / 2 ^ 18 := by omega
        have e4 : v / 4096 % 64 + 128 = 0b10000000 + v / 2 ^ 12 % 2 ^ 6 := by omega
        rw [e1, e2, e3, e4]

/-! ### The CPython mirror against the reference -/

/-! A lead or tail marker is a multiple of the power of two that bounds the digit it is OR-ed with,
so `|||` is `+` (`Nat.two_pow_add_eq_or_of_lt`). -/
theorem or_c0 (x : Nat) (h : x < 32) : 0xc0 ||| x = 0b11000000 + x :=
  (Nat.two_pow_add_eq_or_of_lt (i := 5) h 6).symm
theorem or_80 (x : Nat) (h : x < 64) : 0x80 ||| x = 0b10000000 + x :=
  (Nat.two_pow_add_eq_or_of_lt (i := 6) h 2).symm
theorem or_e0 (x : Nat) (h : x < 16) : 0xe0 ||| x = 0b11100000 + x :=
  (Nat.two_pow_add_eq_or_of_lt (i := 4) h 14).symm
theorem or_f0 (x : Nat) (h : x < 8) : 0xf0 ||| x = 0b11110000 + x :=
  (Nat.two_pow_add_eq_or_of_lt (i := 3) h 30).symm

theorem and_3f (x : Nat) : x &&& 0x3f = x % 2 ^ 6 :=
  Nat.and_two_pow_sub_one_eq_mod x 6

theorem pyUtf8EncodeCp_scalar (c : Nat) (h : IsScalar c) : pyUtf8EncodeCp c = .ok (utf8RefCp c) := by
  unfold IsScalar at h
  unfold pyUtf8EncodeCp utf8RefCp byte
  simp only [and_3f, Nat.shiftRight_eq_div_pow]
  by_cases h1 : c < 0x80
  · rw [if_pos h1, if_pos (show c < 2 ^ 7 by omega)]
  · rw [if_neg h1, if_neg (show ¬ c < 2 ^ 7 by omega)]
    by_cases h2 : c < 0x800
    · rw [if_pos h2, if_pos (show c < 2 ^ 11 by omega),
        or_c0 _ (show c / 2 ^ 6 < 32 by omega), or_80 _ (show c % 2 ^ 6 < 64 by omega)]
    · rw [if_neg h2, if_neg (show ¬ c < 2 ^ 11 by omega)]
      have hns : isSurrogate c = false := by
        unfold isSurrogate
        rcases h with h | h
        · have : ¬ 0xD800 ≤ c := by omega
          simp [this]
        · have : ¬ c ≤ 0xDFFF := by omega
          simp [this]
      rw [hns, if_neg (by simp)]
      by_cases h3 : c < 0x10000
      · rw [if_pos h3, if_pos (show c < 2 ^ 16 by omega),
          or_e0 _ (show c / 2 ^ 12 < 16 by omega), or_80 _ (show c / 2 ^ 6 % 2 ^ 6 < 64 by omega),
          or_80 _ (show c % 2 ^ 6 < 64 by omega)]
      · rw [if_neg h3, if_neg (show ¬ c < 2 ^ 16 by omega), if_pos (show c ≤ 0x10FFFF by omega),
          or_f0 _ (show c / 2 ^ 18 < 8 by omega), or_80 _ (show c / 2 ^ 12 % 2 ^ 6 < 64 by omega),
          or_80 _ (show c / 2 ^ 6 % 2 ^ 6 < 64 by omega), or_80 _ (show c % 2 ^ 6 < 64 by omega)]

theorem pyUtf8EncodeCp_not_scalar (c : Nat) (h : ¬ IsScalar c) : pyUtf8EncodeCp c = .error .value := by
  unfold IsScalar at h
  unfold pyUtf8EncodeCp
  rw [if_neg (show ¬ c < 0x80 by omega), if_neg (show ¬ c < 0x800 by omega)]
  by_cases hs : isSurrogate c = true
  · rw [if_pos hs]
  · rw [if_neg hs]
    have : ¬ c ≤ 0xDFFF := by
      intro hc; apply hs; unfold isSurrogate
      have : 0xD800 ≤ c := by omega
      simp [this, hc]
    rw [if_neg (show ¬ c < 0x10000 by omega), if_neg (show ¬ c ≤ 0x10FFFF by omega)]

theorem pyUtf8Encode_cons (c : Nat) (rest : List Nat) :
    pyUtf8Encode (c :: rest) =
      (match pyUtf8EncodeCp c with
       | .error e => .error e
       | .ok b => match pyUtf8Encode rest with
         | .error e => .error e
         | .ok bs => .ok (b ++ bs)) := by
  rw [pyUtf8Encode]
  cases pyUtf8EncodeCp c <;> cases pyUtf8Encode rest <;> rfl

theorem pyUtf8Encode_scalars (cps : List Nat) (h : ∀ c ∈ cps, IsScalar c) :
    pyUtf8Encode cps = .ok (cps.flatMap utf8RefCp) := by
  induction cps with
  | nil => rfl
  | cons c rest ih =>
    rw [pyUtf8Encode_cons, pyUtf8EncodeCp_scalar c (h c (by simp)),
      ih (fun c hc => h c (by simp [hc]))]
    rfl

theorem pyUtf8Encode_bad (cps : List Nat) (h : ∃ c ∈ cps, ¬ IsScalar c) :
    pyUtf8Encode cps = .error .value := by
  induction cps with
  | nil => simp at h
  | cons c rest ih =>
    rw [pyUtf8Encode_cons]
    by_cases hc : IsScalar c
    · have hr : ∃ c ∈ rest, ¬ IsScalar c := by
        obtain ⟨d, hd, hn⟩ := h
        rcases List.mem_cons.1 hd with rfl | hd
        · exact absurd hc hn
        · exact ⟨d, hd, hn⟩
      rw [pyUtf8EncodeCp_scalar c hc, ih hr]
    · rw [pyUtf8EncodeCp_not_scalar c hc]

/-! ### Reference decoder (RFC 3629 §4) -/

/-- `UTF8-tail = %x80-BF`. -/
def isTail (b : UInt8) : Bool := 0x80 ≤ b.toNat && b.toNat ≤ 0xBF

/-- Strict decoder written from the grammar of RFC 3629 §4
```
UTF8-1 = %x00-7F
UTF8-2 = %xC2-DF UTF8-tail
UTF8-3 = %xE0 %xA0-BF UTF8-tail / %xE1-EC 2( UTF8-tail ) / %xED %x80-9F UTF8-tail / %xEE-EF 2( UTF8-tail )
UTF8-4 = %xF0 %x90-BF 2( UTF8-tail ) / %xF1-F3 3( UTF8-tail ) / %xF4 %x80-8F 2( UTF8-tail )
```
stated through the decoded value `v`: the lead octet fixes the length, every further octet is a tail,
and `v` must need that length (`0x80 ≤ v`, `0x800 ≤ v`, `0x10000 ≤ v`: no overlong forms), must not be
a surrogate and must not exceed `0x10FFFF`.  `none` = not well-formed UTF-8.  (Written from the RFC
on purpose: `Model/Wire.lean`'s `utf8Decode` is Lean's `String.fromUTF8?`, the library whose encoder
`sid_utf8` is about, so it cannot serve as the independent reader.) -/
def utf8DecodeRef : Bytes → Option (List Nat)
  | [] => some []
  | b0 :: rest =>
    if b0.toNat < 0x80 then (utf8DecodeRef rest).map (b0.toNat :: ·)
    else if b0.toNat < 0xC0 then none
    else if b0.toNat < 0xE0 then
      match rest with
      | b1 :: rest1 =>
        let v := (b0.toNat - 0xC0) * 2 ^ 6 + (b1.toNat - 0x80)
        if isTail b1 ∧ 0x80 ≤ v then (utf8DecodeRef rest1).map (v :: ·) else none
      | _ => none
    else if b0.toNat < 0xF0 then
      match rest with
      | b1 :: b2 :: rest2 =>
        let v := (b0.toNat - 0xE0) * 2 ^ 12 + (b1.toNat - 0x80) * 2 ^ 6 + (b2.toNat - 0x80)
        if isTail b1 ∧ isTail b2 ∧ 0x800 ≤ v ∧ ¬ (0xD800 ≤ v ∧ v ≤ 0xDFFF) then
          (utf8DecodeRef rest2).map (v :: ·)
        else none
      | _ => none
    else if b0.toNat < 0xF8 then
      match rest with
      | b1 :: b2 :: b3 :: rest3 =>
        let v := (b0.toNat - 0xF0) * 2 ^ 18 + (b1.toNat - 0x80) * 2 ^ 12 + (b2.toNat - 0x80) * 2 ^ 6
          + (b3.toNat - 0x80)
        if isTail b1 ∧ isTail b2 ∧ isTail b3 ∧ 0x10000 ≤ v ∧ v ≤ 0x10FFFF then
          (utf8DecodeRef rest3).map (v :: ·)
        else none
      | _ => none
    else none

theorem isTail_of_toNat (b : UInt8) (x : Nat) (e : b.toNat = 0x80 + x) (h : x < 64) :
    isTail b = true := by
  have h1 : 0x80 ≤ b.toNat := by omega
  have h2 : b.toNat ≤ 0xBF := by omega
  simp [isTail, h1, h2]

/-! The four productions of the grammar, over arbitrary octets: a lead octet of the class carrying
the digit `x0`, tails carrying six-bit digits, and a value in the range of the class. -/

theorem decode_1 (b : UInt8) (rest : Bytes) (h : b.toNat < 0x80) :
    utf8DecodeRef (b :: rest) = (utf8DecodeRef rest).map (b.toNat :: ·) := by
  rw [utf8DecodeRef.eq_def]
  simp only [if_pos h]

theorem decode_2 (b0 b1 : UInt8) (rest : Bytes) (x0 x1 : Nat) (e0 : b0.toNat = 0xC0 + x0)
    (e1 : b1.toNat = 0x80 + x1) (h0 : x0 < 32) (h1 : x1 < 64) (lo : 0x80 ≤ x0 * 2 ^ 6 + x1) :
    utf8DecodeRef (b0 :: b1 :: rest) = (utf8DecodeRef rest).map ((x0 * 2 ^ 6 + x1) :: ·) := by
  rw [utf8DecodeRef, if_neg (by omega), if_neg (by omega), if_pos (by omega)]
  simp only [isTail_of_toNat b1 x1 e1 h1, e0, e1, Nat.add_sub_cancel_left, lo, and_self, if_true]

theorem decode_3 (b0 b1 b2 : UInt8) (rest : Bytes) (x0 x1 x2 : Nat) (e0 : b0.toNat = 0xE0 + x0)
    (e1 : b1.toNat = 0x80 + x1) (e2 : b2.toNat = 0x80 + x2) (h0 : x0 < 16) (h1 : x1 < 64)
    (h2 : x2 < 64) (lo : 0x800 ≤ x0 * 2 ^ 12 + x1 * 2 ^ 6 + x2)
    (hs : ¬ (0xD800 ≤ x0 * 2 ^ 12 + x1 * 2 ^ 6 + x2 ∧ x0 * 2 ^ 12 + x1 * 2 ^ 6 + x2 ≤ 0xDFFF)) :
    utf8DecodeRef (b0 :: b1 :: b2 :: rest) =
      (utf8DecodeRef rest).map ((x0 * 2 ^ 12 + x1 * 2 ^ 6 + x2) :: ·) := by
  rw [utf8DecodeRef, if_neg (by omega), if_neg (by omega), if_neg (by omega), if_pos (by omega)]
  simp only [isTail_of_toNat b1 x1 e1 h1, isTail_of_toNat b2 x2 e2 h2, e0, e1, e2,
    Nat.add_sub_cancel_left, lo, hs, not_false_eq_true, and_self, if_true]

theorem decode_4 (b0 b1 b2 b3 : UInt8) (rest : Bytes) (x0 x1 x2 x3 : Nat)
    (e0 : b0.toNat = 0xF0 + x0) (e1 : b1.toNat = 0x80 + x1) (e2 : b2.toNat = 0x80 + x2)
    (e3 : b3.toNat = 0x80 + x3) (h0 : x0 < 8) (h1 : x1 < 64) (h2 : x2 < 64) (h3 : x3 < 64)
    (lo : 0x10000 ≤ x0 * 2 ^ 18 + x1 * 2 ^ 12 + x2 * 2 ^ 6 + x3)
    (hi : x0 * 2 ^ 18 + x1 * 2 ^ 12 + x2 * 2 ^ 6 + x3 ≤ 0x10FFFF) :
    utf8DecodeRef (b0 :: b1 :: b2 :: b3 :: rest) =
      (utf8DecodeRef rest).map ((x0 * 2 ^ 18 + x1 * 2 ^ 12 + x2 * 2 ^ 6 + x3) :: ·) := by
  rw [utf8DecodeRef, if_neg (by omega), if_neg (by omega), if_neg (by omega), if_neg (by omega),
    if_pos (by omega)]
  simp only [isTail_of_toNat b1 x1 e1 h1, isTail_of_toNat b2 x2 e2 h2, isTail_of_toNat b3 x3 e3 h3,
    e0, e1, e2, e3, Nat.add_sub_cancel_left, lo, hi, and_self, if_true]

/-! ### Whole strings -/

theorem utf8RefCp_length (c : Nat) :
    (utf8RefCp c).length = if c < 2 ^ 7 then 1 else if c < 2 ^ 11 then 2 else if c < 2 ^ 16 then 3 else 4 := by
  unfold utf8RefCp
  split
  · rfl
  · split
    · rfl
    · split <;> rfl

/-- The decoder reads the reference encoding of a scalar value back: in each length class the
octets of `utf8RefCp` are a lead and tails whose digits recompose `c`. -/
theorem dec_ref (c : Nat) (rest : Bytes) (h : IsScalar c) :
    utf8DecodeRef (utf8RefCp c ++ rest) = (utf8DecodeRef rest).map (c :: ·) := by
  unfold IsScalar at h
  have d0 : c % 2 ^ 6 < 64 := Nat.mod_lt _ (by decide)
  have d1 : c / 2 ^ 6 % 2 ^ 6 < 64 := Nat.mod_lt _ (by decide)
  have d2 : c / 2 ^ 12 % 2 ^ 6 < 64 := Nat.mod_lt _ (by decide)
  unfold utf8RefCp
  by_cases h1 : c < 2 ^ 7
  · rw [if_pos h1]
    exact (decode_1 _ rest (by rw [UInt8.toNat_ofNat_of_lt' (show c < 256 by omega)]; exact h1)).trans
      (by rw [UInt8.toNat_ofNat_of_lt' (show c < 256 by omega)])
  · rw [if_neg h1]
    by_cases h2 : c < 2 ^ 11
    · rw [if_pos h2]
      have q : c / 2 ^ 6 < 32 := by omega
      have r : c / 2 ^ 6 * 2 ^ 6 + c % 2 ^ 6 = c := by omega
      generalize c / 2 ^ 6 = x0, c % 2 ^ 6 = x1 at *
      have := decode_2 _ _ rest x0 x1 (UInt8.toNat_ofNat_of_lt' (show _ < 256 by omega)) (UInt8.toNat_ofNat_of_lt' (show _ < 256 by omega))
        q d0 (by omega)
      rwa [r] at this
    · rw [if_neg h2]
      by_cases h3 : c < 2 ^ 16
      · rw [if_pos h3]
        have q : c / 2 ^ 12 < 16 := by omega
        have r : c / 2 ^ 12 * 2 ^ 12 + c / 2 ^ 6 % 2 ^ 6 * 2 ^ 6 + c % 2 ^ 6 = c := by omega
        generalize c / 2 ^ 12 = x0, c / 2 ^ 6 % 2 ^ 6 = x1, c % 2 ^ 6 = x2 at *
        have := decode_3 _ _ _ rest x0 x1 x2 (UInt8.toNat_ofNat_of_lt' (show _ < 256 by omega))
          (UInt8.toNat_ofNat_of_lt' (show _ < 256 by omega)) (UInt8.toNat_ofNat_of_lt' (show _ < 256 by omega)) q d1 d0 (by omega) (by omega)
        rwa [r] at this
      · rw [if_neg h3]
        have q : c / 2 ^ 18 < 8 := by omega
        have r : c / 2 ^ 18 * 2 ^ 18 + c / 2 ^ 12 % 2 ^ 6 * 2 ^ 12 + c / 2 ^ 6 % 2 ^ 6 * 2 ^ 6 +
            c % 2 ^ 6 = c := by omega
        generalize c / 2 ^ 18 = x0, c / 2 ^ 12 % 2 ^ 6 = x1, c / 2 ^ 6 % 2 ^ 6 = x2,
          c % 2 ^ 6 = x3 at *
        have := decode_4 _ _ _ _ rest x0 x1 x2 x3 (UInt8.toNat_ofNat_of_lt' (show _ < 256 by omega))
          (UInt8.toNat_ofNat_of_lt' (show _ < 256 by omega)) (UInt8.toNat_ofNat_of_lt' (show _ < 256 by omega)) (UInt8.toNat_ofNat_of_lt' (show _ < 256 by omega))
          q d2 d1 d0 (by omega) (by omega)
        rwa [r] at this

theorem decode_roundtrip (cps : List Nat) (h : ∀ c ∈ cps, IsScalar c) :
    utf8DecodeRef (cps.flatMap utf8RefCp) = some cps := by
  induction cps with
  | nil => rfl
  | cons c rest ih =>
    rw [List.flatMap_cons, dec_ref c _ (h c (by simp)), ih (fun d hd => h d (by simp [hd]))]
    rfl

theorem codePoints_scalar (s : String) : ∀ c ∈ codePoints s, IsScalar c := by
  intro c hc
  simp only [codePoints, List.mem_map] at hc
  obtain ⟨ch, _, rfl⟩ := hc
  exact char_scalar ch

theorem flatMap_codePoints (s : String) : (codePoints s).flatMap utf8RefCp = s.toList.flatMap utf8Ref := by
  unfold codePoints
  induction s.toList with
  | nil => rfl
  | cons c cs ih => simp only [List.map_cons, List.flatMap_cons, ih]; rfl

theorem toUTF8_eq_ref (s : String) : s.toUTF8.toList = s.toList.flatMap utf8Ref := by
  rw [toUTF8_toList]
  congr 1
  funext c
  exact utf8EncodeChar_eq_ref c

theorem pyUtf8Encode_string (s : String) : pyUtf8Encode (codePoints s) = .ok s.toUTF8.toList := by
  rw [pyUtf8Encode_scalars _ (codePoints_scalar s), flatMap_codePoints, toUTF8_eq_ref]

theorem codePoints_injective (s t : String) (h : codePoints s = codePoints t) : s = t := by
  have : s.toList = t.toList := by
    unfold codePoints at h
    exact (List.map_inj_right (f := Char.toNat) (fun a b hab => Char.toNat_inj.1 hab)).1 h
  rw [← String.ofList_toList (s := s), this, String.ofList_toList]

/-- The specification of the whole function, as a predicate on candidates. -/
def HashSpec (f : String → Bytes → Bytes → String) : Prop :=
  ∀ (sid : String) (secret key : Bytes),
    f sid secret key = signedHex (sha1 (sid.toList.flatMap utf8Ref ++ secret ++ key))

/-- What `auth_token.join` must receive for an event, with the real hash spelled out. -/
def expectedJoinReal (secret : Bytes) (hasToken : Bool) : Login.LoginEv → Option String
  | .encRequest sid pk _ =>
    if sid ≠ "-" ∧ hasToken = true then some (mcHash sid.toUTF8.toList secret pk) else none
  | _ => none

theorem expectedJoin_realHash (P : Login.LoginParams) :
    Login.expectedJoin (realHash P) = expectedJoinReal P.secret P.hasToken := by
  funext e
  cases e <;> rfl

/-- How a live observation "value, or it raised `UnicodeEncodeError`" reads as a model result. -/
def expectOf {α : Type} : Option α → Except Err α
  | some a => .ok a
  | none => .error .value

/-- The string of a code-point list (used to read the generated tables). -/
def strOfCps (cps : List Nat) : String := String.ofList (cps.map Char.ofNat)

end PyCraft.Utf8

namespace PyCraft.C17Pad
open PyCraft PyCraft.Sha1

/-- Big-endian value of a list of byte values, most significant first (independent of `lenBytes`). -/
def beNat : List Nat → Nat
  | [] => 0
  | x :: xs => x * 256 ^ xs.length + beNat xs

theorem lenBytes_length : ∀ k n, (lenBytes k n).length = k
  | 0, _ => rfl
  | k + 1, n => by rw [lenBytes, List.length_cons, lenBytes_length k n]

theorem lenBytes_lt : ∀ k n, ∀ x ∈ lenBytes k n, x < 256
  | 0, _, x, h => by simp [lenBytes] at h
  | k + 1, n, x, h => by
    rw [lenBytes, List.mem_cons] at h
    rcases h with rfl | h
    · exact Nat.mod_lt _ (by decide)
    · exact lenBytes_lt k n x h

theorem beNat_lenBytes : ∀ k n, beNat (lenBytes k n) = n % 256 ^ k
  | 0, n => by simp [lenBytes, beNat, Nat.mod_one]
  | k + 1, n => by
    rw [lenBytes, beNat, lenBytes_length, beNat_lenBytes k n, Nat.shiftRight_eq_div_pow,
      Nat.pow_succ, Nat.mod_mul, Nat.pow_mul, Nat.mul_comm]
    have : (2 : Nat) ^ 8 = 256 := rfl
    rw [this, Nat.add_comm]

/-- Number of zero bytes of the padding, as `Sha1.pad` computes it: after the message and the `0x80`
octet, zeros up to offset 56 of a block (`(55 - l) mod 64`, written with `119 = 64 + 55` to stay in
`Nat`), which leaves 8 octets for the length. -/
def zeros (l : Nat) : Nat := (119 - l % 64) % 64

theorem pad_eq (m : List Nat) :
    pad m = m ++ 0x80 :: (List.replicate (zeros m.length) 0 ++ lenBytes 8 (m.length * 8)) := rfl

theorem pad_length (m : List Nat) : (pad m).length = 64 * ((m.length + 8) / 64 + 1) := by
  rw [pad_eq]
  simp only [List.length_append, List.length_cons, List.length_replicate, lenBytes_length, zeros]
  omega

theorem zeros_spec (l : Nat) :
    zeros l < 64 ∧ (l + 1 + zeros l + 8) % 64 = 0 ∧
      ∀ k, (l + 1 + k + 8) % 64 = 0 → zeros l ≤ k := by
  unfold zeros
  refine ⟨by omega, by omega, fun k hk => by omega⟩

theorem pad_blocks (m : List Nat) : (pad m).length / 64 = (m.length + 8) / 64 + 1 := by
  rw [pad_length]; omega

/-- The digest bytes of a chaining value. -/
def digestOf (h : St) : Bytes :=
  wordBytes h.a ++ wordBytes h.b ++ wordBytes h.c ++ wordBytes h.d ++ wordBytes h.e

theorem sha1_eq_blocks (msg : Bytes) :
    sha1 msg = digestOf (blocks ((msg.length + 8) / 64 + 1) (pad (msg.map UInt8.toNat)) init) := by
  unfold sha1 digestOf
  simp only [pad_blocks, List.length_map]

end PyCraft.C17Pad
