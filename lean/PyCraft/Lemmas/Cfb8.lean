import PyCraft.Model.Cfb8
import PyCraft.Model.Aes
/-!
Lemmas for C18: sequences of `update` calls on one context and calls on part of a stream; runs of
the wrapper model, one direction at a time; the S-box table against its definition and the block
length of AES.
-/
namespace PyCraft

/-- For any transformer that does nothing on the empty string and satisfies the chunk law, a
sequence of calls is one call on the concatenation. -/
theorem updates_flatten {σ : Type} (f : σ → Bytes → σ × Bytes)
    (hnil : ∀ s, f s [] = (s, []))
    (happ : ∀ s a b, f s (a ++ b) = ((f (f s a).1 b).1, (f s a).2 ++ (f (f s a).1 b).2))
    (s : σ) (cs : List Bytes) :
    ((updates f s cs).1, (updates f s cs).2.flatten) = f s cs.flatten := by
  induction cs generalizing s with
  | nil => simp [updates, hnil]
  | cons c cs ih =>
    have h := ih (f s c).1
    simp only [updates, List.flatten_cons, happ, ← h]

theorem encChunks_flatten (E : Bytes → Bytes) (reg : Bytes) (cs : List Bytes) :
    ((cfb8EncChunks E reg cs).1, (cfb8EncChunks E reg cs).2.flatten) = cfb8Enc E reg cs.flatten :=
  updates_flatten (cfb8Enc E) (cfb8Enc_nil E) (cfb8Enc_append E) reg cs

theorem decChunks_flatten (E : Bytes → Bytes) (reg : Bytes) (cs : List Bytes) :
    ((cfb8DecChunks E reg cs).1, (cfb8DecChunks E reg cs).2.flatten) = cfb8Dec E reg cs.flatten :=
  updates_flatten (cfb8Dec E) (cfb8Dec_nil E) (cfb8Dec_append E) reg cs

theorem updates_length {σ : Type} (f : σ → Bytes → σ × Bytes) (s : σ) (cs : List Bytes) :
    (updates f s cs).2.length = cs.length := by
  induction cs generalizing s with
  | nil => rfl
  | cons c cs ih => simp [updates, ih]

/-- From a given register, different plaintexts have different ciphertexts. -/
theorem cfb8Enc_injective (E : Bytes → Bytes) (reg x y : Bytes)
    (h : (cfb8Enc E reg x).2 = (cfb8Enc E reg y).2) : x = y := by
  rw [← (cfb8Dec_enc E reg x).1, h, (cfb8Dec_enc E reg y).1]

/-! ### a call on part of the input -/

/-- A call on the first `n` bytes returns the first `n` bytes of the one-shot output … -/
theorem cfb8Enc_take (E : Bytes → Bytes) (reg x : Bytes) (n : Nat) :
    (cfb8Enc E reg (x.take n)).2 = (cfb8Enc E reg x).2.take n := by
  induction x generalizing reg n with
  | nil => simp [cfb8Enc_nil]
  | cons p ps ih =>
    cases n with
    | zero => rfl
    | succ n => simp only [List.take_succ_cons, cfb8Enc_cons, ih]

/-- … and the next call, on the remaining bytes, returns the rest of it. -/
theorem cfb8Enc_drop (E : Bytes → Bytes) (reg x : Bytes) (n : Nat) :
    (cfb8Enc E (cfb8Enc E reg (x.take n)).1 (x.drop n)).2 = (cfb8Enc E reg x).2.drop n := by
  induction x generalizing reg n with
  | nil => simp [cfb8Enc_nil]
  | cons p ps ih =>
    cases n with
    | zero => rfl
    | succ n => simp only [List.take_succ_cons, List.drop_succ_cons, cfb8Enc_cons, ih]

/-! The decryptor's forms follow from the encryptor's: what it is given is the encryption of what
it returns (`cfb8Enc_dec`). -/

theorem cfb8Dec_take (E : Bytes → Bytes) (reg x : Bytes) (n : Nat) :
    (cfb8Dec E reg (x.take n)).2 = (cfb8Dec E reg x).2.take n := by
  conv => lhs; rw [← (cfb8Enc_dec E reg x).1, ← cfb8Enc_take]
  exact (cfb8Dec_enc E reg _).1

theorem cfb8Dec_drop (E : Bytes → Bytes) (reg x : Bytes) (n : Nat) :
    (cfb8Dec E (cfb8Dec E reg (x.take n)).1 (x.drop n)).2 = (cfb8Dec E reg x).2.drop n := by
  conv =>
    lhs
    rw [← (cfb8Enc_dec E reg x).1, ← cfb8Enc_take, ← cfb8Enc_drop, (cfb8Dec_enc E reg _).2]
  exact (cfb8Dec_enc E _ _).1

/-! ### runs of the wrapper model -/

theorem Chan.run_nil (E : Bytes → Bytes) (c : Chan) : Chan.run E c [] = (c, []) := rfl

theorem Chan.run_send (E : Bytes → Bytes) (e d x : Bytes) (ops : List Op) :
    Chan.run E ⟨e, d⟩ (.send x :: ops) =
      ((Chan.run E ⟨(cfb8Enc E e x).1, d⟩ ops).1,
        (cfb8Enc E e x).2 :: (Chan.run E ⟨(cfb8Enc E e x).1, d⟩ ops).2) := rfl

theorem Chan.run_recv (E : Bytes → Bytes) (e d x : Bytes) (ops : List Op) :
    Chan.run E ⟨e, d⟩ (.recv x :: ops) =
      ((Chan.run E ⟨e, (cfb8Dec E d x).1⟩ ops).1,
        (cfb8Dec E d x).2 :: (Chan.run E ⟨e, (cfb8Dec E d x).1⟩ ops).2) := rfl

theorem Chan.run_read (E : Bytes → Bytes) (c : Chan) (x : Bytes) (ops : List Op) :
    Chan.run E c (.read x :: ops) = Chan.run E c (.recv x :: ops) := rfl

theorem run_length (E : Bytes → Bytes) (c : Chan) (ops : List Op) :
    (Chan.run E c ops).2.length = ops.length := by
  induction ops generalizing c with
  | nil => rfl
  | cons op ops ih => simp [Chan.run, ih]

/-- The sending calls of a run are, whatever is interleaved with them, the successive `update`s
of the one encryptor on the data sent.  (Final register and outputs in one pair equation, as
`updates` returns them: the induction needs both at once.) -/
theorem run_sends (E : Bytes → Bytes) (c : Chan) (ops : List Op) :
    ((Chan.run E c ops).1.encReg, outsOf Op.isSend ops (Chan.run E c ops).2) =
      cfb8EncChunks E c.encReg ((ops.filter Op.isSend).map Op.sent) := by
  induction ops generalizing c with
  | nil => rfl
  | cons op ops ih =>
    obtain ⟨e, d⟩ := c
    cases op with
    | send x =>
      rw [Chan.run_send]
      exact congrArg (fun r => (r.1, (cfb8Enc E e x).2 :: r.2)) (ih ⟨(cfb8Enc E e x).1, d⟩)
    | recv x => rw [Chan.run_recv]; exact ih ⟨e, _⟩
    | read x => rw [Chan.run_read, Chan.run_recv]; exact ih ⟨e, _⟩

/-- The receiving calls (`recv` and `read` alike) are the successive `update`s of the one
decryptor on the chunks received. -/
theorem run_recvs (E : Bytes → Bytes) (c : Chan) (ops : List Op) :
    ((Chan.run E c ops).1.decReg, outsOf Op.isRecv ops (Chan.run E c ops).2) =
      cfb8DecChunks E c.decReg ((ops.filter Op.isRecv).map Op.rcvd) := by
  induction ops generalizing c with
  | nil => rfl
  | cons op ops ih =>
    obtain ⟨e, d⟩ := c
    cases op with
    | send x => rw [Chan.run_send]; exact ih ⟨_, d⟩
    | recv x =>
      rw [Chan.run_recv]
      exact congrArg (fun r => (r.1, (cfb8Dec E d x).2 :: r.2)) (ih ⟨e, (cfb8Dec E d x).1⟩)
    | read x =>
      rw [Chan.run_read, Chan.run_recv]
      exact congrArg (fun r => (r.1, (cfb8Dec E d x).2 :: r.2)) (ih ⟨e, (cfb8Dec E d x).1⟩)

theorem flatten_sent (ops : List Op) :
    ((ops.filter Op.isSend).map Op.sent).flatten = ops.flatMap Op.sent := by
  induction ops with
  | nil => rfl
  | cons op ops ih => cases op <;> simp [List.filter_cons, Op.isSend, Op.sent, ih]

theorem flatten_rcvd (ops : List Op) :
    ((ops.filter Op.isRecv).map Op.rcvd).flatten = ops.flatMap Op.rcvd := by
  induction ops with
  | nil => rfl
  | cons op ops ih => cases op <;> simp [List.filter_cons, Op.isRecv, Op.rcvd, ih]

/-- Outgoing direction of a run as one stream, from any state. -/
theorem run_sent (E : Bytes → Bytes) (c : Chan) (ops : List Op) :
    ((Chan.run E c ops).1.encReg, (outsOf Op.isSend ops (Chan.run E c ops).2).flatten) =
      cfb8Enc E c.encReg (ops.flatMap Op.sent) := by
  rw [← flatten_sent, ← encChunks_flatten, ← run_sends]

/-- Incoming direction of a run as one stream, from any state. -/
theorem run_rcvd (E : Bytes → Bytes) (c : Chan) (ops : List Op) :
    ((Chan.run E c ops).1.decReg, (outsOf Op.isRecv ops (Chan.run E c ops).2).flatten) =
      cfb8Dec E c.decReg (ops.flatMap Op.rcvd) := by
  rw [← flatten_rcvd, ← decChunks_flatten, ← run_recvs]

/-- Expanding the key once and reusing the schedule (what `Drive/Cfb8.lean` does, the part of the
line-protocol program `Driver.lean` that the correspondence run talks to) is `aes128 key`. -/
theorem aes128_eq_blockWith (key : Bytes) : aes128 key = aesBlockWith (aesKeySchedule key) := rfl

/-- The shift register keeps its length (16 for a 16-byte IV), whatever is fed through. -/
theorem cfb8Shift_length (reg : Bytes) (c : UInt8) (h : reg ≠ []) :
    (cfb8Shift reg c).length = reg.length := by
  cases reg with
  | nil => exact absurd rfl h
  | cons a as => simp [cfb8Shift]

theorem cfb8Enc_reg_length (E : Bytes → Bytes) (reg x : Bytes) (h : reg ≠ []) :
    (cfb8Enc E reg x).1.length = reg.length := by
  induction x generalizing reg with
  | nil => rfl
  | cons p ps ih =>
    have hl := cfb8Shift_length reg (p ^^^ cfb8Key E reg) h
    have hne : cfb8Shift reg (p ^^^ cfb8Key E reg) ≠ [] := by simp [cfb8Shift]
    simp only [cfb8Enc_cons]; rw [ih _ hne, hl]

theorem cfb8Dec_reg_length (E : Bytes → Bytes) (reg x : Bytes) (h : reg ≠ []) :
    (cfb8Dec E reg x).1.length = reg.length := by
  rw [← (cfb8Enc_dec E reg x).2]
  exact cfb8Enc_reg_length E reg _ h

/-- The literal S-box table agrees with the algebraic definition on all 256 bytes (kernel
evaluation). -/
theorem sbox_table_all : (List.range 256).all (fun b => aesSbox b == aesSboxSpec b) = true := by
  decide +kernel

/-! ### the AES block function always returns 16 bytes -/

theorem shiftRows_length (s : List Nat) : (shiftRows s).length = s.length := by
  unfold shiftRows; split <;> simp

theorem mixColumns_length (s : List Nat) : (mixColumns s).length = s.length := by
  unfold mixColumns; split <;> simp

theorem nextRoundKey_length (rc : Nat) (k : List Nat) : (nextRoundKey rc k).length = k.length := by
  unfold nextRoundKey; split <;> simp

theorem addRoundKey_length (k s : List Nat) (h : k.length = s.length) :
    (addRoundKey k s).length = s.length := by
  induction k generalizing s with
  | nil => cases s <;> simp_all [addRoundKey]
  | cons a as ih =>
    cases s with
    | nil => simp at h
    | cons b bs => simp [addRoundKey, ih bs (by simpa using h)]

theorem expandFrom_length (k : List Nat) (rcs : List Nat) :
    ∀ r ∈ expandFrom k rcs, r.length = k.length := by
  induction rcs generalizing k with
  | nil => simp [expandFrom]
  | cons rc rcs ih =>
    intro r hr
    simp only [expandFrom, List.mem_cons] at hr
    rcases hr with rfl | hr
    · exact nextRoundKey_length rc k
    · rw [ih _ r hr, nextRoundKey_length]

theorem aesRounds_length (ks : List (List Nat)) (s : List Nat)
    (h : ∀ k ∈ ks, k.length = s.length) : (aesRounds ks s).length = s.length := by
  induction ks generalizing s with
  | nil => rfl
  | cons k ks ih =>
    have hk : k.length = s.length := h k (by simp)
    cases ks with
    | nil =>
      simp only [aesRounds]
      rw [addRoundKey_length] <;> simp [shiftRows_length, subBytes, hk]
    | cons k' ks' =>
      simp only [aesRounds]
      have hl : (addRoundKey k (mixColumns (shiftRows (subBytes s)))).length = s.length := by
        rw [addRoundKey_length] <;> simp [mixColumns_length, shiftRows_length, subBytes, hk]
      rw [ih _ (by intro k2 hk2; rw [hl]; exact h k2 (by simp [hk2])), hl]

theorem fit16_length (l : Bytes) : (fit16 l).length = 16 := by
  unfold fit16; split
  · assumption
  · simp

/-- The block function returns a 16-byte block for any key and any input. -/
theorem aes128_length (key block : Bytes) : (aes128 key block).length = 16 := by
  have hk : (bytesToNats (fit16 key)).length = 16 := by simp [bytesToNats, fit16_length]
  have hb : (bytesToNats (fit16 block)).length = 16 := by simp [bytesToNats, fit16_length]
  simp only [aes128, aesBlockWith, natsToBytes, List.length_map, aesKeySchedule, keyExpand,
    aesEncryptBlock]
  have h0 : (addRoundKey (bytesToNats (fit16 key)) (bytesToNats (fit16 block))).length = 16 := by
    rw [addRoundKey_length _ _ (hk.trans hb.symm), hb]
  rw [aesRounds_length, h0]
  intro k hk'
  rw [expandFrom_length _ _ k hk', hk, h0]

end PyCraft
