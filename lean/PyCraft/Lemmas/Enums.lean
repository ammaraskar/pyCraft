import PyCraft.Model.Enums
import PyCraft.Lemmas.Assoc
/-! Helper lemmas for the `BitFieldEnum.name_from_value` model (property C20). -/
namespace PyCraft.Enums

/-! ### OR of a list -/

@[simp] theorem orAll_nil : orAll [] = 0 := rfl
@[simp] theorem orAll_cons (a : Nat) (l : List Nat) : orAll (a :: l) = a ||| orAll l := rfl

theorem or_left_comm' (a b c : Nat) : a ||| (b ||| c) = b ||| (a ||| c) := by
  rw [← Nat.or_assoc, Nat.or_comm a b, Nat.or_assoc]

theorem orAll_perm {l₁ l₂ : List Nat} (h : l₁.Perm l₂) : orAll l₁ = orAll l₂ := by
  induction h with
  | nil => rfl
  | cons a _ ih => rw [orAll_cons, orAll_cons, ih]
  | swap a b l => rw [orAll_cons, orAll_cons, orAll_cons, orAll_cons, or_left_comm']
  | trans _ _ ih₁ ih₂ => exact ih₁.trans ih₂

/-! ### The stable descending sort -/

theorem perm_insDesc (p : String × Nat) (l : List (String × Nat)) : (insDesc p l).Perm (p :: l) := by
  induction l with
  | nil => exact List.Perm.refl _
  | cons q qs ih =>
    unfold insDesc
    split
    · exact List.Perm.refl _
    · exact (List.Perm.cons q ih).trans (List.Perm.swap p q qs)

/-- `sortDesc` only reorders. -/
theorem perm_sortDesc (l : List (String × Nat)) : (sortDesc l).Perm l := by
  induction l with
  | nil => exact List.Perm.refl _
  | cons p ps ih => exact (perm_insDesc p _).trans (List.Perm.cons p ih)

/-- Inserting into a descending list gives a descending list. -/
theorem pairwise_insDesc (p : String × Nat) (l : List (String × Nat))
    (h : l.Pairwise fun a b => b.2 ≤ a.2) : (insDesc p l).Pairwise fun a b => b.2 ≤ a.2 := by
  induction l with
  | nil => simp [insDesc]
  | cons q qs ih =>
    unfold insDesc
    rw [List.pairwise_cons] at h
    split
    · rename_i hq
      refine List.pairwise_cons.2 ⟨?_, List.pairwise_cons.2 h⟩
      intro a ha
      rcases List.mem_cons.1 ha with rfl | ha
      · exact hq
      · exact Nat.le_trans (h.1 a ha) hq
    · rename_i hq
      refine List.pairwise_cons.2 ⟨?_, ih h.2⟩
      intro a ha
      rcases List.mem_cons.1 ((perm_insDesc p qs).mem_iff.1 ha) with rfl | ha
      · omega
      · exact h.1 a ha

/-- `sortDesc` sorts: values are non-increasing. -/
theorem pairwise_sortDesc (l : List (String × Nat)) :
    (sortDesc l).Pairwise fun a b => b.2 ≤ a.2 := by
  induction l with
  | nil => simp [sortDesc]
  | cons p ps ih => exact pairwise_insDesc p _ ih

theorem filter_insDesc (k : Nat) (p : String × Nat) (l : List (String × Nat))
    (h : l.Pairwise fun a b => b.2 ≤ a.2) :
    (insDesc p l).filter (fun a => a.2 == k) =
      (if p.2 == k then [p] else []) ++ l.filter (fun a => a.2 == k) := by
  induction l with
  | nil => simp [insDesc]; split <;> simp_all
  | cons q qs ih =>
    unfold insDesc
    rw [List.pairwise_cons] at h
    split
    · simp [List.filter_cons]; split <;> simp_all
    · rename_i hq
      rw [List.filter_cons, ih h.2, List.filter_cons]
      by_cases hp : p.2 = k
      · have : ¬ q.2 = k := by omega
        simp [hp, this]
      · simp [hp]

/-- `sortDesc` is stable: members with the same value keep their original relative order. -/
theorem filter_sortDesc (k : Nat) (l : List (String × Nat)) :
    (sortDesc l).filter (fun a => a.2 == k) = l.filter (fun a => a.2 == k) := by
  induction l with
  | nil => rfl
  | cons p ps ih =>
    simp only [sortDesc]
    rw [filter_insDesc k p _ (pairwise_sortDesc ps), ih, List.filter_cons]
    split <;> simp_all

/-! ### The greedy loop -/

/-- Loop invariant: the names appended are those of a sub-list `chosen` of the candidates and
`ret_value` has grown by exactly the OR of their values. -/
theorem greedy_spec (value : Nat) (cands : List (String × Nat)) :
    ∀ (names : List String) (ret : Nat), ∃ chosen : List (String × Nat),
      chosen.Sublist cands ∧
      (greedy value cands (names, ret)).1 = names ++ chosen.map Prod.fst ∧
      (greedy value cands (names, ret)).2 = ret ||| orAll (chosen.map Prod.snd) := by
  induction cands with
  | nil => intro names ret; exact ⟨[], List.Sublist.slnil, by simp [greedy], by simp [greedy]⟩
  | cons c rest ih =>
    intro names ret
    obtain ⟨n, v⟩ := c
    unfold greedy
    split
    · obtain ⟨ch, h1, h2, h3⟩ := ih (names ++ [n]) (ret ||| v)
      exact ⟨(n, v) :: ch, h1.cons_cons _, by simp [h2], by simp [h3, Nat.or_assoc]⟩
    · obtain ⟨ch, h1, h2, h3⟩ := ih names ret
      exact ⟨ch, h1.cons _, h2, h3⟩

/-- The loop always ends with `ret_value` = initial value OR all candidate values. -/
theorem greedy_ret (value : Nat) (cands : List (String × Nat)) :
    ∀ (names : List String) (ret : Nat),
      (greedy value cands (names, ret)).2 = ret ||| orAll (cands.map Prod.snd) := by
  induction cands with
  | nil => intro names ret; simp [greedy]
  | cons c rest ih =>
    intro names ret
    obtain ⟨n, v⟩ := c
    unfold greedy
    split
    · rw [ih]; simp [Nat.or_assoc]
    · rename_i h
      have hv : ret ||| v = ret := by simp at h; exact h.1
      rw [ih]
      simp only [List.map_cons, orAll_cons]
      rw [← Nat.or_assoc, hv]

/-! ### Looking names up -/

theorem lookupName_eq (n : String) (l : List (String × Nat)) : lookupName n l = l.lookup n := by
  induction l with
  | nil => rfl
  | cons e r ih => obtain ⟨a, b⟩ := e; rw [lookupName, Assoc.lookup_cons, ih]

theorem lookupName_of_mem (n : String) (v : Nat) (l : List (String × Nat))
    (hnd : (l.map Prod.fst).Nodup) (h : (n, v) ∈ l) : lookupName n l = some v := by
  rw [lookupName_eq]; exact (Assoc.mem_iff_lookup hnd n v).mp h

theorem lookupName_some_mem (n : String) (v : Nat) (l : List (String × Nat))
    (h : lookupName n l = some v) : (n, v) ∈ l :=
  Assoc.mem_of_lookup (lookupName_eq n l ▸ h)

theorem upperMembers_nodup (members : List (String × Nat))
    (h : (members.map Prod.fst).Nodup) : ((upperMembers members).map Prod.fst).Nodup := by
  unfold upperMembers
  exact (List.filter_sublist.map Prod.fst).nodup h

theorem zero_not_upper_member (members : List (String × Nat)) :
    lookupName "0" (upperMembers members) = none := by
  cases h : lookupName "0" (upperMembers members) with
  | none => rfl
  | some v =>
    have := lookupName_some_mem _ _ _ h
    simp only [upperMembers, List.mem_filter] at this
    exact absurd this.2 (by decide)

theorem candidates_sub_upper (members : List (String × Nat)) (value : Nat) (x : String × Nat)
    (h : x ∈ candidates members value) : x ∈ upperMembers members := by
  simp only [candidates, upperMembers, List.mem_filter, Bool.and_eq_true] at *
  exact ⟨h.1, h.2.1⟩

/-- If every listed pair is an upper-case member (names of members distinct), OR-ing the values
looked up by name gives the OR of the listed values. -/
theorem tokensValue_of_members (members : List (String × Nat))
    (hnd : (members.map Prod.fst).Nodup) (l : List (String × Nat))
    (h : ∀ x ∈ l, x ∈ upperMembers members) :
    tokensValue members (l.map Prod.fst) = some (orAll (l.map Prod.snd)) := by
  induction l with
  | nil => rfl
  | cons p ps ih =>
    obtain ⟨n, v⟩ := p
    have h1 : lookupName n (upperMembers members) = some v :=
      lookupName_of_mem n v _ (upperMembers_nodup members hnd) (h _ (List.mem_cons_self ..))
    have h2 := ih (fun x hx => h x (List.mem_cons_of_mem _ hx))
    simp only [List.map_cons, tokensValue, tokenValue, h1, h2, orAll_cons]

/-! ### join / split -/

theorem splitBarAux_sep (a : List Char) (ha : '|' ∉ a) (tail : List Char) :
    ∀ cur, splitBarAux cur (a ++ '|' :: tail) = (cur.reverse ++ a) :: splitBarAux [] tail := by
  induction a with
  | nil => intro cur; simp [splitBarAux]
  | cons c cs ih =>
    intro cur
    have hc : c ≠ '|' := fun e => ha (by simp [e])
    have hcs : '|' ∉ cs := fun e => ha (List.mem_cons_of_mem _ e)
    simp only [List.cons_append, splitBarAux, hc, if_false]
    rw [ih hcs]; simp

theorem splitBarAux_last (a : List Char) (ha : '|' ∉ a) :
    ∀ cur, splitBarAux cur a = [cur.reverse ++ a] := by
  induction a with
  | nil => intro cur; simp [splitBarAux]
  | cons c cs ih =>
    intro cur
    have hc : c ≠ '|' := fun e => ha (by simp [e])
    have hcs : '|' ∉ cs := fun e => ha (List.mem_cons_of_mem _ e)
    simp only [splitBarAux, hc, if_false]
    rw [ih hcs]; simp

theorem splitBarAux_join (names : List (List Char)) (hne : names ≠ [])
    (h : ∀ n ∈ names, '|' ∉ n) : splitBarAux [] (joinChars names) = names := by
  induction names with
  | nil => exact absurd rfl hne
  | cons a rest ih =>
    cases rest with
    | nil => simp [joinChars, splitBarAux_last a (h a (by simp))]
    | cons b rest' =>
      simp only [joinChars]
      rw [splitBarAux_sep a (h a (by simp)), ih (by simp) (fun n hn => h n (List.mem_cons_of_mem _ hn))]
      simp

/-- Splitting the `'|'`-joined string gives the list of names back, provided the list is non-empty
and no name contains `'|'`. -/
theorem splitBar_joinBar (names : List String) (hne : names ≠ [])
    (h : ∀ n ∈ names, '|' ∉ n.toList) : splitBar (joinBar names) = names := by
  unfold splitBar joinBar
  rw [String.toList_ofList, splitBarAux_join]
  · simp [List.map_map, Function.comp_def, String.ofList_toList]
  · simpa using hne
  · intro n hn
    obtain ⟨s, hs, rfl⟩ := List.mem_map.1 hn
    exact h s hs

/-! ### Main facts about `chosenNames` / `nameFromValue` -/

theorem chosenNames_spec (members : List (String × Nat)) (value : Nat) (ns : List String)
    (h : chosenNames members value = some ns) :
    ∃ chosen : List (String × Nat), (∀ x ∈ chosen, x ∈ candidates members value) ∧
      ns = (chosen.map Prod.fst).reverse ∧ value = orAll (chosen.map Prod.snd) := by
  unfold chosenNames at h
  obtain ⟨chosen, h1, h2, h3⟩ := greedy_spec value (sortDesc (candidates members value)) [] 0
  simp only at h
  split at h
  · rename_i hv
    refine ⟨chosen, ?_, ?_, ?_⟩
    · intro x hx
      exact (perm_sortDesc _).mem_iff.1 (h1.subset hx)
    · cases h
      rw [h2]
      simp
    · rw [h3] at hv
      have : orAll (chosen.map Prod.snd) = value := by simpa using hv
      exact this.symm
  · cases h

theorem chosenNames_none_iff (members : List (String × Nat)) (value : Nat) :
    chosenNames members value = none ↔
      orAll ((candidates members value).map Prod.snd) ≠ value := by
  unfold chosenNames
  simp only [greedy_ret, orAll_perm ((perm_sortDesc _).map Prod.snd), Nat.zero_or]
  split <;> simp_all

theorem tokensValue_chosen (members : List (String × Nat)) (hnd : (members.map Prod.fst).Nodup)
    (value : Nat) (ns : List String) (h : chosenNames members value = some ns) :
    tokensValue members ns = some value := by
  obtain ⟨chosen, h1, h2, h3⟩ := chosenNames_spec members value ns h
  have := tokensValue_of_members members hnd chosen.reverse (by
    intro x hx
    exact candidates_sub_upper members value x (h1 x (List.mem_reverse.1 hx)))
  rw [List.map_reverse, List.map_reverse, orAll_perm (List.reverse_perm _), ← h3, ← h2] at this
  exact this

theorem chosenNames_mem (members : List (String × Nat)) (value : Nat) (ns : List String)
    (h : chosenNames members value = some ns) :
    ∀ n ∈ ns, pyIsUpper n = true ∧ ∃ v, (n, v) ∈ members ∧ v ||| value = value := by
  obtain ⟨chosen, h1, h2, _⟩ := chosenNames_spec members value ns h
  intro n hn
  rw [h2, List.mem_reverse, List.mem_map] at hn
  obtain ⟨⟨n', v⟩, hx, rfl⟩ := hn
  have := h1 _ hx
  simp only [candidates, List.mem_filter, Bool.and_eq_true, beq_iff_eq] at this
  exact ⟨this.2.1, v, this.1, this.2.2⟩

theorem nameFromValue_parses (members : List (String × Nat)) (hnd : (members.map Prod.fst).Nodup)
    (hbar : ∀ p ∈ members, '|' ∉ p.1.toList) (value : Nat) (s : String)
    (h : nameFromValue members value = some s) : parseName members s = some value := by
  unfold nameFromValue at h
  split at h
  · cases h
  · rename_i hc
    cases h
    have := tokensValue_chosen members hnd value [] hc
    simp only [tokensValue, Option.some.injEq] at this
    subst this
    have hs : splitBar "0" = ["0"] := by decide
    simp [parseName, hs, tokensValue, tokenValue, zero_not_upper_member]
  · rename_i n ns hc
    cases h
    unfold parseName
    rw [splitBar_joinBar _ (by simp)]
    · exact tokensValue_chosen members hnd value _ hc
    · intro m hm
      obtain ⟨_, v, hv, _⟩ := chosenNames_mem members value _ hc m hm
      exact hbar _ hv

/-- Distinct `'|'`-free names make every printed name parse back, so the check succeeds. -/
theorem checkEnum_of_names (members : List (String × Nat)) (hnd : (members.map Prod.fst).Nodup)
    (hbar : ∀ p ∈ members, '|' ∉ p.1.toList) : checkEnum members = true := by
  unfold checkEnum
  rw [List.all_eq_true]
  intro v _
  cases h : nameFromValue members v with
  | none => rfl
  | some s => simp [nameFromValue_parses members hnd hbar v s h]

/-! ### Plain `Enum.name_from_value` -/

/-- `Enum.name_from_value` is a search for the first upper-case attribute with the value. -/
theorem enumNameFromValue_eq_find (members : List (String × Int)) (value : Int) :
    enumNameFromValue members value =
      (members.find? fun p => pyIsUpper p.1 && p.2 == value).map Prod.fst := by
  induction members with
  | nil => rfl
  | cons q qs ih =>
    simp only [enumNameFromValue, List.find?_cons]
    split <;> simp [*]

theorem enumName_some (members : List (String × Int)) (value : Int) (n : String)
    (h : enumNameFromValue members value = some n) :
    ∃ pre post, members = pre ++ (n, value) :: post ∧ pyIsUpper n = true ∧
      ∀ p ∈ pre, ¬ (pyIsUpper p.1 = true ∧ p.2 = value) := by
  rw [enumNameFromValue_eq_find, Option.map_eq_some_iff] at h
  obtain ⟨⟨n', v⟩, hf, rfl⟩ := h
  obtain ⟨hp, pre, post, hm, hpre⟩ := List.find?_eq_some_iff_append.1 hf
  simp only [Bool.and_eq_true, beq_iff_eq] at hp
  obtain ⟨hu, rfl⟩ := hp
  exact ⟨pre, post, hm, hu, fun p hp h => by simpa [h.1, h.2] using hpre p hp⟩

theorem enumName_none_iff (members : List (String × Int)) (value : Int) :
    enumNameFromValue members value = none ↔
      ∀ p ∈ members, ¬ (pyIsUpper p.1 = true ∧ p.2 = value) := by
  simp [enumNameFromValue_eq_find]
end PyCraft.Enums
