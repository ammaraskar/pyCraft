import PyCraft.Model.Negotiate
/-!
Helper lemmas for `PyCraft/Props/C09.lean` (version negotiation and the plain status query), and
`followUp`, the connections a settled status query is followed by, in which `session_eq` is stated.
-/
namespace PyCraft.Neg
open PyCraft

/-! ### `inZ`, `dictGet`, `resolve` -/

theorem inZ_iff (n : Int) (l : List Nat) : inZ n l = true ↔ ∃ v ∈ l, (v : Int) = n := by
  unfold inZ
  simp only [Bool.and_eq_true, decide_eq_true_eq]
  constructor
  · rintro ⟨h0, hm⟩
    exact ⟨n.toNat, hm, by omega⟩
  · rintro ⟨v, hv, rfl⟩
    exact ⟨by omega, by simpa using hv⟩

/-- The membership test at the end of `proto_version`, as a condition on the result. -/
theorem inZ_guard_ok (n : Int) (l : List Nat) (v : Nat) :
    (if inZ n l then Except.ok n.toNat else .error .value : Except Err Nat) = .ok v ↔
      v ∈ l ∧ n = (v : Int) := by
  by_cases hz : inZ n l = true
  · obtain ⟨w, hw, rfl⟩ := (inZ_iff _ _).1 hz
    rw [if_pos hz, Int.toNat_natCast, Except.ok.injEq]
    constructor
    · rintro rfl; exact ⟨hw, rfl⟩
    · rintro ⟨_, h⟩; omega
  · rw [if_neg hz]
    constructor
    · intro h; cases h
    · rintro ⟨hv, rfl⟩; exact absurd ((inZ_iff _ _).2 ⟨v, hv, rfl⟩) hz

theorem resolve_err (env : VEnv) (r : VReq) (e : Err) (h : resolve env r = .error e) :
    e = .value := by
  unfold resolve at h
  split at h
  · cases h; rfl
  · split at h
    · cases h
    · cases h; rfl

theorem resolve_ok_iff (env : VEnv) (r : VReq) (v : Nat) :
    resolve env r = .ok v ↔
      v ∈ env.supportedProtocols ∧
        (r = .num (v : Int) ∨ ∃ s, r = .name s ∧ dictGet env.supportedNames s = some v) := by
  unfold resolve
  cases r with
  | other => simp [protoOf]
  | num n => simp [protoOf, inZ_guard_ok]
  | name s =>
    cases hg : dictGet env.supportedNames s with
    | none => simp [protoOf, hg]
    | some w =>
      simpa [protoOf, hg, Int.natCast_inj] using inZ_guard_ok (w : Int) env.supportedProtocols v

theorem resolve_cases (env : VEnv) (r : VReq) :
    (∃ v, resolve env r = .ok v) ∨ resolve env r = .error .value := by
  cases h : resolve env r with
  | ok v => exact .inl ⟨v, rfl⟩
  | error e =>
    rw [resolve_err env r e h]
    exact .inr rfl

/-- `map(proto_version, …)`: either every request resolves and the result holds exactly the
resolved values, or it raises the `ValueError` of a request that does not resolve. -/
theorem resolveAll_cases (env : VEnv) (rs : List VReq) :
    (∃ l, resolveAll env rs = .ok l ∧ (∀ v, v ∈ l ↔ ∃ r ∈ rs, resolve env r = .ok v) ∧
      ∀ r ∈ rs, ∃ v, resolve env r = .ok v) ∨
    (resolveAll env rs = .error .value ∧ ∃ r ∈ rs, resolve env r = .error .value) := by
  induction rs with
  | nil => exact .inl ⟨[], rfl, by simp, by simp⟩
  | cons r rs ih =>
    unfold resolveAll
    cases hr : resolve env r with
    | error e =>
      cases resolve_err env r e hr
      exact .inr ⟨rfl, r, List.mem_cons_self, hr⟩
    | ok w =>
      rcases ih with ⟨l, hl, hmem, hall⟩ | ⟨he, r', hr', he'⟩
      · refine .inl ⟨w :: l, by rw [hl], fun v => ?_, ?_⟩
        · simp only [List.mem_cons, hmem, exists_eq_or_imp, hr, Except.ok.injEq, @eq_comm _ v w]
        · intro r' hr'
          rcases List.mem_cons.1 hr' with rfl | hr'
          · exact ⟨w, hr⟩
          · exact hall r' hr'
      · exact .inr ⟨by rw [he], r', List.mem_cons_of_mem _ hr', he'⟩

theorem resolveAll_ok (env : VEnv) (rs : List VReq) (l : List Nat)
    (h : resolveAll env rs = .ok l) :
    ∀ v, v ∈ l ↔ ∃ r ∈ rs, resolve env r = .ok v := by
  rcases resolveAll_cases env rs with ⟨l', hl, hmem, _⟩ | ⟨he, _⟩
  · cases hl.symm.trans h
    exact hmem
  · rw [he] at h; cases h

theorem resolveAll_err_kind (env : VEnv) (rs : List VReq) (e : Err)
    (h : resolveAll env rs = .error e) : e = .value := by
  rcases resolveAll_cases env rs with ⟨l, hl, _⟩ | ⟨he, _⟩
  · rw [hl] at h; cases h
  · cases he.symm.trans h; rfl

theorem resolveAll_bad (env : VEnv) (rs : List VReq)
    (h : ∃ r ∈ rs, ∀ v, resolve env r ≠ .ok v) : resolveAll env rs = .error .value := by
  rcases resolveAll_cases env rs with ⟨l, _, _, hall⟩ | ⟨he, _⟩
  · obtain ⟨r, hr, hbad⟩ := h
    obtain ⟨v, hv⟩ := hall r hr
    exact absurd hv (hbad v)
  · exact he

theorem resolveAll_good (env : VEnv) (rs : List VReq)
    (h : ∀ r ∈ rs, ∃ v, resolve env r = .ok v) : ∃ l, resolveAll env rs = .ok l := by
  rcases resolveAll_cases env rs with ⟨l, hl, _⟩ | ⟨_, r, hr, he⟩
  · exact ⟨l, hl⟩
  · obtain ⟨v, hv⟩ := h r hr
    rw [hv] at he; cases he

/-! ### `dedup`, `toSet` -/

theorem mem_dedup (x : Nat) (l : List Nat) : x ∈ dedup l ↔ x ∈ l := by
  induction l with
  | nil => simp [dedup]
  | cons y ys ih =>
    simp only [dedup]
    by_cases hy : y ∈ ys
    · simp only [hy, if_true, ih, List.mem_cons]
      constructor
      · exact .inr
      · rintro (rfl | h)
        · exact hy
        · exact h
    · simp only [hy, if_false, List.mem_cons, ih]

theorem nodup_dedup (l : List Nat) : (dedup l).Nodup := by
  induction l with
  | nil => simp [dedup]
  | cons y ys ih =>
    simp only [dedup]
    by_cases hy : y ∈ ys
    · simpa [hy] using ih
    · simp only [hy, if_false, List.nodup_cons, mem_dedup, not_false_eq_true, true_and]
      exact ih

theorem dedup_of_nodup (l : List Nat) (h : l.Nodup) : dedup l = l := by
  induction l with
  | nil => rfl
  | cons y ys ih =>
    rw [List.nodup_cons] at h
    simp [dedup, h.1, ih h.2]

theorem mem_toSet (env : VEnv) (l : List Nat) (x : Nat) : x ∈ toSet env l ↔ x ∈ l := by
  unfold toSet
  simp only [mem_dedup, List.mem_append, List.mem_filter, decide_eq_true_eq]
  constructor
  · rintro (⟨_, h⟩ | ⟨h, _⟩) <;> exact h
  · intro h
    by_cases hk : x ∈ env.knownOrder
    · exact .inl ⟨hk, h⟩
    · exact .inr ⟨h, hk⟩

theorem nodup_toSet (env : VEnv) (l : List Nat) : (toSet env l).Nodup := nodup_dedup _

theorem toSet_eq_nil (env : VEnv) (l : List Nat) : toSet env l = [] ↔ l = [] := by
  simp only [List.eq_nil_iff_forall_not_mem, mem_toSet]

/-- In a sane environment the canonical set is the sub-list of `knownOrder` selected by
membership, hence in ascending rank. -/
theorem toSet_eq_filter (env : VEnv) (l : List Nat) (hk : env.knownOrder.Nodup)
    (hl : ∀ x ∈ l, x ∈ env.knownOrder) :
    toSet env l = env.knownOrder.filter (fun v => decide (v ∈ l)) := by
  unfold toSet
  have h2 : l.filter (fun v => decide (v ∉ env.knownOrder)) = [] := by
    rw [List.filter_eq_nil_iff]
    intro a ha
    simpa using hl a ha
  rw [h2, List.append_nil]
  exact dedup_of_nodup _ (hk.sublist List.filter_sublist)

/-! ### `max(..., key=PROTOCOL_VERSION_INDICES.get)` -/

theorem rank_inj (env : VEnv) (a b : Nat) (ha : a ∈ env.knownOrder) (hb : b ∈ env.knownOrder)
    (h : rankOf env a = rankOf env b) : a = b := by
  unfold rankOf at h
  have h1 := List.idxOf_lt_length_of_mem ha
  have h2 := List.idxOf_lt_length_of_mem hb
  have e1 := List.getElem_idxOf h1
  have e2 := List.getElem_idxOf h2
  rw [← e1, ← e2]
  simp only [h]

theorem foldl_pick_mem (env : VEnv) (b : Nat) (l : List Nat) :
    l.foldl (pickLater env) b ∈ b :: l := by
  induction l generalizing b with
  | nil => simp
  | cons x xs ih =>
    simp only [List.foldl_cons]
    have := ih (pickLater env b x)
    rcases List.mem_cons.1 this with h | h
    · rw [h]
      unfold pickLater
      split <;> simp
    · simp [h]

theorem foldl_pick_max (env : VEnv) (b : Nat) (l : List Nat) :
    ∀ a ∈ b :: l, rankOf env a ≤ rankOf env (l.foldl (pickLater env) b) := by
  induction l generalizing b with
  | nil => simp
  | cons x xs ih =>
    intro a ha
    -- the running maximum after `x` is at least `b` and `x`, and the result is at least it
    have hp := ih (pickLater env b x) _ List.mem_cons_self
    have hbx : rankOf env b ≤ rankOf env (pickLater env b x) ∧
        rankOf env x ≤ rankOf env (pickLater env b x) := by
      unfold pickLater
      split <;> omega
    rcases List.mem_cons.1 ha with rfl | ha
    · exact Nat.le_trans hbx.1 hp
    · rcases List.mem_cons.1 ha with rfl | ha
      · exact Nat.le_trans hbx.2 hp
      · exact ih _ a (List.mem_cons_of_mem _ ha)

theorem latest_nil (env : VEnv) : latest env [] = .error .value := rfl
theorem latest_single (env : VEnv) (v : Nat) : latest env [v] = .ok v := rfl

/-- A successful `max` returns a member that is strictly later than every other member. -/
theorem latest_spec (env : VEnv) (l : List Nat) (v : Nat) (h : latest env l = .ok v) :
    v ∈ l ∧ ∀ a ∈ l, a ≠ v → rankOf env a < rankOf env v := by
  match l, h with
  | [w], h => cases h; simp
  | x :: w :: rest, h =>
    simp only [latest] at h
    split at h
    next hall =>
      cases h
      have hall' : ∀ y ∈ x :: w :: rest, y ∈ env.knownOrder := by simpa [ranked] using hall
      have hmem := foldl_pick_mem env x (w :: rest)
      refine ⟨hmem, fun a ha hne => ?_⟩
      -- ranks are distinct on ranked members, so "not below" is "strictly above"
      rcases Nat.lt_or_eq_of_le (foldl_pick_max env x (w :: rest) a ha) with hlt | heq
      · exact hlt
      · exact absurd (rank_inj env _ _ (hall' a ha) (hall' _ hmem) heq) hne
    · cases h

theorem latest_err (env : VEnv) (l : List Nat) (e : Err) (h : latest env l = .error e) :
    (l = [] ∧ e = .value) ∨ (2 ≤ l.length ∧ e = .type ∧ ∃ a ∈ l, a ∉ env.knownOrder) := by
  match l, h with
  | [], h => cases h; exact .inl ⟨rfl, rfl⟩
  | [w], h => cases h
  | x :: w :: rest, h =>
    simp only [latest] at h
    split at h
    · cases h
    next hall =>
      cases h
      -- some member fails `ranked`
      simp only [List.all_eq_true, ranked, decide_eq_true_eq, Classical.not_forall] at hall
      obtain ⟨a, ha, hna⟩ := hall
      exact .inr ⟨by simp, rfl, a, ha, hna⟩

theorem latest_ok_of_ranked (env : VEnv) (l : List Nat) (hne : l ≠ [])
    (hr : ∀ a ∈ l, a ∈ env.knownOrder) : ∃ v, latest env l = .ok v := by
  cases h : latest env l with
  | ok v => exact ⟨v, rfl⟩
  | error e =>
    exfalso
    rcases latest_err env l e h with ⟨h1, _⟩ | ⟨_, _, a, ha, hna⟩
    · exact hne h1
    · exact hna (hr a ha)

/-! ### `connectPlan` -/

theorem connectPlan_single (env : VEnv) (v : Nat) : connectPlan env [v] = .ok (.direct v) := rfl

theorem connectPlan_nil (env : VEnv) : connectPlan env [] = .error .value := rfl

theorem connectPlan_many (env : VEnv) (l : List Nat) (h2 : 2 ≤ l.length)
    (hr : ∀ a ∈ l, a ∈ env.knownOrder) :
    ∃ v, connectPlan env l = .ok (.query v) ∧ latest env l = .ok v := by
  obtain ⟨v, hv⟩ := latest_ok_of_ranked env l (by intro h; subst h; simp at h2) hr
  refine ⟨v, ?_, hv⟩
  unfold connectPlan
  rw [hv]
  have : l.length ≠ 1 := by omega
  simp [this]

theorem connectPlan_ok (env : VEnv) (l : List Nat) (p : Plan) (h : connectPlan env l = .ok p) :
    (∃ v, l = [v] ∧ p = .direct v) ∨ (2 ≤ l.length ∧ ∃ v, p = .query v ∧ latest env l = .ok v) := by
  match l, h with
  | [], h => cases h
  | [w], h => cases h; exact .inl ⟨w, rfl, rfl⟩
  | x :: w :: rest, h =>
    unfold connectPlan at h
    cases hl : latest env (x :: w :: rest) with
    | error e => rw [hl] at h; cases h
    | ok v => rw [hl] at h; cases h; exact .inr ⟨by simp, v, rfl, rfl⟩

/-! ### `Connection.__init__` -/

theorem allowedSet_err (env : VEnv) (allowed : Option (List VReq)) (e : Err)
    (h : allowedSet env allowed = .error e) : e = .value := by
  cases allowed with
  | none => cases h
  | some reqs =>
    simp only [allowedSet] at h
    split at h
    next e' hr => cases h; exact resolveAll_err_kind env reqs _ hr
    · cases h

/-- A successful `allowed_proto_versions`: the canonical set of a list `l` of supported protocols —
all of them for `None`, else exactly the resolved requests. -/
theorem allowedSet_ok (env : VEnv) (allowed : Option (List VReq)) (al : List Nat)
    (h : allowedSet env allowed = .ok al) :
    ∃ l, al = toSet env l ∧ (∀ x ∈ l, x ∈ env.supportedProtocols) ∧
      (allowed = none → l = env.supportedProtocols) ∧
      (∀ reqs, allowed = some reqs → ∀ v, v ∈ l ↔ ∃ r ∈ reqs, resolve env r = .ok v) := by
  cases allowed with
  | none =>
    cases h
    exact ⟨_, rfl, fun _ hx => hx, fun _ => rfl, nofun⟩
  | some reqs =>
    simp only [allowedSet] at h
    split at h
    · cases h
    next l hr =>
      cases h
      have hmem := resolveAll_ok env reqs l hr
      refine ⟨l, rfl, fun x hx => ?_, nofun, fun reqs' hreqs => by cases hreqs; exact hmem⟩
      obtain ⟨r, _, hrx⟩ := (hmem x).1 hx
      exact ((resolve_ok_iff env r x).1 hrx).1

theorem allowedSet_sub (env : VEnv) (allowed : Option (List VReq)) (al : List Nat)
    (h : allowedSet env allowed = .ok al) : ∀ v ∈ al, v ∈ env.supportedProtocols := by
  obtain ⟨l, rfl, hl, _⟩ := allowedSet_ok env allowed al h
  exact fun v hv => hl v ((mem_toSet env l v).1 hv)

theorem ctor_ok (env : VEnv) (allowed : Option (List VReq)) (initial : Option VReq) (cfg : Cfg)
    (h : ctor env allowed initial = .ok cfg) :
    allowedSet env allowed = .ok cfg.allowed ∧ latest env cfg.allowed = .ok cfg.ctx ∧
      (initial = none → cfg.default = cfg.ctx) ∧
      (∀ r, initial = some r → resolve env r = .ok cfg.default) := by
  unfold ctor at h
  split at h
  · cases h
  next al ha =>
    split at h
    · cases h
    next lt hl =>
      split at h
      · cases h
        exact ⟨ha, hl, fun _ => rfl, nofun⟩
      next r =>
        split at h
        · cases h
        next d hr =>
          cases h
          exact ⟨ha, hl, nofun, fun r' hr' => by cases hr'; exact hr⟩

theorem ctor_err (env : VEnv) (allowed : Option (List VReq)) (initial : Option VReq) (e : Err)
    (h : ctor env allowed initial = .error e) :
    allowedSet env allowed = .error e ∨
      (∃ al, allowedSet env allowed = .ok al ∧ latest env al = .error e) ∨
      (∃ r, initial = some r ∧ resolve env r = .error e) := by
  unfold ctor at h
  split at h
  next e' ha => cases h; exact .inl ha
  next al ha =>
    split at h
    next e' hl => cases h; exact .inr (.inl ⟨al, ha, hl⟩)
    next lt hl =>
      split at h
      · cases h
      next r =>
        split at h
        next e' hr => cases h; exact .inr (.inr ⟨r, rfl, hr⟩)
        · cases h

/-! ### Negotiation and the session -/

theorem mismatchMessage_eq (n : Int) (name : Option String) (b : Bool) :
    mismatchMessage n name b =
      "Server's protocol version of " ++ toString n ++
        (match name with | none => "" | some s => " (" ++ s ++ ")") ++
        (if b then " is supported, but not allowed for this connection."
          else " is not supported.") := by
  simp only [mismatchMessage, String.append_assoc]
  cases b <;> rfl

/-- The connections a status query adds after its own: the login connection iff negotiation settled
on a version. -/
def followUp (p : ConnParams) : NegOutcome → List (List Frame)
  | .connect v => [firstFrames p (.direct v)]
  | _ => []

theorem mem_followUp {p : ConnParams} {o : NegOutcome} {fr : List Frame} (h : fr ∈ followUp p o) :
    ∃ v, o = .connect v ∧ fr = firstFrames p (.direct v) := by
  cases o with
  | connect v => exact ⟨v, rfl, List.mem_singleton.1 h⟩
  | mismatch n name b => cases h
  | invalidStatus => cases h

/-- `session` in closed form: `max` decides whether there is a session at all, the size of the
allowed set whether a status query is made, the reply what follows the query. -/
theorem session_eq (env : VEnv) (p : ConnParams) (allowed : List Nat) (dflt : Nat) (r : StatusReply) :
    session env p allowed dflt r =
      match latest env allowed with
      | .error e => .error e
      | .ok q =>
        .ok (if allowed.length = 1 then ⟨[firstFrames p (.direct q)], .connect q⟩
          else ⟨firstFrames p (.query q) :: followUp p (evalStatus env allowed dflt r),
            evalStatus env allowed dflt r⟩) := by
  unfold session connectPlan
  cases latest env allowed with
  | error e => rfl
  | ok q =>
    by_cases h1 : allowed.length = 1
    · simp only [h1, if_true]
    · simp only [h1, if_false]
      cases evalStatus env allowed dflt r <;> rfl

theorem session_ok (env : VEnv) (p : ConnParams) (allowed : List Nat) (dflt : Nat) (r : StatusReply)
    (s : Session) (h : session env p allowed dflt r = .ok s) :
    (∃ v, allowed = [v] ∧ s = ⟨[firstFrames p (.direct v)], .connect v⟩) ∨
    (∃ q, 2 ≤ allowed.length ∧ latest env allowed = .ok q ∧
      s = ⟨firstFrames p (.query q) :: followUp p (evalStatus env allowed dflt r),
        evalStatus env allowed dflt r⟩) := by
  rw [session_eq] at h
  cases hl : latest env allowed with
  | error e => rw [hl] at h; cases h
  | ok q =>
    rw [hl] at h
    cases h
    match allowed, hl with
    | [v], hl => cases hl; exact .inl ⟨_, rfl, rfl⟩
    | x :: w :: rest, _ => exact .inr ⟨q, by simp, rfl, by simp⟩

/-- With several allowed versions, all ranked, there is a session whatever the server replies: the
status query with the latest one, then what the reply leads to. -/
theorem session_many (env : VEnv) (p : ConnParams) (allowed : List Nat) (dflt : Nat)
    (h2 : 2 ≤ allowed.length) (hr : ∀ a ∈ allowed, a ∈ env.knownOrder) :
    ∃ q, latest env allowed = .ok q ∧ ∀ r, session env p allowed dflt r =
      .ok ⟨firstFrames p (.query q) :: followUp p (evalStatus env allowed dflt r),
        evalStatus env allowed dflt r⟩ := by
  obtain ⟨q, hq⟩ := latest_ok_of_ranked env allowed (by intro h; subst h; simp at h2) hr
  refine ⟨q, hq, fun r => ?_⟩
  simp only [session_eq, hq, if_neg (show ¬ allowed.length = 1 by omega)]

/-! ### The status loop -/

theorem runLoop_interrupted (doPing : Bool) (st : StatusSt) (script : List StatusPkt)
    (clock : List Nat) (h : st.interrupt = true) : runLoop doPing st script clock = some (st, []) := by
  cases script with
  | nil => rfl
  | cons p ps => simp [runLoop, h]

/-- One turn of the read loop on a connection that is not interrupted: `react` on the packet (with
some clock value), then the loop on the rest. -/
theorem runLoop_step {doPing : Bool} {st st' : StatusSt} {p : StatusPkt} {ps : List StatusPkt}
    {clock : List Nat} {acts : List Act} (hi : st.interrupt = false)
    (h : runLoop doPing st (p :: ps) clock = some (st', acts)) :
    ∃ now clock' acts', runLoop doPing (react doPing st p now).1 ps clock' = some (st', acts') ∧
      acts = (react doPing st p now).2 ++ acts' := by
  simp only [runLoop, hi, Bool.false_eq_true, if_false] at h
  split at h
  · cases clock with
    | nil => cases h
    | cons now clock' =>
      simp only at h
      cases hr : runLoop doPing (react doPing st p now).1 ps clock' with
      | none => rw [hr] at h; cases h
      | some r => rw [hr] at h; cases h; exact ⟨now, clock', r.2, hr, rfl⟩
  · cases hr : runLoop doPing (react doPing st p 0).1 ps clock with
    | none => rw [hr] at h; cases h
    | some r => rw [hr] at h; cases h; exact ⟨0, clock, r.2, hr, rfl⟩

/-- `react` on a live connection either leaves it live and logs no `disconnect`, or closes it and
logs exactly one. -/
theorem react_init (doPing : Bool) (p : StatusPkt) (now : Nat) :
    ((react doPing StatusSt.init p now).1 = StatusSt.init ∧
      (react doPing StatusSt.init p now).2.count .disconnect = 0) ∨
    ((react doPing StatusSt.init p now).1 = StatusSt.init.disc ∧
      (react doPing StatusSt.init p now).2.count .disconnect = 1) := by
  cases p <;> cases doPing <;> simp [react, StatusSt.init, StatusSt.disc]

/-- Invariant of the loop.  Started from a live connection (`connected ∧ ¬interrupt`), whatever the
server sends: the two flags stay in step, at most one `disconnect` is logged, and it is logged iff
the connection ended up closed. -/
theorem runLoop_inv (doPing : Bool) (script : List StatusPkt) (clock : List Nat) (st' : StatusSt)
    (acts : List Act) (h : runLoop doPing StatusSt.init script clock = some (st', acts)) :
    (st' = StatusSt.init ∧ acts.count .disconnect = 0) ∨
      (st' = StatusSt.init.disc ∧ acts.count .disconnect = 1) := by
  induction script generalizing clock acts with
  | nil => cases h; exact .inl ⟨rfl, rfl⟩
  | cons p ps ih =>
    obtain ⟨now, clock', acts', hrest, rfl⟩ := runLoop_step rfl h
    rw [List.count_append]
    rcases react_init doPing p now with ⟨h1, h2⟩ | ⟨h1, h2⟩
    · rw [h1] at hrest
      rw [h2, Nat.zero_add]
      exact ih clock' acts' hrest
    · rw [h1, runLoop_interrupted _ _ _ _ rfl] at hrest
      cases hrest
      exact .inr ⟨rfl, by rw [h2]; rfl⟩

/-- Pings are sent and latencies reported only when latency was requested. -/
theorem runLoop_noping (script : List StatusPkt) (clock : List Nat) (st st' : StatusSt)
    (acts : List Act) (h : runLoop false st script clock = some (st', acts)) :
    ∀ a ∈ acts, (∀ t, a ≠ .sendPing t) ∧ (∀ l, a ≠ .handlePing l) := by
  induction script generalizing clock st acts with
  | nil => cases h; intro a ha; cases ha
  | cons p ps ih =>
    cases hi : st.interrupt with
    | true => rw [runLoop_interrupted _ _ _ _ hi] at h; cases h; intro a ha; cases ha
    | false =>
      obtain ⟨now, clock', acts', hrest, rfl⟩ := runLoop_step hi h
      intro a ha
      rcases List.mem_append.1 ha with ha | ha
      · cases p <;> simp [react] at ha
        rcases ha with rfl | rfl <;> simp
      · exact ih clock' _ acts' hrest a ha
end PyCraft.Neg
