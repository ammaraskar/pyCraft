import PyCraft.Lemmas.C06Dispatch
import PyCraft.Generated.Ids
import PyCraft.Generated.Versions
import PyCraft.Generated.C06Dispatch
/-!
The executable checks of `Props/C06.lean` and `Props/C06Dispatch.lean` over the regenerated tables
(`Generated/Ids.lean`, `Generated/Versions.lean`, `Generated/C06Dispatch.lean`), discharged by
`decide +kernel` (`tables_ok`), i.e. re-checked against what the code says now.  Every check walks
each table once, row by row, instead of looking each version up; within a row `dupIds`, `rowOk` and
`dictOk` compare the entries pairwise.
-/
namespace PyCraft.C06Dispatch
open PyCraft PyCraft.Gen

/-- the eight state/direction tables (4 states × 2 directions) -/
def tableNames : List String :=
  ["cbHandshake", "cbStatus", "cbLogin", "cbPlay", "sbHandshake", "sbStatus", "sbLogin", "sbPlay"]

/-- the rows flagged as supported: (version, registered classes with their ids) -/
def supportedRows (rows : List IdRow) : List (Nat × List IdEnt) :=
  (rows.filter fun r => r.2.1).map fun r => (r.1, r.2.2)

/-- row lookup by table name and version: (supported flag, entries) -/
def rowAt (n : String) (v : Nat) : Option (Bool × List IdEnt) := lookup2 idTables n v

/-- which table each reactor of connection.py is expected to decode with
(connection.py:663 PacketReactor, :736 LoginReactor, :801 PlayingReactor, :839 StatusReactor;
PlayingStatusReactor :871 inherits StatusReactor's) -/
def expectedBinding : List (String × String) :=
  [("PacketReactor", "cbHandshake"), ("LoginReactor", "cbLogin"), ("PlayingReactor", "cbPlay"),
   ("StatusReactor", "cbStatus"), ("PlayingStatusReactor", "cbStatus")]

/-- the dict the real reactor `R` built at version `v` (`some none` = its constructor raised) -/
def liveDict (R : String) (v : Nat) : Option (Option (List (Int × String))) :=
  lookup2 (reactorDicts.map fun p => (p.1, expandGroups p.2)) R v

/-- the version column of every table is the live `KNOWN_PROTOCOL_VERSIONS` -/
def checkVersions : Bool := idTables.all fun t => t.2.map (·.1) == liveTables.knownProtocols

/-- the versions of the rows flagged supported are the live `SUPPORTED_PROTOCOL_VERSIONS` -/
def checkFlags : Bool :=
  idTables.all fun t => (supportedRows t.2).map (·.1) == liveTables.supportedProtocols

/-- every supported row is accepted by `rowOk` -/
def checkRows : Bool :=
  idTables.all fun t => t.2.all fun (v, supported, ents) => !supported || rowOkFast t.1 v ents

/-- every listed collision is found on its supported row: exactly the listed classes, at least two -/
def checkKnownReal : Bool :=
  knownCollisionSets.all fun (table, v, i, classes) =>
    match rowAt table v with
    | some (true, row) => classesAtRow row i == classes && decide (2 ≤ classes.length)
    | _ => false

/-- one recorded live dict against the supported row of the same position -/
def dictRowOk (r : Nat × List IdEnt) (e : Nat × Option (List (Int × String))) : Bool :=
  r.1 == e.1 &&
    match resolveRow r.2, e.2 with
    | some ents, some d => dictOk d ents
    | _, _ => false

/-- every reactor class is bound to a table, and the dicts it built at the supported versions match
the supported rows of that table one by one -/
def checkReactors : Bool :=
  reactorDicts.all fun rd =>
    match reactorBinding.find? (fun b => b.1 == rd.1) with
    | none => false
    | some b =>
      match idTables.find? (fun t => t.1 == b.2) with
      | none => false
      | some t => zipAll dictRowOk (supportedRows t.2) (expandGroups rd.2)

/-- the ids read off packet instances (`self.id`) are the tabulated `get_id` of the supported rows -/
def checkSelf : Bool :=
  (selfIds.map fun s => (s.1, expandGroups s.2)) == (idTables.map fun t => (t.1, supportedRows t.2))

/-- Evaluated together: the checks share `supportedRows`, `expandGroups` and `resolveRow` of the same
rows, which the kernel then computes once. -/
theorem tables_ok : checkVersions = true ∧ checkFlags = true ∧ checkRows = true ∧
    checkKnownReal = true ∧ checkReactors = true ∧ checkSelf = true := by
  decide +kernel

theorem checkVersions_ok : checkVersions = true := tables_ok.1
theorem checkFlags_ok : checkFlags = true := tables_ok.2.1
theorem checkRows_ok : checkRows = true := tables_ok.2.2.1
theorem checkKnownReal_ok : checkKnownReal = true := tables_ok.2.2.2.1
theorem checkReactors_ok : checkReactors = true := tables_ok.2.2.2.2.1
theorem checkSelf_ok : checkSelf = true := tables_ok.2.2.2.2.2

/-- every supported row of every table is accepted by `rowOk` -/
theorem rowOk_of_supported : ∀ t ∈ idTables, ∀ r ∈ t.2, r.2.1 = true → rowOk t.1 r.1 r.2.2 = true := by
  intro t ht r hr hs
  have h := checkRows_ok
  simp only [checkRows, List.all_eq_true] at h
  obtain ⟨v, supported, ents⟩ := r
  have h2 := h t ht _ hr
  simp only at hs h2
  simp only [hs, Bool.not_true, Bool.false_or] at h2
  exact rowOk_of_fast h2

theorem mem_supportedRows {rows : List IdRow} {e : Nat × List IdEnt} :
    e ∈ supportedRows rows ↔ (e.1, true, e.2) ∈ rows := by
  simp only [supportedRows, List.mem_map, List.mem_filter]
  constructor
  · rintro ⟨r, ⟨hr, hs⟩, rfl⟩
    obtain ⟨v, s, l⟩ := r
    simp only at hs; subst hs; exact hr
  · intro h; exact ⟨(e.1, true, e.2), ⟨h, rfl⟩, rfl⟩

end PyCraft.C06Dispatch
