import PyCraft.Model.PlayWire
import PyCraft.Model.Cfb8
import PyCraft.Lemmas.Play
import PyCraft.Lemmas.Wire
import PyCraft.Lemmas.FrameViews
/-!
Lemmas for `Props/C11Wire.lean`.  Packet level: the fixed-width readers and writers invert each
other (`s64`/`u64` are the signed and unsigned view of a Long), `clientDecode` inverts `serverFields`
and `serverDecode` inverts `replyFields`, and a successful `clientDecode` determines the bytes it
consumed (for the byte-echo statements).  Run level: the closed form of the run in the vocabulary of
the packets (`run_facts`).  Set compression in the play state: the client's reading loop follows the
thresholds of the server's stream (`clientReadFuel_server`); the instrumented loop `runT` is
`runLoop` and keeps ONE invariant (`TagInv`), from which both "the tags describe the wire" and "a
reply is written after its packet" are read off; the reference server is told a flag per frame; a
stream without such packets is the one-threshold case.  At the end the parameters of the examples.
-/
namespace PyCraft.PlayWire
open PyCraft PyCraft.Play

/-! ## fixed-width patterns -/

theorem takeN_ok {w : Nat} {bs h r : Bytes} (e : takeN w bs = .ok (h, r)) :
    bs = h ++ r ∧ h.length = w := by
  unfold takeN at e
  split at e
  · next hle =>
    injection e with e; injection e with e1 e2
    subst e1; subst e2
    exact ⟨(List.take_append_drop w bs).symm, by rw [List.length_take]; omega⟩
  · cases e

theorem readBE_beBytes (w n : Nat) (rest : Bytes) (h : n < 256 ^ w) :
    readBE w (beBytes w n ++ rest) = .ok (n, rest) := by
  unfold readBE
  rw [takeN_append' w _ _ (beBytes_length w n)]
  simp only [beValue_beBytes, Nat.mod_eq_of_lt h]

theorem readBE8 (n : Nat) (rest : Bytes) (h : n < 2 ^ 64) :
    readBE 8 (beBytes 8 n ++ rest) = .ok (n, rest) := readBE_beBytes 8 n rest (by omega)

theorem readBE4 (n : Nat) (rest : Bytes) (h : n < 2 ^ 32) :
    readBE 4 (beBytes 4 n ++ rest) = .ok (n, rest) := readBE_beBytes 4 n rest (by omega)

theorem readBE1 (n : Nat) (rest : Bytes) (h : n < 256) :
    readBE 1 (beBytes 1 n ++ rest) = .ok (n, rest) := readBE_beBytes 1 n rest (by omega)

/-- A successful fixed-width read: the bytes consumed are the pattern's big-endian bytes. -/
theorem readBE_ok {w : Nat} {bs : Bytes} {n : Nat} {r : Bytes} (e : readBE w bs = .ok (n, r)) :
    bs = beBytes w n ++ r ∧ n < 256 ^ w := by
  unfold readBE at e
  cases ht : takeN w bs with
  | error e' => rw [ht] at e; cases e
  | ok hr =>
    obtain ⟨h, r'⟩ := hr
    rw [ht] at e
    injection e with e; injection e with e1 e2
    subst e1; subst e2
    obtain ⟨h1, h2⟩ := takeN_ok ht
    refine ⟨?_, ?_⟩
    · rw [← h2, beBytes_beValue]; exact h1
    · rw [← h2]; exact beValue_lt h

theorem u64_s64 (n : Nat) : u64 (s64 n) = n % 2 ^ 64 := by
  unfold u64 s64
  split <;> omega

theorem u64_s64_lt (n : Nat) (h : n < 2 ^ 64) : u64 (s64 n) = n := by
  rw [u64_s64]; omega

theorem beBytes8_u64_s64 (n : Nat) : beBytes 8 (u64 (s64 n)) = beBytes 8 n := by
  apply beBytes_congr
  rw [u64_s64]
  omega

/-- Eight bytes are 64 bits. -/
theorem pow256_8 : (256 : Int) ^ 8 = 2 ^ 64 := by decide

/-- `Long.read` on eight pattern bytes: the signed reading. -/
theorem unpackS8_beBytes (n : Nat) (rest : Bytes) (h : n < 2 ^ 64) :
    unpackS 8 (beBytes 8 n ++ rest) = .ok (s64 n, rest) := by
  unfold unpackS
  rw [takeN_append' 8 _ _ (beBytes_length 8 n)]
  simp only [bind, Except.bind, pure, Except.pure, beValue_beBytes]
  have hm : n % 256 ^ 8 = n := Nat.mod_eq_of_lt (by omega)
  rw [hm, pow256_8]
  have hs : (if (n : Int) < 2 ^ 64 / 2 then (n : Int) else (n : Int) - 2 ^ 64) = s64 n := by
    unfold s64; split <;> split <;> omega
  rw [hs]

/-- A successful `Long.read`: eight bytes consumed, which are the bytes of the value's pattern. -/
theorem unpackS8_ok {bs : Bytes} {v : Int} {r : Bytes} (e : unpackS 8 bs = .ok (v, r)) :
    bs = beBytes 8 (u64 v) ++ r ∧ u64 v < 2 ^ 64 := by
  unfold unpackS at e
  cases ht : takeN 8 bs with
  | error e' => rw [ht] at e; cases e
  | ok hr =>
    obtain ⟨h, r'⟩ := hr
    rw [ht] at e
    simp only [bind, Except.bind, pure, Except.pure] at e
    injection e with e; injection e with e1 e2
    subst e2
    obtain ⟨h1, h2⟩ := takeN_ok ht
    have hlt := beValue_lt h
    rw [h2] at hlt
    rw [pow256_8] at e1
    have hu : u64 v = beValue h := by
      rw [← e1]; unfold u64
      split <;> omega
    refine ⟨?_, by rw [hu]; omega⟩
    rw [hu, ← h2, beBytes_beValue]; exact h1

/-- `Long.send` of a value that came out of `Long.read` cannot raise and writes its pattern. -/
theorem packS8_s64 (n : Nat) (h : n < 2 ^ 64) : packS 8 (s64 n) = .ok (beBytes 8 (u64 (s64 n))) := by
  unfold packS
  rw [pow256_8]
  have : -((2 : Int) ^ 64 / 2) ≤ s64 n ∧ s64 n < (2 : Int) ^ 64 / 2 := by
    unfold s64; split <;> omega
  rw [if_pos this]
  rfl

section
variable (P : Profile)

/-! ## the client's decoder on what the server writes -/

theorem decVarInt_enc_nil (n : Nat) (h : n < 2 ^ 42) : decVarInt 5 (encVarInt n) = .ok (n, []) := by
  have := decVarInt_enc n [] h
  rwa [List.append_nil] at this

theorem readKeepAlive_kaField (id : Nat) (h : (SrvPkt.keepAlive id).wf P = true) :
    readKeepAlive P (kaField P id) = .ok (.keepAlive id) := by
  unfold readKeepAlive kaField
  simp only [SrvPkt.wf] at h
  cases hk : P.kaLong
  · simp only [hk, Bool.false_eq_true, if_false, decide_eq_true_eq] at h ⊢
    have := decVarInt_enc id [] h
    rw [List.append_nil] at this
    rw [this]
  · simp only [hk, if_true, decide_eq_true_eq] at h ⊢
    have := unpackS8_beBytes id [] h
    rw [List.append_nil] at this
    simp only [this, u64_s64_lt id h]

theorem readPosLook_fields (x y z yaw pitch flags tid : Nat) (dv : Bool)
    (h : (SrvPkt.posLook x y z yaw pitch flags tid dv).wf P = true) :
    readPosLook P (serverFields P (.posLook x y z yaw pitch flags tid dv)).2 =
      .ok (.posLook x y z yaw pitch flags tid) := by
  simp only [SrvPkt.wf, Bool.and_eq_true, decide_eq_true_eq] at h
  obtain ⟨⟨⟨⟨⟨⟨hx, hy⟩, hz⟩, hyaw⟩, hpitch⟩, hfl⟩, htid⟩ := h
  unfold readPosLook serverFields
  simp only [bind, Except.bind, readBE8 _ _ hx, readBE8 _ _ hy, readBE8 _ _ hz,
    readBE4 _ _ hyaw, readBE4 _ _ hpitch, readBE1 _ _ hfl]
  cases hn : P.newer107 <;> cases hd : P.dismount <;>
    simp only [hn, Bool.false_eq_true, if_false, if_true, decide_eq_true_eq] at htid ⊢
  · subst htid; rfl
  · subst htid; simp [takeN, pure, Except.pure]
  · simp [decVarInt_enc_nil _ htid, pure, Except.pure]
  · simp [decVarInt_enc _ _ htid, takeN, pure, Except.pure]

theorem readString_enc (s : String) (rest : Bytes) (h : (utf8 s).length < 2 ^ 42) :
    readString (encVarInt (utf8 s).length ++ (utf8 s ++ rest)) = .ok (s, rest) := by
  unfold readString
  rw [decVarInt_enc _ _ h]
  simp [utf8_roundtrip]

theorem readDisconnect_fields (s : String) (h : (utf8 s).length < 2 ^ 42) :
    readDisconnect (encVarInt (utf8 s).length ++ utf8 s) = .ok .disconnect := by
  unfold readDisconnect
  have := readString_enc s [] h
  rw [List.append_nil] at this
  rw [this]

/-- The client's `read_packet` decodes what the server wrote to the event the packet is (an unknown
one without its data). -/
theorem clientDecode_serverFields (hP : P.cbDistinct = true) (p : SrvPkt)
    (h : p.wf P = true) : clientDecode P (serverFields P p) = .ok p.ev.asSeen := by
  simp only [Profile.cbDistinct, Bool.and_eq_true, bne_iff_ne, ne_eq] at hP
  obtain ⟨⟨h1, h2⟩, h3⟩ := hP
  cases p with
  | keepAlive id =>
    simp only [clientDecode, serverFields, if_true]
    exact readKeepAlive_kaField P id h
  | posLook x y z yaw pitch flags tid dv =>
    have := readPosLook_fields P x y z yaw pitch flags tid dv h
    simp only [serverFields] at this
    simp only [clientDecode, serverFields, if_neg (Ne.symm h1), if_true]
    exact this
  | disconnect json =>
    simp only [SrvPkt.wf, decide_eq_true_eq] at h
    simp only [clientDecode, serverFields, if_neg (Ne.symm h2), if_neg (Ne.symm h3), if_true]
    exact readDisconnect_fields json h
  | other pid name fields =>
    simp only [SrvPkt.wf, Bool.and_eq_true, bne_iff_ne, ne_eq, beq_iff_eq] at h
    obtain ⟨⟨⟨⟨a, b⟩, c⟩, sc⟩, d⟩ := h
    simp only [clientDecode, serverFields, if_neg a, if_neg b, if_neg c, if_neg sc, d]
    rfl
  | unknown pid data =>
    simp only [SrvPkt.wf, Bool.and_eq_true, bne_iff_ne, ne_eq, Option.isNone_iff_eq_none] at h
    obtain ⟨⟨⟨⟨a, b⟩, c⟩, sc⟩, d⟩ := h
    simp only [clientDecode, serverFields, if_neg a, if_neg b, if_neg c, if_neg sc, d]
    rfl
  | setCompression t =>
    simp only [SrvPkt.wf] at h
    cases hs : P.setCompressionCb with
    | none => rw [hs] at h; cases h
    | some pid =>
      rw [hs] at h
      simp only [Bool.and_eq_true, bne_iff_ne, ne_eq, decide_eq_true_eq] at h
      obtain ⟨⟨⟨a, b⟩, c⟩, d⟩ := h
      simp only [clientDecode, serverFields, hs, Option.getD_some, if_neg a, if_neg b, if_neg c,
        if_true, readSetCompression, decVarInt_enc_nil t d]
      rfl

/-! ## the reference server's decoder on what the client writes -/

theorem readPosEcho_fields (x y z yaw pitch : Int) (og : Bool)
    (hx : 0 ≤ x ∧ x < 2 ^ 64) (hy : 0 ≤ y ∧ y < 2 ^ 64) (hz : 0 ≤ z ∧ z < 2 ^ 64)
    (hyaw : 0 ≤ yaw ∧ yaw < 2 ^ 32) (hpitch : 0 ≤ pitch ∧ pitch < 2 ^ 32) :
    readPosEcho (beBytes 8 x.toNat ++ (beBytes 8 y.toNat ++ (beBytes 8 z.toNat ++
      (beBytes 4 yaw.toNat ++ (beBytes 4 pitch.toNat ++ [if og then 1 else 0]))))) =
      .ok (.positionEcho x y z yaw pitch og, []) := by
  unfold readPosEcho
  simp only [bind, Except.bind, readBE8 _ _ (show x.toNat < 2 ^ 64 by omega),
    readBE8 _ _ (show y.toNat < 2 ^ 64 by omega), readBE8 _ _ (show z.toNat < 2 ^ 64 by omega),
    readBE4 _ _ (show yaw.toNat < 2 ^ 32 by omega),
    readBE4 _ _ (show pitch.toNat < 2 ^ 32 by omega)]
  rw [Int.toNat_of_nonneg hx.1, Int.toNat_of_nonneg hy.1, Int.toNat_of_nonneg hz.1,
    Int.toNat_of_nonneg hyaw.1, Int.toNat_of_nonneg hpitch.1]
  cases og <;> simp [takeN, pure, Except.pure]

/-- The reference server decodes what the client wrote for a well-formed reply to that reply. -/
theorem serverDecode_replyFields (hP : P.sbDistinct = true) (q : Reply)
    (h : replyWf P q = true) : serverDecode P (replyFields P q) = .ok q := by
  simp only [Profile.sbDistinct, bne_iff_ne, ne_eq] at hP
  cases q with
  | keepAlive id =>
    simp only [replyWf] at h
    simp only [serverDecode, replyFields, if_true]
    cases hk : P.kaLong
    · simp only [hk, Bool.false_eq_true, if_false, decide_eq_true_eq] at h ⊢
      rw [decVarInt_enc_nil id h]; rfl
    · simp only [hk, if_true, decide_eq_true_eq] at h ⊢
      have := readBE8 id [] h
      rw [List.append_nil] at this
      rw [u64_s64_lt id h, this]; rfl
  | teleportConfirm tid =>
    simp only [replyWf, Bool.and_eq_true, decide_eq_true_eq] at h
    obtain ⟨hn, ht⟩ := h
    have hack : P.ackSb = P.teleportConfirmSb := by simp [Profile.ackSb, hn]
    rw [hack] at hP
    simp only [serverDecode, replyFields, if_neg (Ne.symm hP), hack, if_true, hn]
    rw [decVarInt_enc_nil tid ht]; rfl
  | positionEcho x y z yaw pitch og =>
    simp only [replyWf, Bool.and_eq_true, decide_eq_true_eq, Bool.not_eq_true'] at h
    obtain ⟨⟨⟨⟨⟨hn, hx⟩, hy⟩, hz⟩, hyaw⟩, hpitch⟩ := h
    have hack : P.ackSb = P.posLookSb := by simp [Profile.ackSb, hn]
    rw [hack] at hP
    simp only [serverDecode, replyFields, if_neg (Ne.symm hP), hack, if_true, hn,
      Bool.false_eq_true, if_false]
    rw [readPosEcho_fields x y z yaw pitch og hx hy hz hyaw hpitch]; rfl

theorem packU8_ok (x : Int) (h : 0 ≤ x ∧ x < 2 ^ 64) : packU 8 x = .ok (beBytes 8 x.toNat) := by
  unfold packU
  rw [pow256_8, if_pos h]

theorem packU4_ok (x : Int) (h : 0 ≤ x ∧ x < 2 ^ 32) : packU 4 x = .ok (beBytes 4 x.toNat) := by
  have e4 : (256 : Int) ^ 4 = 2 ^ 32 := by decide
  unfold packU
  rw [e4, if_pos h]

/-- The literal writer with `struct.pack`'s range checks agrees on well-formed replies: no raise. -/
theorem replyFieldsPy_ok (q : Reply) (h : replyWf P q = true) :
    replyFieldsPy P q = .ok (replyFields P q) := by
  cases q with
  | keepAlive id =>
    simp only [replyWf] at h
    cases hk : P.kaLong
    · simp only [hk, Bool.false_eq_true, if_false, decide_eq_true_eq] at h
      simp [replyFieldsPy, replyFields, hk, encVarIntZ_nat, bind, Except.bind, pure, Except.pure]
    · simp only [hk, if_true, decide_eq_true_eq] at h
      simp [replyFieldsPy, replyFields, hk, packS8_s64 id h, bind, Except.bind, pure, Except.pure]
  | teleportConfirm tid =>
    simp [replyFieldsPy, replyFields, encVarIntZ_nat, bind, Except.bind, pure, Except.pure]
  | positionEcho x y z yaw pitch og =>
    simp only [replyWf, Bool.and_eq_true, decide_eq_true_eq, Bool.not_eq_true'] at h
    obtain ⟨⟨⟨⟨⟨-, hx⟩, hy⟩, hz⟩, hyaw⟩, hpitch⟩ := h
    simp only [replyFieldsPy, replyFields, packU8_ok x hx, packU8_ok y hy, packU8_ok z hz,
      packU4_ok yaw hyaw, packU4_ok pitch hpitch, bind, Except.bind, pure, Except.pure]

/-! ## lists: decoding a mapped list, the `SrvPkt` views of `beforeDisc` / `hasDisc` -/

theorem decodeEach_map {α β : Type} (dec : Nat × Bytes → Except Err β) (f : α → Nat × Bytes)
    (g : α → β) (e : Err) (l : List α) (h : ∀ a ∈ l, dec (f a) = .ok (g a)) :
      decodeEach dec (l.map f) e = (l.map g, e) := by
  induction l <;> simp_all [decodeEach]

theorem ev_ne_disc (p : SrvPkt) : (p.ev.asSeen != PlayEv.disconnect) = !p.isDisconnect := by
  cases p <;> simp [SrvPkt.ev, PlayEv.asSeen, SrvPkt.isDisconnect]

theorem beforeDisc_inboxOf (pkts : List SrvPkt) :
    beforeDisc (inboxOf pkts) = inboxOf (beforeDiscP pkts) := by
  unfold beforeDisc inboxOf beforeDiscP
  rw [List.takeWhile_map]
  congr 2
  funext p
  exact ev_ne_disc p

theorem hasDisc_inboxOf (pkts : List SrvPkt) : hasDisc (inboxOf pkts) = hasDiscP pkts := by
  induction pkts with
  | nil => rfl
  | cons p ps ih =>
    have hc : inboxOf (p :: ps) = p.ev.asSeen :: inboxOf ps := rfl
    rw [hc]
    by_cases hd : p.isDisconnect = true
    · have : p.ev.asSeen = .disconnect := by
        cases p <;> simp_all [SrvPkt.ev, PlayEv.asSeen, SrvPkt.isDisconnect]
      rw [this, hasDisc_cons_disc]
      simp [hasDiscP, hd]
    · have hne : p.ev.asSeen ≠ .disconnect := by
        cases p <;> simp_all [SrvPkt.ev, PlayEv.asSeen, SrvPkt.isDisconnect]
      rw [hasDisc_cons_ne _ _ hne, ih]
      simp [hasDiscP, hd]

theorem due_eq (pkts : List SrvPkt) :
    (beforeDisc (inboxOf pkts)).flatMap (replyTo P.newer107) = due P pkts := by
  rw [beforeDisc_inboxOf]
  unfold inboxOf due
  rw [List.flatMap_map]
  congr 1
  funext p
  exact replyTo_asSeen _ _

/-- The closed form of the run on the decoded inbox, in the vocabulary of the packets. -/
theorem run_facts (pkts : List SrvPkt) (po : Bool) (capW capR : Nat) (hR : 1 ≤ capR) :
    ∃ r, runLoop P.newer107 po capW capR (inboxOf pkts) = some r ∧
      r.wire <+: due P pkts ∧
      ((po = true ∨ hasDiscP pkts = false) → r.wire = due P pkts) ∧
      r.closed = hasDiscP pkts := by
  obtain ⟨w, hp, he, h⟩ := runLoop_spec P.newer107 po capW capR hR (inboxOf pkts)
  rw [fullWire, due_eq] at hp he
  rw [hasDisc_inboxOf] at he
  exact ⟨_, h, hp, he, hasDisc_inboxOf pkts⟩

/-- Every reply that is due is well-formed when the packets are. -/
theorem due_wf (pkts : List SrvPkt) (h : ∀ p ∈ pkts, p.wf P = true) :
    ∀ q ∈ due P pkts, replyWf P q = true := by
  intro q hq
  obtain ⟨p, hp, hqp⟩ := List.mem_flatMap.mp hq
  have hp' : p ∈ pkts := (List.takeWhile_prefix _).subset hp
  have hw := h p hp'
  cases p with
  | keepAlive id =>
    simp only [SrvPkt.ev, replyTo, List.mem_singleton] at hqp
    subst hqp
    simpa [SrvPkt.wf, replyWf] using hw
  | posLook x y z yaw pitch flags tid dv =>
    simp only [SrvPkt.wf, Bool.and_eq_true, decide_eq_true_eq] at hw
    obtain ⟨⟨⟨⟨⟨⟨hx, hy⟩, hz⟩, hyaw⟩, hpitch⟩, -⟩, htid⟩ := hw
    simp only [SrvPkt.ev, replyTo] at hqp
    cases hn : P.newer107
    · simp only [hn, Bool.false_eq_true, if_false, List.mem_singleton] at hqp htid
      subst hqp
      simp only [replyWf, hn, Bool.not_false, Bool.true_and, Bool.and_eq_true, decide_eq_true_eq]
      omega
    · simp only [hn, if_true, List.mem_singleton, decide_eq_true_eq] at hqp htid
      subst hqp
      simp [replyWf, hn, htid]
  | disconnect j => simp [SrvPkt.ev, replyTo] at hqp
  | other a b c => simp [SrvPkt.ev, replyTo] at hqp
  | unknown a b => simp [SrvPkt.ev, replyTo] at hqp
  | setCompression t => simp [SrvPkt.ev, replyTo] at hqp

/-! ## the written chunks -/

theorem sends_flatten (z : ZlibOps) (thr : Option Int) (fields : Reply → Nat × Bytes) :
    ∀ replies : List Reply, (replies.flatMap (sendsWith z thr fields)).flatten =
      (replies.map (frameWith z thr fields)).flatten
  | [] => rfl
  | q :: rest => by
    simp only [List.flatMap_cons, List.flatten_append, List.map_cons, List.flatten_cons,
      sends_flatten z thr fields rest]
    congr 1
    exact frameSends_flatten' z thr _

/-- Whatever the chunking into `send` calls, the socket is handed ONE cipher stream over the
concatenated frames. -/
theorem wireWith_flatten {τ : Type} (z : ZlibOps) (thr : Option Int) (enc : StreamXform τ) (t0 : τ)
    (fields : Reply → Nat × Bytes) (replies : List Reply) :
    (wireWith z thr enc t0 fields replies).flatten =
      (enc.update t0 (replies.map (frameWith z thr fields)).flatten).2 := by
  unfold wireWith
  rw [encSends_flatten, sends_flatten]

/-! ## what a successful client decode says about the raw payload -/

/-- A `do` block succeeds iff its first action does and the rest does on its result. -/
theorem bind_eq_ok {ε α β : Type} (x : Except ε α) (f : α → Except ε β) (b : β) :
    (x >>= f) = .ok b ↔ ∃ a, x = .ok a ∧ f a = .ok b := by
  cases x <;> simp [bind, Except.bind]

theorem readPosLook_ok (bs : Bytes) (x y z yaw pitch : Int) (flags tid : Nat)
    (h : readPosLook P bs = .ok (.posLook x y z yaw pitch flags tid)) :
    ∃ r6 : Bytes,
      bs = beBytes 8 x.toNat ++ (beBytes 8 y.toNat ++ (beBytes 8 z.toNat ++
        (beBytes 4 yaw.toNat ++ (beBytes 4 pitch.toNat ++ (beBytes 1 flags ++ r6))))) ∧
      (0 ≤ x ∧ 0 ≤ y ∧ 0 ≤ z ∧ 0 ≤ yaw ∧ 0 ≤ pitch) ∧
      (P.newer107 = true → ∃ r7, decVarInt 5 r6 = .ok (tid, r7)) ∧
      (P.newer107 = false → tid = 0) := by
  unfold readPosLook at h
  obtain ⟨⟨x1, r1⟩, h1, h⟩ := (bind_eq_ok _ _ _).1 h
  obtain ⟨⟨y1, r2⟩, h2, h⟩ := (bind_eq_ok _ _ _).1 h
  obtain ⟨⟨z1, r3⟩, h3, h⟩ := (bind_eq_ok _ _ _).1 h
  obtain ⟨⟨yaw1, r4⟩, h4, h⟩ := (bind_eq_ok _ _ _).1 h
  obtain ⟨⟨pitch1, r5⟩, h5, h⟩ := (bind_eq_ok _ _ _).1 h
  obtain ⟨⟨fl, r6⟩, h6, h7⟩ := (bind_eq_ok _ _ _).1 h
  -- the tail: teleport id from 107 on, one more byte from 755 on; the event is built last
  have key : ∃ t r7, (if P.newer107 then decVarInt 5 r6 else .ok (0, r6)) = .ok (t, r7) ∧
      PlayEv.posLook x1 y1 z1 yaw1 pitch1 fl t = .posLook x y z yaw pitch flags tid := by
    cases hn : P.newer107 <;> cases hd : P.dismount <;>
      simp only [hn, hd, bind_eq_ok, Prod.exists, Except.ok.injEq, Bool.false_eq_true, if_false,
        if_true, pure, Except.pure] at h7 ⊢ <;>
      (obtain ⟨t, r7, ht, -, -, -, he⟩ := h7; exact ⟨t, r7, ht, he⟩)
  obtain ⟨t, r7, ht, he⟩ := key
  cases he
  refine ⟨r6, ?_, by omega, fun hn => ⟨r7, by rw [← ht, if_pos hn]⟩, fun hn => ?_⟩
  · simp only [Int.toNat_natCast]
    rw [(readBE_ok h1).1, (readBE_ok h2).1, (readBE_ok h3).1, (readBE_ok h4).1, (readBE_ok h5).1,
      (readBE_ok h6).1]
  · rw [hn] at ht
    cases ht
    rfl

/-- With distinct ids the position-and-look id selects `readPosLook`. -/
theorem clientDecode_posLook (hP : P.cbDistinct = true) (raw : Bytes) :
    clientDecode P (P.posLookCb, raw) = readPosLook P raw := by
  simp only [Profile.cbDistinct, Bool.and_eq_true, bne_iff_ne, ne_eq] at hP
  have hne : P.posLookCb ≠ P.kaCb := fun h => hP.1.1 h.symm
  simp [clientDecode, hne]

theorem readKeepAlive_ok (bs : Bytes) (id : Nat) (h : readKeepAlive P bs = .ok (.keepAlive id)) :
    (P.kaLong = true → ∃ r, bs = beBytes 8 id ++ r ∧ id < 2 ^ 64) ∧
    (P.kaLong = false → ∃ r, decVarInt 5 bs = .ok (id, r)) := by
  unfold readKeepAlive at h
  cases hk : P.kaLong
  · simp only [hk, Bool.false_eq_true, if_false] at h
    refine ⟨fun hh => (by cases hh), fun _ => ?_⟩
    cases hv : decVarInt 5 bs with
    | error e => rw [hv] at h; cases h
    | ok v =>
      obtain ⟨n, r⟩ := v
      rw [hv] at h
      injection h with h; injection h with h
      exact ⟨r, by rw [h]⟩
  · simp only [hk, if_true] at h
    refine ⟨fun _ => ?_, fun hh => (by cases hh)⟩
    cases hv : unpackS 8 bs with
    | error e => rw [hv] at h; cases h
    | ok v =>
      obtain ⟨n, r⟩ := v
      rw [hv] at h
      injection h with h; injection h with h
      obtain ⟨a, b⟩ := unpackS8_ok hv
      exact ⟨r, by rw [← h]; exact a, by rw [← h]; exact b⟩

/-- A successful `VarInt.read`: the bytes consumed denote the value, and re-encoding the value gives
those very bytes when they are the canonical (shortest) encoding. -/
theorem decVarInt_ok_used (bs : Bytes) (n : Nat) (r : Bytes) (h : decVarInt 5 bs = .ok (n, r)) :
    ∃ used, bs = used ++ r ∧ leValue used = n ∧ used.length ≤ 6 ∧
      (Canonical used → encVarInt n = used) := by
  obtain ⟨pre, last, e1, e2, -, -, -, e6, -⟩ :=
    dec_ok_shape 5 bs 0 0 n r (by simp) (by omega) h
  have hv : leValue (pre ++ [last]) = n := by rw [e6]; simp
  refine ⟨pre ++ [last], by rw [e1]; simp, hv, by simp; omega, fun hc => ?_⟩
  rw [← hv]; exact enc_unique _ hc

theorem take32 (a b c d e rest : Bytes) (ha : a.length = 8) (hb : b.length = 8)
    (hc : c.length = 8) (hd : d.length = 4) (he : e.length = 4) :
    (a ++ (b ++ (c ++ (d ++ (e ++ rest))))).take 32 = a ++ (b ++ (c ++ (d ++ e))) := by
  have : a ++ (b ++ (c ++ (d ++ (e ++ rest)))) = (a ++ (b ++ (c ++ (d ++ e)))) ++ rest := by simp
  rw [this, List.take_left']
  simp [ha, hb, hc, hd, he]

/-! ## the replies in terms of the server's own bytes -/

theorem replyFields_kaField (id : Nat) :
    (replyFields P (.keepAlive id)).2 = kaField P id := by
  unfold replyFields kaField
  cases P.kaLong
  · rfl
  · simp [beBytes8_u64_s64]

/-- Packet by packet: the field bytes of the replies are the echo specification. -/
theorem replyTo_fields (p : SrvPkt) :
    (replyTo P.newer107 p.ev).map (replyFields P) = echoOf P p := by
  cases p with
  | keepAlive id =>
    simp only [SrvPkt.ev, replyTo, List.map_cons, List.map_nil, echoOf, serverFields]
    rw [← replyFields_kaField]; rfl
  | posLook x y z yaw pitch flags tid dv =>
    cases hn : P.newer107
    · simp only [SrvPkt.ev, replyTo, hn, Bool.false_eq_true, if_false, List.map_cons, List.map_nil,
        echoOf, ackOf, Option.toList, serverFields, replyFields, Int.toNat_natCast]
      rw [take32 _ _ _ _ _ _ (beBytes_length _ _) (beBytes_length _ _) (beBytes_length _ _)
        (beBytes_length _ _) (beBytes_length _ _)]
      simp
    · simp [SrvPkt.ev, replyTo, hn, echoOf, ackOf, replyFields]
  | disconnect j => rfl
  | other a b c => rfl
  | unknown a b => rfl
  | setCompression t => rfl

theorem due_fields (pkts : List SrvPkt) :
    (due P pkts).map (replyFields P) = (beforeDiscP pkts).flatMap (echoOf P) := by
  unfold due
  rw [List.map_flatMap]
  congr 1
  funext p
  exact replyTo_fields P p

theorem ka_filter_fields : ∀ l : List Reply,
    (l.filter Reply.isKeepAlive).map (fun q => (replyFields P q).2) =
      (l.filterMap Reply.keepAliveId?).map (kaField P)
  | [] => rfl
  | q :: l => by
    have ih := ka_filter_fields l
    cases q with
    | keepAlive id =>
      show (replyFields P (.keepAlive id)).2 :: _ = kaField P id :: _
      rw [replyFields_kaField, ih]
    | _ => exact ih

theorem ka_filter_server : ∀ l : List SrvPkt,
    ((inboxOf l).filterMap PlayEv.keepAliveId?).map (kaField P) =
      (l.filter SrvPkt.isKeepAlive).map (fun p => (serverFields P p).2)
  | [] => rfl
  | p :: l => by
    have ih := ka_filter_server l
    cases p <;> first | exact ih | exact congrArg (List.cons _) ih

theorem ack_fields (p : SrvPkt) :
    (expectedAck P.newer107 p.ev.asSeen).map (replyFields P) = ackOf P p := by
  have := replyTo_fields P p
  cases p with
  | keepAlive id => rfl
  | posLook x y z yaw pitch flags tid dv =>
    simp only [echoOf] at this
    cases hn : P.newer107 <;>
      simp only [hn, SrvPkt.ev, replyTo, Bool.false_eq_true, if_false, if_true, List.map_cons,
        List.map_nil] at this <;>
      simp only [SrvPkt.ev, PlayEv.asSeen, expectedAck, Bool.false_eq_true, if_false, if_true,
        Option.map_some] <;>
      cases ha : ackOf P (.posLook x y z yaw pitch flags tid dv) <;> simp_all [Option.toList]
  | disconnect j => rfl
  | other a b c => rfl
  | unknown a b => rfl
  | setCompression t => rfl

theorem ack_filter_server (l : List SrvPkt) :
    ((inboxOf l).filterMap (expectedAck P.newer107)).map (replyFields P) =
      l.filterMap (ackOf P) := by
  unfold inboxOf
  rw [List.filterMap_map, List.map_filterMap]
  congr 1
  funext p
  exact ack_fields P p

theorem beforeDiscP_append_disc (pre post : List SrvPkt) (j : String)
    (h : ∀ p ∈ pre, p.isDisconnect = false) :
    beforeDiscP (pre ++ .disconnect j :: post) = pre := by
  induction pre <;> simp_all [beforeDiscP, SrvPkt.isDisconnect]

/-- The reference decoder, reply by reply, on the `(id, field bytes)` of well-formed replies. -/
theorem decodeEach_replies (hSb : P.sbDistinct = true) (replies : List Reply)
    (hwf : ∀ q ∈ replies, replyWf P q = true) (e : Err) :
    decodeEach (serverDecode P) (replies.map (replyFields P)) e = (replies, e) := by
  have := decodeEach_map (serverDecode P) (replyFields P) id e replies
    fun q hq => serverDecode_replyFields P hSb q (hwf q hq)
  simpa using this

end

/-- The client's decoder, packet by packet, on the `(id, field bytes)` of well-formed packets. -/
theorem decodeEach_server (P : Profile) (hP : P.cbDistinct = true) (pkts : List SrvPkt)
    (hwf : ∀ p ∈ pkts, p.wf P = true) (e : Err) :
    decodeEach (clientDecode P) (pkts.map (serverFields P)) e = (inboxOf pkts, e) :=
  decodeEach_map (clientDecode P) (serverFields P) (fun p => p.ev.asSeen) e pkts
    fun p hp => clientDecode_serverFields P hP p (hwf p hp)

/-- The `send` chunks of the replies concatenate to the frames of their `(id, field bytes)`. -/
theorem sends_frames (z : ZlibOps) (thr : Option Int) (P : Profile) (replies : List Reply) :
    (replies.flatMap (sendsWith z thr (replyFields P))).flatten =
      ((replies.map (replyFields P)).map (packetFrame z thr)).flatten := by
  rw [sends_flatten, List.map_map]; rfl

/-! ## set compression: the reader follows the stream's thresholds -/

/-- What `react`'s first branch installs for a packet the server wrote: the threshold of a
set-compression packet, nothing for any other packet. -/
theorem switchOf_serverFields (P : Profile) (p : SrvPkt) (h : p.wf P = true) :
    switchOf P (serverFields P p) =
      (match p with
       | .setCompression t => some t
       | _ => none) := by
  cases p with
  | keepAlive id => simp [switchOf, serverFields]
  | posLook x y z yaw pitch flags tid dv => simp [switchOf, serverFields]
  | disconnect json => simp [switchOf, serverFields]
  | other pid name fields =>
    simp only [SrvPkt.wf, Bool.and_eq_true, bne_iff_ne, ne_eq, beq_iff_eq] at h
    obtain ⟨⟨⟨⟨a, b⟩, c⟩, sc⟩, -⟩ := h
    simp [switchOf, serverFields, a, b, c, sc]
  | unknown pid data =>
    simp only [SrvPkt.wf, Bool.and_eq_true, bne_iff_ne, ne_eq, Option.isNone_iff_eq_none] at h
    obtain ⟨⟨⟨⟨a, b⟩, c⟩, sc⟩, -⟩ := h
    simp [switchOf, serverFields, a, b, c, sc]
  | setCompression t =>
    simp only [SrvPkt.wf] at h
    cases hs : P.setCompressionCb with
    | none => rw [hs] at h; cases h
    | some pid =>
      rw [hs] at h
      simp only [Bool.and_eq_true, bne_iff_ne, ne_eq, decide_eq_true_eq] at h
      obtain ⟨⟨⟨a, b⟩, c⟩, d⟩ := h
      simp [switchOf, serverFields, hs, a, b, c, readSetCompression, decVarInt_enc_nil t d]

/-- The reader's flag after the packet is "a threshold is in force after the packet". -/
theorem flag_step (P : Profile) (p : SrvPkt) (h : p.wf P = true) (thr : Option Int) :
    (thr.isSome || (switchOf P (serverFields P p)).isSome) = (p.thrAfter thr).isSome := by
  rw [switchOf_serverFields P p h]
  cases p <;> simp [SrvPkt.thrAfter]

theorem packetFrame_ne_nil' (z : ZlibOps) (thr : Option Int) (p : Nat × Bytes) :
    packetFrame z thr p ≠ [] := by
  unfold packetFrame frame
  exact List.append_ne_nil_of_left_ne_nil (enc_ne_nil _) _

theorem serverBytes_cons (z : ZlibOps) (thr : Option Int) (P : Profile) (p : SrvPkt)
    (ps : List SrvPkt) :
    serverBytes z thr P (p :: ps) =
      packetFrame z thr (serverFields P p) ++ serverBytes z (p.thrAfter thr) P ps := by
  simp [serverBytes, serverFrames]

theorem serverBytes_length (z : ZlibOps) (P : Profile) : ∀ (pkts : List SrvPkt) (thr : Option Int),
    pkts.length ≤ (serverBytes z thr P pkts).length
  | [], _ => by simp [serverBytes, serverFrames]
  | p :: ps, thr => by
    rw [serverBytes_cons, List.length_append, List.length_cons]
    have := List.length_pos_iff.mpr (packetFrame_ne_nil' z thr (serverFields P p))
    have := serverBytes_length z P ps (p.thrAfter thr)
    omega

/-- The server's stream — every frame under the threshold in force at its position — seen ahead through
any decryptor is read back as the events the packets are, the reader's flag following the
set-compression packets, then end of stream. -/
theorem clientReadFuel_server {σ : Type} (dec : StreamXform σ) (z : Zlib) (P : Profile)
    (hP : P.cbDistinct = true) :
    ∀ (pkts : List SrvPkt) (thr : Option Int) (fuel : Nat) (k : Sock σ),
      (∀ p ∈ pkts, p.wf P = true) → ServerOK z.toZlibOps P thr pkts → pkts.length < fuel →
      ahead dec k = serverBytes z.toZlibOps thr P pkts →
      clientReadFuel P dec z.toZlibOps fuel thr.isSome k = (inboxOf pkts, .eof) := by
  intro pkts
  induction pkts with
  | nil =>
    intro thr fuel k _ _ hf hk
    cases fuel with
    | zero => omega
    | succ fuel =>
      obtain ⟨k', e1⟩ := readPacketK_nil dec z.toZlibOps thr.isSome k hk
      simp only [clientReadFuel, e1]
      rfl
  | cons p ps ih =>
    intro thr fuel k hwf hok hf hk
    cases fuel with
    | zero => omega
    | succ fuel =>
      obtain ⟨hok1, hok2⟩ := hok
      have hw := hwf p (by simp)
      rw [serverBytes_cons] at hk
      obtain ⟨k', e1, e2⟩ := readPacketK_packetFrame dec z thr (serverFields P p) _ k hok1 hk
      simp only [clientReadFuel, e1, clientDecode_serverFields P hP p hw, flag_step P p hw thr]
      rw [ih (p.thrAfter thr) fuel k' (fun q hq => hwf q (by simp [hq])) hok2
        (by simp at hf; omega) e2]
      rfl

/-! ## set compression: the instrumented loop -/

/-- Reacting to an event appends to the wire (the flush of `disconnect()`), and what is on the wire or
queued afterwards is what was there before plus at most the replies to the event. -/
theorem reactAll_wire (newer po : Bool) (c : Conn) (e : PlayEv) :
    (∃ l, (reactAll newer po c e).wire = c.wire ++ l) ∧
      (reactAll newer po c e).wire.length + (reactAll newer po c e).queue.length ≤
        c.wire.length + c.queue.length + (replyTo newer e).length := by
  by_cases h : e = .disconnect
  · subst h
    simp only [reactAll, react_disc_eq, replyTo]
    cases po <;> cases c.closed <;> simp
  · exact ⟨⟨[], by simp [reactAll, react_ne_disc newer po c e h]⟩,
      by simp [reactAll, react_ne_disc newer po c e h]; omega⟩

/-- How many replies the first `n` events of `E` cause. -/
def repliesUpTo (newer : Bool) (E : List PlayEv) (n : Nat) : Nat :=
  ((E.take n).flatMap (replyTo newer)).length

theorem repliesUpTo_succ (newer : Bool) (pre : List PlayEv) (e : PlayEv) (rest : List PlayEv) :
    repliesUpTo newer (pre ++ e :: rest) (pre.length + 1) =
      repliesUpTo newer (pre ++ e :: rest) pre.length + (replyTo newer e).length := by
  have e0 : pre ++ e :: rest = (pre ++ [e]) ++ rest := by simp
  have e1 : (pre ++ e :: rest).take (pre.length + 1) = pre ++ [e] := by
    rw [e0]; exact List.take_left' (by simp)
  have e2 : (pre ++ e :: rest).take pre.length = pre := List.take_left' rfl
  simp [repliesUpTo, e1, e2]

theorem repliesUpTo_mono (newer : Bool) (E : List PlayEv) {a b : Nat} (h : a ≤ b) :
    repliesUpTo newer E a ≤ repliesUpTo newer E b := by
  unfold repliesUpTo
  have e : E.take b = (E.take b).take a ++ (E.take b).drop a := (List.take_append_drop a _).symm
  have e2 : (E.take b).take a = E.take a := by rw [List.take_take, Nat.min_eq_left h]
  rw [e, e2, List.flatMap_append, List.length_append]
  omega

theorem repliesUpTo_inboxOf (P : Profile) (pkts : List SrvPkt) (n : Nat) :
    repliesUpTo P.newer107 (inboxOf pkts) n =
      ((pkts.take n).flatMap fun p => replyTo P.newer107 p.ev).length := by
  unfold repliesUpTo inboxOf
  rw [← List.map_take, List.flatMap_map]
  congr 2
  funext p
  exact replyTo_asSeen _ _

theorem pairwise_same_tag (n : Nat) (l : List Reply) :
    (l.map fun q => ((q, n) : Tagged)).Pairwise fun a b => a.2 ≤ b.2 := by
  induction l <;> simp_all

/-- The invariant of the instrumented run on the inbox `E`, with `d` packets processed: the tags
describe the wire, never exceed `d` and never decrease; the reply at wire position `j` carries a tag
`n` such that the first `n` packets cause more than `j` replies; and everything written or queued is
caused by the `d` packets processed. -/
structure TagInv (newer : Bool) (E : List PlayEv) (c : Conn) (d : Nat) (tw : List Tagged) :
    Prop where
  fst : tw.map (·.1) = c.wire
  le : ∀ x ∈ tw, x.2 ≤ d
  mono : tw.Pairwise fun a b => a.2 ≤ b.2
  after : ∀ (j : Nat) (hj : j < tw.length), j < repliesUpTo newer E tw[j].2
  caused : c.wire.length + c.queue.length ≤ repliesUpTo newer E d

theorem TagInv.init (newer : Bool) (E : List PlayEv) : TagInv newer E Conn.init 0 [] :=
  ⟨rfl, fun _ h => (by cases h), List.Pairwise.nil, fun _ h => (by cases h), Nat.zero_le _⟩

theorem TagInv.up {newer : Bool} {E : List PlayEv} {c : Conn} {d n : Nat} {tw : List Tagged}
    (h : TagInv newer E c d tw) (hn : d ≤ n) : TagInv newer E c n tw :=
  ⟨h.fst, fun x hx => Nat.le_trans (h.le x hx) hn, h.mono, h.after,
    Nat.le_trans h.caused (repliesUpTo_mono newer E hn)⟩

/-- Writing: the state `c'` has `l` more on its wire than `c`, written with `n ≥ d` packets
processed, and what it has written or queued is caused by those `n` packets. -/
theorem TagInv.write {newer : Bool} {E : List PlayEv} {c c' : Conn} {d : Nat} {tw : List Tagged}
    (h : TagInv newer E c d tw) (l : List Reply) (n : Nat) (hn : d ≤ n)
    (hw : c'.wire = c.wire ++ l)
    (hc : c'.wire.length + c'.queue.length ≤ repliesUpTo newer E n) :
    TagInv newer E c' n (tagNew c.wire c'.wire n tw) := by
  have hlen : tw.length = c.wire.length := by rw [← h.fst, List.length_map]
  have hwl : c'.wire.length = c.wire.length + l.length := by rw [hw, List.length_append]
  have ht : tagNew c.wire c'.wire n tw = tw ++ l.map fun q => (q, n) := by
    rw [tagNew, hw, List.drop_left' rfl]
  rw [ht]
  refine ⟨by rw [hw]; simp [h.fst, Function.comp_def], ?_, ?_, ?_, hc⟩
  · intro x hx
    rcases List.mem_append.mp hx with hx | hx
    · exact Nat.le_trans (h.le x hx) hn
    · obtain ⟨q, -, rfl⟩ := List.mem_map.mp hx
      exact Nat.le_refl _
  · rw [List.pairwise_append]
    refine ⟨h.mono, pairwise_same_tag n l, fun a ha b hb => ?_⟩
    obtain ⟨q, -, rfl⟩ := List.mem_map.mp hb
    exact Nat.le_trans (h.le a ha) hn
  · intro j hj
    by_cases hjt : j < tw.length
    · rw [List.getElem_append_left hjt]
      exact h.after j hjt
    · rw [List.getElem_append_right (Nat.le_of_not_lt hjt), List.getElem_map]
      simp only [List.length_append, List.length_map] at hj
      show j < repliesUpTo newer E n
      omega

/-- The instrumented read phase is the read phase, and keeps the invariant (`pre`: the packets
processed so far). -/
theorem readLoopT_spec (newer po : Bool) (capR : Nat) (E : List PlayEv) :
    ∀ (inbox pre : List PlayEv) (num : Nat) (c : Conn) (d : Nat) (tw : List Tagged),
    pre ++ inbox = E → d = pre.length → TagInv newer E c d tw →
    ∀ r, readLoopT newer po capR num c d tw inbox = r →
    r.1.1 = (readLoop newer po capR num c inbox).1 ∧
    r.2 = (readLoop newer po capR num c inbox).2 ∧
    ∃ pre', pre' ++ r.2 = E ∧ r.1.2.1 = pre'.length ∧ TagInv newer E r.1.1 r.1.2.1 r.1.2.2
  | [], pre, num, c, d, tw, hE, hd, h, _, rfl =>
    ⟨rfl, rfl, pre, by simpa [readLoopT] using hE, hd, h⟩
  | e :: rest, pre, num, c, d, tw, hE, hd, h, _, rfl => by
    by_cases hc : num < capR ∧ c.interrupt = false
    · obtain ⟨⟨l, hl⟩, hlen⟩ := reactAll_wire newer po c e
      have hsucc : repliesUpTo newer E (d + 1) =
          repliesUpTo newer E d + (replyTo newer e).length := by
        rw [← hE, hd]; exact repliesUpTo_succ newer pre e rest
      have h' := h.write (c' := reactAll newer po c e) l (d + 1) (by omega) hl
        (by rw [hsucc]; have := h.caused; omega)
      have ih := readLoopT_spec newer po capR E rest (pre ++ [e]) (num + 1) _ (d + 1) _
        (by rw [← hE]; simp) (by simp [hd]) h' _ rfl
      simp only [readLoopT, readLoop, hc, and_self, if_true]
      exact ih
    · simp only [readLoopT, readLoop, hc, if_false]
      exact ⟨trivial, trivial, pre, hE, hd, h⟩

/-- The instrumented loop is the loop, and ends with the invariant. -/
theorem loopT_spec (newer po : Bool) (capW capR : Nat) (E : List PlayEv) :
    ∀ (fuel : Nat) (c : Conn) (pre : List PlayEv) (d : Nat) (tw : List Tagged) (inbox : List PlayEv),
    pre ++ inbox = E → d = pre.length → TagInv newer E c d tw →
    (loopT newer po capW capR fuel c d tw inbox).map (·.1) = loop newer po capW capR fuel c inbox ∧
    ∀ r, loopT newer po capW capR fuel c d tw inbox = some r → TagInv newer E r.1 E.length r.2
  | 0, _, _, _, _, _, _, _, _ => ⟨rfl, fun _ h => by cases h⟩
  | fuel + 1, c, pre, d, tw, inbox, hE, hd, h => by
    have hup : TagInv newer E c E.length tw := h.up (by rw [← hE, hd]; simp)
    by_cases hi : c.interrupt = true
    · have e1 : loopT newer po capW capR (fuel + 1) c d tw inbox = some (c, tw) := by
        simp only [loopT]; rw [if_pos hi]
      have e2 : loop newer po capW capR (fuel + 1) c inbox = some c := by
        simp only [loop]; rw [if_pos hi]
      rw [e1, e2]
      exact ⟨rfl, fun r hr => by cases hr; exact hup⟩
    · by_cases hq : inbox = [] ∧ c.queue = []
      · have e1 : loopT newer po capW capR (fuel + 1) c d tw inbox = some (c, tw) := by
          simp only [loopT]; rw [if_neg hi, if_pos hq]
        have e2 : loop newer po capW capR (fuel + 1) c inbox = some c := by
          simp only [loop]; rw [if_neg hi, if_pos hq]
        rw [e1, e2]
        exact ⟨rfl, fun r hr => by cases hr; exact hup⟩
      · obtain ⟨⟨l, hl, hlq⟩, -, -, -⟩ := writeLoop_spec capW 0 c.queue c.wire _ rfl
        have hsum : (writeLoop capW 0 c.queue c.wire).2.2.length +
            (writeLoop capW 0 c.queue c.wire).2.1.length = c.wire.length + c.queue.length := by
          have := congrArg List.length hlq
          rw [List.length_append] at this
          rw [hl, List.length_append]; omega
        have h1 := h.write
          (c' := { c with queue := (writeLoop capW 0 c.queue c.wire).2.1,
                          wire := (writeLoop capW 0 c.queue c.wire).2.2 })
          l d (Nat.le_refl _) hl (hsum ▸ h.caused)
        obtain ⟨a, b, pre', p1, p2, p3⟩ := readLoopT_spec newer po capR E inbox pre
          (writeLoop capW 0 c.queue c.wire).1 _ d _ hE hd h1 _ rfl
        have ih := loopT_spec newer po capW capR E fuel _ pre' _ _ _ p1 p2 p3
        simp only [loopT, loop]
        rw [if_neg hi, if_neg hq, if_neg hi, if_neg hq, ← a, ← b]
        exact ih

/-- **The instrumented run is the run.**  Whenever `runLoop` terminates so does `runT` (and vice
versa); forgetting the tags of `runT` gives `Result.wire`; every tag is at most the number of
packets of the stream, and the tags never decrease along the wire. -/
theorem runT_spec (newer po : Bool) (capW capR : Nat) (inbox : List PlayEv) (r : Result)
    (h : runLoop newer po capW capR inbox = some r) :
    ∃ tw, runT newer po capW capR inbox = some tw ∧ tw.map (·.1) = r.wire ∧
      (∀ x ∈ tw, x.2 ≤ inbox.length) ∧ tw.Pairwise fun a b => a.2 ≤ b.2 := by
  obtain ⟨hs, ht⟩ := loopT_spec newer po capW capR inbox (2 * inbox.length + 1) Conn.init [] 0 []
    inbox rfl rfl (TagInv.init newer inbox)
  unfold runLoop at h
  unfold runT
  cases hl : loop newer po capW capR (2 * inbox.length + 1) Conn.init inbox with
  | none => rw [hl] at h; cases h
  | some c =>
    rw [hl] at h hs
    cases hT : loopT newer po capW capR (2 * inbox.length + 1) Conn.init 0 [] inbox with
    | none => rw [hT] at hs; cases hs
    | some ct =>
      rw [hT] at hs
      have hc : ct.1 = c := by simpa using hs
      have inv := ht ct hT
      injection h with h
      subst h
      refine ⟨ct.2, rfl, ?_, inv.le, inv.mono⟩
      rw [inv.fst, hc]

/-- **A reply is written after the packet it answers has been processed**: the tag `n` of the reply
at wire position `j` satisfies `j < repliesUpTo inbox n` — the first `n` packets cause more than `j`
replies. -/
theorem runT_after (newer po : Bool) (capW capR : Nat) (inbox : List PlayEv) (tw : List Tagged)
    (h : runT newer po capW capR inbox = some tw) :
    ∀ (j : Nat) (hj : j < tw.length), j < repliesUpTo newer inbox tw[j].2 := by
  unfold runT at h
  cases hT : loopT newer po capW capR (2 * inbox.length + 1) Conn.init 0 [] inbox with
  | none => rw [hT] at h; cases h
  | some ct =>
    rw [hT] at h
    have : ct.2 = tw := by simpa using h
    subst this
    have inv := (loopT_spec newer po capW capR inbox (2 * inbox.length + 1) Conn.init [] 0 []
      inbox rfl rfl (TagInv.init newer inbox)).2 ct hT
    exact inv.after

/-! ## set compression: the written chunks and the reference server, a threshold per frame -/

theorem sendsT_flatten (z : ZlibOps) (fields : Reply → Nat × Bytes) :
    ∀ l : List (Reply × Option Int),
      (l.flatMap fun qt => sendsWith z qt.2 fields qt.1).flatten =
        (l.map fun qt => frameWith z qt.2 fields qt.1).flatten
  | [] => rfl
  | qt :: rest => by
    simp only [List.flatMap_cons, List.flatten_append, List.map_cons, List.flatten_cons,
      sendsT_flatten z fields rest]
    congr 1
    exact frameSends_flatten' z qt.2 _

/-- Whatever the chunking into `send` calls and whatever the thresholds, the socket is handed ONE
cipher stream over the concatenated frames. -/
theorem wireWithT_flatten {τ : Type} (z : ZlibOps) (enc : StreamXform τ) (t0 : τ)
    (fields : Reply → Nat × Bytes) (l : List (Reply × Option Int)) :
    (wireWithT z enc t0 fields l).flatten =
      (enc.update t0 (l.map fun qt => frameWith z qt.2 fields qt.1).flatten).2 := by
  unfold wireWithT
  rw [encSends_flatten, sendsT_flatten]

/-- One threshold for all replies is the old writer. -/
theorem wireWithT_const {τ : Type} (z : ZlibOps) (thr : Option Int) (enc : StreamXform τ) (t0 : τ)
    (fields : Reply → Nat × Bytes) (replies : List Reply) :
    wireWithT z enc t0 fields (replies.map fun q => (q, thr)) = wireWith z thr enc t0 fields replies := by
  unfold wireWithT wireWith
  rw [List.flatMap_map]

/-- Frames written under changing thresholds, seen ahead through any decryptor, are read back by a
reader that is told, frame by frame, whether a threshold was in force; then end of stream (whatever
the flag for "the rest"). -/
theorem readFramesM_frames {τ : Type} (dec : StreamXform τ) (z : Zlib) :
    ∀ (l : List ((Nat × Bytes) × Option Int)) (last : Bool) (k : Sock τ),
    (∀ x ∈ l, FrameOK z.toZlibOps x.2 x.1) →
    ahead dec k = (l.map fun x => packetFrame z.toZlibOps x.2 x.1).flatten →
    readFramesM dec z.toZlibOps (l.map (·.2.isSome)) last k = (l.map (·.1), .eof)
  | [], last, k, _, hk => by
    simp only [List.map_nil, readFramesM, readAllK_spec]
    rw [hk]
    simp [parseAll_nil]
  | x :: rest, last, k, h, hk => by
    obtain ⟨k', e1, e2⟩ := readPacketK_packetFrame dec z x.2 x.1 _ k (h x (by simp)) hk
    simp only [List.map_cons, readFramesM, e1,
      readFramesM_frames dec z rest x.2.isSome k' (fun y hy => h y (by simp [hy])) e2]

/-- The reference server on the client's chunks, a threshold per reply. -/
theorem serverDecodeRepliesM_wire {τ : Type} (cp : CipherPair τ) (t0 : τ) (z : Zlib) (P : Profile)
    (hSb : P.sbDistinct = true) (l : List (Reply × Option Int))
    (hwf : ∀ qt ∈ l, replyWf P qt.1 = true)
    (hok : ∀ qt ∈ l, FrameOK z.toZlibOps qt.2 (replyFields P qt.1)) (last : Bool) (segs : Segs)
    (hseg : segs.flatten = (clientWireT z.toZlibOps P cp.enc t0 l).flatten) :
    serverDecodeRepliesM P cp.dec t0 z.toZlibOps (l.map (·.2.isSome)) last segs =
      (l.map (·.1), .eof) := by
  have hfr : (l.map fun qt => frameWith z.toZlibOps qt.2 (replyFields P) qt.1) =
      ((l.map fun qt => (replyFields P qt.1, qt.2)).map fun x => packetFrame z.toZlibOps x.2 x.1) := by
    rw [List.map_map]; rfl
  have hmodes : l.map (·.2.isSome) = (l.map fun qt => (replyFields P qt.1, qt.2)).map (·.2.isSome) := by
    rw [List.map_map]; rfl
  have hr : readFramesM cp.dec z.toZlibOps (l.map (·.2.isSome)) last (Sock.enc t0 segs) =
      (l.map fun qt => replyFields P qt.1, .eof) := by
    rw [hmodes, readFramesM_frames cp.dec z _ last _
      (fun x hx => by
        obtain ⟨qt, hq, rfl⟩ := List.mem_map.mp hx
        exact hok qt hq)
      (by rw [ahead_enc, hseg, clientWireT, wireWithT_flatten, (cp.inv t0 _).1, hfr]),
      List.map_map]
    rfl
  unfold serverDecodeRepliesM
  rw [hr]
  have := decodeEach_map (serverDecode P) (fun qt : Reply × Option Int => replyFields P qt.1)
    (fun qt => qt.1) .eof l fun qt hq => serverDecode_replyFields P hSb qt.1 (hwf qt hq)
  exact this

/-! ## streams without set compression: one threshold, the old vocabulary -/

theorem thrAfter_quiet (thr : Option Int) (p : SrvPkt) (h : p.isSetCompression = false) :
    p.thrAfter thr = thr := by
  cases p <;> simp_all [SrvPkt.thrAfter, SrvPkt.isSetCompression]

theorem thrAt_quiet (thr : Option Int) (pkts : List SrvPkt)
    (h : ∀ p ∈ pkts, p.isSetCompression = false) (n : Nat) : thrAt thr pkts n = thr := by
  induction pkts generalizing n <;> cases n <;>
    simp_all [thrAt, List.take_succ_cons, thrAfter_quiet]

/-- The threshold in force at any position is the initial one or the one of a set-compression packet
of the stream. -/
theorem thrAt_cases (thr : Option Int) : ∀ (pkts : List SrvPkt) (n : Nat),
    thrAt thr pkts n = thr ∨ ∃ t, SrvPkt.setCompression t ∈ pkts ∧ thrAt thr pkts n = some (t : Int)
  | [], n => by simp [thrAt]
  | p :: ps, 0 => by simp [thrAt]
  | p :: ps, n + 1 => by
    have e : thrAt thr (p :: ps) (n + 1) = thrAt (p.thrAfter thr) ps n := by
      simp [thrAt, List.take_succ_cons]
    rw [e]
    rcases thrAt_cases (p.thrAfter thr) ps n with h | ⟨t, ht, h⟩
    · rw [h]
      cases p with
      | setCompression t => exact .inr ⟨t, by simp, rfl⟩
      | _ => exact .inl rfl
    · exact .inr ⟨t, by simp [ht], h⟩

theorem serverFrames_quiet (z : ZlibOps) (thr : Option Int) (P : Profile) (pkts : List SrvPkt)
    (h : ∀ p ∈ pkts, p.isSetCompression = false) :
    serverFrames z P thr pkts = pkts.map fun p => packetFrame z thr (serverFields P p) := by
  induction pkts <;> simp_all [serverFrames, thrAfter_quiet]

theorem serverOK_quiet (z : ZlibOps) (thr : Option Int) (P : Profile) (pkts : List SrvPkt)
    (h : ∀ p ∈ pkts, p.isSetCompression = false) :
    (ServerOK z P thr pkts ↔ ∀ p ∈ pkts, FrameOK z thr (serverFields P p)) := by
  induction pkts <;> simp_all [ServerOK, thrAfter_quiet]

theorem thrTags_quiet (thr : Option Int) (pkts : List SrvPkt)
    (h : ∀ p ∈ pkts, p.isSetCompression = false) (tw : List Tagged) :
    thrTags thr pkts tw = (tw.map (·.1)).map fun q => (q, thr) := by
  unfold thrTags
  rw [List.map_map]
  apply List.map_congr_left
  intro qn _
  simp [thrAt_quiet thr pkts h]

/-! ## concrete parameters for the non-vacuity examples and the negative witness -/

/-- Protocol 757 (1.18): Long keep-alive, teleport id + confirm, dismount flag. -/
def p757 : Profile :=
  { kaCb := 0x21, kaSb := 0x0F, posLookCb := 0x38, teleportConfirmSb := 0x00, posLookSb := 0x12,
    disconnectCb := 0x1A, kaLong := true, newer107 := true, dismount := true,
    others := [(0x0F, "chat message")] }

/-- Protocol 47 (1.8): VarInt keep-alive, no teleport id, position echo; keep-alive and the (unused)
teleport-confirm id are both 0x00; the play table has "set compression" under 0x46. -/
def p47 : Profile :=
  { kaCb := 0x00, kaSb := 0x00, posLookCb := 0x08, teleportConfirmSb := 0x00, posLookSb := 0x06,
    disconnectCb := 0x40, kaLong := false, newer107 := false, dismount := false,
    others := [(0x02, "chat message")], setCompressionCb := some 0x46 }

/-- keep-alive −2 (as a signed Long), position (10.0, 64.0, −3.0) yaw 90.0 pitch 0.0 teleport id 7,
an unknown packet, a chat message, keep-alive 2, disconnect, and a keep-alive that is never
answered. -/
def demo757 : List SrvPkt :=
  [.keepAlive 0xFFFFFFFFFFFFFFFE,
   .posLook 0x4024000000000000 0x4050000000000000 0xC008000000000000 0x42B40000 0 0 7 false,
   .unknown 0x7E [0xaa], .other 0x0F "chat message" [0x02, 0x7b, 0x7d, 0x00],
   .keepAlive 2, .disconnect "{}", .keepAlive 3]

/-- The same for protocol 47; the first keep-alive id is the Java int −2 as the server's VarInt
writer emits it (five bytes), which this library reads as 2^32 − 2. -/
def demo47 : List SrvPkt :=
  [.keepAlive 0xFFFFFFFE,
   .posLook 0x4024000000000000 0x4050000000000000 0xC008000000000000 0x42B40000 0x3F800000 0 0 false,
   .unknown 0x7E [0xaa], .other 0x02 "chat message" [0x02, 0x7b, 0x7d, 0x00],
   .keepAlive 2, .disconnect "{}", .keepAlive 3]

/-- Protocol 47 with compression switched in the play state: keep-alive 1, SET COMPRESSION 20,
position-and-look, keep-alive 2, SET COMPRESSION 1000, keep-alive 3, disconnect. -/
def demo47sc : List SrvPkt :=
  [.keepAlive 1, .setCompression 20,
   .posLook 0x4024000000000000 0x4050000000000000 0xC008000000000000 0x42B40000 0x3F800000 0 0 false,
   .keepAlive 2, .setCompression 1000, .keepAlive 3, .disconnect "{}"]

/-- The tagged replies of a run with the given caps. -/
def demoRunT (P : Profile) (capW capR : Nat) (pkts : List SrvPkt) : List Tagged :=
  (runT P.newer107 true capW capR (inboxOf pkts)).getD []

/-- A toy block function (one output byte depending on the whole register). -/
def toyE : Bytes → Bytes := fun r => [r.foldl (fun a b => 3 * a + b) 7]

/-- Threshold 20: the position echo (34 bytes) takes the `compress` branch, the rest does not. -/
def demoThr : Option Int := some 20

/-- The replies of the run with the real caps. -/
def demoRun (P : Profile) (pkts : List SrvPkt) : List Reply :=
  match runLoop P.newer107 true 300 50 (inboxOf pkts) with
  | some r => r.wire
  | none => []

/-- The client's bytes for `replies` written with the field writer `fields`: store-only zlib,
threshold 20, CFB8 over `toyE` from register `[1, 2, 3]`. -/
def demoWire (fields : Reply → Nat × Bytes) (replies : List Reply) : Bytes :=
  (wireWith Zlib.ident.toZlibOps demoThr (cfb8EncX toyE) [1, 2, 3] fields replies).flatten

/-- The reference server of the examples on one arrival. -/
def demoServer (P : Profile) (w : Bytes) : List Reply × Err :=
  serverDecodeReplies P (cfb8DecX toyE) [1, 2, 3] Zlib.ident.toZlibOps true [w]

end PyCraft.PlayWire
