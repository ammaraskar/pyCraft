import PyCraft.Lemmas.C14Compose
/-!
Helper lemmas for `Props/C14Compose.lean`: the stateful `_handle_exception` (`ExcFlow.hx`) against
the pure `handleException` of `Model/Handlers.lean`, the `exc_info` pair, and the final locked
block.
-/
namespace PyCraft.ExcFlow
open PyCraft

/-- How a handler as it behaved (`h'`) relates to the registered handler (`h`): same identity and
type filter; the behaviour is the nominal one unless a `connect()` inside it raised
`InvalidState`. -/
def EffOf (inv : Exc) (h' : Handler) (h : XHandler) : Prop :=
  h'.id = h.id ∧ h'.types = h.types ∧
    (h'.beh = h.beh ∨ (h'.beh = .raises inv ∧ Act.connect ∈ h.acts))

/-- `EffOf`, position by position. -/
inductive AllEff (inv : Exc) : List Handler → List XHandler → Prop
  | nil : AllEff inv [] []
  | cons {a : Handler} {b : XHandler} {l1 : List Handler} {l2 : List XHandler} :
      EffOf inv a b → AllEff inv l1 l2 → AllEff inv (a :: l1) (b :: l2)

theorem AllEff.erase (inv : Exc) (hs : List XHandler) : AllEff inv (hs.map XHandler.erase) hs := by
  induction hs with
  | nil => exact .nil
  | cons h hs ih => exact .cons ⟨rfl, rfl, .inl rfl⟩ ih

theorem AllEff.ids {inv : Exc} {l1 : List Handler} {l2 : List XHandler} (h : AllEff inv l1 l2) :
    l1.map (·.id) = l2.map (·.id) ∧ l1.map (·.types) = l2.map (·.types) := by
  induction h with
  | nil => exact ⟨rfl, rfl⟩
  | cons hab _ ih =>
    simp only [List.map_cons, hab.1, hab.2.1, ih.1, ih.2, and_self]

/-- A callback's API calls fail only by `InvalidState`, and only if it calls `connect()`. -/
theorem runActs_err_connect (inv : Exc) (acts : List Act) (c : Conn) (x : Exc)
    (h : (runActs inv acts c).2 = some x) : x = inv ∧ Act.connect ∈ acts := by
  refine ⟨runActs_err inv acts c x h, Classical.byContradiction fun hn => ?_⟩
  rw [(runActs_noConnect inv acts hn c).1] at h
  cases h

theorem effBeh_cases (inv : Exc) (acts : List Act) (c : Conn) (b : Beh) :
    effBeh (runActs inv acts c).2 b = b ∨
      (effBeh (runActs inv acts c).2 b = .raises inv ∧ Act.connect ∈ acts) := by
  cases hr : (runActs inv acts c).2 with
  | none => exact .inl rfl
  | some x =>
    obtain ⟨rfl, hc⟩ := runActs_err_connect inv acts c x hr
    exact .inr ⟨rfl, hc⟩

/-- The pair `(exc, exc_info[1])` is in step, and so is the list of `exc_info[1]` passed along. -/
def XLoopSt.Sync (x : XLoopSt) : Prop :=
  x.info = x.st.exc ∧ x.infos = x.st.calls.map CallEv.arg

/-- One iteration of the stateful loop is one iteration of the pure loop on the handler as it
behaved. -/
theorem xloopStep_spec (hier : Hier) (inv : Exc) (x : XLoopSt) (h : XHandler) :
    ∃ h', (xloopStep hier inv x h).eff = x.eff ++ [h'] ∧
      loopStep hier x.st h' = (xloopStep hier inv x h).st ∧
      (x.Sync → (xloopStep hier inv x h).Sync) ∧
      x.conn.Le (xloopStep hier inv x h).conn ∧ EffOf inv h' h := by
  by_cases hb : x.st.broke = true
  · have hstep : xloopStep hier inv x h = { x with eff := x.eff ++ [h.erase] } := by
      simp [xloopStep, hb]
    rw [hstep]
    exact ⟨h.erase, rfl, by simp [loopStep, hb], fun hs => hs, Conn.Le.refl _, rfl, rfl, .inl rfl⟩
  · simp only [Bool.not_eq_true] at hb
    by_cases hh : h.erase.handles hier x.st.exc = true
    · -- the handler is called: it behaves as `effBeh` says
      have hle := runActs_le inv h.acts x.conn
      have hcs := effBeh_cases inv h.acts x.conn h.beh
      have hh' : ∀ b, Handler.handles hier ⟨h.id, h.types, b⟩ x.st.exc = true := fun _ => hh
      cases hbeh : effBeh (runActs inv h.acts x.conn).2 h.beh <;> rw [hbeh] at hcs <;>
        simp only [xloopStep, hb, hh, hbeh, Bool.false_eq_true, ↓reduceIte]
      · exact ⟨⟨h.id, h.types, .returns⟩, rfl, by simp [loopStep, hb, hh'],
          fun hs => ⟨hs.1, by simp [hs.2, hs.1, CallEv.arg]⟩, hle, rfl, rfl, hcs⟩
      · exact ⟨⟨h.id, h.types, .raises _⟩, rfl, by simp [loopStep, hb, hh'],
          fun hs => ⟨rfl, by simp [hs.2, hs.1, CallEv.arg]⟩, hle, rfl, rfl, hcs⟩
    · simp only [Bool.not_eq_true] at hh
      have hstep : xloopStep hier inv x h = { x with eff := x.eff ++ [h.erase] } := by
        simp [xloopStep, hb, hh]
      rw [hstep]
      exact ⟨h.erase, rfl, by simp [loopStep, hb, hh], fun hs => hs, Conn.Le.refl _, rfl, rfl,
        .inl rfl⟩

/-- The whole stateful loop is the pure loop over the handlers as they behaved. -/
theorem xloop_fold (hier : Hier) (inv : Exc) : ∀ (hs : List XHandler) (x : XLoopSt),
    ∃ suf, (hs.foldl (xloopStep hier inv) x).eff = x.eff ++ suf ∧
      suf.foldl (loopStep hier) x.st = (hs.foldl (xloopStep hier inv) x).st ∧
      (x.Sync → (hs.foldl (xloopStep hier inv) x).Sync) ∧
      x.conn.Le (hs.foldl (xloopStep hier inv) x).conn ∧
      AllEff inv suf hs := by
  intro hs
  induction hs with
  | nil => intro x; exact ⟨[], by simp, rfl, id, Conn.Le.refl _, .nil⟩
  | cons h hs ih =>
    intro x
    obtain ⟨h', e1, e2, e3, e4, e5⟩ := xloopStep_spec hier inv x h
    obtain ⟨suf, f1, f2, f3, f4, f5⟩ := ih (xloopStep hier inv x h)
    refine ⟨h' :: suf, ?_, ?_, fun hs => f3 (e3 hs), e4.trans f4, .cons e5 f5⟩
    · simp only [List.foldl_cons, f1, e1, List.append_assoc, List.singleton_append]
    · simp only [List.foldl_cons, e2, f2]

/-- Handlers that never call `connect()` behave as registered. -/
theorem allEff_noConnect (inv : Exc) : ∀ (suf : List Handler) (hs : List XHandler),
    AllEff inv suf hs → (∀ h ∈ hs, Act.connect ∉ h.acts) → suf = hs.map XHandler.erase := by
  intro suf hs h
  induction h with
  | nil => intro _; rfl
  | @cons a b l1 l2 hab _ ih =>
    intro hn
    have h1 := hn b (by simp)
    obtain ⟨i1, i2, i3⟩ := hab
    have hbeh : a.beh = b.beh := by
      rcases i3 with i3 | ⟨-, i3⟩
      · exact i3
      · exact absurd i3 h1
    have : a = b.erase := by
      cases a; cases b; simp_all [XHandler.erase]
    rw [this, ih (fun h hh => hn h (by simp [hh]))]
    rfl

theorem XFinal.run_spec (inv : Exc) (fin : XFinal) (c : Conn) :
    c.Le (fin.run inv c).1 ∧
    ((fin.run inv c).2 = .none ↔ fin = .none) ∧
    ((fin.run inv c).2 = .false ↔ fin = .false) ∧
    (∀ acts b, fin = .fn acts b → ∃ b', (fin.run inv c).2 = .fn b' ∧
      (b' = b ∨ (b' = .raises inv ∧ Act.connect ∈ acts))) ∧
    ((∀ acts b, fin = .fn acts b → Act.connect ∉ acts) → (fin.run inv c).2 = fin.erase) := by
  cases fin with
  | none => exact ⟨Conn.Le.refl c, by simp [XFinal.run], by simp [XFinal.run],
      fun _ _ h => (by cases h), fun _ => rfl⟩
  | false => exact ⟨Conn.Le.refl c, by simp [XFinal.run], by simp [XFinal.run],
      fun _ _ h => (by cases h), fun _ => rfl⟩
  | fn acts b =>
    refine ⟨runActs_le inv acts c, by simp [XFinal.run], by simp [XFinal.run], ?_, ?_⟩
    · intro acts' b' h
      cases h
      exact ⟨_, rfl, effBeh_cases inv acts c b⟩
    · intro hn
      have := (runActs_noConnect inv acts (hn acts b rfl) c).1
      simp [XFinal.run, XFinal.erase, this, effBeh]

/-- The projection for the part after the reactor's handler. -/
theorem hxTail_out (hier : Hier) (inv : Exc) (hs : List XHandler) (fin : XFinal) (e : Exc)
    (r : RBeh) (hr : r ≠ .retTrue) (c : Conn) :
    let h := hxTail hier inv hs fin e e r c
    h.out = handleException hier r h.effHandlers h.effFin e ∧
    h.infos = h.out.trace.map CallEv.arg ∧
    h.recordedInfo = h.out.recorded ∧
    AllEff inv h.effHandlers hs := by
  have key := xloop_fold hier inv hs
    ⟨⟨(rbehRaised r).getD e, [], false⟩, (rbehRaised r).getD e, [], c, []⟩
  simp only [hxTail]
  generalize hs.foldl (xloopStep hier inv) _ = X at key ⊢
  obtain ⟨suf, f1, f2, f3, -, f5⟩ := key
  obtain ⟨s1, s2⟩ := f3 ⟨rfl, rfl⟩
  simp only [List.nil_append] at f1
  generalize XFinal.run inv fin X.conn = F
  obtain ⟨fc, ff⟩ := F
  simp only [f1]
  refine ⟨?_, ?_, ?_, f5⟩
  · cases r with
    | retTrue => exact absurd rfl hr
    | _ =>
      simp only [rbehRaised, Option.getD_none, Option.getD_some] at f2 ⊢
      simp only [handleException, handlerLoop, Option.getD_none, Option.getD_some, f2]
      cases ff with
      | none => simp [s1]
      | false => simp
      | fn b => cases b <;> simp [Beh.raised]
  · cases ff <;> simp [s2, CallEv.arg, s1]
  · cases ff with
    | fn b => cases b <;> simp [s1]
    | _ => simp [s1]

section Hx
variable (hier : Hier) (inv : Exc) (rh : XReactorH) (hs : List XHandler) (fin : XFinal)
  (e info : Exc) (c : Conn)

theorem hx_retTrue (hr : effRBeh (runActs inv rh.acts c).2 rh.rbeh = .retTrue) :
    hx hier inv rh hs fin e info c =
      { out := { trace := [.reactor e none], caught := false, loopExc := none, recorded := none,
                 reraised := none, swallowedByReactor := true },
        infos := [info], recordedInfo := none, cleanup := .notReached,
        connAtCleanup := (runActs inv rh.acts c).1, conn := (runActs inv rh.acts c).1,
        effR := .retTrue, effHandlers := hs.map XHandler.erase, effFin := fin.erase } := by
  simp only [hx, hr]

theorem hx_tail (hr : effRBeh (runActs inv rh.acts c).2 rh.rbeh ≠ .retTrue) :
    hx hier inv rh hs fin e info c =
      hxTail hier inv hs fin e info (effRBeh (runActs inv rh.acts c).2 rh.rbeh)
        (runActs inv rh.acts c).1 := by
  simp only [hx]

/-- The projection: started with `exc_info[1] = exc`, the pure observable of the stateful
`_handle_exception` is `handleException` applied to the reactor's handler, the handlers and the
final handler AS THEY BEHAVED; the `exc_info[1]` passed with each call is that call's `exc`; the
recorded `exc_info[1]` is the recorded exception. -/
theorem hx_out :
    let h := hx hier inv rh hs fin e e c
    h.out = handleException hier h.effR h.effHandlers h.effFin e ∧
    h.infos = h.out.trace.map CallEv.arg ∧
    h.recordedInfo = h.out.recorded ∧
    AllEff inv h.effHandlers hs := by
  dsimp only
  by_cases hr : effRBeh (runActs inv rh.acts c).2 rh.rbeh = .retTrue
  · rw [hx_retTrue hier inv rh hs fin e e c hr]
    exact ⟨rfl, rfl, rfl, AllEff.erase inv hs⟩
  · rw [hx_tail hier inv rh hs fin e e c hr]
    have := hxTail_out hier inv hs fin e _ hr (runActs inv rh.acts c).1
    have hR : (hxTail hier inv hs fin e e (effRBeh (runActs inv rh.acts c).2 rh.rbeh)
        (runActs inv rh.acts c).1).effR = effRBeh (runActs inv rh.acts c).2 rh.rbeh := rfl
    rw [hR]
    exact this

/-- The connection through `_handle_exception`, and the final locked block. -/
theorem hx_conn :
    let h := hx hier inv rh hs fin e info c
    c.Le h.connAtCleanup ∧
    (h.cleanup = .notReached ↔ h.effR = .retTrue) ∧
    (h.effR = .retTrue → h.conn = h.connAtCleanup) ∧
    (h.effR ≠ .retTrue →
      match h.connAtCleanup.cleanupFlag with
      | some true => h.cleanup = .disconnected ∧ h.conn = h.connAtCleanup.disconnect
      | some false => h.cleanup = .spared ∧ h.conn = h.connAtCleanup
      | none => h.cleanup = .failed ∧ h.conn = h.connAtCleanup) := by
  dsimp only
  have h0 := runActs_le inv rh.acts c
  by_cases hr : effRBeh (runActs inv rh.acts c).2 rh.rbeh = .retTrue
  · rw [hx_retTrue hier inv rh hs fin e info c hr]
    exact ⟨h0, by simp, fun _ => rfl, fun h => absurd rfl h⟩
  · rw [hx_tail hier inv rh hs fin e info c hr]
    generalize effRBeh (runActs inv rh.acts c).2 rh.rbeh = r at hr ⊢
    -- the handler loop and the final handler only make API calls
    obtain ⟨suf, -, -, -, f4, -⟩ := xloop_fold hier inv hs
      ⟨⟨(rbehRaised r).getD e, [], false⟩, (rbehRaised r).getD info, [], (runActs inv rh.acts c).1,
        []⟩
    simp only [hxTail]
    refine ⟨h0.trans (f4.trans (XFinal.run_spec inv fin _).1), ?_, fun h => absurd h hr,
      fun _ => ?_⟩
    · constructor
      · intro h; split at h <;> cases h
      · intro h; exact absurd h hr
    · split <;> simp_all

/-- All that `_handle_exception` does to the connection is API calls. -/
theorem hx_le : c.Le (hx hier inv rh hs fin e info c).conn := by
  obtain ⟨le, -, b, d⟩ := hx_conn hier inv rh hs fin e info c
  by_cases hr : (hx hier inv rh hs fin e info c).effR = .retTrue
  · rw [b hr]; exact le
  · have d' := d hr
    split at d' <;> rw [d'.2]
    · exact le.trans (disconnect_le _)
    · exact le
    · exact le

/-- `_handle_exception` always starts by offering the exception it was given to the reactor. -/
theorem hx_head :
    ∃ r, (hx hier inv rh hs fin e info c).out.trace.head? = some (.reactor e r) := by
  by_cases hr : effRBeh (runActs inv rh.acts c).2 rh.rbeh = .retTrue
  · rw [hx_retTrue hier inv rh hs fin e info c hr]; exact ⟨_, rfl⟩
  · rw [hx_tail hier inv rh hs fin e info c hr]; exact ⟨_, rfl⟩

/-- The reactor's handler as it behaved: the nominal behaviour unless a `connect()` in it raised. -/
theorem hx_effR :
    (hx hier inv rh hs fin e info c).effR = effRBeh (runActs inv rh.acts c).2 rh.rbeh ∧
    ((hx hier inv rh hs fin e info c).effR = rh.rbeh ∨
      ((hx hier inv rh hs fin e info c).effR = .raises inv ∧ Act.connect ∈ rh.acts)) := by
  have h1 : (hx hier inv rh hs fin e info c).effR = effRBeh (runActs inv rh.acts c).2 rh.rbeh := by
    by_cases hr : effRBeh (runActs inv rh.acts c).2 rh.rbeh = .retTrue
    · rw [hx_retTrue hier inv rh hs fin e info c hr, hr]
    · rw [hx_tail hier inv rh hs fin e info c hr]; rfl
  refine ⟨h1, ?_⟩
  rw [h1]
  cases hr : (runActs inv rh.acts c).2 with
  | none => exact .inl rfl
  | some x =>
    obtain ⟨rfl, hc⟩ := runActs_err_connect inv rh.acts c x hr
    exact .inr ⟨rfl, hc⟩

/-- The final handler as it behaved is `None` exactly if the configured one is. -/
theorem hx_effFin_none :
    (hx hier inv rh hs fin e info c).effFin = .none ↔ fin = .none := by
  by_cases hr : effRBeh (runActs inv rh.acts c).2 rh.rbeh = .retTrue
  · rw [hx_retTrue hier inv rh hs fin e info c hr]
    cases fin <;> simp [XFinal.erase]
  · rw [hx_tail hier inv rh hs fin e info c hr]
    exact (XFinal.run_spec inv fin _).2.1

/-- The final locked block when the own flag has been set (l.607) before `_handle_exception`:
it never finds two empty slots; it spares the connection exactly when an uninterrupted
`new_networking_thread` exists, and otherwise executes `disconnect(immediate=True)`. -/
theorem hx_cleanup (hnt : c.nt = some true) (hf : c.FreshNew) :
    let h := hx hier inv rh hs fin e info c
    h.cleanup ≠ .failed ∧ h.connAtCleanup.nt = some true ∧ h.connAtCleanup.FreshNew ∧
    (h.effR ≠ .retTrue →
      (h.connAtCleanup.new = some false → h.cleanup = .spared ∧ h.conn = h.connAtCleanup) ∧
      (h.connAtCleanup.new ≠ some false →
        h.cleanup = .disconnected ∧ h.conn = h.connAtCleanup.disconnect)) := by
  obtain ⟨le, a, b, d⟩ := hx_conn hier inv rh hs fin e info c
  have hnt' := le.intr hnt
  have hf' := le.fresh hf
  generalize hx hier inv rh hs fin e info c = h at *
  by_cases hr : h.effR = .retTrue
  · refine ⟨?_, hnt', hf', fun hn => absurd hr hn⟩
    rw [a.mpr hr]; simp
  · have d' := d hr
    -- the own flag is set, so the flag read is clear only for an uninterrupted successor
    by_cases hsp : h.connAtCleanup.new = some false
    · have hflag : h.connAtCleanup.cleanupFlag = some false := by simp [Conn.cleanupFlag, hsp]
      rw [hflag] at d'
      exact ⟨by rw [d'.1]; simp, hnt', hf', fun _ => ⟨fun _ => d', fun hc => absurd hsp hc⟩⟩
    · have hflag : h.connAtCleanup.cleanupFlag = some true := by
        simp only [Conn.cleanupFlag, hnt']
        cases hn : h.connAtCleanup.new with
        | none => rfl
        | some b => cases b <;> simp_all
      rw [hflag] at d'
      exact ⟨by rw [d'.1]; simp, hnt', hf', fun _ => ⟨fun hc => absurd hc hsp, fun _ => d'⟩⟩

end Hx

end PyCraft.ExcFlow
