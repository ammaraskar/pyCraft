import PyCraft.Model.Frame
import PyCraft.Lemmas.VarIntDec
/-!
Helper lemmas for the framing layer (`Model/Frame.lean`).

Plan: every reader function is shown equal to a *pure* parser (`parseFrame`, `parsePacket`,
`parseAll`) applied to the virtual plain text `ahead x k` still ahead of the socket — one
equation per function, `seen x (reader k) = parser (ahead x k)`; everything else (round trip,
truncation) is then proved on byte strings.  What a reader call does to the rest of the socket
(counters, raw position, cipher context) follows from `Reads`: it touches the socket through `read`
only.
-/
namespace PyCraft

/-! ## `Segs.read` -/

theorem Segs.read_flatten (s : Segs) (n : Nat) :
    (Segs.read s n).1 ++ (Segs.read s n).2.flatten = s.flatten := by
  induction s with
  | nil => simp [Segs.read]
  | cons seg rest ih =>
    cases seg with
    | nil => simpa [Segs.read] using ih
    | cons b bs =>
      unfold Segs.read; split
      · simp
      · simp only [List.flatten_cons]
        rw [← List.append_assoc, List.take_append_drop]

theorem Segs.read_len (s : Segs) (n : Nat) : (Segs.read s n).1.length ≤ n := by
  induction s with
  | nil => simp [Segs.read]
  | cons seg rest ih =>
    cases seg with
    | nil => simpa [Segs.read] using ih
    | cons b bs =>
      unfold Segs.read; split
      · simp at *; omega
      · simp; omega

theorem Segs.read_empty_iff (s : Segs) (n : Nat) (hn : 0 < n) :
    (Segs.read s n).1 = [] ↔ s.flatten = [] := by
  induction s with
  | nil => simp [Segs.read]
  | cons seg rest ih =>
    cases seg with
    | nil => simpa [Segs.read] using ih
    | cons b bs =>
      unfold Segs.read; split
      · simp
      · simp; omega

/-! ## the virtual plain text ahead of a socket -/

/-- What the reader will see if it reads everything that is still to arrive. -/
def ahead {σ : Type} (x : StreamXform σ) (k : Sock σ) : Bytes := (x.update k.st k.segs.flatten).2

/-- Bytes still to arrive. -/
def Sock.rem {σ : Type} (k : Sock σ) : Nat := k.segs.flatten.length

theorem ahead_length {σ : Type} (x : StreamXform σ) (k : Sock σ) : (ahead x k).length = k.rem :=
  x.len _ _

theorem ahead_id (k : Sock Unit) : ahead idXform k = k.segs.flatten := rfl

theorem xform_nil {σ : Type} (x : StreamXform σ) (s : σ) : (x.update s []).2 = [] :=
  List.eq_nil_of_length_eq_zero (by rw [x.len]; rfl)

theorem xform_eq_nil {σ : Type} (x : StreamXform σ) (s : σ) (b : Bytes) :
    (x.update s b).2 = [] ↔ b = [] := by
  rw [← List.length_eq_zero_iff, x.len, List.length_eq_zero_iff]

theorem ahead_eq_nil {σ : Type} (x : StreamXform σ) (k : Sock σ) (h : k.segs.flatten = []) :
    ahead x k = [] := (xform_eq_nil x k.st _).mpr h

/-! ## one `read` call -/

theorem Sock.read_ahead {σ : Type} (x : StreamXform σ) (k : Sock σ) (n : Nat) :
    (k.read x n).1 ++ ahead x (k.read x n).2 = ahead x k := by
  simp only [Sock.read, ahead]
  rw [← Segs.read_flatten k.segs n, x.chunk]

theorem Sock.read_length_le {σ : Type} (x : StreamXform σ) (k : Sock σ) (n : Nat) :
    (k.read x n).1.length ≤ n := by
  simp only [Sock.read]; rw [x.len]; exact Segs.read_len k.segs n

/-- a `read` of at least one byte returns `b''` exactly at the end of the stream -/
theorem Sock.read_eq_nil_iff {σ : Type} (x : StreamXform σ) (k : Sock σ) {n : Nat} (hn : 0 < n) :
    (k.read x n).1 = [] ↔ ahead x k = [] := by
  simp only [Sock.read, ahead]
  rw [xform_eq_nil, xform_eq_nil]
  exact Segs.read_empty_iff k.segs n hn

theorem Sock.read_empties {σ : Type} (x : StreamXform σ) (k : Sock σ) (n : Nat) :
    (k.read x n).2.empties = k.empties + (if (k.read x n).1 = [] then 1 else 0) := by
  simp only [Sock.read, List.isEmpty_iff]
  split <;> simp

theorem Sock.read_rem {σ : Type} (x : StreamXform σ) (k : Sock σ) (n : Nat) :
    (k.read x n).2.rem + (k.read x n).1.length = k.rem := by
  simp only [Sock.read, Sock.rem]
  rw [x.len, ← Segs.read_flatten k.segs n, List.length_append]; omega

/-- a one-byte `read` that returned something returned the head byte of what was ahead -/
theorem Sock.read_one_cons {σ : Type} (x : StreamXform σ) (k : Sock σ) (b : UInt8) (tl : Bytes)
    (h : (k.read x 1).1 = b :: tl) : ahead x k = b :: ahead x (k.read x 1).2 := by
  have h1 := Sock.read_ahead x k 1
  have h2 := Sock.read_length_le x k 1
  rw [h] at h1 h2
  obtain rfl : tl = [] := List.eq_nil_of_length_eq_zero (by simpa using h2)
  exact h1.symm

/-! ## a reader call touches the socket through `read` only -/

/-- `k'` is reached from `k` by `read` calls. -/
inductive Reads {σ : Type} (x : StreamXform σ) : Sock σ → Sock σ → Prop
  | refl (k) : Reads x k k
  | read (k n) {k'} : Reads x (k.read x n).2 k' → Reads x k k'

theorem Reads.trans {σ : Type} {x : StreamXform σ} {a b c : Sock σ} (h1 : Reads x a b)
    (h2 : Reads x b c) : Reads x a c := by
  induction h1 with
  | refl => exact h2
  | read k n _ ih => exact .read k n (ih h2)

/-- What is transitive and holds across one `read` holds across one `read` followed by more.
(No reflexivity is asked of `R`: a relation that speaks of the cipher context after `update`, as
`C15Thread.Adv` does, need not hold between a socket and itself.) -/
theorem Reads.rel {σ : Type} {x : StreamXform σ} {R : Sock σ → Sock σ → Prop}
    (ht : ∀ {a b c}, R a b → R b c → R a c) (h1 : ∀ k n, R k (k.read x n).2) {k0 k' : Sock σ}
    (h : Reads x k0 k') : ∀ k n, k0 = (k.read x n).2 → R k k' := by
  induction h with
  | refl k0 => intro k n e; exact e ▸ h1 k n
  | read k0 m _ ih => intro k n e; exact ht (e ▸ h1 k n) (ih k0 m rfl)

/-- `VarInt.read` starts with a one-byte `read`; what follows is `read` calls. -/
theorem readVarIntK_reads {σ : Type} (x : StreamXform σ) (mx be acc : Nat) (k : Sock σ) :
    Reads x (k.read x 1).2 (readVarIntK x mx be acc k).2 := by
  fun_induction readVarIntK x mx be acc k with
  | case1 | case2 | case3 => exact .refl _
  | case4 _ _ _ _ _ _ _ _ _ _ ih => exact .read _ 1 ih

theorem readMoreK_reads {σ : Type} (x : StreamXform σ) (length : Nat) (data : Bytes) (k : Sock σ) :
    Reads x k (readMoreK x length data k).2 := by
  fun_induction readMoreK x length data k with
  | case1 data k hlt r hr => exact .read k _ (.refl _)
  | case2 data k hlt r hr ih => exact .read k _ ih
  | case3 data k hlt => exact .refl k

theorem readFrameK_reads {σ : Type} (x : StreamXform σ) (k : Sock σ) :
    Reads x (k.read x 1).2 (readFrameK x k).2 := by
  have hv := readVarIntK_reads x 5 0 0 k
  unfold readFrameK
  generalize readVarIntK x 5 0 0 k = r at hv
  obtain ⟨_ | len, k1⟩ := r
  · exact hv
  · exact (hv.trans (.read k1 len (.refl _))).trans
      (readMoreK_reads x len (k1.read x len).1 (k1.read x len).2)

/-- `read_packet` leaves the socket where reading the frame left it. -/
theorem readPacketK_sock {σ : Type} (x : StreamXform σ) (z : ZlibOps) (c : Bool) (k : Sock σ) :
    (readPacketK x z c k).2 = (readFrameK x k).2 := by
  unfold readPacketK
  rcases readFrameK x k with ⟨_ | data, k1⟩ <;> rfl

theorem readPacketK_reads {σ : Type} (x : StreamXform σ) (z : ZlibOps) (c : Bool) (k : Sock σ) :
    Reads x (k.read x 1).2 (readPacketK x z c k).2 :=
  readPacketK_sock x z c k ▸ readFrameK_reads x k

/-- A property of the cipher context that every `update` preserves is preserved by the reader. -/
theorem readPacketK_st {σ : Type} (x : StreamXform σ) (Q : σ → Prop)
    (hQ : ∀ s b, Q s → Q (x.update s b).1) (z : ZlibOps) (c : Bool) (k : Sock σ) (h : Q k.st) :
    Q (readPacketK x z c k).2.st :=
  (readPacketK_reads x z c k).rel (R := fun a b => Q a.st → Q b.st) (fun f g h => g (f h))
    (fun _ _ => hQ _ _) k 1 rfl h

/-! ## the reader against the pure decoder -/

/-- What a reader call returned, with the socket seen through the plain text still ahead of it. -/
def seen {σ α : Type} (x : StreamXform σ) (r : Except Err α × Sock σ) : Except Err (α × Bytes) :=
  match r with
  | (.ok v, k) => .ok (v, ahead x k)
  | (.error e, _) => .error e

theorem seen_eq_ok {σ α : Type} {x : StreamXform σ} {r : Except Err α × Sock σ} {v : α}
    {rest : Bytes} (h : seen x r = .ok (v, rest)) : ∃ k', r = (.ok v, k') ∧ ahead x k' = rest := by
  obtain ⟨_ | w, k'⟩ := r
  · cases h
  · cases h; exact ⟨k', rfl, rfl⟩

theorem seen_eq_error {σ α : Type} {x : StreamXform σ} {r : Except Err α × Sock σ} {e : Err}
    (h : seen x r = .error e) : ∃ k', r = (.error e, k') := by
  obtain ⟨_ | w, k'⟩ := r
  · cases h; exact ⟨k', rfl⟩
  · cases h

theorem readVarIntK_seen {σ : Type} (x : StreamXform σ) (mx be acc : Nat) (k : Sock σ) :
    seen x (readVarIntK x mx be acc k) = decVarIntAux mx be acc (ahead x k) := by
  fun_induction readVarIntK x mx be acc k with
  | case1 be acc k r h =>
    rw [(Sock.read_eq_nil_iff x k Nat.one_pos).mp h]; rfl
  | case2 be acc k r b tl h acc' h0 =>
    rw [Sock.read_one_cons x k b tl h, decVarIntAux, if_pos h0]; rfl
  | case3 be acc k r b tl h h0 h1 =>
    rw [Sock.read_one_cons x k b tl h, decVarIntAux, if_neg h0, if_pos h1]; rfl
  | case4 be acc k r b tl h acc' h0 h1 ih =>
    rw [ih, Sock.read_one_cons x k b tl h, decVarIntAux.eq_2, if_neg h0, if_neg h1]

/-- the reassembly loop: `data` so far, the rest taken from what is ahead — or `EOFError` -/
theorem readMoreK_seen {σ : Type} (x : StreamXform σ) (length : Nat) (data : Bytes) (k : Sock σ) :
    seen x (readMoreK x length data k) =
      if length ≤ data.length + (ahead x k).length then
        .ok (data ++ (ahead x k).take (length - data.length),
          (ahead x k).drop (length - data.length))
      else .error .eof := by
  fun_induction readMoreK x length data k with
  | case1 data k hlt r hr =>
    rw [(Sock.read_eq_nil_iff x k (by omega)).mp hr, if_neg (by simp; omega)]; rfl
  | case2 data k hlt r hr ih =>
    have h1 : r.1 ++ ahead x r.2 = ahead x k := Sock.read_ahead x k _
    have h2 : r.1.length ≤ length - data.length := Sock.read_length_le x k _
    clear_value r
    have hpos := List.length_pos_iff.mpr hr
    rw [ih, ← h1]
    simp only [List.length_append, Nat.add_assoc, List.append_assoc]
    have e : length - data.length = r.1.length + (length - (data.length + r.1.length)) := by omega
    split
    · conv => rhs; rw [e, List.take_append, List.drop_append]
      simp [List.take_of_length_le]
    · rfl
  | case3 data k hlt =>
    have : length - data.length = 0 := by omega
    rw [if_pos (by omega), this]; simp [seen]

/-- `stream.read(n)` followed by the reassembly loop -/
theorem readBodyK_seen {σ : Type} (x : StreamXform σ) (k : Sock σ) (n : Nat) :
    seen x (readMoreK x n (k.read x n).1 (k.read x n).2) =
      if n ≤ (ahead x k).length then .ok ((ahead x k).take n, (ahead x k).drop n)
      else .error .eof := by
  have h2 := Sock.read_length_le x k n
  rw [readMoreK_seen, ← Sock.read_ahead x k n, List.length_append]
  split
  · rw [List.take_append, List.drop_append, List.take_of_length_le h2, List.drop_eq_nil_of_le h2]
    rfl
  · rfl

/-! ## pure reference parsers on byte strings -/

/-- length prefix, then exactly that many bytes; `eof` if the string is too short. -/
def parseFrame (bs : Bytes) : Except Err (Bytes × Bytes) :=
  match decVarInt 5 bs with
  | .error e => .error e
  | .ok (len, rest) =>
    if len ≤ rest.length then .ok (rest.take len, rest.drop len) else .error .eof

def parsePacket (z : ZlibOps) (c : Bool) (bs : Bytes) : Except Err ((Nat × Bytes) × Bytes) :=
  match parseFrame bs with
  | .error e => .error e
  | .ok (data, rest) =>
    match parseBody z c data with
    | .error e => .error e
    | .ok p => .ok (p, rest)

theorem decVarInt_lt (mx : Nat) (bs : Bytes) (v : Nat) (rest : Bytes)
    (h : decVarInt mx bs = .ok (v, rest)) : rest.length < bs.length := by
  obtain ⟨pre, last, h1, -⟩ := dec_ok_shape mx bs 0 0 v rest (by simp) (by omega) h
  rw [h1]; simp; omega

theorem parseFrame_lt (bs data rest : Bytes) (h : parseFrame bs = .ok (data, rest)) :
    rest.length < bs.length := by
  unfold parseFrame at h
  cases hd : decVarInt 5 bs with
  | error e => simp [hd] at h
  | ok vr =>
    obtain ⟨len, rest0⟩ := vr
    have := decVarInt_lt 5 bs len rest0 hd
    simp only [hd] at h
    split at h
    · injection h with h; injection h with _ h2
      rw [← h2, List.length_drop]; omega
    · cases h

theorem parsePacket_lt (z : ZlibOps) (c : Bool) (bs : Bytes) (p : Nat × Bytes) (rest : Bytes)
    (h : parsePacket z c bs = .ok (p, rest)) : rest.length < bs.length := by
  unfold parsePacket at h
  cases hd : parseFrame bs with
  | error e => simp [hd] at h
  | ok dr =>
    obtain ⟨data, rest0⟩ := dr
    have := parseFrame_lt bs data rest0 hd
    simp only [hd] at h
    split at h
    · cases h
    · injection h with h; injection h with _ h2; rw [← h2]; exact this

/-- `read_packet` until it fails, on a byte string (every success consumes at least one byte). -/
def parseAll (z : ZlibOps) (c : Bool) (bs : Bytes) : List (Nat × Bytes) × Err :=
  match _h : parsePacket z c bs with
  | .error e => ([], e)
  | .ok (p, rest) => (p :: (parseAll z c rest).1, (parseAll z c rest).2)
termination_by bs.length
decreasing_by all_goals exact parsePacket_lt z c bs p rest _h

theorem parseAll_ok (z : ZlibOps) (c : Bool) (bs : Bytes) (p : Nat × Bytes) (rest : Bytes)
    (h : parsePacket z c bs = .ok (p, rest)) :
    parseAll z c bs = (p :: (parseAll z c rest).1, (parseAll z c rest).2) := by
  rw [parseAll]; split <;> simp_all

theorem parseAll_err (z : ZlibOps) (c : Bool) (bs : Bytes) (e : Err)
    (h : parsePacket z c bs = .error e) : parseAll z c bs = ([], e) := by
  rw [parseAll]; split <;> simp_all

theorem readFrameK_seen {σ : Type} (x : StreamXform σ) (k : Sock σ) :
    seen x (readFrameK x k) = parseFrame (ahead x k) := by
  unfold parseFrame decVarInt readFrameK
  rw [← readVarIntK_seen]
  obtain ⟨_ | len, k1⟩ := readVarIntK x 5 0 0 k
  · rfl
  · exact readBodyK_seen x k1 len

theorem readPacketK_seen {σ : Type} (x : StreamXform σ) (z : ZlibOps) (c : Bool) (k : Sock σ) :
    seen x (readPacketK x z c k) = parsePacket z c (ahead x k) := by
  unfold parsePacket readPacketK
  rw [← readFrameK_seen]
  obtain ⟨_ | data, k1⟩ := readFrameK x k
  · rfl
  · simp only [seen]
    cases parseBody z c data <;> rfl

/-- the socket loop with more fuel than bytes is the pure loop on what is ahead -/
theorem readAllFuel_spec {σ : Type} (x : StreamXform σ) (z : ZlibOps) (c : Bool) :
    ∀ (fuel : Nat) (k : Sock σ), k.rem < fuel →
      (readAllFuel x z c fuel k).1 = parseAll z c (ahead x k)
  | 0, _, h => absurd h (Nat.not_lt_zero _)
  | fuel + 1, k, h => by
    have hp := readPacketK_seen x z c k
    rw [readAllFuel]
    generalize readPacketK x z c k = r at hp
    obtain ⟨e | p, k1⟩ := r
    · exact (parseAll_err z c _ e hp.symm).symm
    · have hlt := parsePacket_lt z c _ p _ hp.symm
      rw [ahead_length, ahead_length] at hlt
      rw [parseAll_ok z c _ p _ hp.symm, ← readAllFuel_spec x z c fuel k1 (by omega)]

theorem readAllK_spec {σ : Type} (x : StreamXform σ) (z : ZlibOps) (c : Bool) (k : Sock σ) :
    (readAllK x z c k).1 = parseAll z c (ahead x k) :=
  readAllFuel_spec x z c _ k (Nat.lt_succ_self _)

end PyCraft
