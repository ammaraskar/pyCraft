import PyCraft.Lemmas.LifecycleFairQuiet
/-!
Concrete fair schedules for `Model/LifecycleFair.lean`: the ruler schedule `diag` picks every one of
the infinitely many thread ids infinitely often (`diag_fair`); round-robin `rr U N` over the user
threads `< U` and the networking threads `< N` is weakly fair for every run in which no more than
`N` thread objects are ever created (`rr_weakFair`), in particular from a closing state
(`rr_weakFair_closing`).
-/
namespace PyCraft.Life

theorem tz_pow (v : Nat) : ∀ fuel k, v < fuel → tz fuel (2 ^ v * (2 * k + 1)) = v := by
  induction v with
  | zero =>
    intro fuel k hf
    obtain ⟨f, rfl⟩ : ∃ f, fuel = f + 1 := ⟨fuel - 1, by omega⟩
    have : (2 ^ 0 * (2 * k + 1)) % 2 ≠ 0 := by omega
    simp only [tz, this, if_false]
  | succ v ih =>
    intro fuel k hf
    obtain ⟨f, rfl⟩ : ∃ f, fuel = f + 1 := ⟨fuel - 1, by omega⟩
    have e : 2 ^ (v + 1) * (2 * k + 1) = 2 * (2 ^ v * (2 * k + 1)) := by
      rw [Nat.pow_succ, Nat.mul_comm (2 ^ v) 2, Nat.mul_assoc]
    have h1 : (2 ^ (v + 1) * (2 * k + 1)) % 2 = 0 := by rw [e]; omega
    have h2 : (2 ^ (v + 1) * (2 * k + 1)) / 2 = 2 ^ v * (2 * k + 1) := by rw [e]; omega
    simp only [tz, h1, if_true, h2]
    rw [ih f k (by omega)]

/-- Code of a thread id (inverse of `tidOfCode`). -/
def codeOfTid : Tid → Nat
  | .user u => 2 * u
  | .net i => 2 * i + 1

theorem tidOfCode_code (t : Tid) : tidOfCode (codeOfTid t) = t := by
  cases t with
  | user u =>
    have h1 : (2 * u) % 2 = 0 := by omega
    have h2 : (2 * u) / 2 = u := by omega
    simp only [tidOfCode, codeOfTid, h1, h2, if_true]
  | net i =>
    have h1 : (2 * i + 1) % 2 ≠ 0 := by omega
    have h2 : (2 * i + 1) / 2 = i := by omega
    simp only [tidOfCode, codeOfTid, h1, h2, if_false]

/-- The ruler schedule picks every thread id infinitely often. -/
theorem diag_fair : Fair diag := by
  intro t n
  have hpos : 0 < 2 ^ codeOfTid t := Nat.pow_pos (by omega)
  have hlt : codeOfTid t < 2 ^ codeOfTid t := Nat.lt_two_pow_self
  have hge : 2 * n + 1 ≤ 2 ^ codeOfTid t * (2 * n + 1) := Nat.le_mul_of_pos_left _ hpos
  have hge2 : 2 ^ codeOfTid t ≤ 2 ^ codeOfTid t * (2 * n + 1) := Nat.le_mul_of_pos_right _ (by omega)
  refine ⟨2 ^ codeOfTid t * (2 * n + 1) - 1, by omega, ?_⟩
  have e : 2 ^ codeOfTid t * (2 * n + 1) - 1 + 1 = 2 ^ codeOfTid t * (2 * n + 1) := by omega
  simp only [diag, e]
  rw [tz_pow (codeOfTid t) _ n (by omega), tidOfCode_code]

theorem rr_user (U N u : Nat) (hu : u < U) (n : Nat) : ∃ m, n ≤ m ∧ rr U N m = .user u := by
  refine ⟨n * (U + N) + u, ?_, ?_⟩
  · have : n * 1 ≤ n * (U + N) := Nat.mul_le_mul_left n (by omega)
    omega
  · have e : (n * (U + N) + u) % (U + N) = u := by
      rw [Nat.mul_add_mod_self_right, Nat.mod_eq_of_lt (by omega)]
    simp only [rr, e, hu, if_true]

theorem rr_net (U N i : Nat) (hi : i < N) (n : Nat) : ∃ m, n ≤ m ∧ rr U N m = .net i := by
  refine ⟨n * (U + N) + (U + i), ?_, ?_⟩
  · have : n * 1 ≤ n * (U + N) := Nat.mul_le_mul_left n (by omega)
    omega
  · have e : (n * (U + N) + (U + i)) % (U + N) = U + i := by
      rw [Nat.mul_add_mod_self_right, Nat.mod_eq_of_lt (by omega)]
    have h1 : ¬(U + i < U) := by omega
    have h2 : U + i - U = i := by omega
    simp only [rr, e, h1, if_false, h2]

/-- Round-robin over the user threads `< U` and the networking threads `< N` is weakly fair for a
run in which at most `N` thread objects ever exist: no other thread is ever enabled. -/
theorem rr_weakFair (env : List Beh) (U N : Nat) (s : Sys) (h : LInv s) (hub : UB U s)
    (hN : ∀ n, (runN env s (rr U N) n).nthreads ≤ N) : WeakFair env s (rr U N) := by
  intro t n hen
  have he := hen n (Nat.le_refl _)
  rcases t with u | i
  · apply rr_user U N u _ n
    apply Classical.byContradiction
    intro hc
    obtain ⟨s', hs'⟩ := (enabled_iff _ _ _).mp he
    exact (usr_step_user env _ s' u hs').2.2 (UB_runN env U s hub _ n u (by omega))
  · apply rr_net U N i _ n
    apply Classical.byContradiction
    intro hc
    have hu := ((runN_inv env s h (rr U N) n).born i).mpr (by have := hN n; omega)
    apply he
    simp [step, stepNet, hu]

/-- From a closing state no thread object is created any more, so round-robin over the existing
threads is weakly fair. -/
theorem rr_weakFair_closing (env : List Beh) (U : Nat) (s : Sys) (h : LInv s) (hub : UB U s)
    (hc : Closing s) : WeakFair env s (rr U s.nthreads) :=
  rr_weakFair env U s.nthreads s h hub (fun n => by
    rw [(closing_runN env U s _ h hub hc n).2.2]; exact Nat.le_refl _)

end PyCraft.Life
