import PyCraft.Model.C12Progress
import PyCraft.Lemmas.WritersFinal
/-!
Helper lemmas for `Props/C12Progress.lean` (progress / liveness in `Model/Writers.lean`; `enabled`,
`moves`, `runN`, `shift`, `WeakFair`, `FairUpTo`, `roundRobin` are those of `Model/C12Progress.lean`):

* enabledness: the lock holder is always enabled, a thread is blocked only in `acquire`;
* `discBegun` ("a disconnect has been started": the interrupt flag is set or the lock holder is
  inside `disconnect`) is stable (`disc_step`), and becomes true only when an idle thread takes the
  lock for a `disconnect` (`begun_step`);
* the ranking function `rank s p` (number of own actions the networking thread needs to send the
  queued packet `p`), which decreases with every action of the networking thread and is left alone
  by every action of a user thread (`rank_step_nt`, `rank_step_user`), hence `progress_core`;
* the solo run of the networking thread (`solo_run`);
* the work `work N s` still to be done by the user threads and the variant `rank + work`; `runN`
  and `WeakFair` are those of `Lemmas/Sched.lean` over `step cfg` (`runN_eq`, `weakFair_iff`), and
  `fair_core` is its second fairness argument for that variant;
* forced writes are synchronous (`forcedJ_run`); programs without `disconnect` (`nodisc_step`).
-/
namespace PyCraft.Writers

/-! ### Enabledness -/

theorem holder_enabled (cfg : Cfg) (s : Sys) (t : Tid) (hl : LockInv s) (hw : WireInv s)
    (ho : s.owner = some t) : (step cfg s t).isSome = true := by
  have hc := (hl.crit_owner t).mpr ho
  have hp := hw.pop_ok
  rw [cur_of_owner ho] at hp
  unfold step
  cases hpc : (s.thr t).pc with
  | user pc =>
    rw [hpc] at hc hp
    cases pc <;> simp [Pc.crit, UPc.crit] at hc <;> simp only [stepUser] <;>
      (try split) <;> simp_all [Pc.atPop]
  | net pc n =>
    rw [hpc] at hc hp
    cases pc <;> simp [Pc.crit, NPc.crit] at hc <;> simp only [stepNet] <;>
      (try split) <;> simp_all [Pc.atPop]

theorem free_enabled (cfg : Cfg) (s : Sys) (t : Tid) (hl : LockInv s)
    (ho : s.owner = none) (hd : (s.thr t).pc.isDone = false) : (step cfg s t).isSome = true := by
  have hc := hl.crit_owner t
  rw [ho] at hc
  have hca : canAcq s t = true := by simp [canAcq, ho]
  unfold step
  cases hpc : (s.thr t).pc with
  | user pc =>
    rw [hpc] at hc hd
    cases pc <;> simp [Pc.crit, UPc.crit, Pc.isDone] at hc hd <;> simp only [stepUser]
    rcases (s.thr t).todo with _ | ⟨(p | p | imm), rest⟩ <;> simp [hca]
  | net pc n =>
    rw [hpc] at hc hd
    cases pc <;> simp [Pc.crit, NPc.crit, Pc.isDone] at hc hd <;> simp [stepNet, hca]

/-- A thread that is not enabled is finished, or waits for the lock, which another thread holds —
and that thread is enabled. -/
theorem blocked_cases (cfg : Cfg) (s : Sys) (t : Tid) (hl : LockInv s) (hw : WireInv s)
    (hb : enabled cfg s t = false) :
    (s.thr t).pc.isDone = true ∨ ∃ u, u ≠ t ∧ s.owner = some u ∧ enabled cfg s u = true := by
  cases hd : (s.thr t).pc.isDone with
  | true => exact Or.inl rfl
  | false =>
    right
    cases ho : s.owner with
    | none =>
      have := free_enabled cfg s t hl ho hd
      simp only [enabled] at hb; rw [hb] at this; cases this
    | some u =>
      refine ⟨u, ?_, rfl, holder_enabled cfg s u hl hw ho⟩
      intro hut
      subst hut
      have := holder_enabled cfg s u hl hw ho
      simp only [enabled] at hb; rw [hb] at this; cases this

/-! ### A disconnect has been started -/

/-- The interrupt flag is set, or the lock holder is inside `disconnect`. -/
def discBegun (s : Sys) : Bool := s.interrupt || (cur s).dctx.isSome

/-- A running `disconnect` stays running until its last `rel`. -/
theorem Trans.dctx_next {cfg : Cfg} {s : Sys} {t : Tid} {pc pc' c c' : Pc} {td td' : List Op}
    {ev : Ev} (h : Trans cfg s t pc td ev pc' td') (hh : Holder pc pc' c c') (d : DCtx)
    (hd : c.dctx = some d) : c'.dctx = some d ∨ c = .user (.dRel d) := by
  rcases hh with ⟨rfl, rfl⟩ | ⟨-, -, rfl⟩
  · cases h <;> simp_all [Pc.atLock, Pc.crit, UPc.crit, NPc.crit, Pc.dctx]
  · exact Or.inl hd

theorem disc_step (cfg : Cfg) (s s' : Sys) (t : Tid) (hl : LockInv s) (hw : WireInv s)
    (hs : step cfg s t = some s') (hq : discBegun s = true) : discBegun s' = true := by
  obtain ⟨ev, pc, pc', td, td', f⟩ := step_facts cfg s s' t hl hs
  have fi := f.flags.interrupt
  simp only [discBegun, Bool.or_eq_true] at hq ⊢
  rcases hq with hq | hq
  · exact Or.inl (fi.mpr (Or.inl hq))
  · obtain ⟨d, hd⟩ := Option.isSome_iff_exists.mp hq
    rcases f.trans.dctx_next f.holder d hd with h | h
    · right; rw [h]; rfl
    · -- the last `rel` of a `disconnect`: the socket is closed, so the flag has been set
      left
      apply fi.mpr; left
      cases hi : s.interrupt with
      | true => rfl
      | false =>
        have := open_of_not_int hl hw hi
        rw [hw.rel_closed d h] at this; cases this

/-- Outside a `disconnect` nobody sets the interrupt flag by `sti`, the networking thread's
exceptional `rel` is the holder's, and a `disconnect` begins by an idle thread taking the lock for
it. -/
theorem Trans.begin {cfg : Cfg} {s : Sys} {t : Tid} {pc pc' c c' : Pc} {td td' : List Op} {ev : Ev}
    (h : Trans cfg s t pc td ev pc' td') (hh : Holder pc pc' c c') (hd : c.dctx = none) :
    ev ≠ .sti ∧ ((ev = .rel ∧ ∃ n, pc = .net .xRel n) → ∃ n, c = .net .xRel n) ∧
      (c'.dctx.isSome = true → pc = .user .idle ∧ ∃ imm, td = .disconnect imm :: td') := by
  rcases hh with ⟨rfl, rfl⟩ | ⟨h1, h2, rfl⟩
  · cases h <;> simp_all [Pc.atLock, Pc.crit, UPc.crit, NPc.crit, Pc.dctx]
  · obtain ⟨o1, o2, -⟩ := h.out h1 h2
    simp_all

/-- While no disconnect has begun, a step begins one only by taking the lock for a `disconnect`. -/
theorem begun_step (cfg : Cfg) (s s' : Sys) (t : Tid) (hl : LockInv s) (hw : WireInv s)
    (hq : discBegun s = false) (hs : step cfg s t = some s') (hq' : discBegun s' = true) :
    (s.thr t).pc = .user .idle ∧ ∃ imm rest, (s.thr t).todo = .disconnect imm :: rest := by
  obtain ⟨ev, pc, pc', td, td', f⟩ := step_facts cfg s s' t hl hs
  have fi := f.flags.interrupt
  simp only [discBegun, Bool.or_eq_false_iff] at hq
  simp only [discBegun, Bool.or_eq_true] at hq'
  obtain ⟨hi, hd⟩ := hq
  rw [Option.isSome_eq_false_iff, Option.isNone_iff_eq_none] at hd
  obtain ⟨b1, b2, b3⟩ := f.trans.begin f.holder hd
  rw [f.thr]
  rcases hq' with hq' | hq'
  · -- the flag cannot have been set by this step
    rcases fi.mp hq' with k | k | k
    · rw [hi] at k; cases k
    · exact absurd k b1
    · obtain ⟨n, hn⟩ := b2 k
      have ho := open_of_not_int hl hw hi
      rw [hw.xrel_closed n hn] at ho; cases ho
  · obtain ⟨e1, imm, e2⟩ := b3 hq'
    exact ⟨e1, imm, td', e2⟩

theorem init_not_disc (progs : List (List Op)) : discBegun (init progs) = false := rfl

theorem discBegun_iff {s : Sys} (hl : LockInv s) :
    discBegun s = true ↔ (s.interrupt = true ∨ ∃ t c, (s.thr t).pc.dctx = some c) := by
  simp only [discBegun, Bool.or_eq_true]
  constructor
  · rintro (h | h)
    · exact Or.inl h
    · right
      obtain ⟨c, hc⟩ := Option.isSome_iff_exists.mp h
      obtain ⟨t, ht⟩ := dctx_owner hc
      exact ⟨t, c, by rw [← cur_of_owner ht]; exact hc⟩
  · rintro (h | ⟨t, c, hc⟩)
    · exact Or.inl h
    · right
      rw [cur_of_crit hl t (dctx_crit _ c hc), hc]; rfl

/-- The networking thread has not finished while the interrupt flag is clear. -/
theorem nt_not_done {s : Sys} (hl : LockInv s) (hi : s.interrupt = false) :
    (s.thr 0).pc.isDone = false := by
  obtain ⟨pc0, n0, h0⟩ := hl.nt_net
  have hex := hl.nt_exit pc0 n0 h0
  rw [h0]
  cases pc0 <;> simp [Pc.isDone]
  rw [hex rfl] at hi; cases hi

/-! ### The ranking function -/

/-- Number of own actions the networking thread needs from `pc` until the packet at the head of
the queue is completely sent (interrupt clear, socket open, queue non-empty).  One round of its loop
that sends one packet is 11 actions — `rdi chk pop snd snd` and, at worst (cap reached, nothing to
read), `chk rel rdi sel rdi acq` — whence `11 * q.idxOf p` (`idxOf` = the number of packets in front of `p`) in `rank`.  Counted backwards from the second
`snd` of the head packet: `wPop` 3 … `oRdi` 7, `rSel` 8 … `wChk2` 11.  At `wSnd1`/`wSnd0` the thread
is sending ANOTHER packet (for its own, `rank` says 1 and 2): 12 and 13 = the rest of this round down
to `wChk2`'s 11. -/
def npos : NPc → Nat
  | .oRdi => 7 | .wAcq => 6 | .wRdi => 5 | .wChk => 4 | .wPop => 3
  | .wSnd0 _ => 13 | .wSnd1 _ => 12
  | .wChk2 => 11 | .wRel => 10 | .rRdi => 9 | .rSel => 8
  | _ => 0

/-- Upper bound on the number of own actions the networking thread needs, from `pc` with queue `q`,
until `p` is sent. -/
def rankAt (pc : Pc) (q : List Pkt) (p : Pkt) : Nat :=
  match pc with
  | .net (.wSnd0 x) _ => if x = p then 2 else 13 + 11 * q.idxOf p
  | .net (.wSnd1 x) _ => if x = p then 1 else 12 + 11 * q.idxOf p
  | .net pc _ => npos pc + 11 * q.idxOf p
  | .user _ => 0

def rank (s : Sys) (p : Pkt) : Nat := rankAt (s.thr 0).pc s.queue p

/-- `p` is waiting in the queue, or is the packet the networking thread is just writing. -/
def Pending (s : Sys) (p : Pkt) : Prop := p ∈ s.queue ∨ p ∈ (s.thr 0).pc.popped

/-- While the interrupt flag is clear the networking thread is inside its loop, and not on the
exceptional way out. -/
theorem nt_alive {s : Sys} (hl : LockInv s) (hw : WireInv s) (hi : s.interrupt = false) :
    ∃ a n, (s.thr 0).pc = .net a n ∧ a.exited = false ∧ a ≠ .xRel := by
  obtain ⟨a, n, h0⟩ := hl.nt_net
  refine ⟨a, n, h0, ?_, ?_⟩
  · cases h : a.exited with
    | false => rfl
    | true => rw [hl.nt_exit a n h0 h] at hi; cases hi
  · rintro rfl
    have hcur := (cur_of_crit hl 0 (by rw [h0]; rfl)).trans h0
    have := open_of_not_int hl hw hi
    rw [hw.xrel_closed n hcur] at this; cases this

/-- Every action of the networking thread inside its loop (socket open, interrupt clear) sends
`p` or brings it nearer. -/
theorem Trans.rank_dec {cfg : Cfg} {s : Sys} {t : Tid} {a : NPc} {n : Nat} {pc' : Pc}
    {td td' : List Op} {ev : Ev} (h : Trans cfg s t (.net a n) td ev pc' td')
    (hi : s.interrupt = false) (ho : s.sockOpen = true) (hex : a.exited = false) (hx : a ≠ .xRel)
    (p : Pkt) (hp : p ∈ s.queue ∨ p ∈ (Pc.net a n).popped) :
    p ∈ sentPkts ev.snds ∨
      ((p ∈ (if ev.pops = [] then s.queue ++ ev.apps else s.queue.tail) ∨ p ∈ pc'.popped) ∧
        rankAt pc' (if ev.pops = [] then s.queue ++ ev.apps else s.queue.tail) p + 1 ≤
          rankAt (.net a n) s.queue p) := by
  cases h <;>
    simp_all [NPc.exited, Ev.snds, Ev.pops, Ev.apps, sentPkts, Pc.popped, rankAt, npos, List.idxOf_cons, List.idxOf_append]
  all_goals grind [List.idxOf_cons]

theorem rank_step_nt (cfg : Cfg) (s s' : Sys) (p : Pkt) (hl : LockInv s) (hw : WireInv s)
    (hq : discBegun s = false) (hp : Pending s p) (hs : step cfg s 0 = some s') :
    p ∈ sentPkts s'.wire ∨ (Pending s' p ∧ rank s' p + 1 ≤ rank s p) := by
  obtain ⟨ev, pc, pc', td, td', f⟩ := step_facts cfg s s' 0 hl hs
  have hpc := f.thr
  simp only [discBegun, Bool.or_eq_false_iff] at hq
  obtain ⟨a, n, h0, hex, hx⟩ := nt_alive hl hw hq.1
  rw [hpc] at h0
  cases h0
  unfold Pending at hp ⊢
  unfold rank
  rw [hpc] at hp ⊢
  rw [f.thr', f.lists.wire, f.lists.queue, sentPkts_append]
  rcases f.trans.rank_dec hq.1 (open_of_not_int hl hw hq.1) hex hx p hp with k | k
  · exact Or.inl (List.mem_append_right _ k)
  · exact Or.inr k

/-- rank only depends on the networking thread's pc and on the queue -/
theorem rank_congr (s s' : Sys) (p : Pkt) (h0 : s'.thr 0 = s.thr 0)
    (hqp : p ∈ (s.thr 0).pc.popped ∨ s'.queue.idxOf p = s.queue.idxOf p) : rank s' p = rank s p := by
  unfold rank rankAt
  rw [h0]
  rcases hqp with h | h
  · unfold Pc.popped at h
    split at h <;> simp_all
  · rw [h]

/-- A user thread pops only inside `disconnect`. -/
theorem Trans.user_pop {cfg : Cfg} {s : Sys} {t : Tid} {u : UPc} {pc' : Pc} {td td' : List Op}
    {ev : Ev} (h : Trans cfg s t (.user u) td ev pc' td') :
    ev.pops = [] ∨ (Pc.user u).atLock.dctx.isSome = true := by
  cases h <;> simp [Ev.pops, Pc.atLock, Pc.crit, UPc.crit, Pc.dctx]

theorem rank_step_user (cfg : Cfg) (s s' : Sys) (p : Pkt) (t : Tid) (hl : LockInv s)
    (hq : discBegun s = false) (hp : Pending s p) (ht : t ≠ 0) (hs : step cfg s t = some s') :
    discBegun s' = true ∨ (Pending s' p ∧ rank s' p = rank s p) := by
  have h0 : s'.thr 0 = s.thr 0 := step_thr_other cfg s s' t hs 0 (fun h => ht h.symm)
  -- the queue stays, or grows at the end
  have key : s'.queue = s.queue ∨ ∃ x, s'.queue = s.queue ++ [x] := by
    obtain ⟨ev, pc, pc', td, td', f⟩ := step_facts cfg s s' t hl hs
    have htr := f.trans
    have hpc := f.thr
    have d2 := f.lists.queue
    have hcur := f.holder
    simp only [discBegun, Bool.or_eq_false_iff] at hq
    cases pc with
    | net a n => exact absurd (hl.net_zero t a n (by rw [hpc])) ht
    | user u =>
      rcases htr.user_pop with k | k
      · rw [d2, if_pos k]
        cases ev <;> simp [Ev.apps]
      · have hk : (Pc.user u).crit = true := by
          cases h : (Pc.user u).crit with
          | true => rfl
          | false => rw [Pc.atLock, h] at k; cases k
        rw [(hcur.at_lock (Or.inl hk)).1, k] at hq; cases hq.2
  rcases key with k | ⟨x, k⟩
  · refine Or.inr ⟨?_, rank_congr s s' p h0 (Or.inr (by rw [k]))⟩
    unfold Pending; rw [k, h0]; exact hp
  · refine Or.inr ⟨?_, ?_⟩
    · unfold Pending; rw [k, h0]
      rcases hp with hp | hp
      · exact Or.inl (List.mem_append_left _ hp)
      · exact Or.inr hp
    · rcases hp with hp | hp
      · exact rank_congr s s' p h0 (Or.inr (by rw [k, List.idxOf_append, if_pos hp]))
      · exact rank_congr s s' p h0 (Or.inl hp)

theorem sent_step (cfg : Cfg) (s s' : Sys) (t : Tid) (hs : step cfg s t = some s') (p : Pkt)
    (hp : p ∈ sentPkts s.wire) : p ∈ sentPkts s'.wire := by
  obtain ⟨ev, pc', td', -, rfl⟩ := step_char cfg s s' t hs
  rw [(commit_lists ..).1, sentPkts_append]
  exact List.mem_append_left _ hp

/-! ### Progress under an arbitrary finite schedule -/

/-- `p` has a whole frame on the wire, or a disconnect has been started. -/
def Goal (s : Sys) (p : Pkt) : Prop := p ∈ sentPkts s.wire ∨ discBegun s = true

theorem goal_step (cfg : Cfg) (progs : List (List Op)) (s s' : Sys) (t : Tid) (p : Pkt)
    (h : WInv progs s) (hs : step cfg s t = some s') (hg : Goal s p) : Goal s' p := by
  rcases hg with hg | hg
  · exact Or.inl (sent_step cfg s s' t hs p hg)
  · exact Or.inr (disc_step cfg s s' t h.lock h.wire hs hg)

theorem goal_run (cfg : Cfg) (progs : List (List Op)) (p : Pkt) (more : List Tid) (s : Sys)
    (h : WInv progs s) (hg : Goal s p) : Goal (run cfg s more) p :=
  run_induct_inv cfg progs (Goal · p) more
    (fun x x' t hi hp hs => goal_step cfg progs x x' t p hi hs hp) s h hg

theorem rank_pos {s : Sys} (p : Pkt) (hl : LockInv s) (hw : WireInv s) (hq : discBegun s = false) :
    1 ≤ rank s p := by
  simp only [discBegun, Bool.or_eq_false_iff] at hq
  obtain ⟨a, n, h0, hex, hx⟩ := nt_alive hl hw hq.1
  unfold rank rankAt
  rw [h0]
  cases a <;> simp_all [NPc.exited, npos] <;> (try split) <;> omega

theorem npos_le (pc : NPc) : npos pc ≤ 13 := by
  cases pc <;> simp [npos]

theorem rank_le (s : Sys) (p : Pkt) : rank s p ≤ 11 * s.queue.idxOf p + 13 := by
  unfold rank rankAt
  split
  · split <;> omega
  · split <;> omega
  · next pc _ _ _ => have := npos_le (by assumption : NPc); omega
  · omega

theorem progress_core (cfg : Cfg) (progs : List (List Op)) (p : Pkt) (more : List Tid) :
    ∀ s, WInv progs s → (Goal s p ∨ (Pending s p ∧ rank s p ≤ moves cfg 0 s more)) →
      Goal (run cfg s more) p := by
  induction more with
  | nil =>
    intro s h hg
    rcases hg with hg | ⟨hp, hr⟩
    · exact hg
    · cases hq : discBegun s with
      | true => exact Or.inr hq
      | false =>
        have := rank_pos p h.lock h.wire hq
        simp only [moves] at hr; omega
  | cons t ts ih =>
    intro s h hg
    rcases hg with hg | ⟨hp, hr⟩
    · exact goal_run cfg progs p _ s h hg
    · unfold run
      unfold moves at hr
      cases hs : step cfg s t with
      | none =>
        rw [hs] at hr
        exact ih s h (Or.inr ⟨hp, hr⟩)
      | some s' =>
        rw [hs] at hr
        have h' := step_inv cfg progs s s' t h hs
        simp only
        cases hq : discBegun s with
        | true => exact ih s' h' (Or.inl (goal_step cfg progs s s' t p h hs (Or.inr hq)))
        | false =>
          by_cases ht : t = 0
          · subst ht
            rcases rank_step_nt cfg s s' p h.lock h.wire hq hp hs with k | ⟨k1, k2⟩
            · exact ih s' h' (Or.inl (Or.inl k))
            · refine ih s' h' (Or.inr ⟨k1, ?_⟩)
              simp only [if_true] at hr; omega
          · rcases rank_step_user cfg s s' p t h.lock hq hp ht hs with k | ⟨k1, k2⟩
            · exact ih s' h' (Or.inl (Or.inr k))
            · refine ih s' h' (Or.inr ⟨k1, ?_⟩)
              simp only [if_neg ht] at hr; omega

/-! ### The networking thread running alone -/

/-- Only the networking thread is running: the lock is free or its own, no disconnect begun. -/
def Solo (s : Sys) : Prop := (s.owner = none ∨ s.owner = some 0) ∧ discBegun s = false

theorem solo_step (cfg : Cfg) (s : Sys) (hl : LockInv s) (hw : WireInv s) (h : Solo s) :
    ∃ s', step cfg s 0 = some s' ∧ Solo s' := by
  obtain ⟨hown, hq⟩ := h
  have hi : s.interrupt = false := by
    simp only [discBegun, Bool.or_eq_false_iff] at hq; exact hq.1
  have hen : (step cfg s 0).isSome = true := by
    rcases hown with ho | ho
    · exact free_enabled cfg s 0 hl ho (nt_not_done hl hi)
    · exact holder_enabled cfg s 0 hl hw ho
  obtain ⟨s', hs⟩ := Option.isSome_iff_exists.mp hen
  refine ⟨s', hs, ?_, ?_⟩
  · obtain ⟨ev, pc, pc', td, td', f⟩ := step_facts cfg s s' 0 hl hs
    rcases f.lock with ⟨-, -, k, -⟩ | ⟨-, -, k, -⟩ | ⟨-, -, k, -⟩
    · exact Or.inr k
    · exact Or.inl k
    · rw [k]; exact hown
  · -- the networking thread is not an idle user thread, so it begins no `disconnect`
    cases hq' : discBegun s' with
    | false => rfl
    | true =>
      obtain ⟨h, -⟩ := begun_step cfg s s' 0 hl hw hq hs hq'
      obtain ⟨pc0, n0, h0⟩ := hl.nt_net
      rw [h0] at h; cases h

theorem solo_run (cfg : Cfg) (progs : List (List Op)) :
    ∀ k s, WInv progs s → Solo s →
      moves cfg 0 s (List.replicate k 0) = k ∧ skipped cfg s (List.replicate k 0) = 0 ∧
      Solo (run cfg s (List.replicate k 0)) := by
  intro k
  induction k with
  | zero => intro s _ hs; exact ⟨rfl, rfl, hs⟩
  | succ k ih =>
    intro s h hsolo
    obtain ⟨s', hs, hsolo'⟩ := solo_step cfg s h.lock h.wire hsolo
    obtain ⟨i1, i2, i3⟩ := ih s' (step_inv cfg progs s s' 0 h hs) hsolo'
    simp only [List.replicate_succ, moves, skipped, run, hs, if_true]
    exact ⟨by omega, i2, i3⟩

theorem solo_of {s : Sys} (hl : LockInv s) (ho : s.owner = none ∨ s.owner = some 0)
    (hi : s.interrupt = false) : Solo s := by
  refine ⟨ho, ?_⟩
  simp only [discBegun, hi, Bool.false_or]
  rcases ho with ho | ho
  · rw [cur_of_free ho]; rfl
  · obtain ⟨pc, n, h0⟩ := hl.nt_net
    rw [cur_of_owner ho, h0]; rfl

/-- The solo run of the networking thread drains the queue. -/
theorem drain_core (cfg : Cfg) (progs : List (List Op)) (s : Sys) (h : WInv progs s)
    (ho : s.owner = none ∨ s.owner = some 0) (hi : s.interrupt = false) (k : Nat)
    (hk : 11 * s.queue.length + 2 ≤ k) :
    (∀ p ∈ s.queue, p ∈ sentPkts (run cfg s (List.replicate k 0)).wire) ∧
    skipped cfg s (List.replicate k 0) = 0 ∧
    (run cfg s (List.replicate k 0)).interrupt = false ∧
    (run cfg s (List.replicate k 0)).sockOpen = true := by
  obtain ⟨m1, m2, m3⟩ := solo_run cfg progs k s h (solo_of h.lock ho hi)
  have h' := run_inv cfg progs (List.replicate k 0) s h
  have hq' := m3.2
  have hi' : (run cfg s (List.replicate k 0)).interrupt = false := by
    simp only [discBegun, Bool.or_eq_false_iff] at hq'; exact hq'.1
  refine ⟨fun p hp => ?_, m2, hi', open_of_not_int h'.lock h'.wire hi'⟩
  have hr := rank_le s p
  have hl := List.idxOf_lt_length_of_mem hp
  rcases progress_core cfg progs p (List.replicate k 0) s h
      (Or.inr ⟨Or.inl hp, by rw [m1]; omega⟩) with g | g
  · exact g
  · rw [hq'] at g; cases g

theorem sent_run (cfg : Cfg) (p : Pkt) (more : List Tid) (s : Sys) (h : p ∈ sentPkts s.wire) :
    p ∈ sentPkts (run cfg s more).wire :=
  run_induct cfg (p ∈ sentPkts ·.wire) more (fun x x' t _ hp hs => sent_step cfg x x' t hs p hp) s h

/-- Everything issued before a graceful disconnect acquired the free lock (socket open) is on the
wire when that disconnect is at its final `rel`. -/
theorem issued_before_sent (cfg : Cfg) (progs : List (List Op)) (s0 : Sys) (h0 : WInv progs s0)
    (more : List Tid) (t : Tid) (ho : s0.owner = none) (hopen : s0.sockOpen = true)
    (hpc : ((run cfg s0 more).thr t).pc = .user (.dRel ⟨false, s0.queue, s0.wire, true⟩)) :
    (∀ p ∈ s0.issued, p ∈ sentPkts (run cfg s0 more).wire) ∧
      (run cfg s0 more).sockOpen = false := by
  have h2 := run_inv cfg progs more s0 h0
  have hcur : cur (run cfg s0 more) = .user (.dRel ⟨false, s0.queue, s0.wire, true⟩) := by
    rw [cur_of_crit h2.lock t (by rw [hpc]; rfl), hpc]
  refine ⟨fun p hp => ?_, h2.wire.rel_closed _ hcur⟩
  have hm := (h0.wire.mem_issued p).mp hp
  rw [cur_of_free ho] at hm
  have hf : s0.failed = [] := by
    cases hfl : s0.failed with
    | nil => rfl
    | cons a l =>
      have := h0.wire.failed_closed (by rw [hfl]; simp)
      rw [hopen] at this; cases this
  rcases hm with hm | hm | hm | hm
  · exact sent_run cfg p more s0 hm
  · simp [Pc.infl] at hm
  · have := h2.wire.snap _ (by rw [hcur]; rfl) rfl rfl p hm
    rw [hcur] at this
    simpa [Pc.flushing] using this
  · rw [hf] at hm; cases hm

/-! ### Work of the user threads -/

/-- Number of own actions a user thread still has to perform, as long as it does not disconnect. -/
def uwork (th : Thr) : Nat :=
  match th.pc with
  | .user .idle => 4 * th.todo.length + 1
  | .user (.fSnd0 _) => 4 * th.todo.length + 4
  | .user (.fSnd1 _) => 4 * th.todo.length + 3
  | .user .fRel => 4 * th.todo.length + 2
  | _ => 0

def sumTo (f : Nat → Nat) : Nat → Nat
  | 0 => f 0
  | n + 1 => sumTo f n + f (n + 1)

theorem sumTo_congr (f g : Nat → Nat) (n : Nat) (h : ∀ u, u ≤ n → g u = f u) :
    sumTo g n = sumTo f n := by
  induction n with
  | zero => exact h 0 (Nat.le_refl 0)
  | succ n ih =>
    simp only [sumTo]
    rw [ih (fun u hu => h u (by omega)), h (n + 1) (Nat.le_refl _)]

theorem sumTo_lt (f g : Nat → Nat) (n t : Nat) (ht : t ≤ n) (hlt : g t + 1 ≤ f t)
    (h : ∀ u, u ≠ t → g u = f u) : sumTo g n + 1 ≤ sumTo f n := by
  induction n with
  | zero =>
    have : t = 0 := by omega
    subst this; exact hlt
  | succ n ih =>
    simp only [sumTo]
    by_cases htn : t = n + 1
    · subst htn
      rw [sumTo_congr f g n (fun u hu => h u (by omega))]
      omega
    · have := ih (by omega)
      rw [h (n + 1) (fun e => htn e.symm)]
      omega

/-- `N` is an upper bound of the live thread ids: threads with an id above `N` are finished. -/
def UB (N : Nat) (s : Sys) : Prop := ∀ t, N < t → (s.thr t).pc = .user .done

theorem UB_dead (cfg : Cfg) (N : Nat) (s : Sys) (h : UB N s) (t : Tid) (ht : N < t) :
    step cfg s t = none := by
  unfold step; rw [h t ht]; rfl

theorem UB_step (cfg : Cfg) (N : Nat) (s s' : Sys) (t : Tid) (h : UB N s)
    (hs : step cfg s t = some s') : UB N s' := by
  intro u hu
  by_cases hut : u = t
  · subst hut; rw [UB_dead cfg N s h u hu] at hs; cases hs
  · rw [step_thr_other cfg s s' t hs u hut]; exact h u hu

theorem UB_init (progs : List (List Op)) : UB progs.length (init progs) := by
  intro t ht
  have h0 : t ≠ 0 := by omega
  have h1 : ¬ t ≤ progs.length := by omega
  simp [init, h0, h1]

theorem UB_run (cfg : Cfg) (N : Nat) (sched : List Tid) (s : Sys) (h : UB N s) :
    UB N (run cfg s sched) :=
  run_induct cfg (UB N) sched (fun x x' t _ hp hs => UB_step cfg N x x' t hp hs) s h

def work (N : Nat) (s : Sys) : Nat := sumTo (fun t => uwork (s.thr t)) N

/-- Outside `disconnect`, every action of a user thread uses up some of its work. -/
theorem Trans.work {cfg : Cfg} {s : Sys} {t : Tid} {u : UPc} {pc' : Pc} {td td' : List Op}
    {ev : Ev} (h : Trans cfg s t (.user u) td ev pc' td') :
    (Pc.user u).atLock.dctx.isSome = true ∨ pc'.atLock.dctx.isSome = true ∨
      uwork ⟨pc', td'⟩ + 1 ≤ uwork ⟨.user u, td⟩ := by
  cases h <;> simp [uwork, Pc.atLock, Pc.crit, UPc.crit, Pc.dctx] <;> omega

theorem uwork_step (cfg : Cfg) (s s' : Sys) (t : Tid) (hl : LockInv s)
    (hq : discBegun s = false) (hs : step cfg s t = some s') :
    discBegun s' = true ∨
      ((t = 0 → uwork (s'.thr t) = uwork (s.thr t)) ∧
       (t ≠ 0 → uwork (s'.thr t) + 1 ≤ uwork (s.thr t))) := by
  obtain ⟨ev, pc, pc', td, td', f⟩ := step_facts cfg s s' t hl hs
  have htr := f.trans
  have hpc := f.thr
  have hcur := f.holder
  simp only [discBegun, Bool.or_eq_false_iff] at hq
  simp only [discBegun, Bool.or_eq_true]
  rw [hpc, f.thr']
  cases pc with
  | net a n =>
    obtain ⟨a', n', rfl, -⟩ := htr.net
    exact Or.inr ⟨fun _ => rfl, fun ht => absurd (hl.net_zero t a n (by rw [hpc])) ht⟩
  | user u =>
    have crit_of : ∀ pc : Pc, pc.atLock.dctx.isSome = true → pc.crit = true := fun pc k => by
      cases h : pc.crit with
      | true => rfl
      | false => rw [Pc.atLock, h] at k; cases k
    rcases htr.work with k | k | k
    · rw [(hcur.at_lock (Or.inl (crit_of _ k))).1, k] at hq; cases hq.2
    · exact Or.inl (Or.inr (by rw [(hcur.at_lock (Or.inr (crit_of _ k))).2, k]))
    · refine Or.inr ⟨fun ht => ?_, fun _ => k⟩
      obtain ⟨a0, n0, h0⟩ := hl.nt_net
      rw [ht] at hpc; rw [hpc] at h0; cases h0

theorem work_step (cfg : Cfg) (N : Nat) (s s' : Sys) (t : Tid) (hl : LockInv s) (hu : UB N s)
    (hq : discBegun s = false) (hs : step cfg s t = some s') :
    discBegun s' = true ∨
      ((t = 0 → work N s' = work N s) ∧ (t ≠ 0 → work N s' + 1 ≤ work N s)) := by
  have hoth := step_thr_other cfg s s' t hs
  have htN : t ≤ N := by
    by_cases h : t ≤ N
    · exact h
    · rw [UB_dead cfg N s hu t (Nat.lt_of_not_le h)] at hs; cases hs
  rcases uwork_step cfg s s' t hl hq hs with k | ⟨k1, k2⟩
  · exact Or.inl k
  · refine Or.inr ⟨fun h0 => ?_, fun h0 => ?_⟩
    · apply sumTo_congr
      intro u _
      by_cases hut : u = t
      · subst hut; exact k1 h0
      · simp only [hoth u hut]
    · apply sumTo_lt _ _ N t htN (k2 h0)
      intro u hut
      simp only [hoth u hut]

/-! ### Infinite schedules -/

/-- `runN` and `WeakFair` are those of `Lemmas/Sched.lean` over `step cfg`. -/
theorem runN_eq (cfg : Cfg) (s : Sys) (σ : Nat → Tid) :
    ∀ n, runN cfg s σ n = Sched.runN (step cfg) s σ n := by
  intro n
  induction n with
  | zero => rfl
  | succ n ih =>
    simp only [runN, Sched.runN, ih]
    cases step cfg (Sched.runN (step cfg) s σ n) (σ n) <;> rfl

theorem weakFair_iff (cfg : Cfg) (s : Sys) (σ : Nat → Tid) :
    WeakFair cfg s σ ↔ Sched.WeakFair (step cfg) s σ := by
  simp only [WeakFair, Sched.WeakFair, enabled, runN_eq, Option.isSome_iff_ne_none]

theorem runN_eq_run (cfg : Cfg) (s : Sys) (σ : Nat → Tid) (n : Nat) :
    runN cfg s σ n = run cfg s ((List.range n).map σ) := by
  rw [runN_eq, Sched.runN_eq_run, run_eq]

theorem runN_inv (cfg : Cfg) (progs : List (List Op)) (s : Sys) (σ : Nat → Tid) (h : WInv progs s)
    (n : Nat) : WInv progs (runN cfg s σ n) := by
  rw [runN_eq_run]; exact run_inv cfg progs _ s h

theorem runN_UB (cfg : Cfg) (N : Nat) (s : Sys) (σ : Nat → Tid) (h : UB N s) (n : Nat) :
    UB N (runN cfg s σ n) := by
  rw [runN_eq_run]; exact UB_run cfg N _ s h

/-- The goal, once reached, stays reached. -/
theorem goal_runN (cfg : Cfg) (progs : List (List Op)) (s : Sys) (σ : Nat → Tid) (p : Pkt)
    (h : WInv progs s) (n : Nat) (hg : Goal (runN cfg s σ n) p) (m : Nat) (hm : n ≤ m) :
    Goal (runN cfg s σ m) p := by
  have hi := runN_inv cfg progs s σ h n
  rw [show m = n + (m - n) by omega, runN_eq, Sched.runN_add, ← runN_eq, ← runN_eq, runN_eq_run]
  exact goal_run cfg progs p _ _ hi hg

/-- One action of any thread: the goal is reached, or `p` is still pending and the variant
`rank + work` has decreased. -/
theorem variant_step (cfg : Cfg) (progs : List (List Op)) (N : Nat) (s s' : Sys) (t : Tid) (p : Pkt)
    (h : WInv progs s) (hu : UB N s) (hq : discBegun s = false) (hp : Pending s p)
    (hs : step cfg s t = some s') :
    Goal s' p ∨ (Pending s' p ∧ rank s' p + work N s' + 1 ≤ rank s p + work N s) := by
  rcases work_step cfg N s s' t h.lock hu hq hs with k | ⟨w1, w2⟩
  · exact Or.inl (Or.inr k)
  · by_cases ht : t = 0
    · subst ht
      rcases rank_step_nt cfg s s' p h.lock h.wire hq hp hs with k | ⟨k1, k2⟩
      · exact Or.inl (Or.inl k)
      · exact Or.inr ⟨k1, by rw [w1 rfl]; omega⟩
    · rcases rank_step_user cfg s s' p t h.lock hq hp ht hs with k | ⟨k1, k2⟩
      · exact Or.inl (Or.inr k)
      · exact Or.inr ⟨k1, by have := w2 ht; omega⟩

/-- While `p` is pending and no disconnect has begun some thread is enabled (the lock holder, or
with the lock free the networking thread) and every action decreases the variant `rank + work`:
a weakly fair schedule reaches the goal (`Sched.fair_decreasing`). -/
theorem fair_core (cfg : Cfg) (progs : List (List Op)) (N : Nat) (p : Pkt) (s : Sys)
    (σ : Nat → Tid) (h : WInv progs s) (hu : UB N s) (hp : Pending s p)
    (hf : WeakFair cfg s σ) : ∃ n, Goal (runN cfg s σ n) p := by
  simp only [runN_eq]
  refine Sched.fair_decreasing (step cfg)
    (fun x => WInv progs x ∧ UB N x ∧ Pending x p) (Goal · p) (fun x => rank x p + work N x)
    (fun x hq hg => ?_) (fun x x' t hq hg hs => ?_) _ s σ ⟨h, hu, hp⟩ (Nat.le_refl _)
    ((weakFair_iff cfg s σ).mp hf)
  · have hi : x.interrupt = false := by
      cases hi : x.interrupt with
      | false => rfl
      | true => exact absurd (Or.inr (by simp [discBegun, hi])) hg
    simp only [← Option.isSome_iff_ne_none]
    cases ho : x.owner with
    | none => exact ⟨0, free_enabled cfg x 0 hq.1.lock ho (nt_not_done hq.1.lock hi)⟩
    | some u => exact ⟨u, holder_enabled cfg x u hq.1.lock hq.1.wire ho⟩
  · obtain ⟨hi, hub, hpx⟩ := hq
    have hqx : discBegun x = false := by
      cases hd : discBegun x with
      | false => rfl
      | true => exact absurd (Or.inr hd) hg
    rcases variant_step cfg progs N x x' t p hi hub hqx hpx hs with g | ⟨g1, g2⟩
    · exact Or.inl g
    · exact Or.inr ⟨⟨step_inv cfg progs x x' t hi hs, UB_step cfg N x x' t hub hs, g1⟩, by omega⟩

theorem fair_weak (cfg : Cfg) (N : Nat) (s : Sys) (σ : Nat → Tid) (hu : UB N s)
    (hf : FairUpTo N σ) : WeakFair cfg s σ := by
  intro t n hen
  by_cases ht : t ≤ N
  · exact hf t ht n
  · have := hen n (Nat.le_refl n)
    simp only [enabled, UB_dead cfg N _ (runN_UB cfg N s σ hu n) t (Nat.lt_of_not_le ht)] at this
    cases this

theorem roundRobin_fair (N : Nat) : FairUpTo N (roundRobin N) := by
  intro t ht n
  refine ⟨n * (N + 1) + t, ?_, ?_⟩
  · have : n ≤ n * (N + 1) := Nat.le_mul_of_pos_right n (by omega)
    omega
  · simp only [roundRobin]
    rw [Nat.mul_comm, Nat.mul_add_mod]
    exact Nat.mod_eq_of_lt (by omega)

/-! ### Forced writes are synchronous -/

/-- The journey of thread `t`'s forced write of `p` (followed by `rest`): not begun, before its first
or its second `snd`, or over — `p` sent or failed. -/
def ForcedJ (s : Sys) (t : Tid) (p : Pkt) (rest : List Op) : Prop :=
  ((s.thr t).pc = .user .idle ∧ (s.thr t).todo = .forced p :: rest) ∨
  ((s.thr t).pc = .user (.fSnd0 p) ∧ (s.thr t).todo = rest) ∨
  ((s.thr t).pc = .user (.fSnd1 p) ∧ (s.thr t).todo = rest) ∨
  p ∈ sentPkts s.wire ∨ p ∈ s.failed

/-- A forced write of `p`, once begun, goes on to send `p` or to fail with it. -/
theorem Trans.forced {cfg : Cfg} {s : Sys} {t : Tid} {pc pc' : Pc} {td td' : List Op} {ev : Ev}
    (h : Trans cfg s t pc td ev pc' td') (p : Pkt) (rest : List Op)
    (hj : (pc = .user .idle ∧ td = .forced p :: rest) ∨ (pc = .user (.fSnd0 p) ∧ td = rest) ∨
      (pc = .user (.fSnd1 p) ∧ td = rest)) :
    (pc' = .user (.fSnd0 p) ∧ td' = rest) ∨ (pc' = .user (.fSnd1 p) ∧ td' = rest) ∨
      p ∈ sentPkts ev.snds ∨ (ev = .fail ∧ p ∈ pc.infl) := by
  cases h <;> simp_all [Ev.snds, sentPkts, Pc.infl]

theorem forcedJ_step (cfg : Cfg) (s s' : Sys) (u t : Tid) (p : Pkt) (rest : List Op)
    (hs : step cfg s u = some s') (hj : ForcedJ s t p rest) : ForcedJ s' t p rest := by
  obtain ⟨ev, pc', td', htr, rfl⟩ := step_char cfg s s' u hs
  obtain ⟨d1, -, d3, -⟩ := commit_lists s u (s.thr u).pc ev pc' td'
  unfold ForcedJ at *
  have hsent : p ∈ sentPkts s.wire ∨ p ∈ s.failed →
      p ∈ sentPkts (commit s u (s.thr u).pc ev pc' td').wire ∨
        p ∈ (commit s u (s.thr u).pc ev pc' td').failed := by
    rw [d1, d3, sentPkts_append]
    rintro (h | h)
    · exact Or.inl (List.mem_append_left _ h)
    · exact Or.inr (List.mem_append_left _ h)
  by_cases hu : t = u
  · subst hu
    rw [commit_thr_self]
    rcases hj with hj | hj | hj | hj
    case' inr.inr.inr => exact Or.inr (Or.inr (Or.inr (hsent hj)))
    all_goals
      rcases htr.forced p rest (by simp [hj]) with k | k | k | ⟨k1, k2⟩
      · exact Or.inr (Or.inl k)
      · exact Or.inr (Or.inr (Or.inl k))
      · refine Or.inr (Or.inr (Or.inr (Or.inl ?_)))
        rw [d1, sentPkts_append]; exact List.mem_append_right _ k
      · refine Or.inr (Or.inr (Or.inr (Or.inr ?_)))
        rw [d3, if_pos k1]; exact List.mem_append_right _ k2
  · rw [commit_thr_other _ _ _ _ _ _ t hu]
    exact hj.imp_right (Or.imp_right (Or.imp_right hsent))

theorem forcedJ_run (cfg : Cfg) (t : Tid) (p : Pkt) (rest : List Op) (more : List Tid) (s : Sys)
    (h : ForcedJ s t p rest) : ForcedJ (run cfg s more) t p rest :=
  run_induct cfg (ForcedJ · t p rest) more
    (fun x x' u _ hp hs => forcedJ_step cfg x x' u t p rest hs hp) s h

/-! ### Programs without `disconnect` -/

theorem todo_suffix {progs : List (List Op)} {s : Sys} (h : ProgInv progs s) (t : Tid) :
    (s.thr t).todo = [] ∨ ∃ prog ∈ progs, (s.thr t).todo <:+ prog := by
  obtain ⟨done, hd, -, -⟩ := h.prog t
  unfold progOf at hd
  split at hd
  · left
    exact (List.append_eq_nil_iff.mp hd.symm).2
  · by_cases hi : t - 1 < progs.length
    · right
      refine ⟨progs[t - 1], List.getElem_mem hi, ?_⟩
      have : progs.getD (t - 1) [] = progs[t - 1] := by simp [List.getD, hi]
      rw [this] at hd
      exact ⟨done, hd.symm⟩
    · left
      rw [getD_big progs _ (Nat.le_of_not_lt hi)] at hd
      exact (List.append_eq_nil_iff.mp hd.symm).2

theorem nodisc_step (cfg : Cfg) (s s' : Sys) (t : Tid) (hl : LockInv s) (hw : WireInv s)
    (hq : discBegun s = false) (hnd : ∀ imm, Op.disconnect imm ∉ (s.thr t).todo)
    (hs : step cfg s t = some s') : discBegun s' = false := by
  cases hq' : discBegun s' with
  | false => rfl
  | true =>
    obtain ⟨-, imm, rest, h⟩ := begun_step cfg s s' t hl hw hq hs hq'
    exact absurd (by rw [h]; simp) (hnd imm)

/-- In programs without `disconnect` no disconnect ever begins. -/
theorem nodisc_run (cfg : Cfg) (progs : List (List Op))
    (hnd : ∀ prog ∈ progs, ∀ imm, Op.disconnect imm ∉ prog) (more : List Tid) (s : Sys)
    (h : WInv progs s) (hq : discBegun s = false) : discBegun (run cfg s more) = false :=
  run_induct_inv cfg progs (discBegun · = false) more (fun x x' t hi hp hs =>
    nodisc_step cfg x x' t hi.lock hi.wire hp (fun imm hmem => by
      rcases todo_suffix hi.prog t with he | ⟨prog, hprog, hsuf⟩
      · rw [he] at hmem; cases hmem
      · exact hnd prog hprog imm (hsuf.subset hmem)) hs) s h hq

end PyCraft.Writers
