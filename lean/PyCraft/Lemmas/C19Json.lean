import PyCraft.Ref.C19Json
import PyCraft.Lemmas.Basic
/-!
Helper lemmas for C19Seq: the reference decoder `Ref.Json.parseJson` reads back everything the
`json.dumps` model `Json.dumps` writes (`parseJson_jsonDumps`), and the output of `dumps` is
printable ASCII (`allPrintable_dumps`); both rest on the one case analysis of an escaped character,
`escChar_cases`.  `decodeUtf8` is how evaluated statements get at the characters of a text.
-/
namespace PyCraft.Json
open PyCraft PyCraft.Ref.Json

/-! ## the characters of a string, front to back

`decodeUtf8` gives the characters of a string from its bytes, read once from the front, so that an
evaluated statement about a JSON text never has the kernel call `String.toList` on a literal.  (It is
a plain structural recursion over `List UInt8`, made for evaluation; `Model/Wire`'s `utf8Decode` is
the model of pyCraft's wire strings and `Utf8.utf8DecodeRef` the reference of property C17.) -/

/-- UTF-8 decoding of a well-formed byte sequence (continuation bytes are not checked). -/
def decodeUtf8 : List UInt8 → List Char
  | [] => []
  | b0 :: bs =>
    if b0.toNat < 0x80 then Char.ofNat b0.toNat :: decodeUtf8 bs
    else match bs with
      | [] => []
      | b1 :: bs1 =>
        if b0.toNat < 0xe0 then
          Char.ofNat (b0.toNat % 0x20 * 0x40 + b1.toNat % 0x40) :: decodeUtf8 bs1
        else match bs1 with
          | [] => []
          | b2 :: bs2 =>
            if b0.toNat < 0xf0 then
              Char.ofNat (b0.toNat % 0x10 * 0x1000 + b1.toNat % 0x40 * 0x40 + b2.toNat % 0x40) ::
                decodeUtf8 bs2
            else match bs2 with
              | [] => []
              | b3 :: bs3 =>
                Char.ofNat (b0.toNat % 0x08 * 0x40000 + b1.toNat % 0x40 * 0x1000 +
                  b2.toNat % 0x40 * 0x40 + b3.toNat % 0x40) :: decodeUtf8 bs3

theorem decodeUtf8_encodeChar (c : Char) (rest : List UInt8) :
    decodeUtf8 (String.utf8EncodeChar c ++ rest) = c :: decodeUtf8 rest := by
  have hv : c.val.toNat < 0x110000 := by
    have := c.valid; simp only [UInt32.isValidChar, Nat.isValidChar] at this; omega
  have hc : ∀ n, n = c.val.toNat → Char.ofNat n = c := fun n h => h ▸ Char.ofNat_toNat c
  -- the bytes as numbers first (a continuation byte keeps its six bits, a lead byte is below 256),
  -- so that each `omega` below sees one division at a time
  have cont : ∀ x, (x % 64 + 128) % 2 ^ 8 % 64 = x % 64 := by intro x; omega
  have lead2 : ∀ x, (x % 32 + 192) % 2 ^ 8 = x % 32 + 192 := by intro x; omega
  have lead3 : ∀ x, (x % 16 + 224) % 2 ^ 8 = x % 16 + 224 := by intro x; omega
  have lead4 : ∀ x, (x % 8 + 240) % 2 ^ 8 = x % 8 + 240 := by intro x; omega
  unfold String.utf8EncodeChar
  dsimp only
  split
  · rw [List.cons_append, List.nil_append, decodeUtf8.eq_def]
    simp only [UInt8.toNat_ofNat']
    rw [if_pos (by omega), hc _ (by omega)]
  split
  · rw [List.cons_append, List.cons_append, List.nil_append, decodeUtf8.eq_def]
    simp only [UInt8.toNat_ofNat', cont, lead2]
    rw [if_neg (by omega), if_pos (by omega), hc _ (by omega)]
  split
  · rw [List.cons_append, List.cons_append, List.cons_append, List.nil_append, decodeUtf8.eq_def]
    simp only [UInt8.toNat_ofNat', cont, lead3]
    rw [if_neg (by omega), if_neg (by omega), if_pos (by omega), hc _ (by omega)]
  · rw [List.cons_append, List.cons_append, List.cons_append, List.cons_append, List.nil_append,
      decodeUtf8.eq_def]
    simp only [UInt8.toNat_ofNat', cont, lead4]
    rw [if_neg (by omega), if_neg (by omega), if_neg (by omega), hc _ (by omega)]

theorem toList_eq_decodeUtf8 (s : String) : s.toList = decodeUtf8 s.toByteArray.data.toList := by
  have h : ∀ l : List Char, decodeUtf8 (l.flatMap String.utf8EncodeChar) = l := by
    intro l
    induction l with
    | nil => rfl
    | cons c l ih => rw [List.flatMap_cons, decodeUtf8_encodeChar, ih]
  rw [utf8_bytes, h]

/-- `parseJson` on the characters of the text. -/
def parseChars (l : List Char) : Option JVal :=
  match parseVal (l.length + 1) l with
  | some (v, rest) => if skipWs rest = [] then some v else none
  | none => none

theorem parseJson_eq (s : String) : parseJson s = parseChars (decodeUtf8 s.toByteArray.data.toList) := by
  rw [← toList_eq_decodeUtf8]; rfl

theorem jsonDumps_eq_iff (v : JVal) (s : String) :
    jsonDumps v = s ↔ dumps v = decodeUtf8 s.toByteArray.data.toList := by
  rw [← toList_eq_decodeUtf8, jsonDumps, ← String.toList_inj, String.toList_ofList]

theorem hex4Val_hex4 (n : Nat) (h : n < 65536) :
    hex4Val (hexDigit (n / 4096 % 16)) (hexDigit (n / 256 % 16)) (hexDigit (n / 16 % 16))
      (hexDigit (n % 16)) = some n := by
  simp only [hex4Val, hexVal_hexDigit _ (Nat.mod_lt _ (by decide : 16 > 0))]
  congr 1; omega

/-- `' ' ≤ c ≤ '~'` -/
def Printable (c : Char) : Prop := 0x20 ≤ c.toNat ∧ c.toNat ≤ 0x7e

instance (c : Char) : Decidable (Printable c) := by unfold Printable; infer_instance

def AllPrintable (l : List Char) : Prop := ∀ c ∈ l, Printable c

instance (l : List Char) : Decidable (AllPrintable l) := by unfold AllPrintable; infer_instance

theorem allPrintable_append {a b : List Char} :
    AllPrintable (a ++ b) ↔ AllPrintable a ∧ AllPrintable b := by
  simp [AllPrintable, List.mem_append, or_imp, forall_and]

theorem allPrintable_cons {c : Char} {l : List Char} :
    AllPrintable (c :: l) ↔ Printable c ∧ AllPrintable l := by
  simp [AllPrintable]

theorem allPrintable_nil : AllPrintable [] := by simp [AllPrintable]

/-- Put `c` in front of the characters decoded so far: what `parseStrBody` does with one decoded
character and the result for the rest. -/
def consChar (c : Char) : Option (List Char × List Char) → Option (List Char × List Char)
  | some (s, r) => some (c :: s, r)
  | none => none

theorem parseStrBody_quote (r : List Char) : parseStrBody ('"' :: r) = some ([], r) := by
  rw [parseStrBody.eq_def]; simp

theorem parseStrBody_plain (c : Char) (r : List Char) (h1 : c ≠ '"') (h2 : c ≠ '\\')
    (h3 : ¬ c.toNat < 0x20) : parseStrBody (c :: r) = consChar c (parseStrBody r) := by
  rw [parseStrBody.eq_def]; simp only [h1, h2, h3, if_false]
  cases parseStrBody r <;> rfl

theorem parseStrBody_esc (e ch : Char) (r : List Char) (h1 : e ≠ 'u') (h2 : unescape e = some ch) :
    parseStrBody ('\\' :: e :: r) = consChar ch (parseStrBody r) := by
  rw [parseStrBody.eq_def]; simp [h1, h2]
  cases parseStrBody r <;> rfl

theorem parseStrBody_u (a b c d : Char) (n : Nat) (r : List Char) (h : hex4Val a b c d = some n)
    (h1 : ¬ (0xd800 ≤ n ∧ n < 0xdc00)) (h2 : ¬ (0xdc00 ≤ n ∧ n < 0xe000)) :
    parseStrBody ('\\' :: 'u' :: a :: b :: c :: d :: r) = consChar (Char.ofNat n) (parseStrBody r) := by
  rw [parseStrBody.eq_def]; simp [h, h1, h2]
  cases parseStrBody r <;> rfl

theorem parseStrBody_uu (a b c d a' b' c' d' : Char) (hi lo : Nat) (r : List Char)
    (h : hex4Val a b c d = some hi) (h' : hex4Val a' b' c' d' = some lo)
    (h1 : 0xd800 ≤ hi ∧ hi < 0xdc00) (h2 : 0xdc00 ≤ lo ∧ lo < 0xe000) :
    parseStrBody ('\\' :: 'u' :: a :: b :: c :: d :: '\\' :: 'u' :: a' :: b' :: c' :: d' :: r) =
      consChar (Char.ofNat (0x10000 + (hi - 0xd800) * 0x400 + (lo - 0xdc00))) (parseStrBody r) := by
  rw [parseStrBody.eq_def]; simp [h, h', h1, h2]
  cases parseStrBody r <;> rfl

theorem surrogate_hi (n : Nat) (h : n < 0x100000) :
    0xd800 ||| ((n >>> 10) &&& 0x3ff) = 0xd800 + n / 1024 := by
  have e1 : (n >>> 10) &&& 0x3ff = n / 1024 % 1024 := by
    rw [Nat.shiftRight_eq_div_pow]
    exact Nat.and_two_pow_sub_one_eq_mod _ 10
  have e2 : n / 1024 % 1024 = n / 1024 := Nat.mod_eq_of_lt (by omega)
  rw [e1, e2]
  -- `0xd800 = 54 <<< 10`
  have := Nat.shiftLeft_add_eq_or_of_lt (i := 10) (b := n / 1024) (by omega) 54
  simpa using this.symm

theorem surrogate_lo (n : Nat) : 0xdc00 ||| (n &&& 0x3ff) = 0xdc00 + n % 1024 := by
  have e1 : n &&& 0x3ff = n % 1024 := Nat.and_two_pow_sub_one_eq_mod _ 10
  rw [e1]
  -- `0xdc00 = 55 <<< 10`
  have := Nat.shiftLeft_add_eq_or_of_lt (i := 10) (b := n % 1024) (Nat.mod_lt _ (by decide)) 55
  simpa using this.symm

/-- The four shapes of `escChar c`: a short escape `\\e` that `unescape` undoes, the character itself,
one `\\uXXXX`, or a surrogate pair (with the bit operations of the pair written as arithmetic). -/
theorem escChar_cases (c : Char) :
    (∃ e, escChar c = ['\\', e] ∧ e ≠ 'u' ∧ unescape e = some c ∧ Printable e) ∨
    (escChar c = [c] ∧ c ≠ '"' ∧ c ≠ '\\' ∧ Printable c) ∨
    (escChar c = '\\' :: 'u' :: hex4 c.toNat ∧ c.toNat < 0x10000) ∨
    (escChar c = '\\' :: 'u' :: hex4 (0xd800 + (c.toNat - 0x10000) / 1024) ++
        '\\' :: 'u' :: hex4 (0xdc00 + (c.toNat - 0x10000) % 1024) ∧ 0x10000 ≤ c.toNat) := by
  by_cases h1 : c = '"'
  · subst h1; exact .inl ⟨'"', by decide⟩
  by_cases h2 : c = '\\'
  · subst h2; exact .inl ⟨'\\', by decide⟩
  by_cases h3 : c = '\n'
  · subst h3; exact .inl ⟨'n', by decide⟩
  by_cases h4 : c = '\r'
  · subst h4; exact .inl ⟨'r', by decide⟩
  by_cases h5 : c = '\t'
  · subst h5; exact .inl ⟨'t', by decide⟩
  by_cases h6 : c = Char.ofNat 8
  · subst h6; exact .inl ⟨'b', by decide⟩
  by_cases h7 : c = Char.ofNat 12
  · subst h7; exact .inl ⟨'f', by decide⟩
  rw [escChar, if_neg h1, if_neg h2, if_neg h3, if_neg h4, if_neg h5, if_neg h6, if_neg h7]
  by_cases hp : 0x20 ≤ c.toNat ∧ c.toNat ≤ 0x7e
  · exact .inr (.inl ⟨if_pos hp, h1, h2, hp⟩)
  rw [if_neg hp]
  by_cases hlt : c.toNat < 0x10000
  · exact .inr (.inr (.inl ⟨if_pos hlt, hlt⟩))
  · have hv : c.toNat < 0xd800 ∨ (0xdfff < c.toNat ∧ c.toNat < 0x110000) := c.valid
    rw [if_neg hlt]
    dsimp only
    rw [surrogate_hi (c.toNat - 0x10000) (by omega), surrogate_lo]
    exact .inr (.inr (.inr ⟨rfl, by omega⟩))

theorem parseStrBody_escChar (c : Char) (tail : List Char) :
    parseStrBody (escChar c ++ tail) = consChar c (parseStrBody tail) := by
  have hv : c.toNat < 0xd800 ∨ (0xdfff < c.toNat ∧ c.toNat < 0x110000) := c.valid
  rcases escChar_cases c with ⟨e, he, hu, hun, _⟩ | ⟨he, h1, h2, hp⟩ | ⟨he, hlt⟩ | ⟨he, hge⟩
  · rw [he]; exact parseStrBody_esc e c tail hu hun
  · rw [he]; exact parseStrBody_plain c tail h1 h2 (by have := hp.1; omega)
  · rw [he]
    have := parseStrBody_u _ _ _ _ c.toNat tail (hex4Val_hex4 c.toNat hlt) (by omega) (by omega)
    rwa [Char.ofNat_toNat] at this
  · rw [he]
    have := parseStrBody_uu _ _ _ _ _ _ _ _ _ _ tail
      (hex4Val_hex4 (0xd800 + (c.toNat - 0x10000) / 1024) (by omega))
      (hex4Val_hex4 (0xdc00 + (c.toNat - 0x10000) % 1024) (by omega)) (by omega) (by omega)
    have e : 0x10000 + (0xd800 + (c.toNat - 0x10000) / 1024 - 0xd800) * 0x400 +
        (0xdc00 + (c.toNat - 0x10000) % 1024 - 0xdc00) = c.toNat := by omega
    rw [e, Char.ofNat_toNat] at this
    simpa only [hex4, List.cons_append, List.nil_append] using this

theorem parseStrBody_flatMap (cs : List Char) (rest : List Char) :
    parseStrBody (cs.flatMap escChar ++ '"' :: rest) = some (cs, rest) := by
  induction cs with
  | nil => exact parseStrBody_quote rest
  | cons c cs ih =>
    rw [List.flatMap_cons, List.append_assoc, parseStrBody_escChar, ih]; rfl

/-- `rest` cannot continue a number token. -/
def NumEnd (rest : List Char) : Prop :=
  ∀ c r, rest = c :: r → c.isDigit = false ∧ c ≠ '.' ∧ c ≠ 'e' ∧ c ≠ 'E'

theorem spanDigits_append (ds rest : List Char) (hd : ∀ c ∈ ds, c.isDigit = true)
    (hr : ∀ c r, rest = c :: r → c.isDigit = false) : spanDigits (ds ++ rest) = (ds, rest) := by
  induction ds with
  | nil =>
    cases rest with
    | nil => rfl
    | cons c r => simp [spanDigits, hr c r rfl]
  | cons d ds ih =>
    have := ih (fun c hc => hd c (List.mem_cons_of_mem _ hc))
    simp [spanDigits, hd d (List.mem_cons_self), this]

theorem toDigits_head_ne_zero (n : Nat) (hn : 0 < n) :
    ∀ d ds, Nat.toDigits 10 n = d :: ds → d ≠ '0' := by
  induction n using Nat.strongRecOn with
  | _ n ih =>
    intro d ds h
    rw [Nat.toDigits_eq_if (by decide)] at h
    split at h
    · next hlt =>
      simp only [List.cons.injEq] at h
      rw [← h.1]
      have : ∀ m : Fin 10, 0 < m.val → Nat.digitChar m.val ≠ '0' := by decide
      exact this ⟨n, hlt⟩ hn
    · next hge =>
      have hpos : 0 < n / 10 := by omega
      cases h' : Nat.toDigits 10 (n / 10) with
      | nil => exact absurd h' Nat.toDigits_ne_nil
      | cons d' ds' =>
        rw [h'] at h
        simp only [List.cons_append, List.cons.injEq] at h
        rw [← h.1]
        exact ih (n / 10) (by omega) hpos d' ds' h'

theorem toDigits_zero_single (n : Nat) (ds : List Char) (h : Nat.toDigits 10 n = '0' :: ds) :
    ds = [] := by
  by_cases hn : n = 0
  · subst hn; simpa [Nat.toDigits_zero] using h.symm
  · exact absurd rfl (toDigits_head_ne_zero n (by omega) _ _ h)

theorem parseNat_toDigits (n : Nat) (rest : List Char) (hr : NumEnd rest) :
    parseNat (Nat.toDigits 10 n ++ rest) = some (n, rest) := by
  have hsp := spanDigits_append (Nat.toDigits 10 n) rest
    (fun c hc => Nat.isDigit_of_mem_toDigits (by decide) (by decide) hc)
    (fun c r h => (hr c r h).1)
  unfold parseNat
  rw [hsp]
  cases hd : Nat.toDigits 10 n with
  | nil => exact absurd hd Nat.toDigits_ne_nil
  | cons d ds =>
    have hval : Nat.ofDigitChars 10 (d :: ds) 0 = n := by rw [← hd]; exact Nat.ofDigitChars_ten_toDigits
    have hz : ¬ (d = '0' ∧ ds ≠ []) := by
      rintro ⟨rfl, hne⟩; exact hne (toDigits_zero_single n ds hd)
    simp only [hz, if_false, hval]
    cases rest with
    | nil => rfl
    | cons c r =>
      obtain ⟨_, h1, h2, h3⟩ := hr c r rfl
      simp [h1, h2, h3]

theorem toDigits_head_isDigit (n : Nat) : ∃ d ds, Nat.toDigits 10 n = d :: ds ∧ d.isDigit = true := by
  cases hd : Nat.toDigits 10 n with
  | nil => exact absurd hd Nat.toDigits_ne_nil
  | cons d ds =>
    exact ⟨d, ds, rfl, Nat.isDigit_of_mem_toDigits (b := 10) (n := n) (by decide) (by decide)
      (by rw [hd]; exact List.mem_cons_self)⟩

theorem parseNum_intRepr (n : Int) (rest : List Char) (hr : NumEnd rest) :
    parseNum (intRepr n ++ rest) = some (.num n, rest) := by
  unfold intRepr
  split
  · next hneg =>
    simp only [List.cons_append, parseNum, if_true, parseNat_toDigits _ _ hr]
    congr 3; omega
  · next hpos =>
    obtain ⟨d, ds, hd, hdig⟩ := toDigits_head_isDigit n.natAbs
    have hne : d ≠ '-' := by rintro rfl; simp at hdig
    have := parseNat_toDigits n.natAbs rest hr
    rw [hd] at this ⊢
    simp only [List.cons_append] at this ⊢
    simp only [parseNum, hne, if_false, this]
    congr 3; omega

/-- what may follow a value inside the output of `dumps` (or the end of the text) -/
def Delim (rest : List Char) : Prop :=
  rest = [] ∨ ∃ r, rest = ',' :: r ∨ rest = ']' :: r ∨ rest = '}' :: r

theorem Delim.numEnd {rest : List Char} (h : Delim rest) : NumEnd rest := by
  intro c r hc
  rcases h with h | ⟨r', h | h | h⟩
  · rw [h] at hc; exact absurd hc (by simp)
  all_goals (rw [h] at hc; simp only [List.cons.injEq] at hc; rw [← hc.1]; decide)

theorem skipWs_cons_of_not_ws (c : Char) (r : List Char) (h : isWs c = false) :
    skipWs (c :: r) = c :: r := by simp [skipWs, h]

theorem skipWs_space (r : List Char) : skipWs (' ' :: r) = skipWs r := by
  simp [skipWs, isWs]

theorem parseVal_space (f : Nat) (cs : List Char) : parseVal f (' ' :: cs) = parseVal f cs := by
  cases f with
  | zero => simp [parseVal]
  | succ f => rw [parseVal, parseVal, skipWs_space]

theorem parseElems_space (f : Nat) (cs : List Char) : parseElems f (' ' :: cs) = parseElems f cs := by
  cases f with
  | zero => simp [parseElems]
  | succ f => rw [parseElems, parseElems, parseVal_space]

theorem parseMembers_space (f : Nat) (cs : List Char) :
    parseMembers f (' ' :: cs) = parseMembers f cs := by
  cases f with
  | zero => simp [parseMembers]
  | succ f => rw [parseMembers, parseMembers, skipWs_space]

/-- the first character of a number token is none of the characters the decoder dispatches on -/
structure NumHead (c : Char) : Prop where
  notWs : isWs c = false
  notDispatched : c ≠ 'n' ∧ c ≠ 't' ∧ c ≠ 'f' ∧ c ≠ '"' ∧ c ≠ '[' ∧ c ≠ '{'
  notClosing : c ≠ ']' ∧ c ≠ '}'

theorem numHead_of_digit (c : Char) (h : c.isDigit = true) : NumHead c := by
  have ne : ∀ d : Char, d.isDigit = false → c ≠ d := by
    intro d hd hcd; rw [hcd, hd] at h; exact absurd h (by decide)
  refine ⟨?_, ⟨ne _ (by decide), ne _ (by decide), ne _ (by decide), ne _ (by decide),
    ne _ (by decide), ne _ (by decide)⟩, ne _ (by decide), ne _ (by decide)⟩
  simp [isWs, ne ' ' (by decide), ne '\n' (by decide), ne '\r' (by decide), ne '\t' (by decide)]

theorem parseVal_num_head (f : Nat) (c : Char) (r : List Char) (h : NumHead c) :
    parseVal (f + 1) (c :: r) = parseNum (c :: r) := by
  obtain ⟨h1, h2, h3, h4, h5, h6⟩ := h.notDispatched
  rw [parseVal, skipWs_cons_of_not_ws c r h.notWs]
  simp only [h1, h2, h3, h4, h5, h6, if_false]

theorem intRepr_head (n : Int) : ∃ c r, intRepr n = c :: r ∧ NumHead c := by
  unfold intRepr
  split
  · exact ⟨'-', _, rfl, by decide, by decide, by decide⟩
  · obtain ⟨d, ds, hd, hdig⟩ := toDigits_head_isDigit n.natAbs
    exact ⟨d, ds, hd, numHead_of_digit d hdig⟩

theorem dumps_head (v : JVal) :
    ∃ c r, dumps v = c :: r ∧ isWs c = false ∧ c ≠ ']' ∧ c ≠ '}' := by
  cases v with
  | null => exact ⟨'n', _, by rw [dumps], by decide⟩
  | bool b =>
    cases b
    · exact ⟨'f', _, by rw [dumps], by decide⟩
    · exact ⟨'t', _, by rw [dumps], by decide⟩
  | num n =>
    obtain ⟨c, r, h, hc⟩ := intRepr_head n
    exact ⟨c, r, by rw [dumps, h], hc.notWs, hc.notClosing⟩
  | str s => exact ⟨'"', _, by rw [dumps, dumpsStr]; rfl, by decide⟩
  | arr xs =>
    cases xs with
    | nil => exact ⟨'[', _, by rw [dumps], by decide⟩
    | cons x xs => exact ⟨'[', _, by rw [dumps]; rfl, by decide⟩
  | obj kvs =>
    cases kvs with
    | nil => exact ⟨'{', _, by rw [dumps], by decide⟩
    | cons kv kvs =>
      obtain ⟨k, v⟩ := kv
      exact ⟨'{', _, by rw [dumps]; rfl, by decide⟩

theorem dumps_length_pos (v : JVal) : 0 < (dumps v).length := by
  obtain ⟨c, r, h, _⟩ := dumps_head v
  rw [h]; simp

theorem delim_tail (xs : List JVal) (rest : List Char) : Delim (dumpsTail xs ++ ']' :: rest) := by
  cases xs with
  | nil => exact .inr ⟨rest, .inr (.inl (by rw [dumpsTail]; rfl))⟩
  | cons x xs => exact .inr ⟨_, .inl (by rw [dumpsTail]; rfl)⟩

theorem delim_membersTail (kvs : List (String × JVal)) (rest : List Char) :
    Delim (dumpsMembersTail kvs ++ '}' :: rest) := by
  cases kvs with
  | nil => exact .inr ⟨rest, .inr (.inr (by rw [dumpsMembersTail]; rfl))⟩
  | cons kv kvs => obtain ⟨k, v⟩ := kv; exact .inr ⟨_, .inl (by rw [dumpsMembersTail]; rfl)⟩

theorem parseStrBody_dumpsStr (s : String) (rest : List Char) :
    ∃ body, dumpsStr s ++ rest = '"' :: body ∧ parseStrBody body = some (s.toList, rest) :=
  ⟨s.toList.flatMap escChar ++ '"' :: rest, by simp [dumpsStr], parseStrBody_flatMap _ _⟩

/-- the items of a non-empty array between the brackets -/
def dumpsItems : List JVal → List Char
  | [] => []
  | x :: xs => dumps x ++ dumpsTail xs

/-- the members of a non-empty object between the braces -/
def dumpsMembers : List (String × JVal) → List Char
  | [] => []
  | (k, v) :: kvs => dumpsStr k ++ [':', ' '] ++ dumps v ++ dumpsMembersTail kvs

theorem dumpsTail_cons (x : JVal) (xs : List JVal) :
    dumpsTail (x :: xs) = ',' :: ' ' :: dumpsItems (x :: xs) := by
  rw [dumpsTail, dumpsItems]; rfl

theorem dumpsMembersTail_cons (kv : String × JVal) (kvs : List (String × JVal)) :
    dumpsMembersTail (kv :: kvs) = ',' :: ' ' :: dumpsMembers (kv :: kvs) := by
  obtain ⟨k, v⟩ := kv
  rw [dumpsMembersTail, dumpsMembers]; simp

theorem dumps_arr_cons (x : JVal) (xs : List JVal) :
    dumps (.arr (x :: xs)) = '[' :: dumpsItems (x :: xs) ++ [']'] := by
  rw [dumps, dumpsItems]; simp

theorem dumps_obj_cons (kv : String × JVal) (kvs : List (String × JVal)) :
    dumps (.obj (kv :: kvs)) = '{' :: dumpsMembers (kv :: kvs) ++ ['}'] := by
  obtain ⟨k, v⟩ := kv
  rw [dumps, dumpsMembers]; simp

theorem dumpsItems_head (x : JVal) (xs : List JVal) (rest : List Char) :
    ∃ c r, dumpsItems (x :: xs) ++ rest = c :: r ∧ isWs c = false ∧ c ≠ ']' := by
  obtain ⟨c, r, h, hws, h1, _⟩ := dumps_head x
  exact ⟨c, r ++ dumpsTail xs ++ rest, by rw [dumpsItems, h]; simp, hws, h1⟩

theorem parseVal_arr_nonempty (f : Nat) (c : Char) (r : List Char) (hws : isWs c = false)
    (hne : c ≠ ']') :
    parseVal (f + 1) ('[' :: c :: r) =
      match parseElems f (c :: r) with
      | some (xs, r') => some (.arr xs, r')
      | none => none := by
  rw [parseVal, skipWs_cons_of_not_ws '[' _ (by decide)]
  simp [skipWs_cons_of_not_ws c r hws, hne]
  cases parseElems f (c :: r) <;> rfl

theorem parseVal_obj_nonempty (f : Nat) (r : List Char) :
    parseVal (f + 1) ('{' :: '"' :: r) =
      match parseMembers f ('"' :: r) with
      | some (kvs, r') => some (.obj kvs, r')
      | none => none := by
  rw [parseVal, skipWs_cons_of_not_ws '{' _ (by decide)]
  simp [skipWs_cons_of_not_ws '"' r (by decide)]
  cases parseMembers f ('"' :: r) <;> rfl

theorem parseElems_last (f : Nat) (cs : List Char) (v : JVal) (r : List Char)
    (h : parseVal f cs = some (v, ']' :: r)) : parseElems (f + 1) cs = some ([v], r) := by
  rw [parseElems, h]; simp [skipWs_cons_of_not_ws ']' r (by decide)]

theorem parseElems_more (f : Nat) (cs : List Char) (v : JVal) (r : List Char)
    (h : parseVal f cs = some (v, ',' :: r)) :
    parseElems (f + 1) cs =
      match parseElems f r with
      | some (vs, r'') => some (v :: vs, r'')
      | none => none := by
  rw [parseElems, h]; simp [skipWs_cons_of_not_ws ',' r (by decide)]
  cases parseElems f r <;> rfl

theorem parseMembers_last (f : Nat) (body k r2 : List Char) (v : JVal) (r4 : List Char)
    (hp : parseStrBody body = some (k, ':' :: r2)) (hv : parseVal f r2 = some (v, '}' :: r4)) :
    parseMembers (f + 1) ('"' :: body) = some ([(String.ofList k, v)], r4) := by
  rw [parseMembers, skipWs_cons_of_not_ws '"' _ (by decide)]
  simp [hp, skipWs_cons_of_not_ws ':' r2 (by decide), hv, skipWs_cons_of_not_ws '}' r4 (by decide)]

theorem parseMembers_more (f : Nat) (body k r2 : List Char) (v : JVal) (r4 : List Char)
    (hp : parseStrBody body = some (k, ':' :: r2)) (hv : parseVal f r2 = some (v, ',' :: r4)) :
    parseMembers (f + 1) ('"' :: body) =
      match parseMembers f r4 with
      | some (m, r5) => some ((String.ofList k, v) :: m, r5)
      | none => none := by
  rw [parseMembers, skipWs_cons_of_not_ws '"' _ (by decide)]
  simp [hp, skipWs_cons_of_not_ws ':' r2 (by decide), hv, skipWs_cons_of_not_ws ',' r4 (by decide)]
  cases parseMembers f r4 <;> rfl

mutual
theorem parseVal_dumps : ∀ (v : JVal) (f : Nat) (rest : List Char),
    (dumps v).length ≤ f + 1 → Delim rest → parseVal (f + 1) (dumps v ++ rest) = some (v, rest)
  | .null, f, rest, _, _ => by rw [dumps, parseVal]; simp [skipWs, isWs]
  | .bool true, f, rest, _, _ => by rw [dumps, parseVal]; simp [skipWs, isWs]
  | .bool false, f, rest, _, _ => by rw [dumps, parseVal]; simp [skipWs, isWs]
  | .num n, f, rest, _, hd => by
    rw [dumps]
    obtain ⟨c, r, h, hh⟩ := intRepr_head n
    have := parseNum_intRepr n rest hd.numEnd
    rw [h] at this ⊢
    rw [List.cons_append] at this ⊢
    rw [parseVal_num_head f c _ hh, this]
  | .str s, f, rest, _, _ => by
    obtain ⟨body, hb, hp⟩ := parseStrBody_dumpsStr s rest
    rw [dumps, hb, parseVal]
    simp [skipWs, isWs, hp, String.ofList_toList]
  | .arr [], f, rest, _, _ => by rw [dumps, parseVal]; simp [skipWs, isWs]
  | .arr (x :: xs), f, rest, hf, _ => by
    rw [dumps_arr_cons] at hf ⊢
    have hE := parseElems_dumps (x :: xs) f rest (by simp)
      (by simp only [List.length_cons, List.length_append, List.length_nil] at hf; omega)
    obtain ⟨c, r, hc, hws, hne⟩ := dumpsItems_head x xs (']' :: rest)
    have e : ('[' :: dumpsItems (x :: xs) ++ [']']) ++ rest
        = '[' :: (dumpsItems (x :: xs) ++ ']' :: rest) := by simp
    rw [e]
    rw [hc] at hE ⊢
    rw [parseVal_arr_nonempty f c r hws hne, hE]
  | .obj [], f, rest, _, _ => by rw [dumps, parseVal]; simp [skipWs, isWs]
  | .obj (kv :: kvs), f, rest, hf, _ => by
    rw [dumps_obj_cons] at hf ⊢
    have hM := parseMembers_dumps (kv :: kvs) f rest (by simp)
      (by simp only [List.length_cons, List.length_append, List.length_nil] at hf; omega)
    have e : ('{' :: dumpsMembers (kv :: kvs) ++ ['}']) ++ rest
        = '{' :: (dumpsMembers (kv :: kvs) ++ '}' :: rest) := by simp
    obtain ⟨k, v⟩ := kv
    obtain ⟨body, hb, _⟩ := parseStrBody_dumpsStr k
      (':' :: ' ' :: (dumps v ++ (dumpsMembersTail kvs ++ '}' :: rest)))
    have hc : dumpsMembers ((k, v) :: kvs) ++ '}' :: rest = '"' :: body := by
      rw [← hb, dumpsMembers]; simp
    rw [e]
    rw [hc] at hM ⊢
    rw [parseVal_obj_nonempty f body, hM]
theorem parseElems_dumps : ∀ (l : List JVal) (f : Nat) (rest : List Char),
    l ≠ [] → (dumpsItems l).length + 1 ≤ f →
    parseElems f (dumpsItems l ++ ']' :: rest) = some (l, rest)
  | [], _, _, h, _ => absurd rfl h
  | x :: xs, f, rest, _, hf => by
    have hlen : (dumpsItems (x :: xs)).length = (dumps x).length + (dumpsTail xs).length := by
      rw [dumpsItems]; simp
    have hpos := dumps_length_pos x
    obtain ⟨f, rfl⟩ : ∃ g, f = g + 2 := ⟨f - 2, by omega⟩
    have hV := parseVal_dumps x f (dumpsTail xs ++ ']' :: rest) (by omega) (delim_tail xs rest)
    rw [dumpsItems, List.append_assoc]
    cases xs with
    | nil =>
      rw [dumpsTail, List.nil_append] at hV ⊢
      exact parseElems_last (f + 1) _ x rest hV
    | cons y ys =>
      have hE := parseElems_dumps (y :: ys) (f + 1) rest (by simp)
        (by rw [dumpsTail_cons] at hlen; simp only [List.length_cons] at hlen; omega)
      rw [dumpsTail_cons, List.cons_append, List.cons_append] at hV ⊢
      rw [parseElems_more (f + 1) _ x _ hV, parseElems_space, hE]
theorem parseMembers_dumps : ∀ (l : List (String × JVal)) (f : Nat) (rest : List Char),
    l ≠ [] → (dumpsMembers l).length + 1 ≤ f →
    parseMembers f (dumpsMembers l ++ '}' :: rest) = some (l, rest)
  | [], _, _, h, _ => absurd rfl h
  | (k, v) :: kvs, f, rest, _, hf => by
    have hlen : (dumpsMembers ((k, v) :: kvs)).length
        = (dumpsStr k).length + 2 + (dumps v).length + (dumpsMembersTail kvs).length := by
      rw [dumpsMembers]; simp only [List.length_append, List.length_cons, List.length_nil]
    have hpos := dumps_length_pos v
    obtain ⟨f, rfl⟩ : ∃ g, f = g + 2 := ⟨f - 2, by omega⟩
    have hV := parseVal_dumps v f (dumpsMembersTail kvs ++ '}' :: rest) (by omega)
      (delim_membersTail kvs rest)
    obtain ⟨body, hb, hp⟩ := parseStrBody_dumpsStr k
      (':' :: ' ' :: (dumps v ++ (dumpsMembersTail kvs ++ '}' :: rest)))
    have e : dumpsMembers ((k, v) :: kvs) ++ '}' :: rest = '"' :: body := by
      rw [← hb, dumpsMembers]; simp
    rw [e]
    rw [← parseVal_space] at hV
    cases kvs with
    | nil =>
      rw [dumpsMembersTail, List.nil_append] at hV hp
      rw [parseMembers_last (f + 1) body _ _ v rest hp hV, String.ofList_toList]
    | cons kv' kvs' =>
      have hM := parseMembers_dumps (kv' :: kvs') (f + 1) rest (by simp)
        (by rw [dumpsMembersTail_cons] at hlen; simp only [List.length_cons] at hlen; omega)
      rw [dumpsMembersTail_cons, List.cons_append, List.cons_append] at hV hp
      rw [parseMembers_more (f + 1) body _ _ v _ hp hV, parseMembers_space, hM]
      simp [String.ofList_toList]
end

theorem parseJson_jsonDumps (v : JVal) : parseJson (jsonDumps v) = some v := by
  have h := parseVal_dumps v (dumps v).length [] (by omega) (.inl rfl)
  simp only [List.append_nil] at h
  simp [parseJson, jsonDumps, h, skipWs]

theorem printable_hexDigit (d : Nat) (h : d < 16) : Printable (hexDigit d) := by
  have : ∀ d : Fin 16, Printable (hexDigit d.val) := by decide
  exact this ⟨d, h⟩

theorem allPrintable_hex4 (n : Nat) : AllPrintable (hex4 n) := by
  intro c hc
  simp only [hex4, List.mem_cons, List.not_mem_nil, or_false] at hc
  rcases hc with rfl | rfl | rfl | rfl <;> exact printable_hexDigit _ (Nat.mod_lt _ (by decide))

theorem allPrintable_u (n : Nat) : AllPrintable ('\\' :: 'u' :: hex4 n) :=
  allPrintable_cons.mpr ⟨by decide, allPrintable_cons.mpr ⟨by decide, allPrintable_hex4 n⟩⟩

theorem allPrintable_escChar (c : Char) : AllPrintable (escChar c) := by
  rcases escChar_cases c with ⟨e, he, _, _, hp⟩ | ⟨he, _, _, hp⟩ | ⟨he, _⟩ | ⟨he, _⟩
  · rw [he]; exact allPrintable_cons.mpr ⟨by decide, allPrintable_cons.mpr ⟨hp, allPrintable_nil⟩⟩
  · rw [he]; exact allPrintable_cons.mpr ⟨hp, allPrintable_nil⟩
  · rw [he]; exact allPrintable_u _
  · rw [he]; exact allPrintable_append.mpr ⟨allPrintable_u _, allPrintable_u _⟩

theorem allPrintable_dumpsStr (s : String) : AllPrintable (dumpsStr s) := by
  unfold dumpsStr
  rw [List.cons_append, allPrintable_cons, allPrintable_append]
  refine ⟨by decide, ?_, by simp [AllPrintable]; decide⟩
  intro c hc
  obtain ⟨d, _, hd⟩ := List.mem_flatMap.mp hc
  exact allPrintable_escChar d c hd

theorem allPrintable_intRepr (n : Int) : AllPrintable (intRepr n) := by
  have hd : AllPrintable (Nat.toDigits 10 n.natAbs) := by
    intro c hc
    have := Nat.isDigit_of_mem_toDigits (b := 10) (by decide) (by decide) hc
    simp only [Char.isDigit, Bool.and_eq_true, decide_eq_true_eq] at this
    have h1 : 48 ≤ c.val.toNat := by simpa using UInt32.le_iff_toNat_le.mp this.1
    have h2 : c.val.toNat ≤ 57 := by simpa using UInt32.le_iff_toNat_le.mp this.2
    show 0x20 ≤ c.val.toNat ∧ c.val.toNat ≤ 0x7e
    omega
  unfold intRepr
  split
  · exact allPrintable_cons.mpr ⟨by decide, hd⟩
  · exact hd

mutual
theorem allPrintable_dumps : ∀ v : JVal, AllPrintable (dumps v)
  | .null => by rw [dumps]; decide
  | .bool true => by rw [dumps]; decide
  | .bool false => by rw [dumps]; decide
  | .num n => by rw [dumps]; exact allPrintable_intRepr n
  | .str s => by rw [dumps]; exact allPrintable_dumpsStr s
  | .arr [] => by rw [dumps]; decide
  | .arr (x :: xs) => by
    rw [dumps]
    simp only [List.cons_append, allPrintable_cons, allPrintable_append, and_assoc]
    exact ⟨by decide, allPrintable_dumps x, allPrintable_dumpsTail xs, by decide, allPrintable_nil⟩
  | .obj [] => by rw [dumps]; decide
  | .obj ((k, v) :: kvs) => by
    rw [dumps]
    simp only [List.cons_append, allPrintable_cons, allPrintable_append, and_assoc]
    exact ⟨by decide, allPrintable_dumpsStr k, by decide, by decide, allPrintable_nil,
      allPrintable_dumps v, allPrintable_dumpsMembersTail kvs, by decide, allPrintable_nil⟩
theorem allPrintable_dumpsTail : ∀ xs : List JVal, AllPrintable (dumpsTail xs)
  | [] => by rw [dumpsTail]; exact allPrintable_nil
  | x :: xs => by
    rw [dumpsTail]
    simp only [List.cons_append, allPrintable_cons, allPrintable_append]
    exact ⟨by decide, by decide, allPrintable_dumps x, allPrintable_dumpsTail xs⟩
theorem allPrintable_dumpsMembersTail : ∀ kvs : List (String × JVal),
    AllPrintable (dumpsMembersTail kvs)
  | [] => by rw [dumpsMembersTail]; exact allPrintable_nil
  | (k, v) :: kvs => by
    rw [dumpsMembersTail]
    simp only [List.cons_append, allPrintable_cons, allPrintable_append, and_assoc]
    exact ⟨by decide, by decide, allPrintable_dumpsStr k, by decide, by decide, allPrintable_nil,
      allPrintable_dumps v, allPrintable_dumpsMembersTail kvs⟩
end

end PyCraft.Json
