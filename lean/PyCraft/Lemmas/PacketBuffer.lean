import PyCraft.Model.PacketBuffer
/-!
The two facts about `PBuf.step` that the three `Props/C01Buffer*` files share: a `send` with the
cursor at the end of the contents appends (everywhere else it overwrites), and where a sized `read`
leaves what lies after the cursor.
-/
namespace PyCraft.PBuf

/-- A `send` with the cursor at the end appends and leaves the cursor at the end. -/
theorem step_send_at_end (s : St) (v : Bytes) (h : s.pos = s.buf.length) :
    step s (.send v) = (⟨s.buf ++ v, s.buf.length + v.length⟩, none) := by
  simp [step, h]

/-- Dropping what `take n` returned is dropping `n` (also when fewer than `n` were there). -/
theorem drop_take_length {α : Type} (l : List α) (n : Nat) :
    l.drop (l.take n).length = l.drop n := by
  rw [List.length_take]
  by_cases h : n ≤ l.length
  · rw [Nat.min_eq_left h]
  · have h' : l.length ≤ n := by omega
    rw [Nat.min_eq_right h', List.drop_eq_nil_of_le (Nat.le_refl _), List.drop_eq_nil_of_le h']

end PyCraft.PBuf
