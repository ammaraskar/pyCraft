/-!
Schedules over a partial step function `stp : σ → τ → Option σ` (a pick that is not enabled is
skipped): finite runs, infinite runs, weak fairness, and the two fairness arguments every liveness
proof of the development is an instance of (`fair_enabled`, `fair_decreasing`).  `Life.run`,
`Writers.run`, `Ends.runE` and the two `runN` / `WeakFair` of the models are instances; each system
states its bridge (`run_eq`, `runN_eq`, `weakFair_iff`) next to its own lemmas.
-/
namespace PyCraft.Sched
variable {σ τ : Type} (stp : σ → τ → Option σ)

def run (s : σ) : List τ → σ
  | [] => s
  | t :: ts =>
    match stp s t with
    | some s' => run s' ts
    | none => run s ts

def runN (s : σ) (p : Nat → τ) : Nat → σ
  | 0 => s
  | n + 1 =>
    match stp (runN s p n) (p n) with
    | some s' => s'
    | none => runN s p n

/-- A thread that is enabled from some pick on is picked later. -/
def WeakFair (s : σ) (p : Nat → τ) : Prop :=
  ∀ t n, (∀ m, n ≤ m → stp (runN stp s p m) t ≠ none) → ∃ m, n ≤ m ∧ p m = t

theorem run_append (a b : List τ) : ∀ s, run stp s (a ++ b) = run stp (run stp s a) b := by
  induction a with
  | nil => intro s; rfl
  | cons t ts ih =>
    intro s
    simp only [List.cons_append, run]
    split <;> exact ih _

/-- What every step of a scheduled thread preserves holds after the schedule. -/
theorem run_induct (P : σ → Prop) (sched : List τ)
    (hP : ∀ s s' t, t ∈ sched → P s → stp s t = some s' → P s') :
    ∀ s, P s → P (run stp s sched) := by
  induction sched with
  | nil => exact fun _ h => h
  | cons t ts ih =>
    intro s hp
    simp only [run]
    have ih := ih fun s s' u hu => hP s s' u (List.mem_cons_of_mem _ hu)
    split
    · next s' hs => exact ih s' (hP s s' t List.mem_cons_self hp hs)
    · exact ih s hp

theorem runN_some {s : σ} {p : Nat → τ} {n : Nat} {s' : σ}
    (h : stp (runN stp s p n) (p n) = some s') : runN stp s p (n + 1) = s' := by
  simp only [runN, h]

theorem runN_none {s : σ} {p : Nat → τ} {n : Nat} (h : stp (runN stp s p n) (p n) = none) :
    runN stp s p (n + 1) = runN stp s p n := by
  simp only [runN, h]

theorem runN_induct (P : σ → Prop) (hP : ∀ s s' t, P s → stp s t = some s' → P s')
    (s : σ) (p : Nat → τ) (hp : P s) : ∀ n, P (runN stp s p n) := by
  intro n
  induction n with
  | zero => exact hp
  | succ n ih =>
    cases hs : stp (runN stp s p n) (p n) with
    | none => rw [runN_none stp hs]; exact ih
    | some s' => rw [runN_some stp hs]; exact hP _ _ _ ih hs

theorem runN_add (s : σ) (p : Nat → τ) (a : Nat) :
    ∀ n, runN stp s p (a + n) = runN stp (runN stp s p a) (fun k => p (a + k)) n := by
  intro n
  induction n with
  | zero => rfl
  | succ n ih => rw [← Nat.add_assoc]; simp only [runN, ih]

theorem runN_eq_run (s : σ) (p : Nat → τ) :
    ∀ n, runN stp s p n = run stp s ((List.range n).map p) := by
  intro n
  induction n with
  | zero => rfl
  | succ n ih =>
    rw [List.range_succ, List.map_append, run_append, ← ih]
    simp only [runN, List.map_cons, List.map_nil, run]

theorem WeakFair.shift {s : σ} {p : Nat → τ} (h : WeakFair stp s p) (a : Nat) :
    WeakFair stp (runN stp s p a) (fun k => p (a + k)) := by
  intro t n hen
  obtain ⟨m, hm, hp⟩ := h t (a + n) (fun m hm => by
    have := hen (m - a) (by omega)
    rwa [← runN_add, show a + (m - a) = m by omega] at this)
  exact ⟨m - a, by omega, by show p (a + (m - a)) = t; rw [show a + (m - a) = m by omega, hp]⟩

/-- While every pick is disabled the state stays. -/
theorem stuck_const (s : σ) (p : Nat → τ) (k : Nat) (hq : ∀ j, j < k → stp s (p j) = none) :
    runN stp s p k = s := by
  induction k with
  | zero => rfl
  | succ k ih =>
    have e := ih (fun j hj => hq j (by omega))
    rw [runN_none stp (by rw [e]; exact hq k (by omega)), e]

/-- FIRST FAIRNESS ARGUMENT.  If `Q` makes `t` enabled and the steps of all other threads
preserve it, a weakly fair schedule from a `Q`-state picks `t` in a `Q`-state. -/
theorem fair_enabled (t : τ) (Q : σ → Prop) (hen : ∀ s, Q s → stp s t ≠ none)
    (hstab : ∀ s s' u, Q s → u ≠ t → stp s u = some s' → Q s')
    (s : σ) (p : Nat → τ) (hq : Q s) (hf : WeakFair stp s p) :
    ∃ m, p m = t ∧ Q (runN stp s p m) := by
  apply Classical.byContradiction
  intro hne
  have hall : ∀ m, Q (runN stp s p m) := by
    intro m
    induction m with
    | zero => exact hq
    | succ m ih =>
      by_cases hm : p m = t
      · exact absurd ⟨m, hm, ih⟩ hne
      · cases hst : stp (runN stp s p m) (p m) with
        | none => rw [runN_none stp hst]; exact ih
        | some s' => rw [runN_some stp hst]; exact hstab _ s' _ ih hm hst
  obtain ⟨m, -, hm⟩ := hf t 0 (fun m _ => hen _ (hall m))
  exact hne ⟨m, hm, hall m⟩

/-- If some thread is enabled, a weakly fair schedule eventually executes a step, and nothing
changes before it. -/
theorem next_step (s : σ) (p : Nat → τ) (hf : WeakFair stp s p) (t : τ) (ht : stp s t ≠ none) :
    ∃ m s', runN stp s p m = s ∧ stp s (p m) = some s' := by
  apply Classical.byContradiction
  intro hne
  have hall : ∀ m, runN stp s p m = s := by
    intro m
    induction m with
    | zero => rfl
    | succ m ih =>
      cases hst : stp s (p m) with
      | none => rw [runN_none stp (by rw [ih]; exact hst), ih]
      | some s' => exact absurd ⟨m, s', ih, hst⟩ hne
  obtain ⟨m, -, hm⟩ := hf t 0 (fun m _ => by rw [hall m]; exact ht)
  cases hst : stp s (p m) with
  | none => rw [hm] at hst; exact ht hst
  | some s' => exact hne ⟨m, s', hall m, hst⟩

/-- SECOND FAIRNESS ARGUMENT (a variant).  While the goal `G` is not reached some thread is
enabled, and every step of every thread leads to `G` or keeps `Q` and decreases `W`: then a
weakly fair schedule from a `Q`-state reaches `G`. -/
theorem fair_decreasing (Q G : σ → Prop) (W : σ → Nat)
    (hlive : ∀ s, Q s → ¬G s → ∃ t, stp s t ≠ none)
    (hstep : ∀ s s' u, Q s → ¬G s → stp s u = some s' → G s' ∨ (Q s' ∧ W s' < W s)) :
    ∀ w s p, Q s → W s ≤ w → WeakFair stp s p → ∃ n, G (runN stp s p n) := by
  intro w
  induction w using Nat.strongRecOn with
  | ind w ih =>
    intro s p hq hw hf
    by_cases hg : G s
    · exact ⟨0, hg⟩
    · obtain ⟨t, ht⟩ := hlive s hq hg
      obtain ⟨m, s', hm, hs'⟩ := next_step stp s p hf t ht
      have e : runN stp s p (m + 1) = s' := runN_some stp (by rw [hm]; exact hs')
      rcases hstep s s' _ hq hg hs' with hg' | ⟨hq', hlt⟩
      · exact ⟨m + 1, by rw [e]; exact hg'⟩
      · obtain ⟨n, hn⟩ := ih (W s') (by omega) s' (fun k => p (m + 1 + k)) hq' (Nat.le_refl _)
          (by rw [← e]; exact hf.shift stp _)
        rw [← e, ← runN_add] at hn
        exact ⟨m + 1 + n, hn⟩

end PyCraft.Sched
