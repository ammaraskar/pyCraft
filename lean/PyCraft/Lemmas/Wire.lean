import PyCraft.Model.Wire
import PyCraft.Model.Scaled
import PyCraft.Lemmas.VarIntDec
/-!
Helper lemmas for property C02 (primitive wire types): big-endian integers, fixed-width
`struct` codecs, strict prefixes, VarInt headers, the element/array induction, and the exact
arithmetic of `Angle` / `FixedPoint`.
-/
namespace PyCraft

/-! ## big-endian -/

theorem beBytes_length (w n : Nat) : (beBytes w n).length = w := by
  induction w with
  | zero => rfl
  | succ w ih => simp [beBytes, ih]

theorem beValue_lt (bs : Bytes) : beValue bs < 256 ^ bs.length := by
  induction bs with
  | nil => simp [beValue]
  | cons b rest ih =>
    simp only [beValue, List.length_cons, Nat.pow_succ]
    have hb : b.toNat ≤ 255 := by have := b.toNat_lt; omega
    have := Nat.mul_le_mul_right (256 ^ rest.length) hb
    omega

/-- Horner form: the left fold `int.from_bytes(bs, 'big')` is usually written as. -/
theorem foldl_beValue (bs : Bytes) (acc : Nat) :
    bs.foldl (fun acc b => acc * 256 + b.toNat) acc = acc * 256 ^ bs.length + beValue bs := by
  induction bs generalizing acc with
  | nil => simp [beValue]
  | cons b rest ih =>
    rw [List.foldl_cons, ih, beValue, List.length_cons, Nat.pow_succ, Nat.add_mul, Nat.mul_assoc,
      Nat.mul_comm 256, Nat.add_assoc]

theorem beValue_beBytes (w n : Nat) : beValue (beBytes w n) = n % 256 ^ w := by
  induction w with
  | zero => simp [beBytes, beValue, Nat.mod_one]
  | succ w ih =>
    simp only [beBytes, beValue, beBytes_length, ih]
    rw [u8_ofNat_toNat _ (Nat.mod_lt _ (by omega)), Nat.pow_succ, Nat.mod_mul, Nat.mul_comm,
      Nat.add_comm]

theorem beBytes_congr (w : Nat) :
    ∀ n m : Nat, n % 256 ^ w = m % 256 ^ w → beBytes w n = beBytes w m := by
  induction w with
  | zero => intros; rfl
  | succ w ih =>
    intro n m h
    rw [Nat.pow_succ, Nat.mod_mul, Nat.mod_mul] at h
    have hX : 0 < 256 ^ w := Nat.pow_pos (by omega)
    have h1 : n % 256 ^ w = m % 256 ^ w := by
      have := congrArg (· % 256 ^ w) h
      simpa [Nat.add_mul_mod_self_left] using this
    have h2 : n / 256 ^ w % 256 = m / 256 ^ w % 256 := by
      rw [h1] at h
      exact Nat.eq_of_mul_eq_mul_left hX (Nat.add_left_cancel h)
    simp only [beBytes, h2, ih n m h1]

theorem beBytes_beValue (bs : Bytes) : beBytes bs.length (beValue bs) = bs := by
  induction bs with
  | nil => rfl
  | cons b rest ih =>
    simp only [List.length_cons, beBytes, beValue]
    have hX : 0 < 256 ^ rest.length := Nat.pow_pos (by omega)
    have hlt := beValue_lt rest
    have h1 : (b.toNat * 256 ^ rest.length + beValue rest) / 256 ^ rest.length = b.toNat := by
      rw [Nat.mul_comm, Nat.mul_add_div hX, Nat.div_eq_of_lt hlt]; rfl
    have h2 : beBytes rest.length (b.toNat * 256 ^ rest.length + beValue rest) = rest := by
      rw [beBytes_congr rest.length _ (beValue rest) (by rw [Nat.mul_comm, Nat.mul_add_mod]), ih]
    rw [h1, h2, Nat.mod_eq_of_lt b.toNat_lt]
    simp

/-! ## fixed-width integers -/

theorem takeN_append (bs rest : Bytes) : takeN bs.length (bs ++ rest) = .ok (bs, rest) := by
  simp [takeN]

theorem takeN_append' (w : Nat) (bs rest : Bytes) (h : bs.length = w) :
    takeN w (bs ++ rest) = .ok (bs, rest) := by subst h; exact takeN_append bs rest

theorem takeN_short (w : Nat) (p : Bytes) (h : p.length < w) : takeN w p = .error .struct := by
  simp [takeN]; omega

theorem pow256_cast (w : Nat) : ((256 ^ w : Nat) : Int) = (256 : Int) ^ w := by
  simp [Int.natCast_pow]

theorem pow256_pos (w : Nat) : 0 < (256 : Int) ^ w := Int.pow_pos (by omega)

theorem packU_spec (w : Nat) (v : Int) (h : 0 ≤ v ∧ v < (256 : Int) ^ w) :
    ∃ bs, packU w v = .ok bs ∧ bs.length = w ∧ (beValue bs : Int) = v % (256 : Int) ^ w := by
  refine ⟨beBytes w v.toNat, by simp [packU, h], beBytes_length _ _, ?_⟩
  rw [beValue_beBytes, Int.natCast_emod, pow256_cast, Int.toNat_of_nonneg h.1]

theorem packS_spec (w : Nat) (v : Int) (h : -((256 : Int) ^ w / 2) ≤ v ∧ v < (256 : Int) ^ w / 2) :
    ∃ bs, packS w v = .ok bs ∧ bs.length = w ∧ (beValue bs : Int) = v % (256 : Int) ^ w := by
  refine ⟨beBytes w (v % (256 : Int) ^ w).toNat, by simp [packS, h], beBytes_length _ _, ?_⟩
  have hp := pow256_pos w
  have h0 : 0 ≤ v % (256 : Int) ^ w := Int.emod_nonneg _ (by omega)
  rw [beValue_beBytes, Int.natCast_emod, pow256_cast, Int.toNat_of_nonneg h0, Int.emod_emod]

theorem IntT.pack_spec (t : IntT) (v : Int) (h : t.inDom v) :
    ∃ bs, t.pack v = .ok bs ∧ bs.length = t.width ∧ (beValue bs : Int) = v % (256 : Int) ^ t.width := by
  unfold IntT.inDom at h
  unfold IntT.pack
  split
  · next hs => rw [if_pos hs] at h; exact packS_spec _ _ h
  · next hs => rw [if_neg hs] at h; exact packU_spec _ _ h

theorem IntT.pack_err (t : IntT) (v : Int) (h : ¬ t.inDom v) : t.pack v = .error .struct := by
  unfold IntT.inDom at h
  unfold IntT.pack
  split
  · next hs => rw [if_pos hs] at h; simp [packS, h]
  · next hs => rw [if_neg hs] at h; simp [packU, h]

theorem IntT.unpack_short (t : IntT) (p : Bytes) (h : p.length < t.width) :
    t.unpack p = .error .struct := by
  unfold IntT.unpack unpackS unpackU
  split <;> simp [takeN_short _ _ h, bind, Except.bind]

/-- two's complement: every residue `u` modulo `W = 2·H` has exactly one representative `v` in
`[-H, H)`, namely `u` below `H` and `u - W` from `H` on -/
theorem twos_complement_unique (W H u v : Int) (hW : W = 2 * H) (h0 : 0 ≤ u) (h1 : u < W)
    (hv : v = if u < H then u else u - W) :
    (-H ≤ v ∧ v < H) ∧ v % W = u ∧ ∀ v', -H ≤ v' ∧ v' < H → v' % W = u → v' = v := by
  have hu : u % W = u := Int.emod_eq_of_lt h0 h1
  refine ⟨?_, ?_, fun v' hv' e => ?_⟩
  · split at hv <;> omega
  · split at hv <;> simp only [hv, Int.sub_emod_right, hu]
  rcases Int.lt_or_le v' 0 with hn | hn
  · have : (v' + W) % W = v' + W := Int.emod_eq_of_lt (by omega) (by omega)
    rw [Int.add_emod_right, e] at this
    split at hv <;> omega
  · rw [Int.emod_eq_of_lt hn (by omega)] at e
    split at hv <;> omega

theorem IntT.width_pos (t : IntT) : 0 < t.width := by cases t <;> decide

theorem IntT.width_le (t : IntT) : t.width ≤ 8 := by cases t <;> decide

theorem IntT.unpack_spec (t : IntT) (bs rest : Bytes) (h : bs.length = t.width) :
    ∃ v, t.unpack (bs ++ rest) = .ok (v, rest) ∧ t.inDom v ∧
      v % (256 : Int) ^ t.width = (beValue bs : Int) ∧
      ∀ v', t.inDom v' → v' % (256 : Int) ^ t.width = (beValue bs : Int) → v' = v := by
  have hlt : (beValue bs : Int) < (256 : Int) ^ t.width := by
    rw [← pow256_cast, ← h]; exact Int.ofNat_lt.mpr (beValue_lt bs)
  have h0 : (0 : Int) ≤ beValue bs := Int.natCast_nonneg _
  have hev : (256 : Int) ^ t.width % 2 = 0 := by
    obtain ⟨n, hn⟩ : ∃ n, t.width = n + 1 := ⟨t.width - 1, by have := t.width_pos; omega⟩
    rw [hn, Int.pow_succ]; omega
  unfold IntT.unpack unpackS unpackU IntT.inDom
  simp only [takeN_append' _ _ _ h, bind, Except.bind, pure, Except.pure]
  generalize (beValue bs : Int) = u at *
  generalize (256 : Int) ^ t.width = W at *
  by_cases hs : t.signed = true
  · simp only [if_pos hs]
    exact ⟨_, rfl, twos_complement_unique W (W / 2) u _ (by omega) h0 hlt rfl⟩
  · simp only [if_neg hs]
    exact ⟨u, rfl, ⟨h0, hlt⟩, Int.emod_eq_of_lt h0 hlt,
      fun v' hv' e => by rw [← e, Int.emod_eq_of_lt hv'.1 hv'.2]⟩

theorem IntT.unpack_pack (t : IntT) (v : Int) (h : t.inDom v) :
    ∃ bs, t.pack v = .ok bs ∧ bs.length = t.width ∧ ∀ rest, t.unpack (bs ++ rest) = .ok (v, rest) := by
  obtain ⟨bs, h1, h2, h3⟩ := t.pack_spec v h
  refine ⟨bs, h1, h2, fun rest => ?_⟩
  obtain ⟨v', e1, _, _, e4⟩ := t.unpack_spec bs rest h2
  rw [e1, e4 v h h3.symm]

/-- an in-domain integer is below `256^k` in magnitude for every `k` from the width on -/
theorem IntT.inDom_natAbs_lt (t : IntT) (v : Int) (k : Nat) (hk : t.width ≤ k) (h : t.inDom v) :
    v.natAbs < 256 ^ k := by
  have hp := pow256_pos t.width
  have hle : (256 : Int) ^ t.width ≤ 256 ^ k := by
    rw [← pow256_cast, ← pow256_cast]
    exact Int.ofNat_le.mpr (Nat.pow_le_pow_right (by omega) hk)
  unfold IntT.inDom at h
  have : (v.natAbs : Int) < (256 : Int) ^ k := by split at h <;> omega
  rw [← pow256_cast] at this
  exact Int.ofNat_lt.mp this

/-- packing a natural number that is in the domain: `width` bytes whose value is that number -/
theorem IntT.pack_natCast (t : IntT) (n : Nat) (hd : t.inDom (n : Int)) :
    ∃ bs, t.pack n = .ok bs ∧ bs.length = t.width ∧ beValue bs = n := by
  obtain ⟨bs, h1, h2, h3⟩ := t.pack_spec n hd
  refine ⟨bs, h1, h2, Int.ofNat_inj.mp ?_⟩
  have hn : ((n : Int).natAbs : Int) < ((256 ^ t.width : Nat) : Int) :=
    Int.ofNat_lt.mpr (t.inDom_natAbs_lt n t.width (Nat.le_refl _) hd)
  rw [pow256_cast, Int.natAbs_natCast] at hn
  rw [h3, Int.emod_eq_of_lt (Int.natCast_nonneg n) hn]

/-! ## strict prefixes -/

theorem prefix_length_lt {p bs : Bytes} (h : p <+: bs) (hne : p ≠ bs) : p.length < bs.length := by
  rcases Nat.lt_or_ge p.length bs.length with h' | h'
  · exact h'
  · exact absurd (List.IsPrefix.eq_of_length_le h h') hne

theorem strict_prefix_append {p a b : Bytes} (h : p <+: a ++ b) (hne : p ≠ a ++ b) :
    (p <+: a ∧ p ≠ a) ∨ ∃ q, p = a ++ q ∧ q <+: b ∧ q ≠ b := by
  rcases List.prefix_or_prefix_of_prefix h (List.prefix_append a b) with h1 | h1
  · by_cases hpa : p = a
    · right
      refine ⟨[], by simp [hpa], List.nil_prefix, ?_⟩
      intro hb; apply hne; rw [hpa, ← hb]; simp
    · exact Or.inl ⟨h1, hpa⟩
  · right
    obtain ⟨q, rfl⟩ := h1
    exact ⟨q, rfl, (List.prefix_append_right_inj a).mp h, fun hq => hne (by rw [hq])⟩

/-! ## headers: a self-delimiting length/integer field in front of a body -/

/-- `h` is the encoding of header value `n` for the reader `dec`: non-empty, read back exactly with
any continuation, and every strict prefix makes the reader fail. -/
structure Hdr {α : Type} (dec : Bytes → Except Err (α × Bytes)) (h : Bytes) (n : α) : Prop where
  ne : h ≠ []
  read : ∀ rest, dec (h ++ rest) = .ok (n, rest)
  prefixErr : ∀ p, p <+: h → p ≠ h → ∃ e, dec p = .error e

theorem decVarIntAux_prefix_err (mx : Nat) (n : Nat) (be acc : Nat) (p : Bytes)
    (hp : p <+: encVarInt n) (hne : p ≠ encVarInt n) : ∃ e, decVarIntAux mx be acc p = .error e := by
  obtain ⟨u, hu⟩ := hp
  exact decAux_cont_err mx p be acc
    (enc_prefix_cont n p u hu fun h => hne (by rw [← hu, h, List.append_nil]))

theorem hdr_varint (mx n : Nat) (h : n < 2 ^ (7 * (mx + 1))) : Hdr (decVarInt mx) (encVarInt n) n :=
  ⟨enc_ne_nil n, fun rest => decVarInt_encVarInt mx n rest h,
    fun p hp hne => decVarIntAux_prefix_err mx n 0 0 p hp hne⟩

theorem hdr_int (t : IntT) (v : Int) (bs : Bytes) (hv : t.inDom v) (hb : t.pack v = .ok bs) :
    Hdr t.unpack bs v := by
  obtain ⟨bs', h1, h2, h3⟩ := t.unpack_pack v hv
  rw [hb] at h1; cases h1
  refine ⟨?_, h3, fun p hp hne => ⟨_, t.unpack_short p ?_⟩⟩
  · intro e; have := t.width_pos; rw [e] at h2; simp at h2; omega
  · rw [← h2]; exact prefix_length_lt hp hne

theorem Hdr.map {α β : Type} {dec : Bytes → Except Err (α × Bytes)} {h : Bytes} {n : α}
    (hh : Hdr dec h n) (f : α → β) (dec' : Bytes → Except Err (β × Bytes))
    (hdec : ∀ bs, dec' bs = (do let (v, r) ← dec bs; pure (f v, r))) : Hdr dec' h (f n) := by
  obtain ⟨h1, h2, h3⟩ := hh
  refine ⟨h1, fun rest => ?_, fun p hp hne => ?_⟩
  · rw [hdec, h2]; rfl
  · obtain ⟨e, he⟩ := h3 p hp hne
    exact ⟨e, by rw [hdec, he]; rfl⟩

/-- a header followed by a body that the continuation `k` of the header's reader reads (the shape
of a `do` block: unification reads `k` off the model) -/
theorem Hdr.bind {α β : Type} {A : Bytes → Except Err (α × Bytes)}
    {k : α × Bytes → Except Err (β × Bytes)} {a body : Bytes} {x : α} {z : β} (hh : Hdr A a x)
    (hb1 : ∀ rest, k (x, body ++ rest) = .ok (z, rest))
    (hb2 : ∀ p, p <+: body → p ≠ body → ∃ e, k (x, p) = .error e) :
    Hdr (fun bs => A bs >>= k) (a ++ body) z := by
  obtain ⟨h1, h2, h3⟩ := hh
  refine ⟨by simp [h1], fun rest => ?_, fun p hp hne => ?_⟩
  · rw [List.append_assoc]; simp only [h2]; exact hb1 rest
  · rcases strict_prefix_append hp hne with ⟨hp', hne'⟩ | ⟨q, rfl, hq, hqne⟩
    · obtain ⟨e, he⟩ := h3 p hp' hne'
      exact ⟨e, by simp only [he]; rfl⟩
    · obtain ⟨e, he⟩ := hb2 q hq hqne
      exact ⟨e, by simp only [h2]; exact he⟩

/-- `v` is an item of the codec `(enc, dec)`: it encodes, and the encoding is a header for `dec`. -/
def Item (enc : Value → Except Err Bytes) (dec : Bytes → Except Err (Value × Bytes)) (v : Value) :
    Prop := ∃ bs, enc v = .ok bs ∧ Hdr dec bs v

theorem items_array (f : Value → Except Err Bytes) (g : Bytes → Except Err (Value × Bytes)) :
    ∀ vs : List Value, (∀ v ∈ vs, Item f g v) →
    ∃ body, encEach f vs = .ok body ∧
      (∀ rest, repeatDec g vs.length (body ++ rest) = .ok (vs, rest)) ∧
      ∀ p, p <+: body → p ≠ body → ∃ e, repeatDec g vs.length p = .error e := by
  intro vs
  induction vs with
  | nil =>
    intro _
    refine ⟨[], rfl, fun rest => rfl, fun p hp hne => ?_⟩
    exact absurd (List.prefix_nil.mp hp) hne
  | cons v vs ih =>
    intro h
    obtain ⟨a, ha, _, ha2, ha3⟩ := h v (List.mem_cons_self)
    obtain ⟨b, hb, hb2, hb3⟩ := ih (fun w hw => h w (List.mem_cons_of_mem _ hw))
    refine ⟨a ++ b, by simp [encEach, ha, hb, bind, Except.bind, pure, Except.pure],
      fun rest => ?_, fun p hp hne => ?_⟩
    · simp only [List.length_cons, repeatDec, List.append_assoc, ha2, bind, Except.bind, hb2]
      rfl
    · rcases strict_prefix_append hp hne with ⟨hp', hne'⟩ | ⟨q, rfl, hq, hqne⟩
      · obtain ⟨e, he⟩ := ha3 p hp' hne'
        exact ⟨e, by simp only [List.length_cons, repeatDec, he, bind, Except.bind]⟩
      · obtain ⟨e, he⟩ := hb3 q hq hqne
        exact ⟨e, by simp only [List.length_cons, repeatDec, ha2, he, bind, Except.bind]⟩

/-- domain of a length prefix (the first conjunct of `WellTyped` for arrays) -/
def LenT.inDom : LenT → Nat → Prop
  | .varint, n => n < 2 ^ 31 | .i32, n => n < 2 ^ 31 | .i16, n => n < 2 ^ 15 | .u8, n => n < 2 ^ 8

/-- the counts a fixed-width length prefix admits are in the domain of its integer type -/
theorem LenT.inDom_int (n : Nat) : (LenT.i32.inDom n → IntT.i32.inDom n) ∧
    (LenT.i16.inDom n → IntT.i16.inDom n) ∧ (LenT.u8.inDom n → IntT.u8.inDom n) := by
  simp only [LenT.inDom, IntT.inDom, IntT.signed, IntT.width]
  refine ⟨fun h => ?_, fun h => ?_, fun h => ?_⟩
  · simp; omega
  · simp; omega
  · simp; omega

/-- a count in the domain of the fixed-width integer type `t`, packed by `t`, is a header for the
reader that unpacks with `t` and takes the value as a count -/
theorem hdr_natInt (t : IntT) (n : Nat) (hd : t.inDom n) :
    ∃ hb, t.pack n = .ok hb ∧
      Hdr (fun bs => do let (v, r) ← t.unpack bs; pure (v.toNat, r)) hb n := by
  obtain ⟨hb, h1, -, -⟩ := t.pack_natCast n hd
  exact ⟨hb, h1, by simpa using (hdr_int t n hb hd h1).map Int.toNat _ fun _ => rfl⟩

theorem hdr_len (lt : LenT) (n : Nat) (h : lt.inDom n) :
    ∃ hb, encLen lt n = .ok hb ∧ Hdr (decLen lt) hb n := by
  cases lt
  · exact ⟨_, rfl, hdr_varint 5 n (by simp [LenT.inDom] at h; omega)⟩
  · exact hdr_natInt .i32 n ((LenT.inDom_int n).1 h)
  · exact hdr_natInt .i16 n ((LenT.inDom_int n).2.1 h)
  · exact hdr_natInt .u8 n ((LenT.inDom_int n).2.2 h)

/-! ## UTF-8 -/

theorem utf8_roundtrip (s : String) : utf8Decode (utf8 s) = some s := by
  unfold utf8Decode utf8
  have : s.toByteArray.data.toList.toByteArray = s.toByteArray := by
    apply ByteArray.ext; simp [List.data_toByteArray]
  rw [this]
  simp [String.fromUTF8?, s.isValidUTF8]
  rfl

/-! ## the element / array induction -/

/-- what the modules modelling the custom types must establish about their codec -/
structure CustomLaw (cc : CustomCodec) (cw : CustomT → Value → Prop) : Prop where
  rt : ∀ c v rest, cw c v →
    ∃ bs, cc.enc c v = .ok bs ∧ bs ≠ [] ∧ cc.dec c (bs ++ rest) = .ok (v, rest)
  prefixErr : ∀ c v bs, cw c v → cc.enc c v = .ok bs →
    ∀ p, p <+: bs → p ≠ bs → ∃ e, cc.dec c p = .error e

/-- the codec with no custom types: every use raises `TypeError` -/
def noCustomCodec : CustomCodec where
  enc := fun _ _ => .error .type
  dec := fun _ _ => .error .type

/-- no value is in the domain of a custom type when none is plugged in -/
def noCustomDom : CustomT → Value → Prop := fun _ _ => False

theorem noCustomLaw : CustomLaw noCustomCodec noCustomDom :=
  ⟨fun _ _ _ h => h.elim, fun _ _ _ h => h.elim⟩

theorem item_custom {cc cw} (law : CustomLaw cc cw) (c : CustomT) (v : Value) (h : cw c v) :
    Item (cc.enc c) (cc.dec c) v := by
  obtain ⟨bs, h1, h2, _⟩ := law.rt c v [] h
  refine ⟨bs, h1, h2, fun rest => ?_, law.prefixErr c v bs h h1⟩
  obtain ⟨bs', h1', _, h3'⟩ := law.rt c v rest h
  rw [h1] at h1'; cases h1'; exact h3'

theorem item_int (t : IntT) (v : Int) (h : t.inDom v) (enc : Value → Except Err Bytes)
    (dec : Bytes → Except Err (Value × Bytes)) (henc : enc (.int v) = t.pack v)
    (hdec : ∀ bs, dec bs = (do let (v, r) ← t.unpack bs; pure (.int v, r))) :
    Item enc dec (.int v) := by
  obtain ⟨bs, hb, _⟩ := t.pack_spec v h
  exact ⟨bs, by rw [henc, hb], (hdr_int t v bs h hb).map Value.int dec hdec⟩

theorem item_varint (mx : Nat) (v : Int) (h0 : 0 ≤ v) (h : v.toNat < 2 ^ (7 * (mx + 1)))
    (enc : Value → Except Err Bytes)
    (dec : Bytes → Except Err (Value × Bytes)) (henc : enc (.int v) = encVarIntZ v)
    (hdec : ∀ bs, dec bs = (do let (n, r) ← decVarInt mx bs; pure (.int n, r))) :
    Item enc dec (.int v) := by
  refine ⟨encVarInt v.toNat, by rw [henc, ← encVarIntZ_nat, Int.toNat_of_nonneg h0], ?_⟩
  have := (hdr_varint mx v.toNat h).map (fun n : Nat => Value.int n) dec hdec
  simpa [Int.toNat_of_nonneg h0] using this

theorem item_bool (cc : CustomCodec) (b : Bool) :
    Item (encode cc .bool) (decode cc .bool) (.bool b) := by
  refine ⟨_, rfl, by simp, fun rest => ?_, fun p hp hne => ?_⟩
  · cases b <;> simp [decode, takeN, bind, Except.bind, pure, Except.pure]
  · have : p = [] := by
      have := prefix_length_lt hp hne
      rw [List.length_singleton] at this
      exact List.eq_nil_of_length_eq_zero (by omega)
    subst this
    exact ⟨.struct, rfl⟩

theorem item_uuid (cc : CustomCodec) (b : Bytes) (h : b.length = 16) :
    Item (encode cc .uuid) (decode cc .uuid) (.bytes b) := by
  refine ⟨b, by simp [encode, h], ?_, fun rest => ?_, fun p hp hne => ?_⟩
  · intro e; rw [e] at h; simp at h
  · have h1 : List.take 16 (b ++ rest) = b := by rw [← h]; simp
    have h2 : List.drop 16 (b ++ rest) = rest := by rw [← h]; simp
    have h3 : 16 ≤ (b ++ rest).length := by simp; omega
    rw [decode, if_pos h3, h1, h2]
  · have := prefix_length_lt hp hne
    exact ⟨.value, by simp [decode]; omega⟩

theorem item_string (cc : CustomCodec) (s : String) (h : (utf8 s).length < 2 ^ 31) :
    Item (encode cc .string) (decode cc .string) (.str s) := by
  refine ⟨_, rfl, (hdr_varint 5 (utf8 s).length (by omega)).bind ?_ ?_⟩
  · intro rest
    simp [utf8_roundtrip, pure, Except.pure]
  · intro p hp hne
    have := prefix_length_lt hp hne
    exact ⟨.eof, by simp [this]⟩

theorem item_bytesVarint (cc : CustomCodec) (b : Bytes) (h : b.length < 2 ^ 31) :
    Item (encode cc .bytesVarint) (decode cc .bytesVarint) (.bytes b) := by
  refine ⟨_, rfl, (hdr_varint 5 b.length (by omega)).bind ?_ ?_⟩
  · intro rest
    simp [takeN_append, bind, Except.bind, pure, Except.pure]
  · intro p hp hne
    have := prefix_length_lt hp hne
    exact ⟨.struct, by simp [takeN_short _ _ this, bind, Except.bind]⟩

theorem item_bytesShort (cc : CustomCodec) (b : Bytes) (h : b.length < 2 ^ 15) :
    Item (encode cc .bytesShort) (decode cc .bytesShort) (.bytes b) := by
  have hd : IntT.i16.inDom (b.length : Int) := (LenT.inDom_int _).2.1 h
  obtain ⟨hb, hp, _⟩ := IntT.i16.pack_spec _ hd
  have h0 : ¬ ((b.length : Int) < 0) := by omega
  refine ⟨hb ++ b, by rw [encode, hp]; rfl, (hdr_int _ _ _ hd hp).bind ?_ ?_⟩
  · intro rest
    simp [h0, takeN_append, bind, Except.bind, pure, Except.pure]
  · intro p hp hne
    have := prefix_length_lt hp hne
    exact ⟨.struct, by simp [h0, takeN_short _ _ this, bind, Except.bind]⟩

theorem wellTyped_array {cw lt t vs} (h : WellTyped cw (.array lt t) (.list vs)) :
    lt.inDom vs.length ∧ ∀ v ∈ vs, WellTyped cw t v := by
  cases lt <;> simpa [WellTyped, LenT.inDom] using h

/-- every in-domain value of a self-delimiting type is an item of `(encode, decode)` -/
theorem item_main {cc cw} (law : CustomLaw cc cw) : ∀ (t : WType), t.selfDelimiting = true →
    ∀ v, WellTyped cw t v → Item (encode cc t) (decode cc t) v := by
  intro t
  induction t with
  | bool =>
    intro _ v hw
    cases v <;> simp [WellTyped] at hw
    exact item_bool cc _
  | int t =>
    intro _ v hw
    cases v <;> simp [WellTyped] at hw
    exact item_int t _ hw _ _ rfl (fun _ => rfl)
  | varint =>
    intro _ v hw
    cases v <;> simp [WellTyped] at hw
    exact item_varint 5 _ hw.1 (by omega) _ _ rfl (fun _ => rfl)
  | varlong =>
    intro _ v hw
    cases v <;> simp [WellTyped] at hw
    exact item_varint 10 _ hw.1 (by omega) _ _ rfl (fun _ => rfl)
  | string =>
    intro _ v hw
    cases v <;> simp [WellTyped] at hw
    exact item_string cc _ hw
  | uuid =>
    intro _ v hw
    cases v <;> simp [WellTyped] at hw
    exact item_uuid cc _ hw
  | angle =>
    intro _ v hw
    cases v <;> simp [WellTyped] at hw
    exact item_int .u8 _ (by simp [IntT.inDom, IntT.signed, IntT.width]; omega) _ _ rfl (fun _ => rfl)
  | fixed base bits =>
    intro _ v hw
    cases v <;> simp [WellTyped] at hw
    exact item_int base _ hw _ _ rfl (fun _ => rfl)
  | bytesVarint =>
    intro _ v hw
    cases v <;> simp [WellTyped] at hw
    exact item_bytesVarint cc _ hw
  | bytesShort =>
    intro _ v hw
    cases v <;> simp [WellTyped] at hw
    exact item_bytesShort cc _ hw
  | trailing =>
    intro hs
    simp [WType.selfDelimiting] at hs
  | array lt t ih =>
    intro hs v hw
    cases v <;> try (simp [WellTyped] at hw; done)
    rename_i vs
    obtain ⟨hl, hv⟩ := wellTyped_array hw
    have hs' : t.selfDelimiting = true := by simpa [WType.selfDelimiting] using hs
    obtain ⟨hb, hb1, hb2⟩ := hdr_len lt vs.length hl
    obtain ⟨body, e1, e2, e3⟩ := items_array (encode cc t) (decode cc t) vs
      (fun v hm => ih hs' v (hv v hm))
    refine ⟨hb ++ body, by simp [encode, hb1, e1, bind, Except.bind, pure, Except.pure],
      hb2.bind ?_ ?_⟩
    · intro rest; simp [e2, bind, Except.bind, pure, Except.pure]
    · intro p hp hne
      obtain ⟨e, he⟩ := e3 p hp hne
      exact ⟨e, by simp [he, bind, Except.bind]⟩
  | custom c =>
    intro _ v hw
    have hw' : cw c v := by cases v <;> simpa [WellTyped] using hw
    have := item_custom law c v hw'
    obtain ⟨bs, h1, h2⟩ := this
    exact ⟨bs, by cases v <;> simpa [encode] using h1, h2.ne, fun rest => by
      rw [decode]; exact h2.read rest, fun p hp hne => by rw [decode]; exact h2.prefixErr p hp hne⟩

theorem encEach_total (f : Value → Except Err Bytes) : ∀ vs : List Value,
    (∀ v ∈ vs, ∃ bs, f v = .ok bs) → ∃ bs, encEach f vs = .ok bs := by
  intro vs
  induction vs with
  | nil => intro _; exact ⟨[], rfl⟩
  | cons v vs ih =>
    intro h
    obtain ⟨a, ha⟩ := h v List.mem_cons_self
    obtain ⟨b, hb⟩ := ih (fun w hw => h w (List.mem_cons_of_mem _ hw))
    exact ⟨a ++ b, by simp [encEach, ha, hb, bind, Except.bind, pure, Except.pure]⟩

/-- the body of an array is the concatenation of the element encodings, in order -/
theorem encEach_flatten (f : Value → Except Err Bytes) (g : Value → Bytes) : ∀ vs : List Value,
    (∀ v ∈ vs, f v = .ok (g v)) → encEach f vs = .ok (vs.map g).flatten := by
  intro vs
  induction vs with
  | nil => intro _; rfl
  | cons v vs ih =>
    intro h
    have ha := h v List.mem_cons_self
    have hb := ih (fun w hw => h w (List.mem_cons_of_mem _ hw))
    simp [encEach, ha, hb, bind, Except.bind, pure, Except.pure]

theorem encode_total {cc cw} (law : CustomLaw cc cw) : ∀ (t : WType) (v : Value),
    WellTyped cw t v → ∃ bs, encode cc t v = .ok bs := by
  intro t
  induction t with
  | trailing => intro v hw; cases v <;> simp [WellTyped] at hw; exact ⟨_, rfl⟩
  | array lt t ih =>
    intro v hw
    cases v <;> try (simp [WellTyped] at hw; done)
    rename_i vs
    obtain ⟨hl, hv⟩ := wellTyped_array hw
    obtain ⟨hb, hb1, _⟩ := hdr_len lt vs.length hl
    obtain ⟨body, e1⟩ := encEach_total (encode cc t) vs (fun v hm => ih v (hv v hm))
    exact ⟨hb ++ body, by simp [encode, hb1, e1, bind, Except.bind, pure, Except.pure]⟩
  | _ =>
    intro v hw
    obtain ⟨bs, h, _⟩ := item_main law _ rfl v hw
    exact ⟨bs, h⟩

/-! ## exact arithmetic of `Angle` and `FixedPoint` -/

theorem roundHalfEven_cases (N D : Int) :
    (roundHalfEven N D = N / D ∧ (2 * (N % D) < D ∨ (2 * (N % D) = D ∧ (N / D) % 2 = 0))) ∨
    (roundHalfEven N D = N / D + 1 ∧ (2 * (N % D) > D ∨ (2 * (N % D) = D ∧ (N / D) % 2 ≠ 0))) := by
  unfold roundHalfEven
  simp only
  split
  · left; exact ⟨rfl, Or.inl ‹_›⟩
  · split
    · right; exact ⟨rfl, Or.inl ‹_›⟩
    · have : 2 * (N % D) = D := by omega
      split
      · left; exact ⟨rfl, Or.inr ⟨this, ‹_›⟩⟩
      · right; exact ⟨rfl, Or.inr ⟨this, ‹_›⟩⟩

theorem roundHalfEven_near (N D : Int) (hD : 0 < D) :
    -D ≤ 2 * roundHalfEven N D * D - 2 * N ∧ 2 * roundHalfEven N D * D - 2 * N ≤ D := by
  have hdm := Int.emod_add_mul_ediv N D
  have h0 := Int.emod_nonneg N (by omega : D ≠ 0)
  have h1 := Int.emod_lt_of_pos N hD
  rcases roundHalfEven_cases N D with ⟨e, h⟩ | ⟨e, h⟩
  · rw [e]
    have : 2 * (N / D) * D = 2 * (D * (N / D)) := by rw [Int.mul_assoc, Int.mul_comm (N / D) D]
    rw [this]
    omega
  · rw [e]
    have : 2 * (N / D + 1) * D = 2 * (D * (N / D)) + 2 * D := by
      rw [Int.mul_assoc, Int.add_mul, Int.mul_add, Int.mul_comm (N / D) D]; simp
    rw [this]
    omega

theorem roundHalfEven_tie (N D : Int) (h : 2 * (N % D) = D) :
    roundHalfEven N D % 2 = 0 := by
  rcases roundHalfEven_cases N D with ⟨e, h'⟩ | ⟨e, h'⟩
  · rw [e]; omega
  · rw [e]; omega

/-- the un-reduced rounding of `Angle.send` lies in `[0, 256]` — 256 included -/
theorem angle_raw_range (p q : Int) (hq : 0 < q) :
    0 ≤ roundHalfEven (256 * (p % (360 * q))) (360 * q) ∧
    roundHalfEven (256 * (p % (360 * q))) (360 * q) ≤ 256 := by
  have hD : 0 < 360 * q := by omega
  have h0 := Int.emod_nonneg p (by omega : 360 * q ≠ 0)
  have h1 := Int.emod_lt_of_pos p hD
  generalize p % (360 * q) = r at *
  have hf0 : 0 ≤ 256 * r / (360 * q) := Int.ediv_nonneg (by omega) (by omega)
  have hf1 : 256 * r / (360 * q) < 256 := Int.ediv_lt_of_lt_mul hD (by omega)
  rcases roundHalfEven_cases (256 * r) (360 * q) with ⟨e, _⟩ | ⟨e, _⟩
  · rw [e]; omega
  · rw [e]; omega

theorem angleStep_range (p q : Int) : 0 ≤ angleStep p q ∧ angleStep p q < 256 := by
  unfold angleStep; omega

theorem angle_near (p q : Int) (hq : 0 < q) :
    ∃ k : Int, (k = 0 ∨ (k = 1 ∧ angleStep p q = 0)) ∧
      -(360 * q) ≤ 2 * (360 * (angleStep p q + 256 * k) * q - 256 * (p % (360 * q))) ∧
      2 * (360 * (angleStep p q + 256 * k) * q - 256 * (p % (360 * q))) ≤ 360 * q := by
  have hD : 0 < 360 * q := by omega
  obtain ⟨r0, r1⟩ := angle_raw_range p q hq
  obtain ⟨n0, n1⟩ := roundHalfEven_near (256 * (p % (360 * q))) (360 * q) hD
  unfold angleStep
  generalize roundHalfEven (256 * (p % (360 * q))) (360 * q) = u at *
  generalize p % (360 * q) = r at *
  by_cases hu : u = 256
  · refine ⟨1, Or.inr ⟨rfl, by omega⟩, ?_⟩
    have : u % 256 + 256 * 1 = u := by omega
    rw [this]
    constructor <;> grind
  · refine ⟨0, Or.inl rfl, ?_⟩
    have : u % 256 + 256 * 0 = u := by omega
    rw [this]
    constructor <;> grind

theorem fixed_tdiv (a q : Int) (hq : 0 < q) :
    (0 ≤ a → 0 ≤ a.tdiv q ∧ a.tdiv q * q ≤ a ∧ a < a.tdiv q * q + q) ∧
    (a ≤ 0 → a.tdiv q ≤ 0 ∧ a ≤ a.tdiv q * q ∧ a.tdiv q * q - q < a) := by
  have key : ∀ b : Int, 0 ≤ b → 0 ≤ b.tdiv q ∧ b.tdiv q * q ≤ b ∧ b < b.tdiv q * q + q := by
    intro b hb
    have h1 := Int.tmod_add_mul_tdiv b q
    have h2 := Int.tmod_nonneg q hb
    have h3 := Int.tmod_lt_of_pos b hq
    have h4 : 0 ≤ b.tdiv q := Int.tdiv_nonneg hb (by omega)
    rw [Int.mul_comm q] at h1
    omega
  refine ⟨key a, fun ha => ?_⟩
  have := key (-a) (by omega)
  rw [Int.neg_tdiv, Int.neg_mul] at this
  omega

/-- the wire integer `w = trunc(p·2^bits / q)`: within one of the exact scaled value, with its sign,
never beyond it in magnitude -/
theorem fixed_trunc (bits : Nat) (p q : Int) (hq : 0 < q) :
    (-q < (p * 2 ^ bits).tdiv q * q - p * 2 ^ bits ∧ (p * 2 ^ bits).tdiv q * q - p * 2 ^ bits < q) ∧
    (0 ≤ p → 0 ≤ (p * 2 ^ bits).tdiv q ∧ (p * 2 ^ bits).tdiv q * q ≤ p * 2 ^ bits) ∧
    (p ≤ 0 → (p * 2 ^ bits).tdiv q ≤ 0 ∧ p * 2 ^ bits ≤ (p * 2 ^ bits).tdiv q * q) := by
  have hpow : (0 : Int) < 2 ^ bits := Int.pow_pos (by omega)
  obtain ⟨f1, f2⟩ := fixed_tdiv (p * 2 ^ bits) q hq
  have g1 := fun hp : 0 ≤ p => f1 (Int.mul_nonneg hp (by omega))
  have g2 := fun hp : p ≤ 0 => f2 (Int.mul_nonpos_of_nonpos_of_nonneg hp (by omega))
  refine ⟨?_, fun hp => by have := g1 hp; omega, fun hp => by have := g2 hp; omega⟩
  rcases Int.le_total 0 p with hp | hp
  · have := g1 hp; omega
  · have := g2 hp; omega

end PyCraft
