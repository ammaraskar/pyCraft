import PyCraft.Lemmas.C05Dispatch
/-!
Helper lemmas for `Props/C05Dispatch.lean`, third part: the checker behind `hand_bytes_live` — the bytes
the LIVE `write_fields` of a hand-written class produces for the sample packet under every known protocol
version, and the bytes it produces for what the live `read` made of them, are the bytes of the MODEL's
codec for that version (`handCodec`), on `sampleOf` resp. on its normalisation — and its soundness
(`bytesAgree_of_check`).
-/
namespace PyCraft.Dsp
open PyCraft PyCraft.Pk PyCraft.Gen

/-- what the model predicts for a row of a `BytesTable` -/
def expectedBytes (k : Codec) : Option Bytes × Option Bytes :=
  ((k.write (sampleOf k)).toOption, (k.write (k.norm (sampleOf k))).toOption)

/-- adjacent repetitions collapsed -/
def runs {α : Type} [BEq α] : List α → List α
  | [] => []
  | a :: l =>
    match runs l with
    | [] => [a]
    | b :: r => if a == b then b :: r else a :: b :: r

theorem mem_runs {α : Type} [BEq α] [LawfulBEq α] {a : α} : ∀ {l : List α}, a ∈ l → a ∈ runs l
  | c :: l, h => by
    rw [runs]
    rcases List.mem_cons.mp h with rfl | h
    · split
      · exact List.mem_cons_self
      · split
        · next hab => rw [eq_of_beq hab]; exact List.mem_cons_self
        · exact List.mem_cons_self
    · have ih := mem_runs h
      split
      · next he => rw [he] at ih; cases ih
      · next he =>
        rw [he] at ih
        split
        · exact ih
        · exact List.mem_cons_of_mem _ ih

/-- the table has one row per known version, in order, and every row holds what the model writes under
the flags of its version.  The rows are first reduced to the runs of equal (variant, flags): versions
follow each other in publication order and the flags are monotone in it, so the expensive
`expectedBytes` is evaluated a handful of times, not once per version. -/
def bytesCheck {F : Type} [BEq F] (tab : C05D.BytesTable) (flagsR : Nat → F) (mk : F → Codec) : Bool :=
  rowsCheck tab.rows (fun _ _ => true) &&
  (runs (tab.rows.zipIdx.map fun q => (q.1.2, flagsR q.2))).all fun jf =>
    tab.variants[jf.1]? == some (expectedBytes (mk jf.2))

/-- the table has one row per known protocol version, in order, and each row holds the bytes the model's
codec of the class for that version writes for the sample and for the normalised sample -/
def BytesAgree (tab : C05D.BytesTable) : Prop :=
  tab.rows.map (·.1) = liveTables.knownProtocols ∧
  ∀ x ∈ tab.rows, ∃ k, handCodec tab.cls x.1 = some k ∧ tab.variants[x.2]? = some (expectedBytes k)

theorem bytesAgree_of_check {F : Type} [BEq F] [LawfulBEq F] {tab : C05D.BytesTable}
    {flagsR : Nat → F} {mk : F → Codec}
    (hR : ∀ {v iv}, index liveTables v = some iv → handCodec tab.cls v = some (mk (flagsR iv)))
    (h : bytesCheck tab flagsR mk = true) : BytesAgree tab := by
  rw [bytesCheck, Bool.and_eq_true] at h
  obtain ⟨h1, h2⟩ := rowsCheck_sound h.1
  refine ⟨h1, fun x hx => ?_⟩
  obtain ⟨iv, hm, hi, _⟩ := h2 x hx
  have hjf : (x.2, flagsR iv) ∈ runs (tab.rows.zipIdx.map fun q => (q.1.2, flagsR q.2)) :=
    mem_runs (List.mem_map.mpr ⟨(x, iv), hm, rfl⟩)
  exact ⟨mk (flagsR iv), hR hi, eq_of_beq (List.all_eq_true.mp h.2 _ hjf)⟩

end PyCraft.Dsp
