import PyCraft.Lemmas.VarInt
/-!
The reader `VarInt.read` (`decVarIntAux`, `decVarIntReads`).  The loop is analysed once: what one
iteration does on each kind of byte, what a run of continuation bytes within the budget does
(`decAux_run`), and the three shapes an input can have (`shape_cases`).  Together they
give, for each shape, outcome and read count in any loop state (`aux_accepts`, `aux_tooLong`,
`aux_eof`).  `decVarInt_cases` puts them together for the loop as Python starts it, and the facts
about `decVarInt` are read off it; `dec_ok_shape` is the success case in any loop state.  Then
`VarInt.size`.
-/
namespace PyCraft

/-! ## One iteration of `VarInt.read`, by kind of byte -/

theorem pow7_succ (be : Nat) : 2 ^ (7 * (be + 1)) = 2 ^ (7 * be) * 128 := by
  rw [Nat.mul_add, Nat.pow_add]

section
variable (mx be acc : Nat) (b : UInt8) (rest : Bytes)

theorem decAux_term (hb : b.toNat < 128) (hacc : acc < 2 ^ (7 * be)) :
    decVarIntAux mx be acc (b :: rest) = .ok (acc + b.toNat * 2 ^ (7 * be), rest) ∧
      decVarIntReads mx be (b :: rest) = 1 := by
  simp only [decVarIntAux, decVarIntReads, and80_lt _ hb, if_true, and7F, acc_or _ _ _ hacc,
    Nat.mod_eq_of_lt hb, and_self]

theorem decAux_cont (hb : 128 ≤ b.toNat) (hbe : be < mx) (hacc : acc < 2 ^ (7 * be)) :
    decVarIntAux mx be acc (b :: rest) =
        decVarIntAux mx (be + 1) (acc + b.toNat % 128 * 2 ^ (7 * be)) rest ∧
      decVarIntReads mx be (b :: rest) = 1 + decVarIntReads mx (be + 1) rest := by
  simp only [decVarIntAux, decVarIntReads, if_neg (and80_ge _ b.toNat_lt hb),
    if_neg (show ¬ be + 1 > mx by omega), and7F, acc_or _ _ _ hacc, and_self]

theorem decAux_over (hb : 128 ≤ b.toNat) (hbe : mx ≤ be) :
    decVarIntAux mx be acc (b :: rest) = .error .tooLong ∧ decVarIntReads mx be (b :: rest) = 1 := by
  simp only [decVarIntAux, decVarIntReads, if_neg (and80_ge _ b.toNat_lt hb),
    if_pos (show be + 1 > mx by omega), and_self]

end

/-- On continuation bytes only the reader fails, whatever the loop state. -/
theorem decAux_cont_err (mx : Nat) : ∀ (p : Bytes) (be acc : Nat), (∀ b ∈ p, 128 ≤ b.toNat) →
    ∃ e, decVarIntAux mx be acc p = .error e
  | [], _, _, _ => ⟨.eof, rfl⟩
  | b :: p, be, acc, h => by
    simp only [decVarIntAux, if_neg (and80_ge _ b.toNat_lt (h b List.mem_cons_self))]
    split
    · exact ⟨_, rfl⟩
    · exact decAux_cont_err mx p _ _ fun x hx => h x (List.mem_cons_of_mem _ hx)

/-! ## A run of continuation bytes within the budget -/

/-- The loop passes a run `pre` of continuation bytes that fits the budget with one read each,
adding its base-128 value at the current shift; the accumulator stays below the next shift. -/
theorem decAux_run (mx : Nat) : ∀ (pre : Bytes) (be acc : Nat) (tl : Bytes),
    (∀ b ∈ pre, 128 ≤ b.toNat) → be + pre.length ≤ mx → acc < 2 ^ (7 * be) →
    decVarIntAux mx be acc (pre ++ tl) =
        decVarIntAux mx (be + pre.length) (acc + leValue pre * 2 ^ (7 * be)) tl ∧
      decVarIntReads mx be (pre ++ tl) = pre.length + decVarIntReads mx (be + pre.length) tl ∧
      acc + leValue pre * 2 ^ (7 * be) < 2 ^ (7 * (be + pre.length))
  | [], be, acc, tl, _, _, hacc => by simpa [leValue] using hacc
  | b :: pre, be, acc, tl, hall, hlen, hacc => by
    have hb := hall b List.mem_cons_self
    rw [List.length_cons] at hlen
    have hacc' : acc + b.toNat % 128 * 2 ^ (7 * be) < 2 ^ (7 * (be + 1)) := by
      have : b.toNat % 128 * 2 ^ (7 * be) ≤ 127 * 2 ^ (7 * be) :=
        Nat.mul_le_mul_right _ (by omega)
      rw [pow7_succ]; omega
    obtain ⟨h1, h2, h3⟩ := decAux_run mx pre (be + 1) _ tl
      (fun x hx => hall x (List.mem_cons_of_mem _ hx)) (by omega) hacc'
    obtain ⟨s1, s2⟩ := decAux_cont mx be acc b (pre ++ tl) hb (by omega) hacc
    have e1 : be + 1 + pre.length = be + (b :: pre).length := by rw [List.length_cons]; omega
    have e2 : acc + b.toNat % 128 * 2 ^ (7 * be) + leValue pre * 2 ^ (7 * (be + 1))
        = acc + leValue (b :: pre) * 2 ^ (7 * be) := by
      rw [pow7_succ, leValue, Nat.add_mul, Nat.add_assoc, Nat.mul_comm (2 ^ (7 * be)) 128,
        ← Nat.mul_assoc, Nat.mul_comm _ 128]
    rw [e1, e2] at h1 h3
    rw [e1] at h2
    refine ⟨?_, ?_, h3⟩
    · rw [List.cons_append, s1, h1]
    · rw [List.cons_append, s2, h2, List.length_cons]; omega

/-! ## The three shapes of an input and what the reader does on each -/

theorem leValue_snoc (pre : Bytes) (last : UInt8) :
    leValue (pre ++ [last]) = leValue pre + last.toNat % 128 * 128 ^ pre.length := by
  induction pre with
  | nil => simp [leValue]
  | cons b pre ih =>
    rw [List.cons_append, leValue, ih, leValue, List.length_cons, Nat.pow_succ, Nat.mul_add,
      Nat.mul_left_comm 128, Nat.mul_comm 128 (128 ^ pre.length), Nat.add_assoc]

theorem pow7_add (be n : Nat) : 2 ^ (7 * (be + n)) = 2 ^ (7 * be) * 128 ^ n := by
  rw [Nat.mul_add, Nat.pow_add, Nat.pow_mul 2 7 n]

/-- A terminated run within the budget is accepted, canonical or not, one read after its bytes. -/
theorem aux_accepts (mx : Nat) (pre : Bytes) (be acc : Nat) (last : UInt8) (rest : Bytes)
    (hacc : acc < 2 ^ (7 * be)) (hlen : be + pre.length ≤ mx) (hall : ∀ b ∈ pre, 128 ≤ b.toNat)
    (hl : last.toNat < 128) :
    decVarIntAux mx be acc (pre ++ last :: rest) =
        .ok (acc + leValue (pre ++ [last]) * 2 ^ (7 * be), rest) ∧
      decVarIntReads mx be (pre ++ last :: rest) = pre.length + 1 := by
  obtain ⟨h1, h2, h3⟩ := decAux_run mx pre be acc (last :: rest) hall hlen hacc
  obtain ⟨s1, s2⟩ := decAux_term mx _ _ last rest hl h3
  rw [h1, h2, s1, s2, leValue_snoc, pow7_add, Nat.mod_eq_of_lt hl, Nat.add_mul, Nat.add_assoc,
    Nat.mul_assoc, Nat.mul_comm (128 ^ pre.length)]
  exact ⟨rfl, rfl⟩

/-- A canonical string is a run of continuation bytes closed by one terminator. -/
theorem canonical_split : ∀ (l : Bytes), Canonical l →
    ∃ pre last, l = pre ++ [last] ∧ (∀ b ∈ pre, 128 ≤ b.toNat) ∧ last.toNat < 128
  | [b], h => ⟨[], b, rfl, List.forall_mem_nil _, h⟩
  | b :: c :: rest, ⟨hb, hc, _⟩ =>
    let ⟨pre, last, e, h1, h2⟩ := canonical_split (c :: rest) hc
    ⟨b :: pre, last, by rw [e]; rfl, List.forall_mem_cons.2 ⟨hb, h1⟩, h2⟩

/-- An unterminated run within the budget hits the end of the stream, one read after its bytes. -/
theorem aux_eof (mx : Nat) (bs : Bytes) (be acc : Nat) (hacc : acc < 2 ^ (7 * be))
    (hlen : be + bs.length ≤ mx) (hall : ∀ b ∈ bs, 128 ≤ b.toNat) :
    decVarIntAux mx be acc bs = .error .eof ∧ decVarIntReads mx be bs = bs.length + 1 := by
  obtain ⟨h1, h2, -⟩ := decAux_run mx bs be acc [] hall hlen hacc
  rw [List.append_nil] at h1 h2
  exact ⟨h1, h2⟩

/-- A run that exhausts the budget is over-long: `mx + 1 - be` reads, the last one rejected. -/
theorem aux_tooLong (mx : Nat) (bs : Bytes) (be acc : Nat) (hacc : acc < 2 ^ (7 * be)) (hbe : be ≤ mx)
    (hlen : mx + 1 ≤ be + bs.length) (hall : ∀ b ∈ bs.take (mx + 1 - be), 128 ≤ b.toNat) :
    decVarIntAux mx be acc bs = .error .tooLong ∧ decVarIntReads mx be bs = mx + 1 - be := by
  have hm : mx - be < bs.length := by omega
  have e : bs = bs.take (mx - be) ++ bs[mx - be] :: bs.drop (mx - be + 1) := by
    rw [← List.drop_eq_getElem_cons hm, List.take_append_drop]
  rw [show mx + 1 - be = mx - be + 1 by omega, List.take_succ_eq_append_getElem hm] at hall
  have hpre : ∀ b ∈ bs.take (mx - be), 128 ≤ b.toNat := fun b hb => hall b (List.mem_append_left _ hb)
  have hb : 128 ≤ bs[mx - be].toNat := hall _ (List.mem_append_right _ (List.mem_singleton.2 rfl))
  have hl : be + (bs.take (mx - be)).length = mx := by rw [List.length_take]; omega
  obtain ⟨h1, h2, -⟩ := decAux_run mx _ be acc (bs[mx - be] :: bs.drop (mx - be + 1)) hpre (by omega) hacc
  obtain ⟨s1, s2⟩ := decAux_over mx mx (acc + leValue (bs.take (mx - be)) * 2 ^ (7 * be)) _
    (bs.drop (mx - be + 1)) hb (Nat.le_refl _)
  rw [hl] at h1 h2
  rw [e, h1, h2, s1, s2]
  exact ⟨rfl, by rw [List.length_take]; omega⟩

/-- Every byte string has one of three shapes relative to a budget of `m` continuation bytes: a run
of at most `m` closed by a terminator; `m + 1` continuation bytes; at most `m` bytes, all
continuation bytes. -/
theorem shape_cases : ∀ (m : Nat) (bs : Bytes),
    (∃ pre last rest, bs = pre ++ last :: rest ∧ pre.length ≤ m ∧ (∀ b ∈ pre, 128 ≤ b.toNat) ∧
      last.toNat < 128) ∨
    (m + 1 ≤ bs.length ∧ ∀ b ∈ bs.take (m + 1), 128 ≤ b.toNat) ∨
    (bs.length ≤ m ∧ ∀ b ∈ bs, 128 ≤ b.toNat)
  | _, [] => .inr (.inr ⟨Nat.zero_le _, List.forall_mem_nil _⟩)
  | m, b :: tl => by
    by_cases hb : b.toNat < 128
    · exact .inl ⟨[], b, tl, rfl, Nat.zero_le _, List.forall_mem_nil _, hb⟩
    · have hb : 128 ≤ b.toNat := Nat.le_of_not_lt hb
      cases m with
      | zero => exact .inr (.inl ⟨by simp, by simpa using hb⟩)
      | succ m =>
        rcases shape_cases m tl with ⟨pre, last, rest, e, h1, h2, h3⟩ | ⟨h1, h2⟩ | ⟨h1, h2⟩
        · exact .inl ⟨b :: pre, last, rest, by rw [e]; rfl, Nat.succ_le_succ h1,
            List.forall_mem_cons.2 ⟨hb, h2⟩, h3⟩
        · exact .inr (.inl ⟨Nat.succ_le_succ h1, List.forall_mem_cons.2 ⟨hb, h2⟩⟩)
        · exact .inr (.inr ⟨Nat.succ_le_succ h1, List.forall_mem_cons.2 ⟨hb, h2⟩⟩)

/-- `aux_accepts` as Python starts the loop (`number = 0`, `bytes_encountered = 0`). -/
theorem decVarInt_accepts (mx : Nat) (pre : Bytes) (last : UInt8) (rest : Bytes)
    (hlen : pre.length ≤ mx) (hall : ∀ b ∈ pre, 128 ≤ b.toNat) (hl : last.toNat < 128) :
    decVarInt mx (pre ++ last :: rest) = .ok (leValue (pre ++ [last]), rest) ∧
      decVarIntReads mx 0 (pre ++ last :: rest) = pre.length + 1 := by
  have h := aux_accepts mx pre 0 0 last rest (Nat.two_pow_pos _) (by omega) hall hl
  rwa [Nat.zero_add, Nat.mul_zero, Nat.pow_zero, Nat.mul_one] at h

/-- The writer's bytes are such a run, short enough when `n` is below the reader's bound. -/
theorem decVarInt_encVarInt (mx n : Nat) (rest : Bytes) (h : n < 2 ^ (7 * (mx + 1))) :
    decVarInt mx (encVarInt n ++ rest) = .ok (n, rest) := by
  obtain ⟨pre, last, e, h1, h2⟩ := canonical_split _ (enc_canonical_aux n)
  have hlen := enc_length_le mx n (by rwa [Nat.pow_mul] at h)
  have hv := leValue_enc n
  rw [e] at hv hlen
  rw [List.length_append, List.length_singleton] at hlen
  rw [e, List.append_assoc, List.singleton_append,
    (decVarInt_accepts mx pre last rest (by omega) h1 h2).1, hv]

/-- What `VarInt.read` does: the shape of the input decides the outcome and the number of
`read(1)` calls. -/
theorem decVarInt_cases (mx : Nat) (bs : Bytes) :
    (∃ pre last rest, bs = pre ++ last :: rest ∧ pre.length ≤ mx ∧
      (∀ b ∈ pre, 128 ≤ b.toNat) ∧ last.toNat < 128 ∧
      decVarInt mx bs = .ok (leValue (pre ++ [last]), rest) ∧
      decVarIntReads mx 0 bs = pre.length + 1) ∨
    (mx + 1 ≤ bs.length ∧ (∀ b ∈ bs.take (mx + 1), 128 ≤ b.toNat) ∧
      decVarInt mx bs = .error .tooLong ∧ decVarIntReads mx 0 bs = mx + 1) ∨
    (bs.length ≤ mx ∧ (∀ b ∈ bs, 128 ≤ b.toNat) ∧
      decVarInt mx bs = .error .eof ∧ decVarIntReads mx 0 bs = bs.length + 1) := by
  rcases shape_cases mx bs with ⟨pre, last, rest, e, h1, h2, h3⟩ | ⟨h1, h2⟩ | ⟨h1, h2⟩
  · exact .inl ⟨pre, last, rest, e, h1, h2, h3, e ▸ decVarInt_accepts mx pre last rest h1 h2 h3⟩
  · exact .inr (.inl ⟨h1, h2,
      aux_tooLong mx bs 0 0 (Nat.two_pow_pos _) (Nat.zero_le _) (by omega) h2⟩)
  · exact .inr (.inr ⟨h1, h2, aux_eof mx bs 0 0 (Nat.two_pow_pos _) (by omega) h2⟩)

/-- Over-long exactly when `mx + 1` continuation bytes lead. -/
theorem decVarInt_tooLong_iff (mx : Nat) (bs : Bytes) :
    decVarInt mx bs = .error .tooLong ↔
      mx + 1 ≤ bs.length ∧ ∀ b ∈ bs.take (mx + 1), 128 ≤ b.toNat := by
  refine ⟨fun h => ?_, fun ⟨h1, h2⟩ =>
    (aux_tooLong mx bs 0 0 (Nat.two_pow_pos _) (Nat.zero_le _) (by omega) h2).1⟩
  rcases decVarInt_cases mx bs with ⟨_, _, _, -, -, -, -, hd, -⟩ | ⟨h1, h2, -, -⟩ | ⟨-, -, hd, -⟩
  · rw [hd] at h; cases h
  · exact ⟨h1, h2⟩
  · rw [hd] at h; cases h

/-- End of stream exactly on at most `mx` bytes, all continuation bytes. -/
theorem decVarInt_eof_iff (mx : Nat) (bs : Bytes) :
    decVarInt mx bs = .error .eof ↔ bs.length ≤ mx ∧ ∀ b ∈ bs, 128 ≤ b.toNat := by
  refine ⟨fun h => ?_, fun ⟨h1, h2⟩ => (aux_eof mx bs 0 0 (Nat.two_pow_pos _) (by omega) h2).1⟩
  rcases decVarInt_cases mx bs with ⟨_, _, _, -, -, -, -, hd, -⟩ | ⟨-, -, hd, -⟩ | ⟨h1, h2, -, -⟩
  · rw [hd] at h; cases h
  · rw [hd] at h; cases h
  · exact ⟨h1, h2⟩

theorem dec_err (mx : Nat) (bs : Bytes) (e : Err) (h : decVarInt mx bs = .error e) :
    e = .eof ∨ e = .tooLong := by
  rcases decVarInt_cases mx bs with ⟨_, _, _, -, -, -, -, hd, -⟩ | ⟨-, -, hd, -⟩ | ⟨-, -, hd, -⟩
  · rw [hd] at h; cases h
  · rw [hd] at h; cases h; exact .inr rfl
  · rw [hd] at h; cases h; exact .inl rfl

/-- Shape of a successful decode: the consumed prefix `pre` is a run of continuation bytes closed by
one terminator, at most `mx + 1 - be` long; the rest is returned untouched and the result does not
depend on it; the value is the little-endian base-128 value of `pre`. -/
theorem dec_ok_shape (mx : Nat) (bs : Bytes) (be acc v : Nat) (rest : Bytes)
    (hacc : acc < 2 ^ (7 * be)) (hbe : be ≤ mx) (h : decVarIntAux mx be acc bs = .ok (v, rest)) :
    ∃ pre last, bs = pre ++ last :: rest ∧ pre.length + 1 + be ≤ mx + 1 ∧
      (∀ b ∈ pre, 128 ≤ b.toNat) ∧ last.toNat < 128 ∧
      decVarIntReads mx be bs = pre.length + 1 ∧
      v = acc + leValue (pre ++ [last]) * 2 ^ (7 * be) ∧
      (∀ rest', decVarIntAux mx be acc (pre ++ last :: rest') = .ok (v, rest')) := by
  rcases shape_cases (mx - be) bs with ⟨pre, last, rest0, e, h1, h2, h3⟩ | ⟨h1, h2⟩ | ⟨h1, h2⟩
  · have hlen : be + pre.length ≤ mx := by omega
    obtain ⟨hd, hr⟩ := aux_accepts mx pre be acc last rest0 hacc hlen h2 h3
    rw [e, hd] at h
    injection h with h; injection h with hv hrest
    subst hv; subst hrest
    exact ⟨pre, last, e, by omega, h2, h3, e ▸ hr, rfl,
      fun rest' => (aux_accepts mx pre be acc last rest' hacc hlen h2 h3).1⟩
  · rw [show mx - be + 1 = mx + 1 - be by omega] at h2
    rw [(aux_tooLong mx bs be acc hacc hbe (by omega) h2).1] at h; cases h
  · rw [(aux_eof mx bs be acc hacc (by omega) h2).1] at h; cases h

/-! ## `VarInt.size` -/

theorem size_big (n : Nat) (h : 2 ^ 84 ≤ n) : varintSize (n : Int) = .error .value := by
  unfold varintSize varintSizeTable
  repeat (rw [sizeLookup, if_neg (by omega)])
  rfl

/-- Rows `(128^(i+1), i+1), …, (128^(i+m), i+m)`; `VARINT_SIZE_TABLE` is `sizeRows 0 12`. -/
def sizeRows : Nat → Nat → List (Nat × Nat)
  | _, 0 => []
  | i, m + 1 => (128 ^ (i + 1), i + 1) :: sizeRows (i + 1) m

/-- The walk passes the rows below the bucket `[128^(k-1), 128^k)` of `n` and answers at row `k`. -/
theorem sizeLookup_rows (n k : Nat) (hlo : 128 ^ (k - 1) ≤ n ∨ k = 1) (hhi : n < 128 ^ k) :
    ∀ (m i : Nat), i < k → k ≤ i + m → sizeLookup (n : Int) (sizeRows i m) = .ok k
  | 0, i, h1, h2 => by omega
  | m + 1, i, h1, h2 => by
    rw [sizeRows, sizeLookup]
    by_cases hk : i + 1 = k
    · rw [if_pos (by rw [hk]; exact_mod_cast hhi), hk]
    · have hle : 128 ^ (i + 1) ≤ 128 ^ (k - 1) := Nat.pow_le_pow_right (by omega) (by omega)
      have hn : 128 ^ (k - 1) ≤ n := by omega
      rw [if_neg (by exact_mod_cast Nat.not_lt.2 (Nat.le_trans hle hn))]
      exact sizeLookup_rows n k hlo hhi m (i + 1) (by omega) (by omega)

theorem size_bucket (n k : Nat) (hk1 : 1 ≤ k) (hk : k ≤ 12) (hlo : 128 ^ (k - 1) ≤ n ∨ k = 1)
    (hhi : n < 128 ^ k) : varintSize (n : Int) = .ok k := by
  have e : varintSizeTable = sizeRows 0 12 := by decide
  rw [varintSize, e]
  exact sizeLookup_rows n k hlo hhi 12 0 (by omega) (by omega)

end PyCraft
