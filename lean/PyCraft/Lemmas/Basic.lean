import PyCraft.Basic
/-!
Facts about the hex helpers of `PyCraft/Basic.lean`, and the few facts about `Nat`, `List` and
`String` that lemma files of different import chains share and core does not have.
-/
namespace PyCraft

theorem hexVal_hexDigit : ∀ n < 16, hexVal (hexDigit n) = some n := by decide +kernel

/-- Induction on a list from its end (core's `List` has no such principle). -/
theorem snoc_induction {α : Type} {P : List α → Prop} (nil : P [])
    (snoc : ∀ l a, P l → P (l ++ [a])) (l : List α) : P l := by
  rw [← List.reverse_reverse l]
  induction l.reverse with
  | nil => exact nil
  | cons a t ih => rw [List.reverse_cons]; exact snoc _ a ih

/-- A number whose only possibly set binary digit is digit `k` is non-zero iff that digit is set. -/
theorem ne_zero_iff_testBit (x k : Nat) (h : ∀ i, i ≠ k → x.testBit i = false) :
    x ≠ 0 ↔ x.testBit k = true := by
  constructor
  · intro hx
    rcases hb : x.testBit k with _ | _
    · exact absurd (Nat.eq_of_testBit_eq fun i => by
        by_cases e : i = k
        · rw [e, hb, Nat.zero_testBit]
        · rw [h i e, Nat.zero_testBit]) hx
    · rfl
  · intro hb hx
    rw [hx, Nat.zero_testBit] at hb
    cases hb

/-- The bit test of the Python sources (`value & mask` with a one-bit mask is truthy) in terms of
the binary digit. -/
theorem and_two_pow_ne_zero (n k : Nat) : n &&& 2 ^ k ≠ 0 ↔ n / 2 ^ k % 2 = 1 := by
  rw [ne_zero_iff_testBit _ k fun i e => by simp [Ne.symm e], Nat.testBit_and,
    Nat.testBit_two_pow_self, Bool.and_true, Nat.testBit_eq_decide_div_mod_eq, decide_eq_true_iff]

/-- A map that is injective on a duplicate-free list keeps it duplicate free. -/
theorem nodup_map_on {α β : Type} (f : α → β) : ∀ (l : List α),
    (∀ a ∈ l, ∀ b ∈ l, f a = f b → a = b) → l.Nodup → (l.map f).Nodup
  | [], _, _ => List.nodup_nil
  | a :: l, hinj, hn => by
    rw [List.nodup_cons] at hn
    rw [List.map_cons, List.nodup_cons]
    refine ⟨fun hm => ?_, nodup_map_on f l
      (fun x hx y hy => hinj x (List.mem_cons_of_mem _ hx) y (List.mem_cons_of_mem _ hy)) hn.2⟩
    obtain ⟨b, hb, e⟩ := List.mem_map.1 hm
    exact hn.1 (hinj a List.mem_cons_self b (List.mem_cons_of_mem _ hb) e.symm ▸ hb)

/-- In a list without repeated keys, looking an element up by its key finds it. -/
theorem find?_key_of_mem_nodup {α β : Type} [BEq β] [LawfulBEq β] (f : α → β) :
    ∀ (l : List α) (a : α), (l.map f).Nodup → a ∈ l → l.find? (fun r => f r == f a) = some a
  | b :: t, a, hn, h => by
    simp only [List.map_cons, List.nodup_cons] at hn
    rcases List.mem_cons.mp h with h | h
    · subst h; simp
    · have hne : f b ≠ f a := fun e => hn.1 (e ▸ List.mem_map_of_mem h)
      rw [List.find?_cons_of_neg (by simpa using hne)]
      exact find?_key_of_mem_nodup f t a hn.2 h

theorem drop_take_length {α : Type} (l : List α) (n : Nat) : l.drop (l.take n).length = l.drop n := by
  rw [List.length_take]
  rcases Nat.le_total n l.length with h | h
  · rw [Nat.min_eq_left h]
  · rw [Nat.min_eq_right h, List.drop_eq_nil_of_le h, List.drop_eq_nil_of_le (Nat.le_refl _)]

/-- The UTF-8 bytes of a string, character by character. -/
theorem utf8_bytes (s : String) :
    s.toByteArray.data.toList = s.toList.flatMap String.utf8EncodeChar := by
  rw [← String.utf8Encode_toList, List.utf8Encode, List.data_toByteArray, List.toList_toArray]

/-! ### An injective numeric code for strings

The kernel compares numerals much faster than strings; evaluated statements about tables keyed by
names (`Lemmas/VersionsCheck.lean`, `Lemmas/C09Clock.lean`) look the names up through their codes. -/

def codeBytes : List UInt8 → Nat
  | [] => 1
  | c :: cs => c.toNat + 256 * codeBytes cs

/-- Base-256 value of the UTF-8 bytes with a leading 1: injective. -/
def keyCode (s : String) : Nat := codeBytes s.toByteArray.data.toList

theorem codeBytes_pos (l : List UInt8) : 1 ≤ codeBytes l := by
  cases l with
  | nil => simp [codeBytes]
  | cons c cs => have := codeBytes_pos cs; simp only [codeBytes]; omega

theorem codeBytes_inj (l l' : List UInt8) (h : codeBytes l = codeBytes l') : l = l' := by
  induction l generalizing l' with
  | nil =>
    cases l' with
    | nil => rfl
    | cons c cs =>
      have := codeBytes_pos cs
      simp only [codeBytes] at h; omega
  | cons c cs ih =>
    cases l' with
    | nil =>
      have := codeBytes_pos cs
      simp only [codeBytes] at h; omega
    | cons c' cs' =>
      have h1 := UInt8.toNat_lt c
      have h2 := UInt8.toNat_lt c'
      simp only [codeBytes] at h
      have hc : c.toNat = c'.toNat := by omega
      have hr : codeBytes cs = codeBytes cs' := by omega
      rw [UInt8.toNat_inj.1 hc, ih _ hr]

theorem keyCode_inj (s s' : String) (h : keyCode s = keyCode s') : s = s' := by
  have := codeBytes_inj _ _ h
  apply String.toByteArray_inj.1
  obtain ⟨⟨⟨l⟩⟩, _⟩ := s
  obtain ⟨⟨⟨l'⟩⟩, _⟩ := s'
  simp only at this
  subst this
  rfl

/-! ### a checker step shared by the coverage checks over version lists -/

/-- Remove `v` from the front of the first list that starts with it. -/
def popHead (v : Nat) : List (List Nat) → Option (List (List Nat))
  | [] => none
  | [] :: rest => (popHead v rest).map ([] :: ·)
  | (x :: xs) :: rest =>
    if Nat.beq x v then some (xs :: rest) else (popHead v rest).map ((x :: xs) :: ·)

/-- What was popped was in one of the lists, and nothing new has come in. -/
theorem popHead_some (v : Nat) : ∀ (ls ls' : List (List Nat)), popHead v ls = some ls' →
    (∃ l ∈ ls, v ∈ l) ∧ ∀ l' ∈ ls', ∀ x ∈ l', ∃ l ∈ ls, x ∈ l := by
  intro ls
  induction ls with
  | nil => intro ls' h; cases h
  | cons l rest ih =>
    intro ls' h
    cases l with
    | nil =>
      simp only [popHead, Option.map_eq_some_iff] at h
      obtain ⟨r', hr, rfl⟩ := h
      obtain ⟨⟨l, hl, hv⟩, h2⟩ := ih r' hr
      refine ⟨⟨l, List.mem_cons_of_mem _ hl, hv⟩, fun l' hl' x hx => ?_⟩
      rcases List.mem_cons.mp hl' with rfl | hl'
      · cases hx
      · obtain ⟨l, hl, hx⟩ := h2 l' hl' x hx
        exact ⟨l, List.mem_cons_of_mem _ hl, hx⟩
    | cons a tl =>
      simp only [popHead] at h
      split at h
      · next hav =>
        have hav : a = v := Nat.eq_of_beq_eq_true hav
        subst hav
        cases h
        refine ⟨⟨a :: tl, List.mem_cons_self, List.mem_cons_self⟩, fun l' hl' x hx => ?_⟩
        rcases List.mem_cons.mp hl' with rfl | hl'
        · exact ⟨a :: l', List.mem_cons_self, List.mem_cons_of_mem _ hx⟩
        · exact ⟨l', List.mem_cons_of_mem _ hl', hx⟩
      · simp only [Option.map_eq_some_iff] at h
        obtain ⟨r', hr, rfl⟩ := h
        obtain ⟨⟨l, hl, hv⟩, h2⟩ := ih r' hr
        refine ⟨⟨l, List.mem_cons_of_mem _ hl, hv⟩, fun l' hl' x hx => ?_⟩
        rcases List.mem_cons.mp hl' with rfl | hl'
        · exact ⟨a :: tl, List.mem_cons_self, hx⟩
        · obtain ⟨l, hl, hx⟩ := h2 l' hl' x hx
          exact ⟨l, List.mem_cons_of_mem _ hl, hx⟩

end PyCraft
