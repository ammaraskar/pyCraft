import PyCraft.Model.C01Dispatch
import PyCraft.Lemmas.FrameViews
import PyCraft.Lemmas.TypedStream
/-!
Helper lemmas for `Props/C01Dispatch.lean`:

* the dispatching loop is the raw loop of `Model/Frame.lean` followed by `cutDispatch`
  (`readAllWithK_cut`), for ANY stream, cipher, zlib and dispatch function;
* `cutDispatch` on a list all of whose packets dispatch / with a first failing packet;
* one written item dispatches to its expected delivery (`item_facts`);
* decidable equality of `Value` / `Delivered` (for the `decide +kernel` examples and the
  generated probe tables);
* the two option variables against the collapsed `Option Int`.
-/
namespace PyCraft

/-! ### the loop = raw loop, then cut at the first failing dispatch -/

theorem readAllWithFuel_cut {σ δ : Type} (x : StreamXform σ) (z : ZlibOps) (c : Bool)
    (disp : Nat × Bytes → Except Err δ) : ∀ (fuel : Nat) (k : Sock σ),
      (readAllWithFuel x z c disp fuel k).1 =
        cutDispatch disp (readAllFuel x z c fuel k).1.1 (readAllFuel x z c fuel k).1.2 := by
  intro fuel
  induction fuel with
  | zero => intro k; rfl
  | succ fuel ih =>
    intro k
    simp only [readAllWithFuel, readAllFuel, readPacketWithK]
    cases hr : readPacketK x z c k with
    | mk r k' =>
      cases r with
      | error e => simp only [cutDispatch]
      | ok raw =>
        simp only [cutDispatch]
        cases hd : disp raw with
        | error e' => rfl
        | ok d => simp only [ih k']

theorem readAllWithK_cut {σ δ : Type} (x : StreamXform σ) (z : ZlibOps) (c : Bool)
    (disp : Nat × Bytes → Except Err δ) (k : Sock σ) :
    (readAllWithK x z c disp k).1 =
      cutDispatch disp (readAllK x z c k).1.1 (readAllK x z c k).1.2 :=
  readAllWithFuel_cut x z c disp _ k

/-- every packet dispatches (`pds` pairs each raw packet with its delivery): nothing is cut, the
final exception is the raw loop's -/
theorem cutDispatch_all_ok {δ : Type} (disp : Nat × Bytes → Except Err δ) (e : Err) :
    ∀ pds : List ((Nat × Bytes) × δ), (∀ pd ∈ pds, disp pd.1 = .ok pd.2) →
      cutDispatch disp (pds.map (·.1)) e = (pds.map (·.2), e) := by
  intro pds
  induction pds with
  | nil => intro _; rfl
  | cons pd pds ih =>
    intro h
    simp only [List.map_cons, cutDispatch, h pd (by simp), ih (fun q hq => h q (by simp [hq]))]

/-- a first failing packet: what was dispatched before it, and ITS exception -/
theorem cutDispatch_first_error {δ : Type} (disp : Nat × Bytes → Except Err δ) (e e' : Err)
    (bad : Nat × Bytes) (after : List (Nat × Bytes)) (hbad : disp bad = .error e') :
    ∀ pds : List ((Nat × Bytes) × δ), (∀ pd ∈ pds, disp pd.1 = .ok pd.2) →
      cutDispatch disp (pds.map (·.1) ++ bad :: after) e = (pds.map (·.2), e') := by
  intro pds
  induction pds with
  | nil => intro _; simp only [List.map_nil, List.nil_append, cutDispatch, hbad]
  | cons pd pds ih =>
    intro h
    simp only [List.map_cons, List.cons_append, cutDispatch, h pd (by simp),
      ih (fun q hq => h q (by simp [hq]))]

/-! ### the branch against its relational specification -/

theorem dispatchBody_of_dispatches {α : Type} (table : IdTable α) (raw : Nat × Bytes)
    (d : Delivered α) (h : Dispatches table raw d) : dispatchBody table raw = .ok d := by
  rcases h with ⟨h1, rfl⟩ | ⟨rd, v, rest, h1, h2, rfl⟩
  · simp only [dispatchBody, h1]
  · simp only [dispatchBody, h1, h2]

theorem dispatches_of_dispatchBody {α : Type} (table : IdTable α) (raw : Nat × Bytes)
    (d : Delivered α) (h : dispatchBody table raw = .ok d) : Dispatches table raw d := by
  cases ht : table raw.1 with
  | none =>
    simp only [dispatchBody, ht] at h
    injection h with h
    exact .inl ⟨ht, h.symm⟩
  | some rd =>
    cases hr : rd raw.2 with
    | error e => simp only [dispatchBody, ht, hr] at h; cases h
    | ok vr =>
      obtain ⟨v, rest⟩ := vr
      simp only [dispatchBody, ht, hr] at h
      injection h with h
      exact .inr ⟨rd, v, rest, ht, hr, h.symm⟩

theorem dispatchBody_error_of {α : Type} (table : IdTable α) (raw : Nat × Bytes) (rd : BodyReader α)
    (e : Err) (h1 : table raw.1 = some rd) (h2 : rd raw.2 = .error e) :
    dispatchBody table raw = .error e := by
  simp only [dispatchBody, h1, h2]

/-! ### items -/

theorem WItem.rawOf_typed (cc : CustomCodec) (p : TPacket) :
    WItem.rawOf cc (.typed p) = PyCraft.rawOf cc p := rfl

/-- an admissible item is framed without error, passes the frame guard, and its `(id, field bytes)`
dispatches to the expected delivery with NOTHING of the payload left unread (typed) / the whole
field bytes left unread (raw) -/
theorem item_facts (z : ZlibOps) (thr : Option Int) (t : Nat → Option Layout) (i : WItem)
    (h : i.OK z thr t) :
    writeItem realCustom z thr i = .ok (packetFrame z thr (i.rawOf realCustom)) ∧
    FrameOK z thr (i.rawOf realCustom) ∧
    dispatchBody (layoutTable realCustom t) (i.rawOf realCustom) = .ok i.expected := by
  cases i with
  | typed p =>
    obtain ⟨hok, htab⟩ := h
    obtain ⟨hf, hd, hfr⟩ := typedOK_facts z thr p hok
    refine ⟨?_, hfr, ?_⟩
    · exact writeTyped_of_ok realCustom z thr p _ hf
    · rw [WItem.rawOf_typed]
      have h1 : layoutTable realCustom t (PyCraft.rawOf realCustom p).1 =
          some (decodeFields realCustom p.layout) := by
        show (t p.id).map (decodeFields realCustom) = _
        rw [htab]; rfl
      simp only [dispatchBody, h1, hd]
      rfl
  | raw id fields =>
    obtain ⟨hfr, htab⟩ := h
    refine ⟨rfl, hfr, ?_⟩
    have h1 : layoutTable realCustom t id = none := by
      show (t id).map (decodeFields realCustom) = _
      rw [htab]; rfl
    simp only [dispatchBody, WItem.rawOf, h1]
    rfl

theorem writeItems_of_ok (cc : CustomCodec) (z : ZlibOps) (thr : Option Int) :
    ∀ is : List WItem,
      (∀ i ∈ is, writeItem cc z thr i = .ok (packetFrame z thr (i.rawOf cc))) →
      writeItems cc z thr is = .ok ((is.map (WItem.rawOf cc)).map (packetFrame z thr)).flatten := by
  intro is
  induction is with
  | nil => intro _; rfl
  | cons i is ih =>
    intro h
    simp only [writeItems, h i (by simp), ih (fun j hj => h j (by simp [hj])), bind, Except.bind,
      pure, Except.pure]
    simp

instance (z : ZlibOps) (thr : Option Int) (t : Nat → Option Layout) (i : WItem) :
    Decidable (i.OK z thr t) := by
  cases i <;> (unfold WItem.OK; exact inferInstance)

/-! ### decidable equality of values and deliveries -/

mutual
  /-- structural equality test on `Value` (a nested inductive: not derivable) -/
  def Value.eqb : Value → Value → Bool
    | .bool a, .bool b => a == b
    | .int a, .int b => a == b
    | .bytes a, .bytes b => a == b
    | .str a, .str b => a == b
    | .list a, .list b => Value.eqbs a b
    | _, _ => false
  def Value.eqbs : List Value → List Value → Bool
    | [], [] => true
    | a :: as, b :: bs => Value.eqb a b && Value.eqbs as bs
    | _, _ => false
end

mutual
  theorem Value.eqb_sound : ∀ a b : Value, Value.eqb a b = true → a = b
    | .bool a, .bool b, h => by simp only [Value.eqb, beq_iff_eq] at h; rw [h]
    | .int a, .int b, h => by simp only [Value.eqb, beq_iff_eq] at h; rw [h]
    | .bytes a, .bytes b, h => by simp only [Value.eqb, beq_iff_eq] at h; rw [h]
    | .str a, .str b, h => by simp only [Value.eqb, beq_iff_eq] at h; rw [h]
    | .list a, .list b, h => by
      simp only [Value.eqb] at h; rw [Value.eqbs_sound a b h]
    | .bool _, .int _, h | .bool _, .bytes _, h | .bool _, .str _, h | .bool _, .list _, h
    | .int _, .bool _, h | .int _, .bytes _, h | .int _, .str _, h | .int _, .list _, h
    | .bytes _, .bool _, h | .bytes _, .int _, h | .bytes _, .str _, h | .bytes _, .list _, h
    | .str _, .bool _, h | .str _, .int _, h | .str _, .bytes _, h | .str _, .list _, h
    | .list _, .bool _, h | .list _, .int _, h | .list _, .bytes _, h | .list _, .str _, h => by
      simp [Value.eqb] at h
  theorem Value.eqbs_sound : ∀ a b : List Value, Value.eqbs a b = true → a = b
    | [], [], _ => rfl
    | a :: as, b :: bs, h => by
      simp only [Value.eqbs, Bool.and_eq_true] at h
      rw [Value.eqb_sound a b h.1, Value.eqbs_sound as bs h.2]
    | [], _ :: _, h | _ :: _, [], h => by simp [Value.eqbs] at h
end

mutual
  theorem Value.eqb_refl : ∀ a : Value, Value.eqb a a = true
    | .bool _ | .int _ | .bytes _ | .str _ => by simp [Value.eqb]
    | .list a => by simp only [Value.eqb]; exact Value.eqbs_refl a
  theorem Value.eqbs_refl : ∀ a : List Value, Value.eqbs a a = true
    | [] => rfl
    | a :: as => by simp only [Value.eqbs, Value.eqb_refl a, Value.eqbs_refl as, Bool.and_self]
end

instance Value.instDecEqC01Dispatch : DecidableEq Value := fun a b =>
  if h : Value.eqb a b = true then isTrue (Value.eqb_sound a b h)
  else isFalse fun e => h (e ▸ Value.eqb_refl a)

deriving instance DecidableEq for Delivered

/-! ### the options -/

theorem writerThr_isSome (o : ConnOpts) : (writerThr o).isSome = readerFlag o := by
  unfold writerThr readerFlag
  cases o.enabled <;> rfl

theorem writerThr_step (o : ConnOpts) (ev : OptEv) :
    writerThr (o.step ev) = thrSpecStep (writerThr o) ev := by
  cases ev <;> rfl

theorem writerThr_run (evs : List OptEv) : ∀ o : ConnOpts,
    writerThr (o.run evs) = evs.foldl thrSpecStep (writerThr o) := by
  induction evs with
  | nil => intro o; rfl
  | cons ev evs ih =>
    intro o
    simp only [ConnOpts.run, List.foldl_cons] at ih ⊢
    rw [ih (o.step ev), writerThr_step]

end PyCraft
