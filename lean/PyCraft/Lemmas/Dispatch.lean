import PyCraft.Model.Dispatch
/-!
Specification vocabulary and helper lemmas for C13 (packet-listener dispatch) — and the hierarchy
facts shared with C14.
-/
namespace PyCraft

/-! ## The class hierarchy: `isSub` is exactly reflexive-transitive reachability -/

/-- Reflexive-transitive closure of the `(child, parent)` edges. -/
inductive Reach (hier : Hier) : Nat → Nat → Prop
  | refl (c : Nat) : Reach hier c c
  | step {c p d : Nat} : (c, p) ∈ hier → Reach hier p d → Reach hier c d

theorem isSubFuel_self (hier : Hier) (f c : Nat) : isSubFuel hier f c c = true := by
  cases f <;> simp [isSubFuel]

theorem isSubFuel_sound (hier : Hier) : ∀ f c d, isSubFuel hier f c d = true → Reach hier c d := by
  intro f
  induction f with
  | zero =>
    intro c d h
    simp [isSubFuel] at h
    subst h; exact .refl _
  | succ f ih =>
    intro c d h
    simp only [isSubFuel, Bool.or_eq_true, beq_iff_eq, List.any_eq_true, Bool.and_eq_true] at h
    rcases h with h | ⟨⟨a, b⟩, hm, ha, hb⟩
    · subst h; exact .refl _
    · simp at ha; subst ha
      exact .step hm (ih _ _ hb)

theorem isSubFuel_mono {h h' : Hier} (hs : ∀ e ∈ h, e ∈ h') :
    ∀ f f' c d, f ≤ f' → isSubFuel h f c d = true → isSubFuel h' f' c d = true := by
  intro f
  induction f with
  | zero =>
    intro f' c d _ hh
    simp [isSubFuel] at hh
    subst hh; exact isSubFuel_self _ _ _
  | succ f ih =>
    intro f' c d hle hh
    obtain ⟨g, rfl⟩ : ∃ g, f' = g + 1 := ⟨f' - 1, by omega⟩
    simp only [isSubFuel, Bool.or_eq_true, beq_iff_eq, List.any_eq_true, Bool.and_eq_true] at hh ⊢
    rcases hh with hh | ⟨e, hm, ha, hb⟩
    · exact .inl hh
    · exact .inr ⟨e, hs e hm, ha, ih g _ _ (by omega) hb⟩

/-- A path to `d` either avoids the out-edges of `c` altogether or has a suffix that starts with
an out-edge of `c` and then avoids them. -/
theorem reach_avoid (hier : Hier) (c : Nat) {p d : Nat} (h : Reach hier p d) :
    Reach (hier.filter (fun e => e.1 != c)) p d ∨
      ∃ q, (c, q) ∈ hier ∧ Reach (hier.filter (fun e => e.1 != c)) q d := by
  induction h with
  | refl x => exact .inl (.refl _)
  | @step x y z hm _ ih =>
    rcases ih with ih | ih
    · by_cases hx : x = c
      · subst hx; exact .inr ⟨y, hm, ih⟩
      · exact .inl (.step (by simp [List.mem_filter, hm, hx]) ih)
    · exact .inr ih

theorem reach_nil {c d : Nat} (h : Reach [] c d) : c = d := by
  cases h with
  | refl => rfl
  | step hm _ => simp at hm

theorem isSubFuel_complete : ∀ (n : Nat) (hier : Hier) (c d : Nat), hier.length ≤ n →
    Reach hier c d → isSubFuel hier n c d = true := by
  intro n
  induction n with
  | zero =>
    intro hier c d hl h
    have : hier = [] := List.eq_nil_of_length_eq_zero (by omega)
    subst this
    simp [isSubFuel, reach_nil h]
  | succ n ih =>
    intro hier c d hl h
    by_cases hcd : c = d
    · subst hcd; exact isSubFuel_self _ _ _
    · have hq : ∃ q, (c, q) ∈ hier ∧ Reach (hier.filter (fun e => e.1 != c)) q d := by
        rcases reach_avoid hier c h with h' | h'
        · cases h' with
          | refl => exact absurd rfl hcd
          | step hm _ => simp [List.mem_filter] at hm
        · exact h'
      obtain ⟨q, hm, hr⟩ := hq
      have hlt : (hier.filter (fun e => e.1 != c)).length < hier.length := by
        apply List.length_filter_lt_length_iff_exists.mpr
        exact ⟨(c, q), hm, by simp⟩
      have h1 := ih _ q d (by omega) hr
      have h2 := isSubFuel_mono (h := hier.filter (fun e => e.1 != c)) (h' := hier)
        (fun e he => (List.mem_filter.mp he).1) n n q d (Nat.le_refl _) h1
      simp only [isSubFuel, Bool.or_eq_true, beq_iff_eq, List.any_eq_true, Bool.and_eq_true]
      exact .inr ⟨(c, q), hm, by simp, h2⟩

/-- `isSub` decides reachability in the edge relation — for every edge list, cyclic or not. -/
theorem isSub_iff_reach (hier : Hier) (c d : Nat) : isSub hier c d = true ↔ Reach hier c d :=
  ⟨isSubFuel_sound hier _ c d, isSubFuel_complete _ hier c d (Nat.le_refl _)⟩

theorem isSub_refl (hier : Hier) (c : Nat) : isSub hier c c = true := isSubFuel_self _ _ _

theorem isSub_trans (hier : Hier) {a b c : Nat} (h1 : isSub hier a b = true)
    (h2 : isSub hier b c = true) : isSub hier a c = true := by
  rw [isSub_iff_reach] at *
  induction h1 with
  | refl => exact h2
  | step hm _ ih => exact .step hm (ih h2)

theorem isSub_edge (hier : Hier) {c p : Nat} (h : (c, p) ∈ hier) : isSub hier c p = true :=
  (isSub_iff_reach _ _ _).mpr (.step h (.refl _))

/-- A listener matches a packet class iff one of its registered types is the class or a superclass
of it. -/
def Listener.matches (hier : Hier) (l : Listener) (pktClass : Nat) : Bool :=
  l.types.any (fun t => isSub hier pktClass t)

/-- Keep everything up to AND INCLUDING the first element satisfying `p`. -/
def cutAfterFirst {α : Type} (p : α → Bool) (xs : List α) : List α :=
  xs.takeWhile (fun x => !p x) ++ (xs.find? p).toList

/-- The matching listeners of one stage, in registration order, each with its `ignores` flag. -/
def stage {ε : Type} (hier : Hier) (tag : Nat → ε) (pktClass : Nat) (ls : List Listener) :
    List (ε × Bool) :=
  (ls.filter (fun l => l.matches hier pktClass)).map (fun l => (tag l.id, l.ignores))

/-- Documented call sequence for an incoming packet before truncation. -/
def stagesIn (hier : Hier) (early ordinary : List Listener) (reactionIgnores : Bool)
    (pktClass : Nat) : List (Ev × Bool) :=
  stage hier Ev.early pktClass early ++ [(Ev.reaction, reactionIgnores)] ++
    stage hier Ev.ordinary pktClass ordinary

/-- Specification of `_react`: the documented sequence cut just after the first ignoring call. -/
def specIncoming (hier : Hier) (early ordinary : List Listener) (reactionIgnores : Bool)
    (pktClass : Nat) : List Ev × Bool :=
  let s := stagesIn hier early ordinary reactionIgnores pktClass
  ((cutAfterFirst (fun x => x.2) s).map (fun x => x.1), s.any (fun x => x.2))

/-- Documented call sequence for an outgoing packet before truncation (the write never ignores). -/
def stagesOut (hier : Hier) (earlyOut ordOut : List Listener) (pktClass : Nat) :
    List (OutEv × Bool) :=
  stage hier OutEv.earlyOut pktClass earlyOut ++ [(OutEv.written, false)] ++
    stage hier OutEv.ordOut pktClass ordOut

def specOutgoing (hier : Hier) (earlyOut ordOut : List Listener) (pktClass : Nat) : List OutEv :=
  (cutAfterFirst (fun x => x.2) (stagesOut hier earlyOut ordOut pktClass)).map (fun x => x.1)

/-- Which of the four lists a registration goes to. -/
inductive Slot
  | ordinary | early | outgoing | earlyOutgoing
deriving Repr, DecidableEq

/-- Documented table `(early, outgoing) ↦ list`. -/
def slotOf : Bool → Bool → Slot
  | false, false => .ordinary
  | true, false => .early
  | false, true => .outgoing
  | true, true => .earlyOutgoing

def Cfg.get (cfg : Cfg) : Slot → List Listener
  | .ordinary => cfg.packetListeners
  | .early => cfg.earlyPacketListeners
  | .outgoing => cfg.outgoingPacketListeners
  | .earlyOutgoing => cfg.earlyOutgoingPacketListeners

theorem callPacketLoop_eq (hier : Hier) (ign : Bool) (c : Nat) (ts : List Nat) :
    callPacketLoop hier ign c ts =
      if ts.any (fun t => isSub hier c t) then (true, ign) else (false, false) := by
  induction ts with
  | nil => simp [callPacketLoop]
  | cons t ts ih =>
    simp only [callPacketLoop, List.any_cons]
    by_cases h : isSub hier c t = true
    · simp [h]
    · simp [h, ih]

theorem callPacket_eq (hier : Hier) (l : Listener) (c : Nat) :
    callPacket hier l c = if l.matches hier c then (true, l.ignores) else (false, false) := by
  simp [callPacket, callPacketLoop_eq, Listener.matches]

theorem cutAfterFirst_nil {α : Type} (p : α → Bool) : cutAfterFirst p [] = [] := by
  simp [cutAfterFirst]

theorem cutAfterFirst_cons {α : Type} (p : α → Bool) (x : α) (xs : List α) :
    cutAfterFirst p (x :: xs) = if p x then [x] else x :: cutAfterFirst p xs := by
  by_cases h : p x = true <;> simp [cutAfterFirst, List.takeWhile, List.find?, h]

theorem cutAfterFirst_append {α : Type} (p : α → Bool) (a b : List α) :
    cutAfterFirst p (a ++ b) =
      if a.any p then cutAfterFirst p a else a ++ cutAfterFirst p b := by
  induction a with
  | nil => simp
  | cons x a ih =>
    simp only [List.cons_append, cutAfterFirst_cons, List.any_cons]
    by_cases h : p x = true
    · simp [h]
    · simp only [h, Bool.false_eq_true, ↓reduceIte, ih, Bool.false_or]
      split <;> rfl

theorem cutAfterFirst_of_not_any {α : Type} (p : α → Bool) (a : List α) (h : a.any p = false) :
    cutAfterFirst p a = a := by
  induction a with
  | nil => exact cutAfterFirst_nil _
  | cons x a ih =>
    simp only [List.any_cons, Bool.or_eq_false_iff] at h
    simp [cutAfterFirst_cons, h.1, ih h.2]

theorem cutAfterFirst_sublist {α : Type} (p : α → Bool) (xs : List α) :
    (cutAfterFirst p xs).Sublist xs := by
  induction xs with
  | nil => exact .slnil
  | cons x xs ih =>
    rw [cutAfterFirst_cons]
    split
    · exact (List.nil_sublist xs).cons_cons x
    · exact ih.cons_cons x

section Loop
variable {ε : Type} (hier : Hier) (tag : Nat → ε) (c : Nat) (ls : List Listener)

/-- The listener loop computes: matching listeners in order, cut after the first ignoring one. -/
theorem runListeners_eq :
    runListeners hier tag c ls =
      ((cutAfterFirst (fun x => x.2) (stage hier tag c ls)).map (fun x => x.1),
        (stage hier tag c ls).any (fun x => x.2)) := by
  induction ls with
  | nil => simp [runListeners, stage, cutAfterFirst_nil]
  | cons l ls ih =>
    simp only [runListeners, callPacket_eq]
    by_cases hm : l.matches hier c = true
    · by_cases hi : l.ignores = true
      · simp [hm, hi, stage, cutAfterFirst_cons]
      · simp only [Bool.not_eq_true] at hi
        simp only [hm, hi, ↓reduceIte, ih]
        simp [stage, hm, hi, cutAfterFirst_cons]
    · simp only [Bool.not_eq_true] at hm
      simp only [hm, Bool.false_eq_true, ↓reduceIte, ih]
      simp [stage, hm]

theorem stage_any :
    (stage hier tag c ls).any (fun x => x.2) = true ↔
      ∃ l ∈ ls, l.matches hier c = true ∧ l.ignores = true := by
  simp [stage, List.any_eq_true]

theorem runListeners_ignored :
    (runListeners hier tag c ls).2 = true ↔
      ∃ l ∈ ls, l.matches hier c = true ∧ l.ignores = true := by
  rw [runListeners_eq]; exact stage_any hier tag c ls

theorem runListeners_not_ignored :
    (runListeners hier tag c ls).2 = false ↔
      ∀ l ∈ ls, l.matches hier c = true → l.ignores = false := by
  rw [← Bool.not_eq_true, runListeners_ignored]
  simp

/-- Every log entry is the tag of a matching listener of the list. -/
theorem runListeners_log_mem (x : ε) (h : x ∈ (runListeners hier tag c ls).1) :
    ∃ l ∈ ls, l.matches hier c = true ∧ x = tag l.id := by
  induction ls with
  | nil => simp [runListeners] at h
  | cons l ls ih =>
    simp only [runListeners, callPacket_eq] at h
    by_cases hm : l.matches hier c = true
    · by_cases hi : l.ignores = true
      · simp only [hm, hi, ↓reduceIte, List.mem_singleton] at h
        exact ⟨l, by simp, hm, h⟩
      · simp only [Bool.not_eq_true] at hi
        simp only [hm, hi, ↓reduceIte, List.mem_cons] at h
        rcases h with h | h
        · exact ⟨l, by simp, hm, h⟩
        · obtain ⟨l', h1, h2⟩ := ih h
          exact ⟨l', by simp [h1], h2⟩
    · simp only [Bool.not_eq_true] at hm
      simp only [hm, Bool.false_eq_true, ↓reduceIte] at h
      obtain ⟨l', h1, h2⟩ := ih h
      exact ⟨l', by simp [h1], h2⟩

/-- The listener at a given position is called iff it matches and no earlier matching listener of
the same loop ignored. -/
theorem mem_runListeners {ε : Type} (hier : Hier) (tag : Nat → ε)
    (hinj : ∀ a b, tag a = tag b → a = b) (c : Nat) (l : Listener) (post : List Listener) :
    ∀ (pre : List Listener), ((pre ++ l :: post).map (·.id)).Nodup →
      (tag l.id ∈ (runListeners hier tag c (pre ++ l :: post)).1 ↔
        l.matches hier c = true ∧ ∀ l' ∈ pre, l'.matches hier c = true → l'.ignores = false) := by
  intro pre
  induction pre with
  | nil =>
    intro hd
    simp only [List.nil_append, List.map_cons, List.nodup_cons, List.mem_map, not_exists,
      not_and] at hd
    have hnot : tag l.id ∉ (runListeners hier tag c post).1 := by
      intro hmem
      obtain ⟨l', h1, _, h3⟩ := runListeners_log_mem hier tag c post _ hmem
      exact hd.1 l' h1 (hinj _ _ h3).symm
    simp only [List.nil_append, runListeners, callPacket_eq]
    by_cases hm : l.matches hier c = true
    · by_cases hi : l.ignores = true
      · simp [hm, hi]
      · simp only [Bool.not_eq_true] at hi
        simp [hm, hi]
    · simp only [Bool.not_eq_true] at hm
      simp [hm, hnot]
  | cons a pre ih =>
    intro hd
    simp only [List.cons_append, List.map_cons, List.nodup_cons, List.mem_map, not_exists,
      not_and] at hd
    have hne : tag l.id ≠ tag a.id := by
      intro h
      exact hd.1 l (by simp) (hinj _ _ h)
    have ih' := ih hd.2
    simp only [List.cons_append, runListeners, callPacket_eq]
    by_cases hm : a.matches hier c = true
    · by_cases hi : a.ignores = true
      · simp only [hm, hi, ↓reduceIte, List.mem_singleton, hne, false_iff, not_and]
        intro _ hall
        have := hall a (by simp) hm
        simp [hi] at this
      · simp only [Bool.not_eq_true] at hi
        simp only [hm, hi, ↓reduceIte, List.mem_cons, hne, false_or, ih']
        simp [hm, hi]
    · simp only [Bool.not_eq_true] at hm
      simp only [hm, Bool.false_eq_true, ↓reduceIte, ih']
      simp [hm]

/-- Unconditional count bound for an entry that no listener can produce. -/
theorem not_mem_runListeners_of_tag (x : ε) (hx : ∀ i, x ≠ tag i) :
    x ∉ (runListeners hier tag c ls).1 := by
  intro h
  obtain ⟨l, _, _, h3⟩ := runListeners_log_mem hier tag c ls x h
  exact hx _ h3

end Loop

section Stages
variable (hier : Hier) (early ordinary : List Listener) (rIgn : Bool) (c : Nat)

theorem reactIncoming_log :
    (reactIncoming hier early ordinary rIgn c).1 =
      (runListeners hier Ev.early c early).1 ++
        (if (runListeners hier Ev.early c early).2 then []
         else Ev.reaction ::
           (if rIgn then [] else (runListeners hier Ev.ordinary c ordinary).1)) := by
  unfold reactIncoming
  generalize runListeners hier Ev.early c early = r1
  obtain ⟨l1, b1⟩ := r1
  cases b1 <;> cases rIgn <;> simp

theorem reactIncoming_ignored :
    (reactIncoming hier early ordinary rIgn c).2 =
      ((runListeners hier Ev.early c early).2 || rIgn ||
        (runListeners hier Ev.ordinary c ordinary).2) := by
  unfold reactIncoming
  generalize runListeners hier Ev.early c early = r1
  obtain ⟨l1, b1⟩ := r1
  cases b1 <;> cases rIgn <;> simp

theorem mem_reactIncoming_early (i : Nat) :
    Ev.early i ∈ (reactIncoming hier early ordinary rIgn c).1 ↔
      Ev.early i ∈ (runListeners hier Ev.early c early).1 := by
  have h := not_mem_runListeners_of_tag hier Ev.ordinary c ordinary (Ev.early i) (by simp)
  rw [reactIncoming_log]
  generalize runListeners hier Ev.early c early = r1 at *
  obtain ⟨l1, b1⟩ := r1
  cases b1 <;> cases rIgn <;> simp [h]

theorem mem_reactIncoming_reaction :
    Ev.reaction ∈ (reactIncoming hier early ordinary rIgn c).1 ↔
      (runListeners hier Ev.early c early).2 = false := by
  have h := not_mem_runListeners_of_tag hier Ev.early c early Ev.reaction (by simp)
  rw [reactIncoming_log]
  generalize runListeners hier Ev.early c early = r1 at *
  obtain ⟨l1, b1⟩ := r1
  cases b1 <;> cases rIgn <;> simp_all

theorem mem_reactIncoming_ordinary (i : Nat) :
    Ev.ordinary i ∈ (reactIncoming hier early ordinary rIgn c).1 ↔
      (runListeners hier Ev.early c early).2 = false ∧ rIgn = false ∧
        Ev.ordinary i ∈ (runListeners hier Ev.ordinary c ordinary).1 := by
  have h := not_mem_runListeners_of_tag hier Ev.early c early (Ev.ordinary i) (by simp)
  rw [reactIncoming_log]
  generalize runListeners hier Ev.early c early = r1 at *
  obtain ⟨l1, b1⟩ := r1
  cases b1 <;> cases rIgn <;> simp_all

end Stages

theorem count_eq_one_iff_mem {α : Type} [DecidableEq α] {l : List α} (hn : l.Nodup) (a : α) :
    l.count a = 1 ↔ a ∈ l := by
  rw [hn.count]; split <;> simp [*]

theorem writeOutgoing_log (hier : Hier) (earlyOut ordOut : List Listener) (c : Nat) :
    writeOutgoing hier earlyOut ordOut c =
      (runListeners hier OutEv.earlyOut c earlyOut).1 ++
        (if (runListeners hier OutEv.earlyOut c earlyOut).2 then []
         else OutEv.written :: (runListeners hier OutEv.ordOut c ordOut).1) := by
  unfold writeOutgoing
  generalize runListeners hier OutEv.earlyOut c earlyOut = r1
  obtain ⟨l1, b1⟩ := r1
  cases b1 <;> simp

/-- `_react` is its specification: the documented sequence cut after the first ignoring call. -/
theorem reactIncoming_eq_spec (hier : Hier) (early ordinary : List Listener) (rIgn : Bool)
    (c : Nat) :
    reactIncoming hier early ordinary rIgn c = specIncoming hier early ordinary rIgn c := by
  simp only [reactIncoming, specIncoming, stagesIn, runListeners_eq]
  by_cases hA : (stage hier Ev.early c early).any (fun x => x.2) = true
  · simp [cutAfterFirst_append, hA]
  · simp only [Bool.not_eq_true] at hA
    cases rIgn <;>
      simp [cutAfterFirst_append, hA, cutAfterFirst_cons, cutAfterFirst_of_not_any _ _ hA]

theorem writeOutgoing_eq_spec (hier : Hier) (earlyOut ordOut : List Listener) (c : Nat) :
    writeOutgoing hier earlyOut ordOut c = specOutgoing hier earlyOut ordOut c := by
  simp only [writeOutgoing, specOutgoing, stagesOut, runListeners_eq]
  by_cases hA : (stage hier OutEv.earlyOut c earlyOut).any (fun x => x.2) = true
  · simp [cutAfterFirst_append, hA]
  · simp only [Bool.not_eq_true] at hA
    simp [cutAfterFirst_append, hA, cutAfterFirst_cons, cutAfterFirst_of_not_any _ _ hA]

/-- With distinct listener ids (and an injective tag) no tag of a stage repeats. -/
theorem stage_tags_nodup {ε : Type} (hier : Hier) (tag : Nat → ε)
    (hinj : ∀ a b, tag a = tag b → a = b) (c : Nat) (ls : List Listener)
    (hd : (ls.map (·.id)).Nodup) : ((stage hier tag c ls).map (·.1)).Nodup := by
  have h1 : ((ls.filter (fun l => l.matches hier c)).map (·.id)).Nodup :=
    hd.sublist (List.filter_sublist.map _)
  have : (((ls.filter (fun l => l.matches hier c)).map (·.id)).map tag).Nodup :=
    List.Pairwise.map tag (fun a b hne heq => hne (hinj a b heq)) h1
  rw [List.map_map] at this
  rw [stage, List.map_map]
  exact this

theorem reactIncoming_nodup (hier : Hier) (early ordinary : List Listener) (rIgn : Bool) (c : Nat)
    (hE : (early.map (·.id)).Nodup) (hO : (ordinary.map (·.id)).Nodup) :
    (reactIncoming hier early ordinary rIgn c).1.Nodup := by
  have h1 := stage_tags_nodup hier Ev.early (by intro a b h; cases h; rfl) c early hE
  have h2 := stage_tags_nodup hier Ev.ordinary (by intro a b h; cases h; rfl) c ordinary hO
  -- the log is an initial part of the documented sequence, whose tags are all different
  rw [reactIncoming_eq_spec]
  refine List.Nodup.sublist ((cutAfterFirst_sublist _ _).map _) ?_
  simp only [stagesIn, List.map_append, List.map_cons, List.map_nil, List.nodup_append,
    List.nodup_cons, List.not_mem_nil, not_false_eq_true, List.nodup_nil, and_self, h1, h2,
    true_and]
  simp only [stage, List.map_map, List.mem_map, List.mem_filter, Function.comp_apply, List.mem_cons,
    List.not_mem_nil, or_false, ne_eq, forall_eq, forall_exists_index, and_imp, List.mem_append]
  -- tags of different stages differ in their constructor
  constructor
  · rintro _ x _ _ rfl h; cases h
  · rintro _ (⟨x, _, rfl⟩ | rfl) _ y _ _ rfl h <;> cases h

theorem register_get (cfg : Cfg) (l : Listener) (early outgoing : Bool) (s : Slot) :
    (register cfg l early outgoing).get s =
      if s = slotOf early outgoing then cfg.get s ++ [l] else cfg.get s := by
  cases early <;> cases outgoing <;> cases s <;> simp [register, slotOf, Cfg.get]

theorem registerAll_get (rs : List Reg) : ∀ (cfg : Cfg) (s : Slot),
    (registerAll cfg rs).get s =
      cfg.get s ++ (rs.filter (fun r => slotOf r.early r.outgoing == s)).map (·.l) := by
  induction rs with
  | nil => intro cfg s; simp [registerAll]
  | cons r rs ih =>
    intro cfg s
    have := ih (register cfg r.l r.early r.outgoing) s
    simp only [registerAll, List.foldl_cons] at this ⊢
    rw [this, register_get]
    by_cases h : s = slotOf r.early r.outgoing
    · subst h; simp
    · have h' : (slotOf r.early r.outgoing == s) = false := by
        simp only [beq_eq_false_iff_ne, ne_eq]; exact fun e => h e.symm
      simp [h, h']

theorem cfg_ext (a b : Cfg) (h : ∀ s, a.get s = b.get s) : a = b := by
  cases a; cases b
  have h1 := h .ordinary; have h2 := h .early; have h3 := h .outgoing; have h4 := h .earlyOutgoing
  simp only [Cfg.get] at h1 h2 h3 h4
  simp [h1, h2, h3, h4]

theorem runHistory_eq_map (hier : Hier) (early ordinary : List Listener) (rI : Nat → Bool)
    (hist : List Nat) :
    runHistory hier early ordinary rI hist =
      hist.map (fun c => reactIncoming hier early ordinary (rI c) c) := by
  induction hist with
  | nil => rfl
  | cons c cs ih => simp [runHistory, ih]

theorem runOutHistory_eq_map (hier : Hier) (earlyOut ordOut : List Listener) (hist : List Nat) :
    runOutHistory hier earlyOut ordOut hist = hist.map (writeOutgoing hier earlyOut ordOut) := by
  induction hist with
  | nil => rfl
  | cons c cs ih => simp [runOutHistory, ih]

end PyCraft
