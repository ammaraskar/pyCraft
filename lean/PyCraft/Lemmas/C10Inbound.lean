import PyCraft.Model.C10Inbound
import PyCraft.Generated.C10Inbound
import PyCraft.Lemmas.LoginWire
import PyCraft.Lemmas.HandshakeWire
/-!
Lemmas for `Props/C10Inbound.lean`.  The invariant of the client's read loop in step with the server
(`readTick_sync`, `run_sync`) is: what is still ahead of the file object, seen through the wrappers
installed NOW, is the server's remaining stream under the threshold in force NOW — installing a
wrapper decrypts the view ahead once more, and the framing reader never changes the number of
wrappers.  Whatever arrives, the byte-level client refines the login model (`run_refines`).  The
rest: the regular schedule, the shape of the server's stream, the seeded client faults, the profile
of a row of the generated table, one-pass checkers for the version lists (`interleaved`, `subseq`) and the
parameters of the examples.
-/
namespace PyCraft.LoginIn
open PyCraft PyCraft.Login PyCraft.LoginWire

/-! ## the wrappers -/

theorem layersDec_snoc (E : Bytes → Bytes) (regs : List Bytes) (s b : Bytes) :
    layersDec E (regs ++ [s]) b =
      ((layersDec E regs b).1 ++ [(cfb8Dec E s (layersDec E regs b).2).1],
        (cfb8Dec E s (layersDec E regs b).2).2) := by
  induction regs generalizing b with
  | nil => simp [layersDec]
  | cons r rs ih => simp [layersDec, ih]

/-- Through a freshly installed wrapper the view ahead is the old view, CFB8-decrypted from
register = secret. -/
theorem ahead_wrapFile (E : Bytes → Bytes) (k : FileObj) (sec : Bytes) :
    ahead (layersX E) (wrapFile k sec) = (cfb8Dec E sec (ahead (layersX E) k)).2 := by
  simp [ahead, wrapFile, layersX, layersDec_snoc]

theorem layersDec_regs_length (E : Bytes → Bytes) (regs : List Bytes) (b : Bytes) :
    (layersDec E regs b).1.length = regs.length := by
  induction regs generalizing b with
  | nil => rfl
  | cons r rs ih => simp [layersDec, ih]

/-- `read_packet` never installs or removes a wrapper. -/
theorem readPacketK_layers (E : Bytes → Bytes) (z : ZlibOps) (c : Bool) (k : FileObj) :
    (readPacketK (layersX E) z c k).2.st.length = k.st.length :=
  readPacketK_st (layersX E) (fun st => st.length = k.st.length)
    (fun s b hs => by show (layersDec E s b).1.length = _; rw [layersDec_regs_length]; exact hs)
    z c k rfl

/-! ## field level -/

theorem distinct_facts (C : CbProfile) (h : C.distinct = true) :
    C.disconnect ≠ C.encRequest ∧ C.disconnect ≠ C.success ∧ C.disconnect ≠ C.setCompression ∧
    C.encRequest ≠ C.success ∧ C.encRequest ≠ C.setCompression ∧ C.success ≠ C.setCompression ∧
    ∀ q, C.pluginRequest = some q →
      q ≠ C.disconnect ∧ q ≠ C.encRequest ∧ q ≠ C.success ∧ q ≠ C.setCompression := by
  have h' : (C.disconnect :: C.encRequest :: C.success :: C.setCompression ::
      C.pluginRequest.toList).Nodup := of_decide_eq_true h
  simp only [List.nodup_cons, List.mem_cons, Option.mem_toList, not_or] at h'
  obtain ⟨⟨a, b, c, d⟩, ⟨e, f, g⟩, ⟨i, j⟩, k, -⟩ := h'
  exact ⟨a, b, c, e, f, i, fun q hq =>
    ⟨fun hh => d (hh ▸ hq), fun hh => g (hh ▸ hq), fun hh => j (hh ▸ hq), fun hh => k (hh ▸ hq)⟩⟩

theorem readUuid_ok (b more : Bytes) (h : b.length = 16) :
    readUuid (b ++ more) = .ok (b, more) := by
  unfold readUuid
  have : ¬ (b ++ more).length < 16 := by rw [List.length_append]; omega
  rw [if_neg this, ← h, List.take_left', List.drop_left'] <;> rfl

theorem readString_enc_nil (s : String) (h : (utf8 s).length < 2 ^ 42) :
    HsWire.readString (HsWire.encString s) = .ok (s, []) := by
  have := HsWire.readString_enc s [] h
  rwa [List.append_nil] at this

/-- Every `read` of the clientbound login classes inverts what a server writes. -/
theorem clientDecode_srvFields (C : CbProfile) (hC : C.distinct = true) (p : SrvPkt)
    (hwf : p.wf C = true) : clientDecode C (srvFields C p) = .ok p.ev := by
  obtain ⟨hde, hds, hdc, hes, hec, hsc, hplug⟩ := distinct_facts C hC
  cases p with
  | disconnect j =>
    simp only [SrvPkt.wf, decide_eq_true_eq] at hwf
    simp [clientDecode, srvFields, readDisconnect, readString_enc_nil j hwf, SrvPkt.ev, Except.map]
  | encRequest sid pk tok =>
    simp only [SrvPkt.wf, Bool.and_eq_true, decide_eq_true_eq] at hwf
    obtain ⟨⟨h1, h2⟩, h3⟩ := hwf
    have e3 := readPrefixedArray_ok tok [] h3
    rw [List.append_nil] at e3
    simp [clientDecode, srvFields, readEncRequest, HsWire.readString_enc sid _ h1,
      readPrefixedArray_ok pk _ h2, e3, SrvPkt.ev, Except.map, hde.symm]
  | success u name =>
    cases u with
    | str s =>
      simp only [SrvPkt.wf, Bool.and_eq_true, decide_eq_true_eq, Bool.not_eq_true'] at hwf
      obtain ⟨⟨h1, h2⟩, h3⟩ := hwf
      simp [clientDecode, srvFields, readSuccess, UuidField.bytes, h1,
        HsWire.readString_enc s _ h2, readString_enc_nil name h3, SrvPkt.ev, Except.map,
        hds.symm, hes.symm]
    | bin b =>
      simp only [SrvPkt.wf, Bool.and_eq_true, decide_eq_true_eq] at hwf
      obtain ⟨⟨h1, h2⟩, h3⟩ := hwf
      simp [clientDecode, srvFields, readSuccess, UuidField.bytes, h1,
        readUuid_ok b _ h2, readString_enc_nil name h3, SrvPkt.ev, Except.map,
        hds.symm, hes.symm]
  | setCompression t =>
    simp only [SrvPkt.wf, decide_eq_true_eq] at hwf
    have := decVarInt_enc t [] hwf
    rw [List.append_nil] at this
    simp [clientDecode, srvFields, readSetCompression, this, SrvPkt.ev, Except.map,
      hdc.symm, hec.symm, hsc.symm]
  | pluginRequest i ch d =>
    simp only [SrvPkt.wf, Bool.and_eq_true, decide_eq_true_eq] at hwf
    obtain ⟨⟨h1, h2⟩, h3⟩ := hwf
    obtain ⟨q, hq⟩ := Option.isSome_iff_exists.mp h1
    obtain ⟨q1, q2, q3, q4⟩ := hplug q hq
    simp [clientDecode, srvFields, readPluginRequest, hq, decVarInt_enc i _ h2,
      HsWire.readString_enc ch _ h3, SrvPkt.ev, Except.map, q1, q2, q3, q4]
  | unknown pid d =>
    simp only [SrvPkt.wf, CbProfile.ids, Bool.not_eq_true', List.contains_eq_mem,
      decide_eq_false_iff_not, List.mem_append, List.mem_cons, List.not_mem_nil, or_false,
      Option.mem_toList, not_or] at hwf
    obtain ⟨⟨h1, h2, h3, h4⟩, h5⟩ := hwf
    have h5' : ¬ C.pluginRequest = some pid := h5
    simp [clientDecode, srvFields, h1, h2, h3, h4, h5', SrvPkt.ev]

section
variable (P : LoginParams) (z : ZlibOps) (E : Bytes → Bytes) (C : CbProfile)

/-! ## packets, events and the login state -/

theorem reading_eq (s : InState) : s.reading = (s.ioErr.isNone && s.cs.alive) := by
  simp [InState.reading, ClientState.alive, Bool.and_assoc]

theorem react_threshold (cs : ClientState) (p : SrvPkt) (e : LoginEv)
    (h : p.ev = some e) : (react P cs e).threshold = thrAfter cs.threshold p := by
  rw [react_eq]
  cases p <;> simp only [SrvPkt.ev, Option.some.injEq, reduceCtorEq] at h <;> subst h <;> rfl

theorem step_flush_facts (cs : ClientState) :
    (step P cs .flush).threshold = cs.threshold ∧ (step P cs .flush).alive = cs.alive ∧
      (step P cs .flush).encrypted = cs.encrypted := by
  simp only [step]
  split <;> simp [ClientState.flushQueue, ClientState.alive]

theorem ev_isEncRequest (p : SrvPkt) (e : LoginEv) (h : p.ev = some e) :
    e.isEncRequest = p.isEncRequest := by
  cases p <;> simp only [SrvPkt.ev, Option.some.injEq, reduceCtorEq] at h <;> subst h <;> rfl

theorem ev_isTerminal (p : SrvPkt) (e : LoginEv) (h : p.ev = some e) :
    e.isTerminal = p.isTerminal := by
  cases p <;> simp only [SrvPkt.ev, Option.some.injEq, reduceCtorEq] at h <;> subst h <;> rfl

theorem ev_none (p : SrvPkt) (h : p.ev = none) :
    p.isEncRequest = false ∧ p.isTerminal = false ∧ ∀ thr, thrAfter thr p = thr := by
  cases p <;> simp [SrvPkt.ev] at h
  exact ⟨rfl, rfl, fun _ => rfl⟩

/-- The login state after the read tick that delivers `p`. -/
def after (s : InState) (p : SrvPkt) : ClientState :=
  match p.ev with
  | some e => react P s.cs e
  | none => s.cs

theorem after_threshold (s : InState) (p : SrvPkt) :
    (after P s p).threshold = thrAfter s.cs.threshold p := by
  unfold after
  cases h : p.ev with
  | none => exact ((ev_none p h).2.2 _).symm
  | some e => exact react_threshold P s.cs p e h

/-- How the state after delivering `p` relates to `Login.step` and to liveness. -/
theorem after_facts (s : InState) (p : SrvPkt) (ha : s.cs.alive = true) :
    exec P s.cs (match p.ev with | some e => [Step.recv e] | none => []) = after P s p ∧
      ((after P s p).alive = !p.isTerminal) := by
  unfold after
  cases hev : p.ev with
  | none =>
    obtain ⟨-, n2, -⟩ := ev_none p hev
    simp [exec_nil, ha, n2]
  | some e =>
    have ht := ev_isTerminal p e hev
    refine ⟨by simp only [exec_cons, exec_nil, step_recv_alive P s.cs e ha], ?_⟩
    cases hpt : p.isTerminal with
    | true => simpa using alive_after_terminal P s.cs e (by rw [ht, hpt])
    | false => simpa using alive_react P s.cs e ha (by rw [ht, hpt])

theorem react_encrypted (cs : ClientState) (e : LoginEv) :
    (react P cs e).encrypted = (cs.encrypted || e.isEncRequest) := by
  rw [react_eq]

end

/-! ## one read tick in step with the server -/

theorem srvStream_cons (z : ZlibOps) (E : Bytes → Bytes) (sec : Bytes) (C : CbProfile)
    (thr : Option Int) (p : SrvPkt) (rest : List SrvPkt) :
    srvStream z E sec C thr (p :: rest) = packetFrame z thr (srvFields C p) ++
      (if p.isEncRequest then (cfb8Enc E sec (srvStream z E sec C (thrAfter thr p) rest)).2
       else srvStream z E sec C (thrAfter thr p) rest) := rfl

/-- The packet is delivered to `_react`, and what is still ahead — through the wrappers now
installed — is the server's remaining stream under the threshold now in force. -/
theorem readTick_sync (P : LoginParams) (z : Zlib) (E : Bytes → Bytes) (C : CbProfile)
    (hC : C.distinct = true) (s : InState) (p : SrvPkt) (rest : List SrvPkt)
    (hr : s.reading = true) (hwf : p.wf C = true)
    (hok : FrameOK z.toZlibOps s.cs.threshold (srvFields C p))
    (ha : ahead (layersX E) s.file =
      srvStream z.toZlibOps E P.secret C s.cs.threshold (p :: rest)) :
    let r := readTick P z.toZlibOps E C s
    r.cs = after P s p ∧ r.seen = s.seen ++ p.ev.toList ∧ r.ioErr = s.ioErr ∧
      ahead (layersX E) r.file =
        srvStream z.toZlibOps E P.secret C (thrAfter s.cs.threshold p) rest ∧
      r.file.st.length = s.file.st.length + (if p.isEncRequest then 1 else 0) := by
  intro r
  rw [srvStream_cons] at ha
  obtain ⟨k', e1, e2⟩ := readPacketK_packetFrame (layersX E) z _ _ _ s.file hok ha
  have hlen := readPacketK_layers E z.toZlibOps s.cs.threshold.isSome s.file
  rw [e1] at hlen
  have hr' : r = deliver P s k' p.ev := by
    show readTick P z.toZlibOps E C s = _
    unfold readTick
    rw [if_pos hr, e1]
    simp only [clientDecode_srvFields C hC p hwf]
  rw [hr']
  cases hev : p.ev with
  | none =>
    obtain ⟨n1, -, -⟩ := ev_none p hev
    simp only [deliver, after, hev, Option.toList, List.append_nil, n1, Bool.false_eq_true,
      if_false, Nat.add_zero]
    refine ⟨trivial, trivial, trivial, ?_, hlen⟩
    rw [e2, n1]; simp
  | some e =>
    have he := ev_isEncRequest p e hev
    simp only [deliver, after, hev, Option.toList]
    refine ⟨trivial, trivial, trivial, ?_, ?_⟩
    · rw [he]
      cases hpe : p.isEncRequest with
      | false => simp only [Bool.false_eq_true, if_false]; rw [e2, hpe]; simp
      | true =>
        simp only [if_true]
        rw [ahead_wrapFile, e2, hpe]
        simp only [if_true]
        exact (cfb8Dec_enc E P.secret _).1
    · rw [he]
      cases hpe : p.isEncRequest with
      | false => simpa using hlen
      | true => simp [wrapFile, hlen]

/-! ## the loop -/

theorem run_nil (P : LoginParams) (z : ZlibOps) (E : Bytes → Bytes) (C : CbProfile) (s : InState) :
    run P z E C [] s = s := rfl

theorem run_cons (P : LoginParams) (z : ZlibOps) (E : Bytes → Bytes) (C : CbProfile) (s : InState)
    (t : Tick) (ts : List Tick) : run P z E C (t :: ts) s = run P z E C ts (tick P z E C s t) := rfl

theorem cut_cons (p : SrvPkt) (todo : List SrvPkt) (h : cutScript (p :: todo) = p :: todo) :
    (p.isTerminal = true → todo = []) ∧ cutScript todo = todo := by
  unfold cutScript at h
  by_cases hp : p.isTerminal = true
  · simp only [hp, if_true, List.cons.injEq, true_and] at h
    subst h; exact ⟨fun _ => rfl, rfl⟩
  · simp only [hp, Bool.false_eq_true, if_false, List.cons.injEq, true_and] at h
    exact ⟨fun h' => absurd h' hp, h⟩

theorem fill_read_cons (ts : List Tick) (p : SrvPkt) (ps : List SrvPkt) :
    fill (.read :: ts) (p :: ps) =
      (match p.ev with | some e => [Step.recv e] | none => []) ++ fill ts ps := by
  simp only [fill]
  cases p.ev <;> rfl

/-- The induction behind `C10Inbound.client_reads_server_script`: `todo` is what the login reactor
still has to get to (a list cut behind its first terminal packet), `rest` what the server sends
behind it.  The three-way hypothesis rules out the one run the statement is false of: a live reactor
reading past the end of a `todo` that never terminates the login (it would hit the bytes of `rest`).
It is stated about the result `r` of the run so that the run is written once. -/
theorem run_sync (P : LoginParams) (z : Zlib) (E : Bytes → Bytes) (C : CbProfile)
    (hC : C.distinct = true) (rest : List SrvPkt) :
    ∀ (ticks : List Tick) (s : InState) (todo : List SrvPkt),
      cutScript todo = todo → s.ioErr = none → (todo ≠ [] → s.cs.alive = true) →
      (todo.any (·.isTerminal) = true ∨ reads ticks ≤ todo.length ∨ s.cs.alive = false) →
      ScriptOK z.toZlibOps C s.cs.threshold todo →
      ahead (layersX E) s.file =
        srvStream z.toZlibOps E P.secret C s.cs.threshold (todo ++ rest) →
      ∀ r, run P z.toZlibOps E C ticks s = r →
      r.cs = exec P s.cs (fill ticks todo) ∧
      r.seen = s.seen ++ (todo.take (reads ticks)).filterMap (·.ev) ∧
      r.ioErr = none ∧
      ahead (layersX E) r.file =
        srvStream z.toZlibOps E P.secret C r.cs.threshold (todo.drop (reads ticks) ++ rest) ∧
      r.file.st.length = s.file.st.length +
        ((todo.take (reads ticks)).filter (·.isEncRequest)).length := by
  intro ticks
  induction ticks with
  | nil =>
    intro s todo _ hio _ _ _ ha r hr
    subst hr
    simp only [run_nil, fill, exec_nil, reads, List.take_zero, List.filterMap_nil,
      List.append_nil, List.drop_zero, List.filter_nil, List.length_nil, Nat.add_zero]
    exact ⟨trivial, trivial, hio, ha, trivial⟩
  | cons t ts ih =>
    intro s todo hcut hio halive hb hok ha r hr
    subst hr
    rw [run_cons]
    cases t with
    | flush =>
      obtain ⟨f1, f2, -⟩ := step_flush_facts P s.cs
      have ht : tick P z.toZlibOps E C s .flush = { s with cs := step P s.cs .flush } := by
        simp [tick, hio]
      rw [ht]
      have := ih { s with cs := step P s.cs .flush } todo hcut hio
        (by simpa only [f2] using halive) (by simpa only [f2, reads] using hb)
        (by simpa only [f1] using hok) (by simpa only [f1] using ha) _ rfl
      simpa only [fill, exec_cons, reads] using this
    | read =>
      cases todo with
      | nil =>
        have hdead : s.cs.alive = false := by
          rcases hb with h | h | h
          · simp at h
          · simp [reads] at h
          · exact h
        have ht : tick P z.toZlibOps E C s .read = s := by
          simp [tick, readTick, reading_eq, hdead]
        rw [ht]
        have := ih s [] hcut hio halive (Or.inr (Or.inr hdead)) hok ha _ rfl
        simpa only [fill, reads, List.take_nil, List.drop_nil] using this
      | cons p todo' =>
        have hal : s.cs.alive = true := halive (by simp)
        have hrd : s.reading = true := by rw [reading_eq, hio, hal]; rfl
        obtain ⟨c1, c2⟩ := cut_cons p todo' hcut
        obtain ⟨w1, w2, w3⟩ := hok
        obtain ⟨hcs, hseen, hio1, hahead, hlayers⟩ :=
          readTick_sync P z E C hC s p (todo' ++ rest) hrd w1 w2 ha
        obtain ⟨a1, a2⟩ := after_facts P s p hal
        have hthr := after_threshold P s p
        have ht : tick P z.toZlibOps E C s .read = readTick P z.toZlibOps E C s := rfl
        rw [ht]
        generalize readTick P z.toZlibOps E C s = s1 at hcs hseen hio1 hahead hlayers
        have := ih s1 todo' c2 (by rw [hio1, hio])
          (fun hne => by
            rw [hcs, a2]
            cases hpt : p.isTerminal with
            | false => rfl
            | true => exact absurd (c1 hpt) hne)
          (by
            cases hpt : p.isTerminal with
            | true => exact Or.inr (Or.inr (by rw [hcs, a2, hpt]; rfl))
            | false =>
              rcases hb with h | h | h
              · exact Or.inl (by simpa [hpt] using h)
              · exact Or.inr (Or.inl (by simp only [reads, List.length_cons] at h; omega))
              · rw [hal] at h; cases h)
          (by rw [hcs, hthr]; exact w3)
          (by rw [hahead, hcs, hthr]) _ rfl
        obtain ⟨ics, iseen, iio, iahead, ilayers⟩ := this
        refine ⟨?_, ?_, iio, ?_, ?_⟩
        · rw [ics, fill_read_cons, exec_append, a1, hcs]
        · rw [iseen, hseen]
          simp only [reads, List.take_succ_cons, List.filterMap_cons, List.append_assoc]
          cases p.ev <;> rfl
        · simpa only [reads, List.drop_succ_cons] using iahead
        · rw [ilayers, hlayers]
          simp only [reads, List.take_succ_cons, List.filter_cons]
          cases p.isEncRequest <;> simp <;> omega

/-! ## `cutScript` -/

theorem cutScript_idem (l : List SrvPkt) : cutScript (cutScript l) = cutScript l := by
  fun_induction cutScript l <;> simp_all [cutScript]

theorem cutScript_append_drop (l : List SrvPkt) :
    cutScript l ++ l.drop (cutScript l).length = l := by
  fun_induction cutScript l <;> simp_all

theorem cutScript_any (l : List SrvPkt) :
    (cutScript l).any (·.isTerminal) = l.any (·.isTerminal) := by
  fun_induction cutScript l <;> simp_all

theorem cutScript_of_live (l : List SrvPkt) (h : l.any (·.isTerminal) = false) :
    cutScript l = l := by
  fun_induction cutScript l <;> simp_all

theorem cutScript_length_le (l : List SrvPkt) : (cutScript l).length ≤ l.length := by
  fun_induction cutScript l <;> simp_all

section
variable (P : LoginParams) (z : ZlibOps) (E : Bytes → Bytes) (C : CbProfile)

/-! ## a dead thread; the end of the stream -/

theorem run_dead (ticks : List Tick) (s : InState) (h : s.ioErr.isSome = true) :
    run P z E C ticks s = s := by
  induction ticks with
  | nil => rfl
  | cons t ts ih =>
    rw [run_cons]
    have : tick P z E C s t = s := by
      cases t with
      | flush => simp [tick, h]
      | read =>
        have : s.reading = false := by
          rw [reading_eq]; cases hs : s.ioErr <;> simp_all
        simp [tick, readTick, this]
    rw [this, ih]

theorem run_append (a b : List Tick) (s : InState) :
    run P z E C (a ++ b) s = run P z E C b (run P z E C a s) := by
  simp [run, List.foldl_append]

/-- Reading at the end of the stream: `VarInt.read` raises `EOFError`. -/
theorem readTick_eof (s : InState) (hr : s.reading = true) (ha : ahead (layersX E) s.file = []) :
    (readTick P z E C s).cs = s.cs ∧ (readTick P z E C s).seen = s.seen ∧
      (readTick P z E C s).ioErr = some .eof := by
  obtain ⟨k', e1⟩ := readPacketK_nil (layersX E) z s.cs.threshold.isSome s.file ha
  unfold readTick
  rw [if_pos hr, e1]
  exact ⟨rfl, rfl, rfl⟩

/-! ## whatever arrives: the byte-level client refines the login model -/

/-- One read tick, about its result `r` (named so that the call is written once): nothing is
delivered and no wrapper changes, or one event is delivered to a live reactor and an encryption
request installs one wrapper. -/
theorem readTick_cases (s : InState) : ∀ r, readTick P z E C s = r →
    (r.cs = s.cs ∧ r.seen = s.seen ∧ r.file.st.length = s.file.st.length) ∨
    (∃ ev, s.cs.alive = true ∧ r.cs = react P s.cs ev ∧ r.seen = s.seen ++ [ev] ∧
      r.file.st.length = s.file.st.length + (if ev.isEncRequest then 1 else 0)) := by
  intro r hr'
  subst hr'
  unfold readTick
  by_cases hr : s.reading = true
  · rw [if_pos hr]
    have hal : s.cs.alive = true := by
      rw [reading_eq] at hr; simp only [Bool.and_eq_true] at hr; exact hr.2
    have hl := readPacketK_layers E z s.cs.threshold.isSome s.file
    generalize readPacketK (layersX E) z s.cs.threshold.isSome s.file = rk at hl
    obtain ⟨res, k⟩ := rk
    cases res with
    | error e => exact Or.inl ⟨rfl, rfl, hl⟩
    | ok raw =>
      simp only
      cases clientDecode C raw with
      | error e => exact Or.inl ⟨rfl, rfl, hl⟩
      | ok d =>
        cases d with
        | none => exact Or.inl ⟨rfl, rfl, hl⟩
        | some ev =>
          refine Or.inr ⟨ev, hal, rfl, rfl, ?_⟩
          simp only [deliver]
          cases ev.isEncRequest <;> simp [wrapFile] <;> exact hl
  · rw [if_neg hr]; exact Or.inl ⟨rfl, rfl, rfl⟩

/-- For ANY arriving bytes and ANY tick list the login state is the login model run on the packets
actually handed to `_react`; the number of file-object wrappers is the number of encryption
requests among them, and the socket flag of the login model is set iff a wrapper is installed
(given that it was so before). -/
theorem run_refines :
    ∀ (ticks : List Tick) (s : InState), ∃ steps : List Step,
      (run P z E C ticks s).cs = exec P s.cs steps ∧
      (run P z E C ticks s).seen = s.seen ++ events steps ∧
      (run P z E C ticks s).file.st.length =
        s.file.st.length + ((events steps).filter (·.isEncRequest)).length ∧
      ((s.cs.encrypted = true ↔ 0 < s.file.st.length) →
        ((run P z E C ticks s).cs.encrypted = true ↔ 0 < (run P z E C ticks s).file.st.length)) := by
  intro ticks
  induction ticks with
  | nil =>
    intro s
    exact ⟨[], rfl, by simp [run_nil, events], by simp [run_nil, events], fun h => h⟩
  | cons t ts ih =>
    intro s
    rw [run_cons]
    cases t with
    | flush =>
      by_cases hio : s.ioErr.isSome = true
      · have : tick P z E C s .flush = s := by simp [tick, hio]
        rw [this]; exact ih s
      · have : tick P z E C s .flush = { s with cs := step P s.cs .flush } := by simp [tick, hio]
        rw [this]
        obtain ⟨steps, h1, h2, h3, h4⟩ := ih { s with cs := step P s.cs .flush }
        refine ⟨.flush :: steps, by rw [h1, exec_cons], by rw [h2]; rfl, by rw [h3]; rfl, ?_⟩
        intro hinv
        apply h4
        show (step P s.cs .flush).encrypted = true ↔ _
        rw [(step_flush_facts P s.cs).2.2]; exact hinv
    | read =>
      have ht : tick P z E C s .read = readTick P z E C s := rfl
      rw [ht]
      obtain ⟨steps, h1, h2, h3, h4⟩ := ih (readTick P z E C s)
      rcases readTick_cases P z E C s _ rfl with ⟨c1, c2, c3⟩ | ⟨ev, hal, c1, c2, c3⟩
      · refine ⟨steps, by rw [h1, c1], by rw [h2, c2], by rw [h3, c3], ?_⟩
        intro hinv
        apply h4
        rw [c1, c3]
        exact hinv
      · refine ⟨.recv ev :: steps, ?_, ?_, ?_, ?_⟩
        · rw [h1, c1, exec_cons, step_recv_alive P s.cs ev hal]
        · rw [h2, c2]; simp [events]
        · rw [h3, c3]
          simp only [events, List.filter_cons]
          cases ev.isEncRequest <;> simp <;> omega
        · intro hinv; apply h4
          rw [c1, c3, react_encrypted]
          cases ev.isEncRequest <;> simp [hinv]

/-! ## the regular schedule -/

theorem step_recv_terminal_dead (s : ClientState) (e : LoginEv)
    (ht : e.isTerminal = true) : (step P s (.recv e)).alive = false := by
  cases ha : s.alive with
  | false => rw [step_recv_dead P s e ha]; exact ha
  | true => rw [step_recv_alive P s e ha]; exact alive_after_terminal P s e ht

theorem exec_dead_fill (steps : List Step) (s : ClientState)
    (h : s.alive = false) : exec P s (fill (ticksOf steps) []) = exec P s steps := by
  induction steps generalizing s with
  | nil => rfl
  | cons a r ih =>
    cases a with
    | flush =>
      simp only [ticksOf, fill, exec_cons]
      exact ih _ (by rw [(step_flush_facts P s).2.1]; exact h)
    | recv e =>
      simp only [ticksOf, fill, exec_cons]
      rw [step_recv_dead P s e h]; exact ih s h

/-- Filling the ticks of a step list with the packets the steps came from gives the same run (the
reads behind the first terminal packet are no-ops in the login model). -/
theorem exec_fill_ticksOf : ∀ (steps : List Step) (script : List SrvPkt)
    (s : ClientState), script.filterMap (·.ev) = events steps → (∀ p ∈ script, p.ev.isSome = true) →
    exec P s (fill (ticksOf steps) (cutScript script)) = exec P s steps := by
  intro steps
  induction steps with
  | nil => intro script s _ _; rfl
  | cons a r ih =>
    intro script s hev hk
    cases a with
    | flush =>
      simp only [ticksOf, fill, exec_cons]
      exact ih script _ (by simpa [events] using hev) hk
    | recv e =>
      cases script with
      | nil => simp [events] at hev
      | cons p script' =>
        have hp := hk p (by simp)
        obtain ⟨e', he'⟩ := Option.isSome_iff_exists.mp hp
        simp only [List.filterMap_cons, he', events, List.cons.injEq] at hev
        obtain ⟨h1, h2⟩ := hev
        subst h1
        have hk' : ∀ q ∈ script', q.ev.isSome = true := fun q hq => hk q (by simp [hq])
        have ht := ev_isTerminal p e' he'
        by_cases hpt : p.isTerminal = true
        · simp only [cutScript, hpt, if_true, ticksOf, fill, he', exec_cons]
          exact exec_dead_fill P r _ (step_recv_terminal_dead P s e' (by rw [ht, hpt]))
        · simp only [cutScript, hpt, Bool.false_eq_true, if_false, ticksOf, fill, he', exec_cons]
          exact ih script' _ h2 hk'

theorem reads_ticksOf (steps : List Step) : reads (ticksOf steps) = (events steps).length := by
  fun_induction ticksOf steps <;> simp_all [reads, events]

/-- A run over a script without success or disconnect hands `_react` no terminal event. -/
theorem events_fill_live : ∀ (ts : List Tick) (l : List SrvPkt), (∀ p ∈ l, p.isTerminal = false) →
    ∀ e ∈ events (fill ts l), e.isTerminal = false := by
  intro ts
  induction ts with
  | nil => intro l _ e he; simp [fill, events] at he
  | cons t ts ih =>
    intro l hl e he
    cases t with
    | flush => exact ih l hl e (by simpa [fill, events] using he)
    | read =>
      cases l with
      | nil => exact ih [] hl e (by simpa [fill] using he)
      | cons p ps =>
        have hps : ∀ q ∈ ps, q.isTerminal = false := fun q hq => hl q (by simp [hq])
        cases hev : p.ev with
        | none => exact ih ps hps e (by simpa [fill, hev] using he)
        | some e' =>
          simp only [fill, hev, events, List.mem_cons] at he
          rcases he with rfl | he
          · rw [ev_isTerminal p _ hev]; exact hl p (by simp)
          · exact ih ps hps e he

/-- A script without unregistered ids hands `_react` one event per packet. -/
theorem length_filterMap_ev (script : List SrvPkt) (hknown : ∀ p ∈ script, p.ev.isSome = true) :
    (script.filterMap (·.ev)).length = script.length := by
  induction script with
  | nil => rfl
  | cons p rest ih =>
    obtain ⟨e, he⟩ := Option.isSome_iff_exists.mp (hknown p (by simp))
    simp only [List.filterMap_cons, he, List.length_cons]
    rw [ih fun q hq => hknown q (by simp [hq])]

theorem processed_filterMap (script : List SrvPkt) :
    processed (script.filterMap (·.ev)) = (cutScript script).filterMap (·.ev) := by
  induction script with
  | nil => rfl
  | cons p r ih =>
    cases p <;>
      simp_all [cutScript, processed, SrvPkt.ev, SrvPkt.isTerminal, LoginEv.isTerminal]

end

/-! ## the shape of the server's stream -/

theorem srvStream_append_plain (z : ZlibOps) (E : Bytes → Bytes) (sec : Bytes) (C : CbProfile) :
    ∀ (pre : List SrvPkt) (thr : Option Int) (l : List SrvPkt),
      (∀ p ∈ pre, p.isEncRequest = false) →
      srvStream z E sec C thr (pre ++ l) =
        plainFrames z C thr pre ++ srvStream z E sec C (thrAfterAll thr pre) l := by
  intro pre
  induction pre with
  | nil => intro _ _ _; rfl
  | cons p r ih =>
    intro thr l h
    have hp := h p (by simp)
    simp only [List.cons_append, srvStream, plainFrames, hp, Bool.false_eq_true, if_false,
      List.append_assoc]
    rw [ih _ _ fun q hq => h q (by simp [hq])]
    rfl

theorem srvStream_plain (z : ZlibOps) (E : Bytes → Bytes) (sec : Bytes) (C : CbProfile)
    (l : List SrvPkt) (thr : Option Int) (h : ∀ p ∈ l, p.isEncRequest = false) :
    srvStream z E sec C thr l = plainFrames z C thr l := by
  have := srvStream_append_plain z E sec C l thr [] h
  rwa [List.append_nil, srvStream, List.append_nil] at this

/-! ## seeded client faults (negative witness) -/

/-- `readTick` with its three ingredients as parameters: the transformer the file object applies,
what `_react` does with the result, and the compression flag handed to `read_packet`. -/
def readTickG (x : StreamXform (List Bytes)) (z : ZlibOps) (C : CbProfile)
    (dlv : InState → FileObj → Option LoginEv → InState) (comp : Bool) (s : InState) : InState :=
  if s.reading then
    match readPacketK x z comp s.file with
    | (.error e, k) => { s with file := k, ioErr := some e }
    | (.ok raw, k) =>
      match clientDecode C raw with
      | .error e => { s with file := k, ioErr := some e }
      | .ok d => dlv s k d
  else s

/-- The real client is the instance "the stack of DEcryptors, `deliver`, the flag of now". -/
theorem readTick_eq_G (P : LoginParams) (z : ZlibOps) (E : Bytes → Bytes) (C : CbProfile)
    (s : InState) :
    readTick P z E C s = readTickG (layersX E) z C (deliver P) s.cs.threshold.isSome s := rfl

/-- A write phase as `tick` performs it, for the faulty loops below. -/
def flushTick (P : LoginParams) (s : InState) : InState :=
  if s.ioErr.isSome then s else { s with cs := step P s.cs .flush }

/-- Fault 1 — only `connection.socket` is wrapped, `connection.file_object` is left alone. -/
def deliverNoWrap (P : LoginParams) (s : InState) (k : FileObj) : Option LoginEv → InState
  | none => { s with file := k }
  | some ev => { s with cs := react P s.cs ev, file := k, seen := s.seen ++ [ev] }

def runNoWrap (P : LoginParams) (z : ZlibOps) (E : Bytes → Bytes) (C : CbProfile)
    (ticks : List Tick) (segs : Segs) : InState :=
  ticks.foldl (fun s t => match t with
    | .flush => flushTick P s
    | .read => readTickG (layersX E) z C (deliverNoWrap P) s.cs.threshold.isSome s) (.init segs)

/-- Fault 2 — the file wrapper is handed the ENCRYPTOR context: `update` XORs with the same key
stream but shifts its own OUTPUT into the register instead of the cipher text. -/
def layersEnc (E : Bytes → Bytes) : List Bytes → Bytes → List Bytes × Bytes
  | [], b => ([], b)
  | r :: rs, b =>
    let d := cfb8Enc E r b
    let q := layersEnc E rs d.2
    (d.1 :: q.1, q.2)

def layersEncX (E : Bytes → Bytes) : StreamXform (List Bytes) where
  update := layersEnc E
  len := by
    intro regs b
    induction regs generalizing b with
    | nil => rfl
    | cons r rs ih => simp only [layersEnc, ih, cfb8Enc_length]
  chunk := by
    intro regs a b
    induction regs generalizing a b with
    | nil => rfl
    | cons r rs ih => simp only [layersEnc, cfb8Enc_append, ih]

def runEncCtx (P : LoginParams) (z : ZlibOps) (E : Bytes → Bytes) (C : CbProfile)
    (ticks : List Tick) (segs : Segs) : InState :=
  ticks.foldl (fun s t => match t with
    | .flush => flushTick P s
    | .read => readTickG (layersEncX E) z C (deliver P) s.cs.threshold.isSome s) (.init segs)

/-- The wrappers `_react` has installed on `connection.file_object` that a loop holding on to an
older file object has not seen yet. -/
def installPending (P : LoginParams) (s : InState) : InState :=
  { s with file := (List.replicate
      ((s.seen.filter (·.isEncRequest)).length - s.file.st.length) P.secret).foldl wrapFile s.file }

/-- Fault 3 — the read loop keeps the file object it fetched at the start of the batch
(`fo = self.connection.file_object` hoisted out of the `while`): a wrapper installed by `_react`
is used only from the next `_run` iteration on. -/
def runStale (P : LoginParams) (z : ZlibOps) (E : Bytes → Bytes) (C : CbProfile)
    (ticks : List Tick) (segs : Segs) : InState :=
  ticks.foldl (fun s t => match t with
    | .flush => flushTick P (installPending P s)
    | .read => readTickG (layersX E) z C (deliverNoWrap P) s.cs.threshold.isSome s) (.init segs)

/-- Fault 4 — read-side decompression enabled one frame late: `read_packet` is handed the flag
that was in force BEFORE the previous packet was reacted to. -/
def runLateComp (P : LoginParams) (z : ZlibOps) (E : Bytes → Bytes) (C : CbProfile)
    (ticks : List Tick) (segs : Segs) : InState :=
  (ticks.foldl (fun (sp : InState × Bool) t => match t with
    | .flush => (flushTick P sp.1, sp.2)
    | .read => (readTickG (layersX E) z C (deliver P) sp.2 sp.1, sp.1.cs.threshold.isSome))
    (.init segs, false)).1

/-! ## the profile of a row of the generated table -/

open Gen.C10Inbound in
/-- The id under which the class with this `packet_name` and these field types is registered. -/
def findEntry (name : String) (types : List String) (t : List Entry) : Option Nat :=
  (t.find? fun e => e.2.1 == name && e.2.2 == types).map (·.1)

open Gen.C10Inbound in
/-- The `CbProfile` a row of the live table amounts to — `none` unless the table is EXACTLY what
`Model/C10Inbound.lean` assumes: no id collision (`table.length = classes`), the four classes with
the modelled field types, `login success` with one of the two modelled layouts, optionally the
plugin request, and nothing else. -/
def profileOfRow (r : Row) : Option CbProfile :=
  let plug := findEntry "login plugin request" ["VarInt", "String", "TrailingByteArray"] r.table
  if r.table.length ≠ r.classes ∨ r.table.length ≠ 4 + plug.toList.length then none
  else
    match findEntry "disconnect" ["String"] r.table,
        findEntry "encryption request"
          ["String", "VarIntPrefixedByteArray", "VarIntPrefixedByteArray"] r.table,
        findEntry "set compression" ["VarInt"] r.table,
        findEntry "login success" ["String", "String"] r.table,
        findEntry "login success" ["UUID", "String"] r.table with
    | some d, some e, some c, some s, none => some ⟨d, e, s, c, plug, false⟩
    | some d, some e, some c, none, some s => some ⟨d, e, s, c, plug, true⟩
    | _, _, _, _, _ => none

/-- The profile of protocol version `v` according to the live table. -/
def profileAt (v : Nat) : Option CbProfile :=
  (Gen.C10Inbound.rows.find? fun r => r.versions.contains v).bind profileOfRow

/-- The serverbound ids of a row as `LoginWire.Ids`.  Where the plugin response is not registered its
id is irrelevant; an id different from the encryption response's is put in (1 if that is 0, else 0),
so that the pair stays distinct. -/
def sbIdsOfRow (r : Gen.C10Inbound.Row) : Option Ids :=
  r.sbEncResp.map fun e => ⟨e, r.sbPlugResp.getD (if e = 0 then 1 else 0)⟩

/-! ## checkers for the version lists -/

/-- Remove `v` from the front of the first list that starts with it. -/
def popHead (v : Nat) : List (List Nat) → Option (List (List Nat))
  | [] => none
  | [] :: rest => (popHead v rest).map ([] :: ·)
  | (x :: xs) :: rest =>
    if Nat.beq x v then some (xs :: rest) else (popHead v rest).map ((x :: xs) :: ·)

/-- `vs` is an interleaving of (prefixes of) the lists `ls`; checked in one pass, it implies that
every element of `vs` occurs in one of them (`interleaved_mem`). -/
def interleaved : List Nat → List (List Nat) → Bool
  | [], _ => true
  | v :: vs, ls =>
    match popHead v ls with
    | some ls' => interleaved vs ls'
    | none => false

theorem popHead_some (v : Nat) : ∀ (ls ls' : List (List Nat)), popHead v ls = some ls' →
    (∃ l ∈ ls, v ∈ l) ∧ ∀ w, (∃ l ∈ ls', w ∈ l) → ∃ l ∈ ls, w ∈ l := by
  intro ls
  induction ls with
  | nil => intro ls' h; cases h
  | cons l rest ih =>
    intro ls' h
    cases l with
    | nil =>
      simp only [popHead, Option.map_eq_some_iff] at h
      obtain ⟨r', hr, rfl⟩ := h
      obtain ⟨i1, i2⟩ := ih r' hr
      constructor
      · obtain ⟨l, hl, hv⟩ := i1; exact ⟨l, by simp [hl], hv⟩
      · rintro w ⟨l, hl, hw⟩
        rcases List.mem_cons.mp hl with rfl | hl
        · cases hw
        · obtain ⟨l2, h2, hw2⟩ := i2 w ⟨l, hl, hw⟩; exact ⟨l2, by simp [h2], hw2⟩
    | cons x xs =>
      simp only [popHead] at h
      by_cases hx : Nat.beq x v = true
      · rw [if_pos hx] at h
        injection h with h; subst h
        have hxv : x = v := Nat.eq_of_beq_eq_true hx
        constructor
        · exact ⟨x :: xs, by simp, by simp [hxv]⟩
        · rintro w ⟨l, hl, hw⟩
          rcases List.mem_cons.mp hl with rfl | hl
          · exact ⟨x :: l, by simp, by simp [hw]⟩
          · exact ⟨l, by simp [hl], hw⟩
      · rw [if_neg hx] at h
        simp only [Option.map_eq_some_iff] at h
        obtain ⟨r', hr, rfl⟩ := h
        obtain ⟨i1, i2⟩ := ih r' hr
        constructor
        · obtain ⟨l, hl, hv⟩ := i1; exact ⟨l, by simp [hl], hv⟩
        · rintro w ⟨l, hl, hw⟩
          rcases List.mem_cons.mp hl with rfl | hl
          · exact ⟨x :: xs, by simp, hw⟩
          · obtain ⟨l2, h2, hw2⟩ := i2 w ⟨l, hl, hw⟩; exact ⟨l2, by simp [h2], hw2⟩

theorem interleaved_mem : ∀ (vs : List Nat) (ls : List (List Nat)), interleaved vs ls = true →
    ∀ v ∈ vs, ∃ l ∈ ls, v ∈ l := by
  intro vs
  induction vs with
  | nil => intro _ _ v hv; cases hv
  | cons a vs ih =>
    intro ls h v hv
    simp only [interleaved] at h
    cases hp : popHead a ls with
    | none => simp [hp] at h
    | some ls' =>
      simp only [hp] at h
      obtain ⟨p1, p2⟩ := popHead_some a ls ls' hp
      rcases List.mem_cons.mp hv with rfl | hv
      · exact p1
      · exact p2 v (ih ls' h v hv)

/-- `a` is a subsequence of `b`; checked in one pass, it implies inclusion (`subseq_mem`). -/
def subseq : List Nat → List Nat → Bool
  | [], _ => true
  | _ :: _, [] => false
  | v :: vs, k :: ks => if Nat.beq v k then subseq vs ks else subseq (v :: vs) ks

theorem subseq_mem : ∀ (b a : List Nat), subseq a b = true → ∀ v ∈ a, v ∈ b := by
  intro b
  induction b with
  | nil =>
    intro a h v hv
    cases a with
    | nil => cases hv
    | cons x xs => simp [subseq] at h
  | cons k ks ih =>
    intro a h v hv
    cases a with
    | nil => cases hv
    | cons x xs =>
      simp only [subseq] at h
      by_cases hx : Nat.beq x k = true
      · rw [if_pos hx] at h
        have hxk : x = k := Nat.eq_of_beq_eq_true hx
        rcases List.mem_cons.mp hv with rfl | hv
        · simp [hxk]
        · exact List.mem_cons_of_mem _ (ih xs h v hv)
      · rw [if_neg hx] at h
        exact List.mem_cons_of_mem _ (ih (x :: xs) h v hv)

/-! ## concrete parameters for the examples -/

/-- Protocol 757 (≥ 391, ≥ 707), 47 (< 385), 385..390. -/
def C757 : CbProfile := ⟨0, 1, 2, 3, some 4, true⟩
def C47 : CbProfile := ⟨0, 1, 2, 3, none, false⟩
def C385 : CbProfile := ⟨1, 2, 3, 4, some 0, false⟩

/-- encrypt → compress 1 → plugin request → success (then a stray packet the login reactor never
gets to). -/
def inScript : List SrvPkt :=
  [.encRequest "srv" [7, 8] [9], .setCompression 1, .pluginRequest 5 "ch" [1],
   .success (.bin (List.replicate 16 7)) "bob", .unknown 0x26 [1, 2]]

/-- compress 64 → unknown id → plugin request → encrypt → disconnect, protocol 385 numbering. -/
def inScript385 : List SrvPkt :=
  [.setCompression 64, .unknown 9 [0xaa], .pluginRequest 300 "a" [],
   .encRequest "-" [7, 8] [9], .disconnect "{\"text\": \"Outdated server! I'm still on 1.8.9\"}"]

/-- One `_run` iteration that reads everything, then the next write phase. -/
def inBatch : List Tick := [.flush, .read, .read, .read, .read, .read, .flush]

/-- A write phase before every read. -/
def inSlow : List Tick :=
  [.flush, .read, .flush, .read, .flush, .read, .flush, .read, .flush, .read, .flush]

def inE : Bytes → Bytes := toyEK demoParams.secret

def inWire (C : CbProfile) (script : List SrvPkt) : Bytes :=
  srvWire Zlib.ident.toZlibOps inE demoParams.secret C script

def inClient (C : CbProfile) (ticks : List Tick) (segs : Segs) : InState :=
  clientRun demoParams Zlib.ident.toZlibOps inE C ticks segs

end PyCraft.LoginIn
