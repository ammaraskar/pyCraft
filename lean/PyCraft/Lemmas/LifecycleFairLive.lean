import PyCraft.Lemmas.LifecycleFair
/-!
Liveness over `Model/Lifecycle.lean`: on a weakly fair schedule an interrupted networking thread
reaches `dead` (`eventually_dead`) and stays there (`dead_stays`).

Why the lock cannot be withheld for ever from an interrupted thread `j` that needs it
(`other_net_step`): `j` then occupies a slot, so every other live networking thread is either the
successor waiting for `j`'s death (it does not move) or a thread past its epilogue (two more
actions); user programs are finite; while `j` holds the slot at most one more thread object can be
created, and it waits for `j`.  So every step of every other thread decreases `vari`, and while `j`
is blocked the lock holder is enabled (`progress_lock`, by `fair_decreasing`).
-/
namespace PyCraft.Life

theorem pc_class (pc : NPc) : pc.holds = true ∨ pc.waiting = true ∨ pc = .epRel ∨ pc = .fin ∨
    pc = .unborn ∨ pc = .dead := by
  cases pc <;> simp [NPc.holds, NPc.waiting]

theorem needsLock_class (pc : NPc) (h : pc.needsLock = true) :
    pc.holds = true ∨ pc = .takeOver := by
  cases pc <;> simp_all [NPc.needsLock, NPc.holds]

theorem rank_le_21 (pc : NPc) (h1 : pc ≠ .unborn) (h2 : pc ≠ .waitPrev) : pc.rank ≤ 21 := by
  cases pc
  case call site => cases site <;> simp [NPc.rank, Site.rank]
  case callRel site out => cases site <;> simp [NPc.rank, Site.rank]
  all_goals simp_all [NPc.rank]

theorem rank_unborn : NPc.unborn.rank = 23 := rfl
theorem rank_waitPrev : NPc.waitPrev.rank = 22 := rfl

/-- While thread `j` is about to acquire the lock, the only OTHER networking threads that can move
are past their epilogue (`epRel`, `fin`). -/
theorem other_net_pc (env : List Beh) (s s' : Sys) (j k : Nat) (h : LInv s)
    (hj : (s.net j).pc.needsLock = true) (hk : k ≠ j) (hs : step env s (.net k) = some s') :
    (s.net k).pc = .epRel ∨ (s.net k).pc = .fin := by
  have hjn : s.nt = some j ∨ (s.nt = none ∧ s.newNt = some j) := by
    rcases needsLock_class _ hj with hh | ht
    · exact Or.inl ((h.nt_iff j).mpr hh)
    · right
      have hw : (s.net j).pc.waiting = true := by rw [ht]; rfl
      obtain ⟨p, hp1, -, -, -, hp5⟩ := h.prev_ok j hw
      have hd := h.tk_dead j p ht hp1
      refine ⟨?_, (h.new_iff j).mpr hw⟩
      rcases hp5 with hp5 | hp5
      · have := (h.nt_iff p).mp hp5; rw [hd] at this; cases this
      · exact hp5
  rcases pc_class (s.net k).pc with hc | hc | hc | hc | hc | hc
  · exfalso
    have hnk := (h.nt_iff k).mpr hc
    rcases hjn with h1 | ⟨h1, -⟩
    · rw [h1] at hnk; cases hnk; exact hk rfl
    · rw [h1] at hnk; cases hnk
  · exfalso
    have hnk := (h.new_iff k).mpr hc
    rcases hjn with h1 | ⟨-, h1⟩
    · obtain ⟨p, hp1, -, -, -, hp5⟩ := h.prev_ok k hc
      have hpj : p = j := by
        rcases hp5 with hp5 | hp5
        · rw [h1] at hp5; cases hp5; rfl
        · rw [h1] at hp5; cases hp5
      subst hpj
      have hjh : (s.net p).pc ≠ .dead := by
        intro hd; have := (h.nt_iff p).mp h1; rw [hd] at this; cases this
      have hwt : (s.net k).pc = .waitPrev ∨ (s.net k).pc = .takeOver := by
        revert hc; cases (s.net k).pc <;> simp [NPc.waiting]
      rcases hwt with hw | ht
      · simp [step, stepNet, hw, hp1, hjh] at hs
      · exact hjh (h.tk_dead k p ht hp1)
    · rw [h1] at hnk; cases hnk; exact hk rfl
  · exact Or.inl hc
  · exact Or.inr hc
  · simp [step, stepNet, hc] at hs
  · simp [step, stepNet, hc] at hs

/-- … and such a step creates no thread object and lowers the rank of the thread that moves. -/
theorem other_net_step (env : List Beh) (s s' : Sys) (j k : Nat) (h : LInv s)
    (hj : (s.net j).pc.needsLock = true) (hk : k ≠ j) (hs : step env s (.net k) = some s') :
    s'.nthreads = s.nthreads ∧ (s'.net k).pc.rank < (s.net k).pc.rank := by
  rcases other_net_pc env s s' j k h hj hk hs with hc | hc
  · simp only [step, stepNet, hc, Option.some.injEq] at hs; subst hs
    simp [updN, NPc.rank, hc]
  · simp only [step, stepNet, hc, Option.some.injEq] at hs; subst hs
    simp [updN, NPc.rank, hc]

/-- Born-ness, "interrupted or at the `except` clause" and `previous_thread` along a run. -/
theorem stable_runN (env : List Beh) (s : Sys) (h : LInv s) (j : Nat)
    (hb : (s.net j).pc ≠ .unborn) (hi : (s.net j).intr = true ∨ (s.net j).pc = .exc)
    (σ : Nat → Tid) (n : Nat) :
    ((runN env s σ n).net j).pc ≠ .unborn ∧
    (((runN env s σ n).net j).intr = true ∨ ((runN env s σ n).net j).pc = .exc) ∧
    ((runN env s σ n).net j).prev = (s.net j).prev ∧
    ((runN env s σ n).net j).pc.rank ≤ (s.net j).pc.rank := by
  refine runN_induct_inv env (fun x => (x.net j).pc ≠ .unborn ∧
    ((x.net j).intr = true ∨ (x.net j).pc = .exc) ∧
    (x.net j).prev = (s.net j).prev ∧ (x.net j).pc.rank ≤ (s.net j).pc.rank) ?_ s h
    ⟨hb, hi, rfl, Nat.le_refl _⟩ σ n
  intro x x' t hx ⟨a, b, c, d⟩ hst
  have hr := rank_run_exc env [t] j x hx a b
  simp only [run, hst] at hr
  exact ⟨hr.2.2.1, hr.2.1, by rw [prev_stable env x x' t hx hst j a, c], by omega⟩

/-- A dead thread stays dead. -/
theorem dead_stays (env : List Beh) (s : Sys) (h : LInv s) (j : Nat)
    (hd : (s.net j).pc = .dead) (σ : Nat → Tid) (n : Nat) :
    ((runN env s σ n).net j).pc = .dead := by
  refine runN_induct_inv env (fun x => (x.net j).pc = .dead) ?_ s h hd σ n
  intro x x' t hx hq hst
  by_cases hu : t = .net j
  · rw [hu] at hst; simp [step, stepNet, hq] at hst
  · rw [pc_other env x x' t hx hst j (by rw [hq]; simp) hu]; exact hq

/-- A thread that is about to acquire the lock gets it and moves (variant `vari`): everybody
else's steps decrease `vari` (`other_net_step`), and while `j` is blocked the lock holder is
enabled (`blocked_cases`, `owner_enabled`). -/
theorem progress_lock (env : List Beh) (U j : Nat) (s : Sys) (σ : Nat → Tid) (h : LInv s)
    (hub : UB U s) (hl : (s.net j).pc.needsLock = true) (hi : (s.net j).intr = true)
    (hf : WeakFair env s σ) :
    ∃ n, ((runN env s σ n).net j).pc.rank < (s.net j).pc.rank := by
  have hnu : (s.net j).pc ≠ .unborn := by intro hc; rw [hc] at hl; cases hl
  refine fair_decreasing env
    (fun x => LInv x ∧ UB U x ∧ (x.net j).pc = (s.net j).pc ∧ (x.net j).intr = true)
    (fun x => (x.net j).pc.rank < (s.net j).pc.rank) (vari U) ?_ ?_ s σ ⟨h, hub, rfl, hi⟩ hf
  · intro x ⟨hx, _, hpc, _⟩ _
    cases hst : step env x (.net j) with
    | some x' => exact ⟨.net j, by simp [Enabled, hst]⟩
    | none =>
      rcases blocked_cases env x hx j (hpc ▸ hnu) (by intro hc; rw [← hpc, hc] at hl; cases hl) hst
        with ⟨t, ho, -⟩ | ⟨hw, -⟩
      · obtain ⟨x', hx', -⟩ := owner_enabled env x hx t ho
        exact ⟨t, by simp [Enabled, hx']⟩
      · rw [← hpc, hw] at hl; cases hl
  · intro x x' u ⟨hx, hubx, hpc, hix⟩ _ hs
    by_cases hu : u = .net j
    · subst hu; exact .inl (hpc ▸ rank_own env x x' j hs hix)
    · have hb : (x.net j).pc ≠ .unborn := hpc ▸ hnu
      refine .inr ⟨⟨step_inv env x x' u hx hs, UB_step env U x x' u hubx hs,
        (pc_other env x x' u hx hs j hb hu).trans hpc, intr_sticky env x x' u hx hs j hb hix⟩, ?_⟩
      rcases u with u | k
      · exact user_step_vari env U x x' u hx hubx hs
      · obtain ⟨a, b⟩ := other_net_step env x x' j k hx (hpc ▸ hl) (fun hc => hu (by rw [hc])) hs
        exact net_step_vari env U x x' k hx hs a b

/-- A thread whose next action does not need the lock, and whose predecessor (if it waits for
one) is dead, stays enabled until it moves (first fairness argument). -/
theorem progress_free (env : List Beh) (j : Nat) (s : Sys) (σ : Nat → Tid) (h : LInv s)
    (hl : (s.net j).pc.needsLock = false) (hb : (s.net j).pc ≠ .unborn)
    (hd : (s.net j).pc ≠ .dead)
    (hw : ∀ p, (s.net j).prev = some p → (s.net j).pc = .waitPrev → (s.net p).pc = .dead)
    (hf : WeakFair env s σ) :
    ∃ m, σ m = .net j ∧ ((runN env s σ m).net j).pc = (s.net j).pc ∧
      Enabled env (runN env s σ m) (.net j) := by
  let Q := fun x : Sys => LInv x ∧ (x.net j).pc = (s.net j).pc ∧ (x.net j).prev = (s.net j).prev ∧
    ∀ p, (s.net j).prev = some p → (s.net j).pc = .waitPrev → (x.net p).pc = .dead
  have hen : ∀ x, Q x → Enabled env x (.net j) := by
    intro x ⟨_, q2, q3, q4⟩ hs
    rcases step_none_lock env x j hs with hc | hc | ⟨hc, p, hp, hpd⟩ | ⟨hc, -⟩
    · exact hb (q2 ▸ hc)
    · exact hd (q2 ▸ hc)
    · exact hpd (q4 p (q3 ▸ hp) (q2 ▸ hc))
    · rw [q2, hl] at hc; cases hc
  obtain ⟨m, a, b⟩ := fair_enabled env (.net j) Q hen
    (fun x x' u ⟨q1, q2, q3, q4⟩ hu hs => by
      have hbx : (x.net j).pc ≠ .unborn := q2 ▸ hb
      refine ⟨step_inv env x x' u q1 hs, (pc_other env x x' u q1 hs j hbx hu).trans q2,
        (prev_stable env x x' u q1 hs j hbx).trans q3, fun p hp hwp => ?_⟩
      have hpd := q4 p hp hwp
      by_cases hup : u = .net p
      · rw [hup] at hs; simp [step, stepNet, hpd] at hs
      · rw [pc_other env x x' u q1 hs p (by rw [hpd]; simp) hup]; exact hpd)
    s σ ⟨h, rfl, rfl, hw⟩ hf
  exact ⟨m, a, b.2.1, hen _ b⟩

/-- PROGRESS: on a weakly fair schedule a live thread that is interrupted, or at the `except`
clause, and is not waiting for a live predecessor eventually performs an action (its rank drops). -/
theorem progress (env : List Beh) (U j : Nat) (s : Sys) (σ : Nat → Tid) (h : LInv s)
    (hub : UB U s) (hb : (s.net j).pc ≠ .unborn)
    (hi : (s.net j).intr = true ∨ (s.net j).pc = .exc) (hd : (s.net j).pc ≠ .dead)
    (hw : ∀ p, (s.net j).prev = some p → (s.net j).pc = .waitPrev → (s.net p).pc = .dead)
    (hf : WeakFair env s σ) :
    ∃ n, ((runN env s σ n).net j).pc.rank < (s.net j).pc.rank := by
  cases hl : (s.net j).pc.needsLock with
  | true =>
    exact progress_lock env U j s σ h hub hl
      (hi.resolve_right fun hc => by rw [hc] at hl; cases hl) hf
  | false =>
    obtain ⟨m, hm, hpc, hen⟩ := progress_free env j s σ h hl hb hd hw hf
    obtain ⟨s', hs'⟩ := (enabled_iff _ _ _).mp hen
    have hr := (rank_own_exc env _ s' j (runN_inv env s h σ m) hs'
      (stable_runN env s h j hb hi σ m).2.1).1
    exact ⟨m + 1, by rw [runN_succ_some env s σ m s' (by rw [hm]; exact hs'), ← hpc]; exact hr⟩

/-- EVENTUALLY DEAD: on a weakly fair schedule every thread object that is interrupted, or at the
`except` clause, dies — a waiting successor after its predecessor, which is interrupted and not
waiting, hence of smaller rank. -/
theorem eventually_dead (env : List Beh) (U : Nat) : ∀ r j (s : Sys) (σ : Nat → Tid),
    LInv s → UB U s → (s.net j).pc ≠ .unborn →
    ((s.net j).intr = true ∨ (s.net j).pc = .exc) → (s.net j).pc.rank ≤ r → WeakFair env s σ →
    ∃ n, ((runN env s σ n).net j).pc = .dead := by
  intro r
  induction r with
  | zero => intro j s σ _ _ _ _ hr _; exact ⟨0, (rank_zero (s.net j).pc).mp (by omega)⟩
  | succ r ih =>
    intro j s σ h hub hb hi hr hf
    -- first the predecessor of a waiting thread dies …
    have hpre : ∃ n1, ∀ p, ((runN env s σ n1).net j).prev = some p →
        ((runN env s σ n1).net j).pc = .waitPrev → ((runN env s σ n1).net p).pc = .dead := by
      by_cases hw : (s.net j).pc = .waitPrev
      · obtain ⟨p, hp1, hp2, hp3, hp4, -⟩ := h.prev_ok j (by rw [hw]; rfl)
        have hpw : (s.net p).pc ≠ .waitPrev := by
          intro hc
          have e1 := (h.new_iff p).mpr (by rw [hc]; rfl)
          have e2 := (h.new_iff j).mpr (by rw [hw]; rfl)
          rw [e1] at e2; cases e2; exact hp3 rfl
        rw [hw, rank_waitPrev] at hr
        have := rank_le_21 _ hp4 hpw
        obtain ⟨n1, hn1⟩ := ih p s σ h hub hp4 (.inl hp2) (by omega) hf
        refine ⟨n1, fun q hq _ => ?_⟩
        rw [(stable_runN env s h j hb hi σ n1).2.2.1, hp1] at hq
        cases hq; exact hn1
      · exact ⟨0, fun _ _ hc => absurd hc hw⟩
    obtain ⟨n1, hw1⟩ := hpre
    obtain ⟨a, b, -, d⟩ := stable_runN env s h j hb hi σ n1
    have h1 := runN_inv env s h σ n1
    have hub1 := UB_runN env U s hub σ n1
    by_cases hd : ((runN env s σ n1).net j).pc = .dead
    · exact ⟨n1, hd⟩
    -- … then it moves, and the rest is by induction
    obtain ⟨n2, hn2⟩ := progress env U j _ (shift σ n1) h1 hub1 a b hd hw1 (hf.shift n1)
    obtain ⟨a2, b2, -, -⟩ := stable_runN env _ h1 j a b (shift σ n1) n2
    obtain ⟨k, hk⟩ := ih j _ (shift (shift σ n1) n2) (runN_inv env _ h1 _ n2)
      (UB_runN env U _ hub1 _ n2) a2 b2 (by omega) ((hf.shift n1).shift n2)
    rw [← runN_add, ← runN_add] at hk
    exact ⟨n1 + (n2 + k), hk⟩

/-- … and stays dead. -/
theorem eventually_always_dead (env : List Beh) (U j : Nat) (s : Sys) (σ : Nat → Tid)
    (h : LInv s) (hub : UB U s) (hb : (s.net j).pc ≠ .unborn)
    (hi : (s.net j).intr = true ∨ (s.net j).pc = .exc) (hf : WeakFair env s σ) :
    ∃ n, ∀ m, n ≤ m → ((runN env s σ m).net j).pc = .dead := by
  obtain ⟨n, hn⟩ := eventually_dead env U 23 j s σ h hub hb hi (rank_le _) hf
  refine ⟨n, fun m hm => ?_⟩
  have e : m = n + (m - n) := by omega
  rw [e, runN_add]
  exact dead_stays env _ (runN_inv env s h σ n) j hn _ _

/-- A thread that is never picked never moves. -/
theorem never_picked (env : List Beh) (s : Sys) (h : LInv s) (j : Nat)
    (hb : (s.net j).pc ≠ .unborn) (σ : Nat → Tid) (hσ : ∀ n, σ n ≠ .net j) (n : Nat) :
    ((runN env s σ n).net j).pc = (s.net j).pc := by
  induction n with
  | zero => rfl
  | succ n ih =>
    cases hst : step env (runN env s σ n) (σ n) with
    | none => rw [runN_succ_none env s σ n hst]; exact ih
    | some s' =>
      rw [runN_succ_some env s σ n s' hst,
        pc_other env _ s' _ (runN_inv env s h σ n) hst j (by rw [ih]; exact hb) (hσ n)]
      exact ih

end PyCraft.Life
