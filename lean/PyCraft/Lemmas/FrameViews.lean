import PyCraft.Lemmas.FrameTally
/-!
The plain-signature views (`readVarIntS`, `readExact`, `readPacket`, `readAll`, `readAllEnc`)
against the pure parsers, and the writer-side cipher lemmas.
-/
namespace PyCraft

theorem ahead_plain (s : Segs) : ahead idXform (Sock.plain s) = s.flatten := rfl

theorem ahead_enc {σ : Type} (x : StreamXform σ) (s0 : σ) (s : Segs) :
    ahead x (Sock.enc s0 s) = (x.update s0 s.flatten).2 := rfl

/-! The plain views drop the counters of the socket.  Their `match`es are three different matcher
constants, so the step from a view to `seen` is a case split on the reader's result, closed by
`rfl`, not a lemma. -/

theorem readVarIntS_spec (mx : Nat) (s : Segs) :
    (readVarIntS mx s).map (fun r => (r.1, r.2.flatten)) = decVarInt mx s.flatten := by
  rw [decVarInt, ← ahead_plain s, ← readVarIntK_seen]
  unfold readVarIntS
  rcases readVarIntK idXform mx 0 0 (Sock.plain s) with ⟨_ | v, k⟩ <;> rfl

theorem readExact_spec (s : Segs) (n : Nat) :
    (readExact s n).map (fun r => (r.1, r.2.flatten)) =
      if n ≤ s.flatten.length then .ok (s.flatten.take n, s.flatten.drop n) else .error .eof := by
  rw [← ahead_plain s, ← readBodyK_seen]
  simp only [readExact]
  rcases readMoreK idXform n _ _ with ⟨_ | v, k⟩ <;> rfl

theorem readPacket_spec (z : ZlibOps) (c : Bool) (s : Segs) :
    (readPacket z c s).map (fun r => (r.1, r.2.flatten)) = parsePacket z c s.flatten := by
  rw [← ahead_plain s, ← readPacketK_seen]
  unfold readPacket
  rcases readPacketK idXform z c (Sock.plain s) with ⟨_ | v, k⟩ <;> rfl

theorem readAll_spec (z : ZlibOps) (c : Bool) (s : Segs) :
    readAll z c s = parseAll z c s.flatten := by
  unfold readAll; rw [readAllK_spec, ahead_plain]

theorem readAllEnc_spec {σ : Type} (x : StreamXform σ) (s0 : σ) (z : ZlibOps) (c : Bool)
    (s : Segs) : readAllEnc x s0 z c s = parseAll z c (x.update s0 s.flatten).2 := by
  unfold readAllEnc; rw [readAllK_spec, ahead_enc]

/-- once the frame is complete the reader's result is `parseBody` of the frame body, whatever it
contains, and the stream is positioned exactly behind the frame -/
theorem readPacketK_frame {σ : Type} (x : StreamXform σ) (z : ZlibOps) (c : Bool) (k : Sock σ)
    (data rest : Bytes) (h : parseFrame (ahead x k) = .ok (data, rest)) :
    (readPacketK x z c k).1 = parseBody z c data ∧ ahead x (readPacketK x z c k).2 = rest := by
  obtain ⟨k', e1, e2⟩ := seen_eq_ok ((readFrameK_seen x k).trans h)
  unfold readPacketK
  rw [e1]
  exact ⟨rfl, e2⟩

/-- every successful `read_packet` consumes at least one byte of the stream -/
theorem readPacketK_consumes {σ : Type} (x : StreamXform σ) (z : ZlibOps) (c : Bool) (k : Sock σ)
    (p : Nat × Bytes) (h : (readPacketK x z c k).1 = .ok p) :
    (readPacketK x z c k).2.rem < k.rem := by
  have hs := readPacketK_seen x z c k
  generalize readPacketK x z c k = rk at h hs
  obtain ⟨r, k'⟩ := rk
  cases h
  rw [← ahead_length x k', ← ahead_length x k]
  exact parsePacket_lt z c _ p _ hs.symm

/-! ## writer side -/

theorem frameSends_flatten' (z : ZlibOps) (thr : Option Int) (payload : Bytes) :
    (frameSends z thr payload).flatten = frame z thr payload := by
  simp [frameSends, frame]

/-- encrypting chunk by chunk = encrypting the concatenation -/
theorem encSends_flatten {σ : Type} (x : StreamXform σ) : ∀ (ds : List Bytes) (s : σ),
    (encSends x s ds).2.flatten = (x.update s ds.flatten).2 := by
  intro ds
  induction ds with
  | nil => intro s; simp [encSends, xform_nil]
  | cons d ds ih =>
    intro s
    simp only [encSends, List.flatten_cons]
    rw [ih, x.chunk]

/-- a prefix of the cipher text is the cipher text of the prefix -/
theorem xform_take {σ : Type} (x : StreamXform σ) (s : σ) (b : Bytes) (k : Nat) :
    (x.update s b).2.take k = (x.update s (b.take k)).2 := by
  by_cases hk : k ≤ b.length
  · conv => lhs; rw [← List.take_append_drop k b, x.chunk]
    have hl : ((x.update s (b.take k)).2).length = k := by
      rw [x.len, List.length_take]; omega
    rw [List.take_append_of_le_length (by omega), List.take_of_length_le (by omega)]
  · rw [List.take_of_length_le (by rw [x.len]; omega), List.take_of_length_le (by omega)]

theorem frameBody_compressesAt (z : ZlibOps) (thr : Option Int) (payload : Bytes) :
    frameBody z thr payload =
      if compressesAt thr payload.length then encVarInt payload.length ++ z.deflate payload
      else match thr with
        | some _ => encVarInt 0 ++ payload
        | none => payload := by
  cases thr with
  | none => simp [frameBody, compressesAt]
  | some t =>
    simp only [frameBody, compressesAt]
    by_cases h : (payload.length : Int) > t ∧ t ≠ -1 <;> simp [h]

/-- parsing the first `k` bytes of a conversation: the whole frames inside, then `eof` -/
theorem parseAll_take (z : Zlib) (thr : Option Int) (ps : List (Nat × Bytes))
    (hok : ∀ p ∈ ps, FrameOK z.toZlibOps thr p) (k : Nat)
    (hk : k ≤ (ps.map (packetFrame z.toZlibOps thr)).flatten.length) :
    ∃ n, n ≤ ps.length ∧
      parseAll z.toZlibOps thr.isSome ((ps.map (packetFrame z.toZlibOps thr)).flatten.take k)
        = (ps.take n, .eof) ∧
      (((ps.take n).map (packetFrame z.toZlibOps thr)).flatten).length ≤ k ∧
      (n < ps.length →
        k < (((ps.take (n + 1)).map (packetFrame z.toZlibOps thr)).flatten).length) := by
  obtain ⟨n, t, h1, h2, h3, h4, h5⟩ := frames_take (packetFrame z.toZlibOps thr) ps k hk
  refine ⟨n, h1, ?_, h3, h4⟩
  have hinc : Incomplete z.toZlibOps thr t := by
    rcases h5 with h5 | ⟨p, u, hp, hpu, hu⟩
    · exact Or.inl h5
    · exact Or.inr ⟨p, u, hok p hp, hpu, hu⟩
  rw [h2, parseAll_frames z thr (ps.take n) t (fun p hp => hok p (List.mem_of_mem_take hp)),
    parseAll_incomplete z.toZlibOps thr _ t hinc]
  simp

/-! ## which exceptions can end the loop -/

theorem decVarInt_err (bs : Bytes) (e : Err) (h : decVarInt 5 bs = .error e) :
    e = .eof ∨ e = .tooLong ∨ e = .zlib ∨ e = .assertion := by
  rcases dec_err 5 bs e h with h | h <;> simp [h]

theorem parseBody_err (z : ZlibOps) (c : Bool) (data : Bytes) (e : Err)
    (h : parseBody z c data = .error e) :
    e = .eof ∨ e = .tooLong ∨ e = .zlib ∨ e = .assertion := by
  cases c with
  | false =>
    simp only [parseBody, Bool.false_eq_true, if_false] at h
    exact decVarInt_err _ _ h
  | true =>
    simp only [parseBody, if_true] at h
    cases hd : decVarInt 5 data with
    | error e' =>
      simp only [hd] at h
      injection h with h; subst h
      exact decVarInt_err _ _ hd
    | ok vr =>
      obtain ⟨dl, rest⟩ := vr
      simp only [hd] at h
      by_cases hpos : dl > 0
      · simp only [hpos, if_true] at h
        cases hi : z.inflate rest with
        | none => simp only [hi] at h; injection h with h; simp [← h]
        | some d =>
          simp only [hi] at h
          by_cases hl : d.length = dl
          · simp only [hl, if_true] at h; exact decVarInt_err _ _ h
          · simp only [hl, if_false] at h; injection h with h; simp [← h]
      · simp only [hpos, if_false] at h
        exact decVarInt_err _ _ h

theorem parsePacket_err (z : ZlibOps) (c : Bool) (bs : Bytes) (e : Err)
    (h : parsePacket z c bs = .error e) :
    e = .eof ∨ e = .tooLong ∨ e = .zlib ∨ e = .assertion := by
  unfold parsePacket at h
  split at h
  · next e' hf =>
    injection h with h; subst h
    unfold parseFrame at hf
    split at hf
    · next e'' hd =>
      injection hf with hf; subst hf
      exact decVarInt_err _ _ hd
    · split at hf
      · cases hf
      · injection hf with hf; simp [← hf]
  · split at h
    · next e' hb => injection h with h; subst h; exact parseBody_err z c _ _ hb
    · cases h

/-- the exceptions `read_packet` itself can raise -/
theorem readPacketK_err {σ : Type} (x : StreamXform σ) (z : ZlibOps) (c : Bool) (k : Sock σ)
    (e : Err) (h : (readPacketK x z c k).1 = .error e) :
    e = .eof ∨ e = .tooLong ∨ e = .zlib ∨ e = .assertion := by
  have hs := readPacketK_seen x z c k
  generalize readPacketK x z c k = rk at h hs
  obtain ⟨r, k'⟩ := rk
  cases h
  exact parsePacket_err z c _ e hs.symm

theorem parseAll_errs (z : ZlibOps) (c : Bool) (bs : Bytes) :
    (parseAll z c bs).2 = .eof ∨ (parseAll z c bs).2 = .tooLong ∨
    (parseAll z c bs).2 = .zlib ∨ (parseAll z c bs).2 = .assertion := by
  fun_induction parseAll z c bs with
  | case1 bs e h => exact parsePacket_err z c bs e h
  | case2 bs p rest h ih => exact ih

end PyCraft
