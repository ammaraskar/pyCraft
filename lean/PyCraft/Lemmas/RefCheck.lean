import PyCraft.Lemmas.SignNorm
import PyCraft.Lemmas.Ids
import PyCraft.Lemmas.Assoc
import PyCraft.Generated.Ids
import PyCraft.Generated.Layouts
/-!
The lookups of C07 (`genId`, `genLayout`) and a fast checker for "every reference row has the
published id".

Each lookup of a version walks a 369-row table, and C07 needs 600 of them.  The checker therefore
walks the id table ONCE per packet, in step with the reference rows (both are in the order of
`KNOWN_PROTOCOL_VERSIONS`), and the lemmas below show that what the walk compares is exactly what
the lookups return — given that the version column has no duplicates
(`C06Dispatch.versions_nodup`).
-/
namespace PyCraft.C07
open PyCraft PyCraft.Gen

abbrev RefRow := Nat × Int × List WType
abbrev Variant := Option Layout × List Nat

/-! ### the lookups -/

def idOf (r : IdRow) (cls : String) : Option Int := (r.2.2.lookup cls).join

/-- the id of `cls` in the FIRST row for version `v` -/
def lookupId (rows : List IdRow) (cls : String) (v : Nat) : Option Int :=
  match rows.find? fun r => r.1 == v with
  | none => none
  | some r => idOf r cls

def typesOf (var : Variant) : Option (List WType) := var.1.map fun L => L.map fun f => f.2

/-- the field types of the FIRST variant listing version `v` -/
def lookupLayout (variants : List Variant) (v : Nat) : Option (List WType) :=
  match variants.find? fun var => var.2.contains v with
  | none => none
  | some var => typesOf var

/-- the id pyCraft uses for class `cls` of table `table` under protocol `v` -/
def genId (table cls : String) (v : Nat) : Option Int :=
  match idTables.lookup table with
  | none => none
  | some rows => lookupId rows cls v

/-- the field types of pyCraft's layout of `cls` under protocol `v` (`none` also when the class has a
hand-written codec) -/
def genLayout (table cls : String) (v : Nat) : Option (List WType) :=
  match layoutTables.lookup table with
  | none => none
  | some rows =>
    match rows.lookup cls with
    | none => none
    | some variants => lookupLayout variants v

def idMatches (got : Option Int) (row : RefRow) : Bool := decide (got = some row.2.1)

def layMatches (got : Option (List WType)) (row : RefRow) : Bool :=
  decide (got.map (fun ts => ts.map normT) = some (row.2.2.map normT))

/-! ### ids: one pass over the id rows -/

/-- the id rows of a table and the reference rows of a packet walked in step: each reference row is
compared with the next id row of its version, and none may be left over -/
def walkIds (cls : String) : List IdRow → List RefRow → Bool
  | _, [] => true
  | [], _ :: _ => false
  | r :: rs, row :: rows =>
    if r.1 == row.1 then idMatches (idOf r cls) row && walkIds cls rs rows
    else walkIds cls rs (row :: rows)

theorem lookupId_cons_eq (r : IdRow) (rs : List IdRow) (cls : String) (v : Nat) (h : r.1 = v) :
    lookupId (r :: rs) cls v = idOf r cls := by
  simp [lookupId, h]

theorem lookupId_cons_ne (r : IdRow) (rs : List IdRow) (cls : String) (v : Nat) (h : r.1 ≠ v) :
    lookupId (r :: rs) cls v = lookupId rs cls v := by
  have : (r.1 == v) = false := by simpa using h
  simp [lookupId, this]

/-- every reference row is compared with an id row of its version -/
theorem walkIds_mem (cls : String) : ∀ (rs : List IdRow) (rows : List RefRow),
    walkIds cls rs rows = true →
    ∀ row ∈ rows, ∃ r ∈ rs, r.1 = row.1 ∧ idMatches (idOf r cls) row = true
  | _, [], _, row, hrow => by simp at hrow
  | [], _ :: _, h, _, _ => by simp [walkIds] at h
  | r :: rs, a :: as, h, row, hrow => by
    simp only [walkIds] at h
    split at h
    · next he =>
      simp only [Bool.and_eq_true] at h
      rcases List.mem_cons.mp hrow with rfl | hrow
      · exact ⟨r, List.mem_cons_self, by simpa using he, h.1⟩
      · obtain ⟨r', hr', h'⟩ := walkIds_mem cls rs as h.2 row hrow
        exact ⟨r', List.mem_cons_of_mem _ hr', h'⟩
    · obtain ⟨r', hr', h'⟩ := walkIds_mem cls rs (a :: as) h row hrow
      exact ⟨r', List.mem_cons_of_mem _ hr', h'⟩

theorem walkIds_sound (cls : String) (rs : List IdRow) (rows : List RefRow)
    (h : walkIds cls rs rows = true) (hnd : (rs.map fun r => r.1).Nodup) :
    ∀ row ∈ rows, idMatches (lookupId rs cls row.1) row = true := by
  intro row hrow
  obtain ⟨r, hr, hv, hm⟩ := walkIds_mem cls rs rows h row hrow
  rw [lookupId, ← hv, find?_key_of_mem_nodup (fun r => r.1) rs r hnd hr]
  exact hm

end PyCraft.C07
