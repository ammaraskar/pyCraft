import PyCraft.Model.LifecycleFair
import PyCraft.Lemmas.LifecycleTerm
/-!
Infinite schedules over `Model/Lifecycle.lean`: `runN` and `WeakFair` are the generic ones of
`Lemmas/Sched.lean` over `step env` (`runN_eq`, `weakFair_iff`), so shifting a schedule and the two
fairness arguments come from there — `fair_enabled`: a thread that stays enabled until it moves
does move; `fair_decreasing`: if somebody is always enabled and every step decreases a variant, the
goal is reached.

The variant of the liveness proofs:
`vari U s = 25 · Σ_{u<U} (remaining actions of user thread u) + Σ_{k<nthreads} rank (pc of thread k)`.

* every step of a user thread decreases it (user programs are finite lists; a `connect()` may
  create one thread object, of rank ≤ 23 < 25);
* a step of a networking thread that lowers its own rank and creates no thread decreases it.

Networking threads that are NOT interrupted loop for ever, so the variant is only used in
situations where no such thread can move: while a thread that occupies a slot waits for the lock
(`other_net_step`), and once no `connect()` can happen any more (`Closing`).
-/
namespace PyCraft.Life

theorem runN_eq (env : List Beh) (s : Sys) (σ : Nat → Tid) :
    ∀ n, runN env s σ n = Sched.runN (step env) s σ n := by
  intro n
  induction n with
  | zero => rfl
  | succ n ih =>
    cases h : step env (Sched.runN (step env) s σ n) (σ n) <;> simp only [runN, Sched.runN, ih, h]

theorem weakFair_iff (env : List Beh) (s : Sys) (σ : Nat → Tid) :
    WeakFair env s σ ↔ Sched.WeakFair (step env) s σ := by
  simp only [WeakFair, Sched.WeakFair, Enabled, runN_eq]

/-- The state after `n` picks of `σ` is the state after the finite schedule `σ 0, …, σ (n-1)`. -/
theorem runN_eq_run (env : List Beh) (s : Sys) (σ : Nat → Tid) (n : Nat) :
    runN env s σ n = run env s ((List.range n).map σ) := by
  rw [runN_eq, run_eq]; exact Sched.runN_eq_run _ s σ n

theorem runN_succ_some (env : List Beh) (s : Sys) (σ : Nat → Tid) (n : Nat) (s' : Sys)
    (h : step env (runN env s σ n) (σ n) = some s') : runN env s σ (n + 1) = s' := by
  simp only [runN, h]

theorem runN_succ_none (env : List Beh) (s : Sys) (σ : Nat → Tid) (n : Nat)
    (h : step env (runN env s σ n) (σ n) = none) : runN env s σ (n + 1) = runN env s σ n := by
  simp only [runN, h]

theorem runN_add (env : List Beh) (s : Sys) (σ : Nat → Tid) (a b : Nat) :
    runN env s σ (a + b) = runN env (runN env s σ a) (shift σ a) b := by
  simp only [runN_eq]; exact Sched.runN_add _ s σ a b

theorem runN_inv (env : List Beh) (s : Sys) (h : LInv s) (σ : Nat → Tid) (n : Nat) :
    LInv (runN env s σ n) := by
  rw [runN_eq_run]; exact run_inv env s h _

theorem runN_induct_inv (env : List Beh) (Q : Sys → Prop)
    (hQ : ∀ s s' t, LInv s → Q s → step env s t = some s' → Q s') (s : Sys) (h : LInv s)
    (hq : Q s) (σ : Nat → Tid) (n : Nat) : Q (runN env s σ n) := by
  rw [runN_eq_run]; exact run_induct_inv env Q hQ _ s h hq

theorem enabled_iff (env : List Beh) (s : Sys) (t : Tid) :
    Enabled env s t ↔ ∃ s', step env s t = some s' := by
  unfold Enabled
  cases step env s t <;> simp

/-- If none of the threads the schedule picks is enabled, nothing ever happens. -/
theorem stuck_const (env : List Beh) (s : Sys) (σ : Nat → Tid)
    (hq : ∀ k, step env s (σ k) = none) (k : Nat) : runN env s σ k = s := by
  rw [runN_eq]; exact Sched.stuck_const _ s σ k fun j _ => hq j

/-! ### Fairness -/

theorem Fair.weak {σ : Nat → Tid} (h : Fair σ) (env : List Beh) (s : Sys) : WeakFair env s σ :=
  fun t n _ => h t n

theorem WeakFair.shift {env : List Beh} {s : Sys} {σ : Nat → Tid} (h : WeakFair env s σ)
    (a : Nat) : WeakFair env (runN env s σ a) (shift σ a) := by
  rw [weakFair_iff, runN_eq] at *; exact Sched.WeakFair.shift _ h a

theorem Fair.shift {σ : Nat → Tid} (h : Fair σ) (a : Nat) : Fair (shift σ a) := by
  intro t n
  obtain ⟨m, hm, hσ⟩ := h t (a + n)
  refine ⟨m - a, by omega, ?_⟩
  have e : a + (m - a) = m := by omega
  simp only [Life.shift, e, hσ]

/-- FIRST FAIRNESS ARGUMENT.  If `Q` implies that `t` is enabled and is preserved by the steps of
all other threads, then on a weakly fair schedule from a `Q`-state thread `t` is eventually picked
in a `Q`-state (and so performs its step there). -/
theorem fair_enabled (env : List Beh) (t : Tid) (Q : Sys → Prop)
    (hen : ∀ s, Q s → Enabled env s t)
    (hstab : ∀ s s' u, Q s → u ≠ t → step env s u = some s' → Q s')
    (s : Sys) (σ : Nat → Tid) (hq : Q s) (hf : WeakFair env s σ) :
    ∃ m, σ m = t ∧ Q (runN env s σ m) := by
  simp only [runN_eq]
  exact Sched.fair_enabled _ t Q hen hstab s σ hq ((weakFair_iff ..).mp hf)

/-- SECOND FAIRNESS ARGUMENT (the variant).  While the goal `G` is not reached some thread is
enabled, and every step of every thread leads to `G` or keeps `Q` and decreases `W`: then a weakly
fair schedule from a `Q`-state reaches `G`. -/
theorem fair_decreasing (env : List Beh) (Q G : Sys → Prop) (W : Sys → Nat)
    (hlive : ∀ s, Q s → ¬G s → ∃ t, Enabled env s t)
    (hstep : ∀ s s' u, Q s → ¬G s → step env s u = some s' → G s' ∨ (Q s' ∧ W s' < W s))
    (s : Sys) (σ : Nat → Tid) (hq : Q s) (hf : WeakFair env s σ) : ∃ n, G (runN env s σ n) := by
  simp only [runN_eq]
  exact Sched.fair_decreasing _ Q G W hlive hstep _ s σ hq (Nat.le_refl _) ((weakFair_iff ..).mp hf)

/-! ### Finite sums -/

def sumTo (f : Nat → Nat) : Nat → Nat
  | 0 => 0
  | n + 1 => sumTo f n + f n

theorem sumTo_congr (f g : Nat → Nat) (n : Nat) (h : ∀ k, k < n → g k = f k) :
    sumTo g n = sumTo f n := by
  induction n with
  | zero => rfl
  | succ n ih =>
    simp only [sumTo]
    rw [ih (fun k hk => h k (by omega)), h n (by omega)]

theorem sumTo_update (f g : Nat → Nat) (i n : Nat) (hi : i < n)
    (h : ∀ k, k < n → k ≠ i → g k = f k) : sumTo g n + f i = sumTo f n + g i := by
  induction n with
  | zero => omega
  | succ n ih =>
    simp only [sumTo]
    by_cases hin : i = n
    · subst hin
      rw [sumTo_congr f g i (fun k hk => h k (by omega) (by omega))]
      omega
    · have := ih (by omega) (fun k hk hki => h k (by omega) hki)
      rw [h n (by omega) (fun hc => hin hc.symm)]
      omega

/-! ### The variant -/

/-- Remaining actions of a user thread: two per call (body, release), one if inside a call. -/
def urem (x : UsrThr) : Nat :=
  2 * x.todo.length + (match x.pc with
    | .idle => 0
    | .rel _ => 1)

def vari (U : Nat) (s : Sys) : Nat :=
  25 * sumTo (fun u => urem (s.usr u)) U + sumTo (fun k => (s.net k).pc.rank) s.nthreads

/-- User threads `U, U+1, …` have no program (and never had one). -/
def UB (U : Nat) (s : Sys) : Prop := ∀ u, U ≤ u → (s.usr u).pc = .idle ∧ (s.usr u).todo = []

theorem init_UB (progs : List (List Op)) (rl rh : Nat) : UB progs.length (init progs rl rh) := by
  intro u hu
  simp [init, List.getD, List.getElem?_eq_none hu]

/-- What a step of user thread `u` does to the user threads. -/
theorem usr_step_user (env : List Beh) (s s' : Sys) (u : Nat)
    (hs : step env s (.user u) = some s') :
    urem (s'.usr u) + 1 = urem (s.usr u) ∧ (∀ v, v ≠ u → s'.usr v = s.usr v) ∧
    ¬((s.usr u).pc = .idle ∧ (s.usr u).todo = []) := by
  simp only [step, stepUser] at hs
  split at hs
  · next hpc =>
    split at hs
    · cases hs
    · next op rest htd =>
      split at hs
      · simp only [Option.some.injEq] at hs; subst hs
        refine ⟨by simp [updU, urem, hpc, htd]; omega, fun v hv => by simp [updU, hv], ?_⟩
        simp [htd]
      · cases hs
  · next out hpc =>
    simp only [Option.some.injEq] at hs; subst hs
    refine ⟨by simp [updU, urem, hpc], fun v hv => by simp [updU, hv], ?_⟩
    simp [hpc]

/-- A step of a networking thread does not touch the user threads. -/
theorem usr_step_net (env : List Beh) (s s' : Sys) (k : Nat)
    (hs : step env s (.net k) = some s') : s'.usr = s.usr :=
  (step_Step env s s' _ hs).frame.2.2.1 k rfl

/-- A step creates at most one thread object. -/
theorem nthreads_step (env : List Beh) (s s' : Sys) (t : Tid)
    (hs : step env s t = some s') : s'.nthreads = s.nthreads ∨ s'.nthreads = s.nthreads + 1 := by
  obtain ⟨c, he, ha⟩ := (step_Step env s s' t hs).effect
  rw [ha.nthreads]
  cases he
  case direct | succ => exact .inr rfl
  all_goals exact .inl rfl

theorem UB_step (env : List Beh) (U : Nat) (s s' : Sys) (t : Tid) (h : UB U s)
    (hs : step env s t = some s') : UB U s' := by
  rcases t with u | k
  · obtain ⟨-, h2, h3⟩ := usr_step_user env s s' u hs
    intro v hv
    by_cases hvu : v = u
    · subst hvu; exact absurd (h v hv) h3
    · rw [h2 v hvu]; exact h v hv
  · rw [UB, usr_step_net env s s' k hs]; exact h

theorem UB_run (env : List Beh) (U : Nat) (sched : List Tid) :
    ∀ s, UB U s → UB U (run env s sched) :=
  run_induct env (UB U) (fun s s' t h hs => UB_step env U s s' t h hs) sched

theorem UB_runN (env : List Beh) (U : Nat) (s : Sys) (h : UB U s) (σ : Nat → Tid) (n : Nat) :
    UB U (runN env s σ n) := by
  rw [runN_eq_run]; exact UB_run env U _ s h

/-- The sum of the ranks grows by at most 23 when another thread moves (a thread object may have
been created). -/
theorem rank_sum_other (env : List Beh) (s s' : Sys) (t : Tid)
    (hs : step env s t = some s')
    (hpc : ∀ k, k < s.nthreads → (s'.net k).pc = (s.net k).pc) :
    sumTo (fun k => (s'.net k).pc.rank) s'.nthreads ≤
      sumTo (fun k => (s.net k).pc.rank) s.nthreads + 23 ∧
    (s'.nthreads = s.nthreads →
      sumTo (fun k => (s'.net k).pc.rank) s'.nthreads =
        sumTo (fun k => (s.net k).pc.rank) s.nthreads) := by
  have e := sumTo_congr (fun k => (s.net k).pc.rank) (fun k => (s'.net k).pc.rank) s.nthreads
    (fun k hk => by simp only [hpc k hk])
  rcases nthreads_step env s s' t hs with hn | hn
  · rw [hn, e]; exact ⟨by omega, fun _ => rfl⟩
  · rw [hn]; simp only [sumTo]; rw [e]
    have := rank_le (s'.net s.nthreads).pc
    exact ⟨by omega, fun hc => by omega⟩

/-- Every step of a user thread decreases the variant. -/
theorem user_step_vari (env : List Beh) (U : Nat) (s s' : Sys) (u : Nat) (h : LInv s)
    (hub : UB U s) (hs : step env s (.user u) = some s') : vari U s' < vari U s := by
  obtain ⟨h1, h2, h3⟩ := usr_step_user env s s' u hs
  have hu : u < U := by
    apply Classical.byContradiction
    intro hc
    exact h3 (hub u (by omega))
  have e1 := sumTo_update (fun v => urem (s.usr v)) (fun v => urem (s'.usr v)) u U hu
    (fun v _ hv => by simp only [h2 v hv])
  have hpc : ∀ k, k < s.nthreads → (s'.net k).pc = (s.net k).pc := fun k hk =>
    pc_other env s s' _ h hs k (fun hc => by have := (h.born k).mp hc; omega) (by simp)
  have e2 := (rank_sum_other env s s' _ hs hpc).1
  simp only [vari]
  omega

/-- A step of a networking thread that lowers its own rank without creating a thread object
decreases the variant. -/
theorem net_step_vari (env : List Beh) (U : Nat) (s s' : Sys) (k : Nat) (h : LInv s)
    (hs : step env s (.net k) = some s') (hn : s'.nthreads = s.nthreads)
    (hr : (s'.net k).pc.rank < (s.net k).pc.rank) : vari U s' < vari U s := by
  have hk : k < s.nthreads := by
    apply Classical.byContradiction
    intro hc
    have hu := (h.born k).mpr (by omega)
    simp [step, stepNet, hu] at hs
  have hpc : ∀ i, i < s.nthreads → i ≠ k → (s'.net i).pc.rank = (s.net i).pc.rank :=
    fun i hi hik => by
      rw [pc_other env s s' _ h hs i (fun hc => by have := (h.born i).mp hc; omega)
        (by simpa using fun hc => hik hc.symm)]
  have e := sumTo_update (fun i => (s.net i).pc.rank) (fun i => (s'.net i).pc.rank) k s.nthreads hk
    hpc
  simp only [vari, usr_step_net env s s' k hs, hn]
  omega

end PyCraft.Life
