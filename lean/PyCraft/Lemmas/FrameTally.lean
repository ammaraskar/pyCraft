import PyCraft.Lemmas.FrameParse
/-!
The read counters of the framing reader.  `Mono k k'` is the potential argument: every `read` that
returns something consumes at least one byte, every `read` that returns `b''` is counted in
`empties`; so `reads + remaining bytes` can only grow by the number of empty reads.
-/
namespace PyCraft

/-- `k'` is reachable from `k` by issuing reads. -/
def Mono {σ : Type} (k k' : Sock σ) : Prop :=
  k'.rem ≤ k.rem ∧ k.empties ≤ k'.empties ∧
    k'.reads + k'.rem + k.empties ≤ k.reads + k.rem + k'.empties

theorem Mono.refl {σ : Type} (k : Sock σ) : Mono k k := ⟨Nat.le_refl _, Nat.le_refl _, Nat.le_refl _⟩

theorem Mono.trans {σ : Type} {a b c : Sock σ} (h1 : Mono a b) (h2 : Mono b c) : Mono a c := by
  unfold Mono at *; omega

theorem Sock.read_mono {σ : Type} (x : StreamXform σ) (k : Sock σ) (n : Nat) :
    Mono k (k.read x n).2 := by
  have h4 : (k.read x n).2.reads = k.reads + 1 := rfl
  have h5 := Sock.read_empties x k n
  have h6 := Sock.read_rem x k n
  unfold Mono
  by_cases hg : (k.read x n).1 = []
  · simp only [hg, if_true, List.length_nil] at h5 h6; omega
  · have := List.length_pos_iff.mpr hg
    simp only [hg, if_false] at h5; omega

/-- a read issued on an exhausted stream returns `b''` (so it is counted in `empties`) -/
theorem Sock.read_exhausted {σ : Type} (x : StreamXform σ) (k : Sock σ) (n : Nat)
    (h : k.rem = 0) : (k.read x n).1 = [] := by
  have h6 := Sock.read_rem x k n
  exact List.eq_nil_of_length_eq_zero (by omega)

/-- `VarInt.read`: one more empty read exactly when it raises `EOFError`. -/
theorem readVarIntK_empties {σ : Type} (x : StreamXform σ) (mx be acc : Nat) (k : Sock σ) :
    (readVarIntK x mx be acc k).2.empties =
      k.empties + if (readVarIntK x mx be acc k).1 = .error .eof then 1 else 0 := by
  fun_induction readVarIntK x mx be acc k with
  | case1 be acc k r h => simpa using (Sock.read_empties x k 1).trans (by rw [if_pos h])
  | case2 be acc k r b tl h | case3 be acc k r b tl h =>
    simpa using (Sock.read_empties x k 1).trans (by rw [if_neg (h ▸ List.cons_ne_nil _ _)]; rfl)
  | case4 be acc k r b tl h acc' _ _ ih =>
    rw [ih]; congr 1
    exact (Sock.read_empties x k 1).trans (by rw [if_neg (h ▸ List.cons_ne_nil _ _)]; rfl)

/-- the reassembly loop: the same -/
theorem readMoreK_empties {σ : Type} (x : StreamXform σ) (length : Nat) (data : Bytes)
    (k : Sock σ) :
    (readMoreK x length data k).2.empties =
      k.empties + if (readMoreK x length data k).1 = .error .eof then 1 else 0 := by
  fun_induction readMoreK x length data k with
  | case1 data k hlt r hr => simpa using (Sock.read_empties x k _).trans (by rw [if_pos hr])
  | case2 data k hlt r hr ih =>
    rw [ih]; congr 1
    exact (Sock.read_empties x k _).trans (by rw [if_neg hr]; rfl)
  | case3 => simp

theorem parseBody_nil (z : ZlibOps) (c : Bool) : parseBody z c [] = .error .eof := by
  cases c <;> simp [parseBody, decVarInt, decVarIntAux]

theorem readFrameK_mono {σ : Type} (x : StreamXform σ) (k : Sock σ) :
    Mono k (readFrameK x k).2 :=
  (readFrameK_reads x k).rel (R := Mono) Mono.trans (Sock.read_mono x) k 1 rfl

/-- empty reads of `readFrameK`: at most two, none when a non-empty body is returned, and two only
when the stream ends exactly behind a non-zero length prefix -/
theorem readFrameK_tally {σ : Type} (x : StreamXform σ) (k : Sock σ) :
    (readFrameK x k).2.empties ≤ k.empties + 2 ∧
    (∀ data, (readFrameK x k).1 = .ok data → data ≠ [] →
      (readFrameK x k).2.empties = k.empties) ∧
    (k.empties + 2 ≤ (readFrameK x k).2.empties →
      ∃ len, 0 < len ∧ decVarInt 5 (ahead x k) = .ok (len, [])) := by
  have hv := readVarIntK_empties x 5 0 0 k
  have hs := readVarIntK_seen x 5 0 0 k
  unfold readFrameK
  generalize readVarIntK x 5 0 0 k = r at hv hs
  obtain ⟨e | len, k1⟩ := r
  · exact ⟨by dsimp only at hv ⊢; split at hv <;> omega, nofun,
      fun h => by dsimp only at hv h; split at hv <;> omega⟩
  · -- `VarInt.read` returned `len` without an empty read; then `read(len)` and the loop
    have he := Sock.read_empties x k1 len
    have hm := readMoreK_empties x len (k1.read x len).1 (k1.read x len).2
    have hb := readBodyK_seen x k1 len
    have r3 := fun hl : 0 < len => Sock.read_eq_nil_iff x k1 hl
    simp only [reduceCtorEq, if_false, Nat.add_zero] at hv
    dsimp only
    generalize (k1.read x len).1 = got at *
    generalize readMoreK x len got (k1.read x len).2 = m at *
    -- a `read(len)` that returns `b''` with `len > 0`: nothing is ahead, and the loop raises
    have hnil : got = [] → 0 < len → ahead x k1 = [] ∧ m.1 = .error .eof := fun hg hl => by
      have := (r3 hl).mp hg
      rw [this, if_neg (by simp; omega)] at hb
      obtain ⟨_ | _, _⟩ := m <;> cases hb
      exact ⟨this, rfl⟩
    -- `read(0)`: the loop has nothing to do
    have hzero : len = 0 → m.1 = .ok [] := fun hz => by
      subst hz
      rw [if_pos (Nat.zero_le _)] at hb
      obtain ⟨_ | d, k2⟩ := m
      · cases hb
      · injection hb with hb; injection hb with h1 _; rw [h1]; rfl
    refine ⟨by split at he <;> split at hm <;> omega, fun data hd hne => ?_, fun h2 => ?_⟩
    · have hg : got ≠ [] := fun hg => by
        rcases Nat.eq_zero_or_pos len with hz | hl
        · rw [hzero hz] at hd; cases hd; exact hne rfl
        · rw [(hnil hg hl).2] at hd; cases hd
      rw [hm, he, hv, if_neg hg, hd]; rfl
    · have hg : got = [] := by
        by_cases hg : got = []
        · exact hg
        · rw [if_neg hg] at he; split at hm <;> omega
      have hl : 0 < len := by
        rcases Nat.eq_zero_or_pos len with hz | hl
        · rw [hzero hz] at hm; simp only [reduceCtorEq, if_false] at hm; split at he <;> omega
        · exact hl
      exact ⟨len, hl, by rw [decVarInt, ← hs, ← (hnil hg hl).1]; rfl⟩

/-! ### counters of `readPacketK` -/

theorem readPacketK_mono {σ : Type} (x : StreamXform σ) (z : ZlibOps) (c : Bool) (k : Sock σ) :
    Mono k (readPacketK x z c k).2 :=
  readPacketK_sock x z c k ▸ readFrameK_mono x k

/-- at most two empty reads -/
theorem readPacketK_empties_le {σ : Type} (x : StreamXform σ) (z : ZlibOps) (c : Bool)
    (k : Sock σ) : (readPacketK x z c k).2.empties ≤ k.empties + 2 :=
  readPacketK_sock x z c k ▸ (readFrameK_tally x k).1

/-- none when a packet is delivered -/
theorem readPacketK_ok_empties {σ : Type} (x : StreamXform σ) (z : ZlibOps) (c : Bool)
    (k : Sock σ) (p : Nat × Bytes) (h : (readPacketK x z c k).1 = .ok p) :
    (readPacketK x z c k).2.empties = k.empties := by
  have hf := (readFrameK_tally x k).2.1
  rw [readPacketK_sock]
  unfold readPacketK at h
  generalize readFrameK x k = r at h hf
  obtain ⟨_ | data, k1⟩ := r
  · cases h
  · exact hf data rfl fun hd => by
      simp only [hd, parseBody_nil] at h; cases h

/-- two only when the stream ends exactly behind a non-zero length prefix -/
theorem readPacketK_two_empties {σ : Type} (x : StreamXform σ) (z : ZlibOps) (c : Bool)
    (k : Sock σ) (h : k.empties + 2 ≤ (readPacketK x z c k).2.empties) :
    ∃ len, 0 < len ∧ decVarInt 5 (ahead x k) = .ok (len, []) :=
  (readFrameK_tally x k).2.2 (readPacketK_sock x z c k ▸ h)

theorem readAllFuel_tally {σ : Type} (x : StreamXform σ) (z : ZlibOps) (c : Bool) :
    ∀ (fuel : Nat) (k : Sock σ),
    Mono k (readAllFuel x z c fuel k).2 ∧
    (readAllFuel x z c fuel k).2.empties ≤ k.empties + 2 := by
  intro fuel
  induction fuel with
  | zero => intro k; exact ⟨Mono.refl k, by simp [readAllFuel]⟩
  | succ fuel ih =>
    intro k
    have p1 := readPacketK_mono x z c k
    have p2 := readPacketK_empties_le x z c k
    have p3 := readPacketK_ok_empties x z c k
    simp only [readAllFuel]
    generalize readPacketK x z c k = r at *
    obtain ⟨res, k1⟩ := r
    cases res with
    | error e => exact ⟨p1, p2⟩
    | ok p =>
      simp only at p1 p2 p3 ⊢
      obtain ⟨i1, i2⟩ := ih k1
      have := p3 p rfl
      exact ⟨p1.trans i1, by omega⟩

end PyCraft
