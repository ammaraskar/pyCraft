import PyCraft.Model.HandshakeWire
import PyCraft.Lemmas.FrameViews
import PyCraft.Lemmas.Wire
import PyCraft.Lemmas.Negotiate
/-!
Helper lemmas for `Props/C09Wire.lean`.

1. Pure counterparts on byte strings of the reference server's stream functions (`parseFrames`,
   `serverParse`) and the proof that the segment readers compute them on `segs.flatten`
   (segmentation is invisible, also on malformed input).
2. Field level: `readString`, `IntT.u16`, `IntT.i64`, `serverParseHandshake` against the encoders.
3. Frame level: the VarInt guard `FrameOK` for the frames of this model; what the reference server
   and the client's status reader deliver on a concatenation of frames.
4. The shapes of `frameBytes` / `firstBytes` under the guards, injectivity, the prefix argument.
-/
namespace PyCraft.HsWire
open PyCraft PyCraft.Neg

/-! ## pure stream parsers -/

/-- `recvFrames` on a byte string. -/
def parseFrames : Nat → Bytes → List (Nat × Bytes) × Option Err
  | 0, _ => ([], some .other)
  | fuel + 1, bs =>
    if bs.isEmpty then ([], none)
    else
      match parsePacket noZlib false bs with
      | .error e => ([], some e)
      | .ok (p, rest) => (p :: (parseFrames fuel rest).1, (parseFrames fuel rest).2)

/-- `serverRecv` on a byte string. -/
def serverParse (bs : Bytes) : Except Err Received :=
  match parsePacket noZlib false bs with
  | .error e => .error e
  | .ok (p, rest) =>
    if p.1 ≠ 0 then .error .other
    else
      match serverParseHandshake p.2 with
      | .error e => .error e
      | .ok (h, left) =>
        if left ≠ [] then .error .other
        else .ok ⟨h, (parseFrames (rest.length + 1) rest).1, (parseFrames (rest.length + 1) rest).2⟩

theorem recvFrames_spec : ∀ (fuel : Nat) (k : Sock Unit),
    recvFrames fuel k = parseFrames fuel k.segs.flatten
  | 0, _ => rfl
  | fuel + 1, k => by
    simp only [recvFrames, parseFrames]
    split
    · rfl
    · rw [← ahead_id, ← readPacketK_seen]
      obtain ⟨_ | p, k1⟩ := readPacketK idXform noZlib false k
      · rfl
      · simp only [seen, recvFrames_spec fuel k1, ahead_id]

/-- The reference server sees only the concatenation of the arrival segments. -/
theorem serverRecv_spec (segs : Segs) : serverRecv segs = serverParse segs.flatten := by
  unfold serverRecv serverParse
  rw [← ahead_plain segs, ← readPacketK_seen]
  obtain ⟨_ | p, k1⟩ := readPacketK idXform noZlib false (Sock.plain segs)
  · rfl
  · simp only [seen, recvFrames_spec, ahead_id]
    rfl

/-- The client's status reader sees only the concatenation of the arrival segments. -/
theorem clientRecvStatus_spec (segs : Segs) :
    clientRecvStatus segs =
      ((decodeStatusAll (parseAll noZlib false segs.flatten).1).1,
        match (decodeStatusAll (parseAll noZlib false segs.flatten).1).2 with
        | some e => e
        | none => (parseAll noZlib false segs.flatten).2) := by
  unfold clientRecvStatus
  simp only [readAll_spec]
  rfl

/-! ## primitive fields -/

theorem pow128_6 : (128 : Nat) ^ (5 + 1) = 2 ^ 42 := by decide

theorem enc_len6 (n : Nat) (h : n < 2 ^ 42) : (encVarInt n).length ≤ 6 :=
  enc_length_le 5 n (by rw [pow128_6]; exact h)

theorem encVarInt_one : encVarInt 1 = [1] := by decide +kernel
theorem encVarInt_two : encVarInt 2 = [2] := by decide +kernel
theorem encVarInt_zero : encVarInt 0 = [0] := by decide +kernel

theorem readString_enc (s : String) (more : Bytes) (h : (utf8 s).length < 2 ^ 42) :
    readString (encString s ++ more) = .ok (s, more) := by
  unfold readString encString
  rw [List.append_assoc, decVarInt_enc _ _ h]
  have hlt : ¬ (utf8 s ++ more).length < (utf8 s).length := by
    rw [List.length_append]; omega
  simp only [hlt, if_false, List.take_left', List.drop_left', utf8_roundtrip]

theorem encString_length (s : String) (h : (utf8 s).length < 2 ^ 42) :
    (encString s).length ≤ 6 + (utf8 s).length := by
  unfold encString
  rw [List.length_append]
  have := enc_len6 _ h
  omega

theorem encString_inj (a b : String) (ha : (utf8 a).length < 2 ^ 42)
    (hb : (utf8 b).length < 2 ^ 42) (h : encString a = encString b) : a = b := by
  have h1 := readString_enc a [] ha
  have h2 := readString_enc b [] hb
  rw [List.append_nil] at h1 h2
  rw [h, h2] at h1
  injection h1 with h1
  injection h1 with h1 _
  exact h1.symm

theorem u16_pack (n : Nat) (h : n < 65536) : IntT.u16.pack (n : Int) = .ok (beBytes 2 n) := by
  have e : (256 : Int) ^ 2 = 65536 := by decide
  have : (0 : Int) ≤ (n : Int) ∧ (n : Int) < (256 : Int) ^ 2 := by rw [e]; constructor <;> omega
  simp only [IntT.pack, IntT.signed, IntT.width, packU, this, and_self, if_true]
  simp

theorem u16_pack_err (n : Nat) (h : 65536 ≤ n) : IntT.u16.pack (n : Int) = .error .struct := by
  apply IntT.pack_err
  have e : (256 : Int) ^ 2 = 65536 := by decide
  simp only [IntT.inDom, IntT.signed, IntT.width, e]
  intro hd
  have := hd.2
  omega

theorem u16_unpack (n : Nat) (h : n < 65536) (more : Bytes) :
    IntT.u16.unpack (beBytes 2 n ++ more) = .ok ((n : Int), more) := by
  have hd : IntT.u16.inDom (n : Int) := by
    have e : (256 : Int) ^ 2 = 65536 := by decide
    simp only [IntT.inDom, IntT.signed, IntT.width, e]
    constructor <;> omega
  obtain ⟨bs, h1, _, h3⟩ := IntT.unpack_pack .u16 (n : Int) hd
  rw [u16_pack n h] at h1
  injection h1 with h1
  rw [h1]
  exact h3 more

/-- `Long`: what `pack` produces has 8 bytes and `unpack` gives the value back. -/
theorem i64_roundtrip (t : Int) (h : IntT.i64.inDom t) :
    ∃ b, b.length = 8 ∧ IntT.i64.pack t = .ok b ∧
      ∀ more, IntT.i64.unpack (b ++ more) = .ok (t, more) := by
  obtain ⟨bs, h1, h2, h3⟩ := IntT.unpack_pack .i64 t h
  exact ⟨bs, h2, h1, h3⟩

/-- Decoding then re-encoding 8 bytes as a `Long` gives the same 8 bytes. -/
theorem i64_unpack_pack (b more : Bytes) (hb : b.length = 8) :
    ∃ t, IntT.i64.unpack (b ++ more) = .ok (t, more) ∧ IntT.i64.pack t = .ok b := by
  obtain ⟨v, e1, e2, e3, _⟩ := IntT.unpack_spec .i64 b more hb
  refine ⟨v, e1, ?_⟩
  obtain ⟨bs, p1, p2, p3⟩ := IntT.pack_spec .i64 v e2
  rw [p1]
  have hv : beValue bs = beValue b := by
    have : (beValue bs : Int) = (beValue b : Int) := by rw [p3, e3]
    exact Int.ofNat.inj this
  have h1 := beBytes_beValue bs
  have h2 := beBytes_beValue b
  have hl : bs.length = b.length := by rw [p2, hb]; rfl
  rw [hl, hv, h2] at h1
  rw [h1]

theorem serverParseHandshake_fields (h : Handshake) (more : Bytes) (hok : HsOK h) :
    serverParseHandshake (handshakeFields h ++ more) = .ok (h, more) := by
  obtain ⟨h1, h2, h3, h4⟩ := hok
  unfold StrOK at h2
  unfold serverParseHandshake handshakeFields
  simp only [List.append_assoc]
  rw [decVarInt_enc _ _ (by omega)]
  simp only []
  rw [readString_enc _ _ (by omega)]
  simp only []
  rw [u16_unpack _ h3]
  simp only []
  rw [decVarInt_enc _ _ (by omega)]
  simp

theorem handshakeFields_inj (a b : Handshake) (ha : HsOK a) (hb : HsOK b)
    (h : handshakeFields a = handshakeFields b) : a = b := by
  have h1 := serverParseHandshake_fields a [] ha
  have h2 := serverParseHandshake_fields b [] hb
  rw [List.append_nil] at h1 h2
  rw [h, h2] at h1
  injection h1 with h1
  injection h1 with h1 _
  exact h1.symm

theorem handshakeFields_length (h : Handshake) (hok : HsOK h) :
    (handshakeFields h).length ≤ 20 + 2 ^ 31 := by
  obtain ⟨h1, h2, h3, h4⟩ := hok
  unfold StrOK at h2
  unfold handshakeFields
  simp only [List.length_append, beBytes_length]
  have := enc_len6 h.proto (by omega)
  have := enc_len6 h.next (by omega)
  have := encString_length h.host (by omega)
  omega

/-! ## frames -/

theorem frameOK_plain (id : Nat) (fields : Bytes) (hid : id < 2 ^ 42)
    (hl : fields.length + 6 < 2 ^ 42) : FrameOK noZlib none (id, fields) := by
  have hp : (packetPayload id fields).length < 2 ^ 42 := by
    unfold packetPayload
    rw [List.length_append]
    have := enc_len6 id hid
    omega
  exact ⟨hid, hp, hp⟩

theorem frameOK_handshake (h : Handshake) (hok : HsOK h) :
    FrameOK noZlib none (0, handshakeFields h) :=
  frameOK_plain 0 _ (by omega) (by have := handshakeFields_length h hok; omega)

theorem frameOK_string (id : Nat) (s : String) (hid : id < 2 ^ 32) (hs : StrOK s) :
    FrameOK noZlib none (id, encString s) := by
  unfold StrOK at hs
  exact frameOK_plain id _ (by omega) (by have := encString_length s (by omega); omega)

theorem frameOK_fixed (id : Nat) (b : Bytes) (hid : id < 2 ^ 32) (hb : b.length ≤ 8) :
    FrameOK noZlib none (id, b) :=
  frameOK_plain id _ (by omega) (by omega)

theorem packetFrame_ne_nil (p : Nat × Bytes) : packetFrame noZlib none p ≠ [] := by
  unfold packetFrame frame
  exact List.append_ne_nil_of_left_ne_nil (enc_ne_nil _) _

theorem frames_length_le (ps : List (Nat × Bytes)) :
    ps.length ≤ (ps.map (packetFrame noZlib none)).flatten.length := by
  induction ps with
  | nil => simp
  | cons p ps ih =>
    simp only [List.map_cons, List.flatten_cons, List.length_append, List.length_cons]
    have := List.length_pos_iff.mpr (packetFrame_ne_nil p)
    omega

theorem parsePacket_plain (p : Nat × Bytes) (more : Bytes) (h : FrameOK noZlib none p) :
    parsePacket noZlib false (packetFrame noZlib none p ++ more) = .ok (p, more) :=
  parsePacket_packetFrame Zlib.ident none p more h

/-- … and on the socket: the plain frame of `p` at the head of what is still to arrive is read as
`p`, and the socket is left exactly behind it. -/
theorem readPacketK_plain (p : Nat × Bytes) (more : Bytes) (k : Sock Unit)
    (h : FrameOK noZlib none p) (hk : k.segs.flatten = packetFrame noZlib none p ++ more) :
    ∃ k', readPacketK idXform noZlib false k = (.ok p, k') ∧ k'.segs.flatten = more :=
  readPacketK_packetFrame idXform Zlib.ident none p more k h hk

/-- A concatenation of well-formed frames is delivered exactly, with a clean end of stream. -/
theorem parseFrames_frames : ∀ (ps : List (Nat × Bytes)) (fuel : Nat),
    (∀ p ∈ ps, FrameOK noZlib none p) → ps.length < fuel →
    parseFrames fuel (ps.map (packetFrame noZlib none)).flatten = (ps, none) := by
  intro ps
  induction ps with
  | nil =>
    intro fuel _ hf
    cases fuel with
    | zero => omega
    | succ fuel => rfl
  | cons p ps ih =>
    intro fuel hok hf
    cases fuel with
    | zero => omega
    | succ fuel =>
      simp only [List.map_cons, List.flatten_cons, parseFrames]
      have hne : (packetFrame noZlib none p ++
          (ps.map (packetFrame noZlib none)).flatten).isEmpty = false := by
        have := packetFrame_ne_nil p
        cases hq : packetFrame noZlib none p with
        | nil => exact absurd hq this
        | cons a b => rfl
      rw [hne]
      simp only [Bool.false_eq_true, if_false]
      rw [parsePacket_plain p _ (hok p (by simp))]
      simp only []
      rw [ih fuel (fun q hq => hok q (by simp [hq])) (by simp at hf; omega)]

/-- The reference server on "handshake frame, then well-formed frames". -/
theorem serverParse_ok (h : Handshake) (ps : List (Nat × Bytes)) (hh : HsOK h)
    (hok : ∀ p ∈ ps, FrameOK noZlib none p) :
    serverParse (plainFrame 0 (handshakeFields h) ++ (ps.map (packetFrame noZlib none)).flatten)
      = .ok ⟨h, ps, none⟩ := by
  unfold serverParse plainFrame
  rw [parsePacket_plain _ _ (frameOK_handshake h hh)]
  have := serverParseHandshake_fields h [] hh
  rw [List.append_nil] at this
  simp only [ne_eq, not_true_eq_false, if_false, this]
  rw [parseFrames_frames ps _ hok (by have := frames_length_le ps; omega)]

/-- The client's status reader on a concatenation of well-formed frames: the frames decoded in
order up to the first `read` that raises; if none does, the run ends with `EOFError` on the
exhausted stream. -/
theorem clientRecvStatus_frames (ps : List (Nat × Bytes)) (segs : Segs)
    (hok : ∀ p ∈ ps, FrameOK noZlib none p)
    (hseg : segs.flatten = (ps.map (packetFrame noZlib none)).flatten) :
    clientRecvStatus segs = ((decodeStatusAll ps).1, (decodeStatusAll ps).2.getD .eof) := by
  have hp : parseAll noZlib false (ps.map (packetFrame noZlib none)).flatten = (ps, .eof) :=
    parseAll_conversation Zlib.ident none ps hok
  rw [clientRecvStatus_spec, hseg, hp]
  cases h : (decodeStatusAll ps).2 with
  | none => rfl
  | some e => rfl

theorem decode_response (json : String) (h : StrOK json) :
    decodeClientboundStatus (0, encString json) = .ok (.response json) := by
  unfold StrOK at h
  have := readString_enc json [] (by omega)
  rw [List.append_nil] at this
  simp [decodeClientboundStatus, this]

theorem decode_pong (t : Int) (b : Bytes) (h : ∀ more, IntT.i64.unpack (b ++ more) = .ok (t, more)) :
    decodeClientboundStatus (1, b) = .ok (.pong t) := by
  have := h []
  rw [List.append_nil] at this
  simp [decodeClientboundStatus, this]

/-! ## the client's bytes under the guards -/

section
variable (lsId : Nat)

theorem writeFrame_handshake (h : Handshake) (hp : h.port < 65536) :
    writeFrame lsId (.first (.handshake h)) = .ok (plainFrame 0 (handshakeFields h)) := by
  rw [writeFrame, writePkt, u16_pack h.port hp]
  rfl

theorem writeFrame_handshake_err (h : Handshake) (hp : 65536 ≤ h.port) :
    writeFrame lsId (.first (.handshake h)) = .error .struct := by
  rw [writeFrame, writePkt, u16_pack_err h.port hp]
  rfl

theorem writeFrame_request :
    writeFrame lsId (.first .statusRequest) = .ok (plainFrame 0 []) := by
  rw [writeFrame, writePkt]; rfl

theorem writeFrame_loginStart (name : String) :
    writeFrame lsId (.first (.loginStart (some name))) = .ok (plainFrame lsId (encString name)) := by
  rw [writeFrame, writePkt]; rfl

theorem writeFrame_loginStart_none :
    writeFrame lsId (.first (.loginStart none)) = .error .other := by
  rw [writeFrame, writePkt]

theorem writeFrame_ping (t : Int) (b : Bytes) (h : IntT.i64.pack t = .ok b) :
    writeFrame lsId (.ping t) = .ok (plainFrame 1 b) := by
  rw [writeFrame, writePkt, h]; rfl

theorem writeFrame_ping_err (t : Int) (h : ¬ IntT.i64.inDom t) :
    writeFrame lsId (.ping t) = .error .struct := by
  rw [writeFrame, writePkt, IntT.pack_err .i64 t h]; rfl

theorem frameBytes_of_ok {f : CFrame} {b : Bytes} (h : writeFrame lsId f = .ok b) :
    frameBytes lsId f = b := by
  rw [frameBytes, h]

theorem firstBytes_direct (p : ConnParams) (v : Nat) (name : String)
    (hp : p.port < 65536) (hn : loginName p = some name) :
    firstBytes lsId p (.direct v) =
      plainFrame 0 (handshakeFields ⟨v, p.host, p.port, 2⟩) ++
        ([(lsId, encString name)].map (packetFrame noZlib none)).flatten := by
  simp only [firstBytes, connBytes, firstFrames, hn, List.flatMap_cons, List.flatMap_nil,
    frameBytes, writeFrame_handshake lsId ⟨v, p.host, p.port, 2⟩ hp, writeFrame_loginStart, STATE_PLAYING, plainFrame,
    List.map_cons, List.map_nil, List.flatten_cons, List.flatten_nil]

theorem firstBytes_query (p : ConnParams) (v : Nat) (hp : p.port < 65536) :
    firstBytes lsId p (.query v) =
      plainFrame 0 (handshakeFields ⟨v, p.host, p.port, 1⟩) ++
        ([(0, [])].map (packetFrame noZlib none)).flatten := by
  simp only [firstBytes, connBytes, firstFrames, List.flatMap_cons, List.flatMap_nil,
    frameBytes, writeFrame_handshake lsId ⟨v, p.host, p.port, 1⟩ hp, writeFrame_request, STATE_STATUS, plainFrame,
    List.map_cons, List.map_nil, List.flatten_cons, List.flatten_nil]

/-- With a port `struct.pack('>H')` accepts and (for a direct login) a login name, the networking
thread writes exactly `firstBytes` and raises nothing. -/
theorem clientWrites_first (p : ConnParams) (plan : Plan) (hp : p.port < 65536)
    (hname : ∀ v, plan = .direct v → loginName p ≠ none) :
    clientWrites lsId ((firstFrames p plan).map .first) = (firstBytes lsId p plan, none) := by
  cases plan with
  | query v =>
    rw [firstBytes_query lsId p v hp]
    simp only [firstFrames, List.map_cons, List.map_nil, clientWrites, STATE_STATUS,
      writeFrame_handshake lsId ⟨v, p.host, p.port, 1⟩ hp, writeFrame_request, plainFrame,
      List.flatten_cons, List.flatten_nil]
  | direct v =>
    cases hn : loginName p with
    | none => exact absurd hn (hname v rfl)
    | some name =>
      rw [firstBytes_direct lsId p v name hp hn]
      simp only [firstFrames, hn, List.map_cons, List.map_nil, clientWrites, STATE_PLAYING,
        writeFrame_handshake lsId ⟨v, p.host, p.port, 2⟩ hp, writeFrame_loginStart, plainFrame,
        List.flatten_cons, List.flatten_nil]

theorem firstOK_direct (p : ConnParams) (v : Nat) (h : FirstOK lsId p (.direct v)) :
    StrOK p.host ∧ p.port < 65536 ∧ v < 2 ^ 32 ∧ lsId < 2 ^ 32 ∧
      ∃ name, loginName p = some name ∧ StrOK name := by
  obtain ⟨h1, h2, h3, h4, h5⟩ := h
  refine ⟨h1, h2, h3, h4, ?_⟩
  cases hn : loginName p with
  | none => rw [hn] at h5; exact h5.elim
  | some name => rw [hn] at h5; exact ⟨name, rfl, h5⟩

theorem firstOK_query (p : ConnParams) (v : Nat) (h : FirstOK lsId p (.query v)) :
    StrOK p.host ∧ p.port < 65536 ∧ v < 2 ^ 32 := ⟨h.1, h.2.1, h.2.2.1⟩

/-- What the reference server gets from the bytes of a direct login. -/
theorem serverParse_direct (p : ConnParams) (v : Nat) (name : String)
    (hh : StrOK p.host) (hp : p.port < 65536) (hv : v < 2 ^ 32) (hl : lsId < 2 ^ 32)
    (hn : loginName p = some name) (hs : StrOK name) :
    serverParse (firstBytes lsId p (.direct v)) =
      .ok ⟨⟨v, p.host, p.port, 2⟩, [(lsId, encString name)], none⟩ := by
  rw [firstBytes_direct lsId p v name hp hn]
  apply serverParse_ok _ _ ⟨hv, hh, hp, by show (2 : Nat) < 2 ^ 32; omega⟩
  intro q hq
  simp only [List.mem_singleton] at hq
  subst hq
  exact frameOK_string lsId name hl hs

/-- What the reference server gets from the bytes of a status query. -/
theorem serverParse_query (p : ConnParams) (v : Nat)
    (hh : StrOK p.host) (hp : p.port < 65536) (hv : v < 2 ^ 32) :
    serverParse (firstBytes lsId p (.query v)) =
      .ok ⟨⟨v, p.host, p.port, 1⟩, [(0, [])], none⟩ := by
  rw [firstBytes_query lsId p v hp]
  apply serverParse_ok _ _ ⟨hv, hh, hp, by show (1 : Nat) < 2 ^ 32; omega⟩
  intro q hq
  simp only [List.mem_singleton] at hq
  subst hq
  exact frameOK_fixed 0 [] (by omega) (by simp)

/-- What the reference server gets from the first bytes of any plan within the guards: the
handshake record of the plan and one more frame, which for a direct login is the login start. -/
theorem serverParse_first (p : ConnParams) (plan : Plan) (hok : FirstOK lsId p plan) :
    ∃ fr, serverParse (firstBytes lsId p plan) =
        .ok ⟨⟨planProto plan, p.host, p.port, planNext plan⟩, [fr], none⟩ ∧
      ∀ v, plan = .direct v → ∃ name, loginName p = some name ∧ StrOK name ∧
        fr = (lsId, encString name) := by
  cases plan with
  | direct v =>
    obtain ⟨h1, h2, h3, h4, name, hn, hs⟩ := firstOK_direct lsId p v hok
    exact ⟨_, serverParse_direct lsId p v name h1 h2 h3 h4 hn hs, fun _ _ => ⟨name, hn, hs, rfl⟩⟩
  | query v =>
    obtain ⟨h1, h2, h3⟩ := firstOK_query lsId p v hok
    exact ⟨_, serverParse_query lsId p v h1 h2 h3, nofun⟩

theorem decode_loginStart (name : String) (hs : StrOK name) :
    decodeServerbound lsId 2 (lsId, encString name) = .loginStart name := by
  unfold StrOK at hs
  have := readString_enc name [] (by omega)
  rw [List.append_nil] at this
  simp [decodeServerbound, this]

theorem decode_request : decodeServerbound lsId 1 (0, []) = .request := by
  simp [decodeServerbound]

theorem decode_ping (t : Int) (b : Bytes)
    (h : ∀ more, IntT.i64.unpack (b ++ more) = .ok (t, more)) :
    decodeServerbound lsId 1 (1, b) = .ping t := by
  have := h []
  rw [List.append_nil] at this
  simp [decodeServerbound, this]

/-! ## the first frame decides: prefixes -/

/-- If a stream that starts with a well-formed frame is a prefix of another such stream, the two
first frames are the same packet. -/
theorem first_frame_of_prefix (p q : Nat × Bytes) (r1 r2 : Bytes)
    (hp : FrameOK noZlib none p) (hq : FrameOK noZlib none q)
    (h : packetFrame noZlib none p ++ r1 <+: packetFrame noZlib none q ++ r2) : p = q := by
  obtain ⟨c, hc⟩ := h
  have h1 := parsePacket_plain p (r1 ++ c) hp
  have h2 := parsePacket_plain q r2 hq
  rw [← List.append_assoc, hc, h2] at h1
  injection h1 with h1
  injection h1 with h1 _
  exact h1.symm

/-- Two streams that start with handshake frames, one a prefix of the other, start with the same
handshake record. -/
theorem handshake_of_prefix {a b : Handshake} (ha : HsOK a) (hb : HsOK b) {r1 r2 : Bytes}
    (h : plainFrame 0 (handshakeFields a) ++ r1 <+: plainFrame 0 (handshakeFields b) ++ r2) :
    a = b := by
  have hpkt := first_frame_of_prefix _ _ _ _ (frameOK_handshake a ha) (frameOK_handshake b hb) h
  exact handshakeFields_inj a b ha hb (Prod.mk.inj hpkt).2

/-- The handshake frames for next state 1 and 2 (same protocol, host, port) are equal up to their
last byte, which is the next state. -/
theorem handshake_frames_differ_last (v : Nat) (host : String) (port : Nat) :
    ∃ pre, plainFrame 0 (handshakeFields ⟨v, host, port, 1⟩) = pre ++ [1] ∧
      plainFrame 0 (handshakeFields ⟨v, host, port, 2⟩) = pre ++ [2] := by
  refine ⟨encVarInt (packetPayload 0 (handshakeFields ⟨v, host, port, 1⟩)).length ++
    (encVarInt 0 ++ (encVarInt v ++ encString host ++ beBytes 2 port)), ?_, ?_⟩
  · simp only [plainFrame, packetFrame, frame, frameBody, packetPayload, handshakeFields,
      encVarInt_one, List.append_assoc]
  · have hl : (packetPayload 0 (handshakeFields ⟨v, host, port, 2⟩)).length =
        (packetPayload 0 (handshakeFields ⟨v, host, port, 1⟩)).length := by
      simp only [packetPayload, handshakeFields, encVarInt_one, encVarInt_two, List.length_append,
        List.length_cons, List.length_nil]
    simp only [plainFrame, packetFrame, frame, frameBody]
    rw [hl]
    simp only [packetPayload, handshakeFields, encVarInt_two, List.append_assoc]

/-! ## the pong frame -/

theorem encVarInt_nine : encVarInt 9 = [9] := by decide +kernel

/-- A packet with id 1 and an 8-byte field: length 9, id 1, the 8 bytes. -/
theorem plainFrame_long (b : Bytes) (hb : b.length = 8) : plainFrame 1 b = [0x09, 0x01] ++ b := by
  have hl : (packetPayload 1 b).length = 9 := by
    simp only [packetPayload, encVarInt_one, List.length_append, List.length_cons, List.length_nil,
      hb]
  simp only [plainFrame, packetFrame, frame, frameBody]
  rw [hl, encVarInt_nine]
  simp only [packetPayload, encVarInt_one]
  rfl

/-- The client reading a pong frame `09 01 b` whose 8 payload bytes decode to `t`. -/
theorem clientRecvStatus_pong (t : Int) (b : Bytes) (segs : Segs) (hb : b.length = 8)
    (hun : IntT.i64.unpack b = .ok (t, [])) (hseg : segs.flatten = [0x09, 0x01] ++ b) :
    clientRecvStatus segs = ([.pong t], .eof) := by
  have hfr : segs.flatten = ([((1 : Nat), b)].map (packetFrame noZlib none)).flatten := by
    rw [hseg, ← plainFrame_long b hb]
    simp [plainFrame]
  rw [clientRecvStatus_frames [(1, b)] segs
    (fun q hq => by
      cases List.mem_singleton.1 hq
      exact frameOK_fixed 1 b (by omega) (by omega)) hfr]
  simp [decodeStatusAll, decodeClientboundStatus, hun]

theorem pongBytes_ok (t : Int) (b : Bytes) (h : IntT.i64.pack t = .ok b) :
    pongBytes t = .ok (plainFrame 1 b) := by
  rw [pongBytes, h]; rfl

end

/-! ## concrete parameters for the non-vacuity examples and the negative witness -/

def demoParams : ConnParams := ⟨"localhost", 25565, some "u", none⟩

/-- A host with a two-byte and a three-byte character: 15 characters, 18 bytes. -/
def demoParamsU : ConnParams := ⟨"play.é世.example", 25565, some "u", none⟩

def demoHs : Handshake := ⟨757, "play.é世.example", 25565, 2⟩

/-- A client → server stream built with a given encoder of the handshake fields, followed by the
login start of user "u". -/
def streamWith (enc : Handshake → Bytes) (h : Handshake) : Bytes :=
  plainFrame 0 (enc h) ++ plainFrame 0 (encString "u")

end PyCraft.HsWire
