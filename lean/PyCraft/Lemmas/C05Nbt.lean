import PyCraft.Model.C05Nbt
import PyCraft.Lemmas.Custom
import PyCraft.Lemmas.Layout
import PyCraft.Lemmas.LayoutTables
import PyCraft.Lemmas.Packets
/-!
Helper lemmas for `Props/C05Nbt.lean`:

* `realCustomWith n` differs from `realCustom` in the `.nbt` slot only;
* the model of pynbt (`Model/C05Nbt.lean`) round-trips on well-formed files, given the law of `mutf8`
  (`file_rt`; `NbtLaw` on `nbtDom` follows in `Props/C05Nbt.lean`).

pynbt's reader does not notice a short `src.read(n)`, so the payload of a byte array or of a string
does NOT have the "every strict prefix is rejected" property (`Hdr`): a strict prefix may be read
"successfully" — but then it is consumed entirely (`SoftRes`), and the next `struct` read fails.
`SoftRes` / `Soft0` are `Hdr` weakened in this way.  `SRT w r x` pairs a writer with a reader that reads
its bytes back in this sense; `SRT.seq`, `SRT.last`, `SRT.cons` compose such pairs along the `do` block of
the model's reader (as `rt_seq`, `rt_last`, `rt_each` of `Lemmas/Packets.lean` do for the hand-written
packet classes), and at the root — which ends with the `TAG_End` byte, read by `struct` — the strong
property is recovered (`err_seq`).

Also here: sample values of every type for `realCustomWith`, decidable equality of `Tag` (a nested
inductive), the lemmas that `realCustomWith` changes nothing on NBT-free types, and the Bool checkers
for the vectors recorded from the live code.
-/
namespace PyCraft

/-! ## `realCustomWith` -/

/-- off the `.nbt` slot nothing changes -/
theorem realCustomWith_enc (n : NbtCodec) (c : CustomT) (hc : c ≠ .nbt) (v : Value) :
    (realCustomWith n).enc c v = realCustom.enc c v := by
  cases c <;> first | exact absurd rfl hc | rfl

theorem realCustomWith_dec (n : NbtCodec) (c : CustomT) (hc : c ≠ .nbt) (bs : Bytes) :
    (realCustomWith n).dec c bs = realCustom.dec c bs := by
  cases c <;> first | exact absurd rfl hc | rfl

theorem realDomWith_of_realDom (nd : Value → Prop) (c : CustomT) (v : Value) (h : realDom c v) :
    realDomWith nd c v := by
  cases c with
  | nbt => exact h.elim
  | _ => exact h

theorem wellTyped_with (nd : Value → Prop) : ∀ (t : WType) (v : Value),
    WellTyped realDom t v → WellTyped (realDomWith nd) t v := by
  intro t
  induction t with
  | array l t ih =>
    intro v h
    cases v <;> try exact h
    exact ⟨h.1, fun w hw => ih w (h.2 w hw)⟩
  | custom c => intro v h; exact realDomWith_of_realDom nd c v h
  | _ => intro v h; cases v <;> exact h

theorem wellTypedFields_with (nd : Value → Prop) : ∀ (L : Layout) (vals : List Value),
    WellTypedFields realDom L vals → WellTypedFields (realDomWith nd) L vals := by
  intro L
  induction L with
  | nil => intro vals h; cases vals <;> exact h
  | cons f L ih =>
    intro vals h
    obtain ⟨n, t⟩ := f
    cases vals with
    | nil => exact h
    | cons v vs => exact ⟨wellTyped_with nd t v h.1, ih vs h.2⟩

/-! ### sample values of every type, NBT included -/

/-- `LayoutCheck.sampleVal` with `nv` for NBT -/
def sampleValWith (nv : Value) : WType → Value
  | .bool => .bool true
  | .int _ => .int 1
  | .varint => .int 300
  | .varlong => .int 300
  | .string => .str "a"
  | .uuid => .bytes (List.replicate 16 7)
  | .angle => .int 1
  | .fixed _ _ => .int 1
  | .bytesVarint => .bytes [1, 2]
  | .bytesShort => .bytes [1, 2]
  | .trailing => .bytes [1, 2]
  | .array _ t => .list [sampleValWith nv t, sampleValWith nv t]
  | .custom (.record _) => Value.ofInts [1, 2, 3, 4]
  | .custom (.pitch _ _) => .int 1
  | .custom .nbt => nv
  | .custom _ => Value.ofInts [1, 2, 3]

theorem sampleWith_wellTyped {nd : Value → Prop} {nv : Value} (hv : nd nv) :
    ∀ t : WType, WellTyped (realDomWith nd) t (sampleValWith nv t) := by
  intro t
  induction t with
  | int t => show IntT.inDom t 1; cases t <;> decide
  | fixed b _ => show IntT.inDom b 1; cases b <;> decide
  | string => show (utf8 "a").length < 2 ^ 31; decide +kernel
  | array l t ih => cases l <;> simp [sampleValWith, WellTyped, ih]
  | custom c =>
    by_cases hc : c = .nbt
    · subst hc; exact hv
    · have := LayoutCheck.sample_custom c hc
      cases c with
      | nbt => exact absurd rfl hc
      | _ => exact this
  | _ => simp [sampleValWith, WellTyped]

theorem sampleWith_wellTypedFields {nd : Value → Prop} {nv : Value} (hv : nd nv) :
    ∀ L : Layout, WellTypedFields (realDomWith nd) L (L.map fun f => sampleValWith nv f.2) := by
  intro L
  induction L with
  | nil => exact True.intro
  | cons f L ih => obtain ⟨n, t⟩ := f; exact ⟨sampleWith_wellTyped hv t, ih⟩

namespace Nbt
open Pk (seqW seqW_ok)

/-! ## readers that may eat a short input -/

/-- a result that is an error, or a success that consumed everything -/
def SoftRes {α : Type} (r : Except Err (α × Bytes)) : Prop :=
  (∃ e, r = .error e) ∨ ∃ y, r = .ok (y, [])

/-- `b` is read as `z` whatever follows; a strict prefix of `b` is rejected or eaten whole -/
def Soft0 {α : Type} (dec : Bytes → Except Err (α × Bytes)) (b : Bytes) (z : α) : Prop :=
  (∀ rest, dec (b ++ rest) = .ok (z, rest)) ∧ ∀ q, q <+: b → q ≠ b → SoftRes (dec q)

theorem Soft0.ofHdr {α : Type} {dec : Bytes → Except Err (α × Bytes)} {b : Bytes} {z : α}
    (h : Hdr dec b z) : Soft0 dec b z :=
  ⟨h.read, fun q hq hne => Or.inl (h.prefixErr q hq hne)⟩

theorem softRes_err {α : Type} (e : Err) : SoftRes (.error e : Except Err (α × Bytes)) :=
  Or.inl ⟨e, rfl⟩

theorem softRes_ok {α : Type} (y : α) : SoftRes (.ok (y, []) : Except Err (α × Bytes)) :=
  Or.inr ⟨y, rfl⟩

/-- sequencing on a possibly short input: if the first reader is soft and the second, started on
the empty input, is soft, so is the sequence -/
theorem softRes_bind {α β : Type} {r : Except Err (α × Bytes)} (hr : SoftRes r)
    {k : α × Bytes → Except Err (β × Bytes)} (hnil : ∀ y, SoftRes (k (y, []))) :
    SoftRes (r >>= k) := by
  rcases hr with ⟨e, rfl⟩ | ⟨y, rfl⟩
  · exact softRes_err e
  · exact hnil y

theorem SoftRes.map {α β : Type} {r : Except Err (α × Bytes)} (hr : SoftRes r) (g : α → β) :
    SoftRes (do let (v, s) ← r; pure (g v, s)) :=
  softRes_bind hr fun y => softRes_ok (g y)

/-- a Soft0-read byte string is not empty when the reader rejects the empty input -/
theorem ne_nil_of_soft {α : Type} {r : Bytes → Except Err (α × Bytes)} {bs : Bytes} {x : α}
    (h : Soft0 r bs x) (hr : ∃ e, r [] = .error e) : bs ≠ [] := by
  rintro rfl
  obtain ⟨e, he⟩ := hr
  have := h.1 []
  rw [List.append_nil, he] at this
  cases this

/-! ### writer and reader of one piece

`SRT w r x`: the writer `w` succeeds and its bytes are read back softly by `r` as `x`.  The lemmas
below build the round trip of a reader written as a `do` block field by field, as `rt_seq` / `rt_last`
of `Lemmas/Packets.lean` do for `RT`: the reader is `fun bs => A bs >>= k` and the continuation `k` is
found by unification, so the model's readers are used as they are written. -/

def SRT {α : Type} (w : Except Err Bytes) (r : Bytes → Except Err (α × Bytes)) (x : α) : Prop :=
  ∃ bs, w = .ok bs ∧ Soft0 r bs x

variable {α β : Type}

/-- a piece, then the continuation on what follows; the continuation must be soft on the empty input,
because a strict prefix may end inside the first piece and still be accepted by its reader -/
theorem SRT.seq {w1 w2 : Except Err Bytes} {A : Bytes → Except Err (α × Bytes)} {x : α}
    {k : α × Bytes → Except Err (β × Bytes)} {z : β}
    (h1 : SRT w1 A x) (h2 : SRT w2 (fun bs => k (x, bs)) z) (hnil : ∀ y, SoftRes (k (y, []))) :
    SRT (w1 +++ w2) (fun bs => A bs >>= k) z := by
  obtain ⟨a, ha, hA⟩ := h1
  obtain ⟨b, hb, hB⟩ := h2
  refine ⟨a ++ b, by rw [ha, hb, seqW_ok], fun rest => ?_, fun p hp hne => ?_⟩
  · simp only [List.append_assoc, hA.1, bind, Except.bind]; exact hB.1 rest
  · rcases strict_prefix_append hp hne with ⟨hp', hne'⟩ | ⟨q, rfl, hq, hqne⟩
    · exact softRes_bind (hA.2 p hp' hne') hnil
    · simp only [hA.1, bind, Except.bind]; exact hB.2 q hq hqne

/-- the continuation only builds the result -/
theorem SRT.last {w : Except Err Bytes} {A : Bytes → Except Err (α × Bytes)} {x : α}
    {k : α × Bytes → Except Err (β × Bytes)} {g : α → β}
    (h : SRT w A x) (hk : ∀ y bs, k (y, bs) = .ok (g y, bs)) :
    SRT w (fun bs => A bs >>= k) (g x) := by
  obtain ⟨a, ha, hA⟩ := h
  refine ⟨a, ha, fun rest => by simp only [hA.1, bind, Except.bind, hk], fun p hp hne => ?_⟩
  exact softRes_bind (hA.2 p hp hne) fun y => by rw [hk]; exact softRes_ok _

/-- a strict prefix of `a ++ b` is REJECTED when `a` is read softly and the continuation rejects
the strict prefixes of `b`, the empty one included -/
theorem err_seq {A : Bytes → Except Err (α × Bytes)} {a : Bytes} {x : α}
    {k : α × Bytes → Except Err (β × Bytes)} {b : Bytes} (hA : Soft0 A a x)
    (hB : ∀ q, q <+: b → q ≠ b → ∃ e, k (x, q) = .error e) (hnil : ∀ y, ∃ e, k (y, []) = .error e)
    {p : Bytes} (hp : p <+: a ++ b) (hne : p ≠ a ++ b) : ∃ e, (A p >>= k) = .error e := by
  rcases strict_prefix_append hp hne with ⟨hp', hne'⟩ | ⟨q, rfl, hq, hqne⟩
  · rcases hA.2 p hp' hne' with ⟨e, he⟩ | ⟨y, hy⟩
    · exact ⟨e, by simp only [he, bind, Except.bind]⟩
    · simp only [hy, bind, Except.bind]; exact hnil y
  · simp only [hA.1, bind, Except.bind]; exact hB q hq hqne

/-! ## fixed-width pieces -/

theorem unpack_nil (t : IntT) : t.unpack [] = .error .struct :=
  t.unpack_short [] (by simpa using t.width_pos)

theorem unpack_nil_soft (t : IntT) : SoftRes (t.unpack []) := by
  rw [unpack_nil]; exact softRes_err _

/-- the bytes of an in-range integer are a header of `struct.unpack` -/
theorem soft_int (t : IntT) (v : Int) (hv : t.inDom v) :
    ∃ bs, t.pack v = .ok bs ∧ bs.length = t.width ∧ Hdr t.unpack bs v := by
  obtain ⟨bs, hb, hl, _⟩ := t.pack_spec v hv
  exact ⟨bs, hb, hl, hdr_int t v bs hv hb⟩

theorem SRT.int (t : IntT) (v : Int) (hv : t.inDom v) : SRT (t.pack v) t.unpack v :=
  let ⟨bs, hb, _, hH⟩ := soft_int t v hv
  ⟨bs, hb, Soft0.ofHdr hH⟩

theorem i8_inDom_id (n : Nat) (h : n ≤ 12) : IntT.i8.inDom (n : Int) := by
  simp [IntT.inDom, IntT.signed, IntT.width]; omega

theorem i32_inDom_len (n : Nat) (h : n < 2 ^ 31) : IntT.i32.inDom (n : Int) := by
  simp [IntT.inDom, IntT.signed, IntT.width]; omega

theorem i16_inDom_len (n : Nat) (h : n < 2 ^ 15) : IntT.i16.inDom (n : Int) := by
  simp [IntT.inDom, IntT.signed, IntT.width]; omega

theorem tagClass_id (n : Nat) (h : n ≤ 12) : tagClass (n : Int) = .ok n := by
  unfold tagClass
  rw [if_pos (by omega)]
  simp

/-! ## `takeLenient` -/

theorem takeLenient_exact (b rest : Bytes) : takeLenient (b.length : Int) (b ++ rest) = (b, rest) := by
  unfold takeLenient
  rw [if_neg (by omega)]
  simp

theorem takeLenient_short (n : Nat) (q : Bytes) (h : q.length ≤ n) :
    takeLenient (n : Int) q = (q, []) := by
  unfold takeLenient
  rw [if_neg (by omega)]
  simp only [Int.toNat_natCast]
  rw [List.take_of_length_le h, List.drop_of_length_le h]

theorem takeLenient_nil (n : Int) : takeLenient n [] = ([], []) := by
  unfold takeLenient; split <;> simp

/-- `src.read(len(b))` on `b` followed by anything; of less than `b`, everything is taken -/
theorem SRT.take (b : Bytes) {K : Bytes × Bytes → Except Err (β × Bytes)} {z : β}
    (h1 : ∀ rest, K (b, rest) = .ok (z, rest)) (h2 : ∀ q, SoftRes (K (q, []))) :
    SRT (.ok b) (fun bs => K (takeLenient (b.length : Int) bs)) z :=
  ⟨b, rfl, fun rest => by simp only [takeLenient_exact]; exact h1 rest, fun q hq hne => by
    simp only [takeLenient_short _ q (Nat.le_of_lt (prefix_length_lt hq hne))]; exact h2 q⟩

/-! ## strings -/

section strings
variable {m : Mutf8}

theorem softRes_dec (raw : Bytes) :
    SoftRes (do let s ← m.dec raw; pure (s, ([] : Bytes)) : Except Err (String × Bytes)) := by
  cases m.dec raw with
  | error e => exact softRes_err e
  | ok s => exact softRes_ok s

theorem srt_utf8 (hm : Mutf8Law m) (s : String) (hs : (m.enc s).length < 2 ^ 15) :
    SRT (writeUtf8 m s) (readUtf8 m) s :=
  SRT.seq (w2 := .ok (m.enc s)) (SRT.int .i16 _ (i16_inDom_len _ hs))
    (SRT.take (m.enc s) (K := fun p => m.dec p.1 >>= fun s => pure (s, p.2))
      (fun rest => by simp only [hm.rt]; rfl) softRes_dec)
    fun n => by simp only [takeLenient_nil]; exact softRes_dec []

theorem readUtf8_nil : ∃ e, readUtf8 m [] = .error e :=
  ⟨.struct, by unfold readUtf8; rw [unpack_nil]; rfl⟩

end strings

/-! ## repeated reads -/

theorem repeatRead_nil_soft {f : Bytes → Except Err (α × Bytes)} (h : SoftRes (f [])) :
    ∀ n, SoftRes (repeatRead f n [])
  | 0 => softRes_ok []
  | n + 1 => softRes_bind h fun y => (repeatRead_nil_soft h n).map (y :: ·)

theorem SRT.nil (f : Bytes → Except Err (α × Bytes)) : SRT (.ok []) (repeatRead f 0) ([] : List α) :=
  ⟨[], rfl, fun _ => rfl, fun _ hq hne => absurd (List.prefix_nil.mp hq) hne⟩

theorem SRT.cons {f : Bytes → Except Err (α × Bytes)} {w ws : Except Err Bytes} {x : α} {xs : List α}
    {n : Nat} (hx : SRT w f x) (hnil : SoftRes (f [])) (hxs : SRT ws (repeatRead f n) xs) :
    SRT (w +++ ws) (repeatRead f (n + 1)) (x :: xs) :=
  SRT.seq hx (hxs.last fun _ _ => rfl) fun y => (repeatRead_nil_soft hnil n).map (y :: ·)

/-- `struct.pack('>{n}i', *vs)` and the matching unpack -/
theorem srt_ints (t : IntT) : ∀ vs : List Int, (∀ v ∈ vs, t.inDom v) →
    SRT (packAll t vs) (repeatRead t.unpack vs.length) vs
  | [], _ => SRT.nil _
  | v :: vs, h => SRT.cons (SRT.int t v (h v List.mem_cons_self)) (unpack_nil_soft t)
      (srt_ints t vs fun w hw => h w (List.mem_cons_of_mem _ hw))

/-! ## the payload readers, one nesting level -/

section payload
variable {m : Mutf8}

theorem readPayload_succ (f ty : Nat) (bs : Bytes) :
    readPayload m (f + 1) ty bs = readBody m (readPayload m f) ty bs := rfl

theorem srt_scalar (t : IntT) (mk : Int → Tag) (v : Int) (hv : t.inDom v) :
    SRT (t.pack v) (readScalar t mk) (mk v) :=
  (SRT.int t v hv).last fun _ _ => rfl

theorem srt_byteArray (rd : Nat → Bytes → Except Err (Tag × Bytes)) (b : Bytes)
    (hb : b.length < 2 ^ 31) :
    SRT (savePayload m (.byteArray b)) (readBody m rd 7) (.byteArray b) :=
  SRT.seq (w2 := .ok b) (SRT.int .i32 _ (i32_inDom_len _ hb))
    (SRT.take b (K := fun p => pure (Tag.byteArray p.1, p.2)) (fun _ => rfl) fun _ => softRes_ok _)
    fun n => by simp only [takeLenient_nil]; exact softRes_ok _

theorem srt_string (hm : Mutf8Law m) (rd : Nat → Bytes → Except Err (Tag × Bytes)) (s : String)
    (hs : (m.enc s).length < 2 ^ 15) :
    SRT (savePayload m (.string s)) (readBody m rd 8) (.string s) :=
  (srt_utf8 hm s hs).last fun _ _ => rfl

/-- an int / long array: the count, then the values -/
theorem srt_intArray (t : IntT) (mk : List Int → Tag) (vs : List Int)
    (hs : savePayload m (mk vs) = IntT.i32.pack (vs.length : Int) +++ packAll t vs)
    (hl : vs.length < 2 ^ 31) (hv : ∀ v ∈ vs, t.inDom v) :
    SRT (savePayload m (mk vs)) (readIntArray t mk) (mk vs) := by
  rw [hs]
  refine SRT.seq (SRT.int .i32 _ (i32_inDom_len _ hl)) ?_ fun n => ?_
  · have h0 : ¬ ((vs.length : Int) < 0) := by omega
    simp only [h0, if_false]
    exact (srt_ints t vs hv).last fun _ _ => rfl
  · by_cases h : n < 0
    · simp only [h, if_true]; exact softRes_err _
    · obtain ⟨k, rfl⟩ := Int.eq_ofNat_of_zero_le (by omega : 0 ≤ n)
      simp only [h, if_false]
      exact (repeatRead_nil_soft (unpack_nil_soft t) k).map mk

theorem readBody_11 (rd : Nat → Bytes → Except Err (Tag × Bytes)) (bs : Bytes) :
    readBody m rd 11 bs = readIntArray .i32 .intArray bs := rfl

theorem readBody_12 (rd : Nat → Bytes → Except Err (Tag × Bytes)) (bs : Bytes) :
    readBody m rd 12 bs = readIntArray .i64 .longArray bs := rfl

/-- a list: item class, count, the items -/
theorem srt_list (rd : Nat → Bytes → Except Err (Tag × Bytes)) (hrd : ∀ c, SoftRes (rd c []))
    (ty : Nat) (hty : ty ≤ 12) (items : List Tag) (hl : items.length < 2 ^ 31) {ws : Except Err Bytes}
    (hB : SRT ws (repeatRead (rd ty) items.length) items) :
    SRT (IntT.i8.pack (ty : Int) +++ IntT.i32.pack (items.length : Int) +++ ws) (readBody m rd 9)
      (.list ty items) := by
  refine SRT.seq (SRT.int .i8 _ (i8_inDom_id ty hty)) (SRT.seq (SRT.int .i32 _ (i32_inDom_len _ hl)) ?_
    fun len => ?_) fun tt => ?_
  · simp only [tagClass_id ty hty]
    exact hB.last fun _ _ => rfl
  · show SoftRes (tagClass (ty : Int) >>= _)
    rw [tagClass_id ty hty]
    exact (repeatRead_nil_soft (hrd ty) len.toNat).map (Tag.list ty)
  · show SoftRes (IntT.i32.unpack [] >>= _)
    rw [unpack_nil]; exact softRes_err _

/-! ### compounds -/

/-- one iteration of the loop after the tag byte -/
def loopStep (rn : Nat → Bytes → Except Err ((String × Tag) × Bytes)) (k : Nat) (acc : Entries)
    (tag : Int) (r : Bytes) : Except Err (Entries × Bytes) :=
  if tag = 0 then pure (acc, r) else do
    let c ← tagClass tag
    let (e, r') ← rn c r
    entriesLoop rn k (dictSet acc e.1 e.2) r'

theorem entriesLoop_succ (rn : Nat → Bytes → Except Err ((String × Tag) × Bytes)) (k : Nat)
    (acc : Entries) (bs : Bytes) :
    entriesLoop rn (k + 1) acc bs = (do let (tag, r) ← IntT.i8.unpack bs; loopStep rn k acc tag r) :=
  rfl

theorem entriesLoop_nil (rn : Nat → Bytes → Except Err ((String × Tag) × Bytes)) (k : Nat)
    (acc : Entries) : ∃ e, entriesLoop rn k acc [] = .error e := by
  cases k with
  | zero => exact ⟨_, rfl⟩
  | succ k => exact ⟨.struct, by rw [entriesLoop_succ, unpack_nil]; rfl⟩

theorem loopStep_id (rn : Nat → Bytes → Except Err ((String × Tag) × Bytes)) (k : Nat)
    (acc : Entries) (c : Nat) (h0 : c ≠ 0) (hc : c ≤ 12) (r : Bytes) :
    loopStep rn k acc (c : Int) r =
      (rn c r >>= fun p => entriesLoop rn k (dictSet acc p.1.1 p.1.2) p.2) := by
  unfold loopStep
  rw [if_neg (by omega), tagClass_id c hc]
  rfl

/-- a named child: its key, then its payload -/
theorem srt_named (hm : Mutf8Law m) (rd : Nat → Bytes → Except Err (Tag × Bytes))
    (hrd : ∀ c, SoftRes (rd c [])) (c : Nat) (key : String) (hk : (m.enc key).length < 2 ^ 15)
    {t : Tag} {w : Except Err Bytes} (hp : SRT w (rd c) t) :
    SRT (writeUtf8 m key +++ w) (readNamed m rd c) (key, t) :=
  SRT.seq (srt_utf8 hm key hk) (hp.last fun _ _ => rfl) fun y => (hrd c).map fun t => (y, t)

theorem dictSet_fresh : ∀ (acc : Entries) (k : String) (t : Tag), k ∉ acc.map (·.1) →
    dictSet acc k t = acc ++ [(k, t)] := by
  intro acc
  induction acc with
  | nil => intros; rfl
  | cons a acc ih =>
    intro k t h
    obtain ⟨k', t'⟩ := a
    simp only [List.map_cons, List.mem_cons, not_or] at h
    simp only [dictSet, if_neg (Ne.symm h.1), ih k t h.2, List.cons_append]

theorem readBody_10 (rd : Nat → Bytes → Except Err (Tag × Bytes)) (bs : Bytes) :
    readBody m rd 10 bs =
      (do let (es, r) ← entriesLoop (readNamed m rd) (bs.length + 1) [] bs
          pure (Tag.compound es, r)) := rfl

/-- a one-byte `'b'` field read from the front of the input -/
theorem i8_cons (v : Int) (c : UInt8) (hv : IntT.i8.inDom v) (hp : IntT.i8.pack v = .ok [c])
    (rest : Bytes) : IntT.i8.unpack (c :: rest) = .ok (v, rest) :=
  (hdr_int .i8 v [c] hv hp).read rest

theorem readBody_nil (rd : Nat → Bytes → Except Err (Tag × Bytes)) (ty : Nat) :
    ∃ e, readBody m rd ty [] = .error e := by
  unfold readBody
  split <;> first | exact ⟨.struct, rfl⟩ | exact ⟨.other, rfl⟩

theorem readPayload_nil (f ty : Nat) : ∃ e, readPayload m f ty [] = .error e := by
  cases f with
  | zero => exact ⟨_, rfl⟩
  | succ f => exact readBody_nil _ ty

theorem readPayload_nil_soft (f ty : Nat) : SoftRes (readPayload m f ty []) :=
  Or.inl (readPayload_nil f ty)

theorem Tag.tagId_le (t : Tag) : t.tagId ≤ 12 := by cases t <;> simp [Tag.tagId]

theorem Tag.tagId_ne_zero {t : Tag} (h : t.wf m = true) : t.tagId ≠ 0 := by
  intro h0
  cases t <;> simp [Tag.tagId] at h0
  simp [Tag.wf] at h

theorem Tag.depth_pos (t : Tag) : 0 < t.depth := by cases t <;> simp [Tag.depth]

/-! ## the induction over tags -/

mutual
  /-- a well-formed tag of depth ≤ `f`: its payload is written and read back softly by
  `readPayload m f` -/
  theorem payload_srt (hm : Mutf8Law m) : ∀ (t : Tag) (f : Nat), t.wf m = true → t.depth ≤ f →
      SRT (savePayload m t) (readPayload m f t.tagId) t
    | .end_ _, _, hw, _ => by simp [Tag.wf] at hw
    | t, 0, _, hd => absurd hd (Nat.not_le.mpr t.depth_pos)
    | .byte v, f + 1, hw, _ => srt_scalar .i8 .byte v (of_decide_eq_true hw)
    | .short v, f + 1, hw, _ => srt_scalar .i16 .short v (of_decide_eq_true hw)
    | .int v, f + 1, hw, _ => srt_scalar .i32 .int v (of_decide_eq_true hw)
    | .long v, f + 1, hw, _ => srt_scalar .i64 .long v (of_decide_eq_true hw)
    | .float v, f + 1, hw, _ => srt_scalar .f32 .float v (of_decide_eq_true hw)
    | .double v, f + 1, hw, _ => srt_scalar .f64 .double v (of_decide_eq_true hw)
    | .byteArray b, f + 1, hw, _ => srt_byteArray (m := m) (readPayload m f) b (of_decide_eq_true hw)
    | .string s, f + 1, hw, _ => srt_string hm (readPayload m f) s (of_decide_eq_true hw)
    | .intArray vs, f + 1, hw, _ => by
      simp only [Tag.wf, Bool.and_eq_true, decide_eq_true_eq, List.all_eq_true] at hw
      exact srt_intArray .i32 .intArray vs rfl hw.1 hw.2
    | .longArray vs, f + 1, hw, _ => by
      simp only [Tag.wf, Bool.and_eq_true, decide_eq_true_eq, List.all_eq_true] at hw
      exact srt_intArray .i64 .longArray vs rfl hw.1 hw.2
    | .list ty items, f + 1, hw, hd => by
      have hd' : depthItems items ≤ f := by simpa [Tag.depth] using hd
      simp only [Tag.wf, Bool.and_eq_true, decide_eq_true_eq] at hw
      obtain ⟨⟨hty, hl⟩, hwi⟩ := hw
      have h := srt_list (m := m) (readPayload m f) (readPayload_nil_soft f) ty hty items hl
        (items_srt hm items ty f hwi hd')
      -- the writer's `do` block is that chain of writes, by the monad laws
      have e : savePayload m (.list ty items) = IntT.i8.pack (ty : Int) +++
          IntT.i32.pack (items.length : Int) +++ saveItems m ty items := by
        rw [savePayload, if_neg (by omega)]
        simp only [seqW, bind_assoc, pure_bind, List.append_assoc]
      rw [e]; exact h
    | .compound es, f + 1, hw, hd => by
      have hd' : depthEntries es ≤ f := by simpa [Tag.depth] using hd
      simp only [Tag.wf, Bool.and_eq_true] at hw
      obtain ⟨hk, hwe⟩ := hw
      obtain ⟨body, hb, hlen, hex, hpre⟩ := entries_soft hm es f hwe hd'
      refine ⟨body ++ [0], ?_, fun rest => ?_, fun q hq hne => Or.inl ?_⟩
      · rw [savePayload, hk]
        show (do let body ← saveEntries m es; pure (body ++ [0])) = _
        rw [hb]; rfl
      · show readBody m (readPayload m f) 10 (body ++ [0] ++ rest) = _
        rw [readBody_10]
        have e : body ++ [0] ++ rest = body ++ 0 :: rest := by simp
        rw [e, hex _ [] rest (by simp; omega) (by simp)
          (by simpa [keysOk] using hk)]
        rfl
      · show ∃ e, readBody m (readPayload m f) 10 q = .error e
        rw [readBody_10]
        obtain ⟨e, he⟩ := hpre (q.length + 1) [] q hq hne
        exact ⟨e, by rw [he]; rfl⟩
  theorem items_srt (hm : Mutf8Law m) : ∀ (ts : List Tag) (ty f : Nat),
      wfItems m ty ts = true → depthItems ts ≤ f →
      SRT (saveItems m ty ts) (repeatRead (readPayload m f ty) ts.length) ts
    | [], _, _, _, _ => SRT.nil _
    | t :: ts, ty, f, hw, hd => by
      simp only [wfItems, Bool.and_eq_true, decide_eq_true_eq] at hw
      obtain ⟨⟨hid, hwt⟩, hws⟩ := hw
      simp only [depthItems] at hd
      have hA := payload_srt hm t f hwt (Nat.le_trans (Nat.le_max_left _ _) hd)
      rw [hid] at hA
      rw [saveItems, if_neg (by simpa using hid)]
      exact SRT.cons hA (readPayload_nil_soft f ty)
        (items_srt hm ts ty f hws (Nat.le_trans (Nat.le_max_right _ _) hd))
  /-- the children of a compound, followed by the `TAG_End` byte: read back by the loop (given enough
  iterations and keys not yet in the accumulator); EVERY strict prefix is rejected -/
  theorem entries_soft (hm : Mutf8Law m) : ∀ (es : Entries) (f : Nat),
      wfEntries m es = true → depthEntries es ≤ f →
      ∃ body, saveEntries m es = .ok body ∧ es.length ≤ body.length ∧
        (∀ k acc rest, es.length < k → (∀ e ∈ es, e.1 ∉ acc.map (·.1)) → (es.map (·.1)).Nodup →
          entriesLoop (readNamed m (readPayload m f)) k acc (body ++ 0 :: rest)
            = .ok (acc ++ es, rest)) ∧
        ∀ k acc q, q <+: body ++ [0] → q ≠ body ++ [0] →
          ∃ e, entriesLoop (readNamed m (readPayload m f)) k acc q = .error e
    | [], f, _, _ => by
      refine ⟨[], rfl, Nat.le_refl _, fun k acc rest hk _ _ => ?_, fun k acc q hq hne => ?_⟩
      · obtain ⟨k, rfl⟩ : ∃ k', k = k' + 1 := ⟨k - 1, by simp at hk; omega⟩
        rw [List.nil_append, entriesLoop_succ, i8_cons 0 0 (by decide) (by decide)]
        simp [loopStep, pure, Except.pure, bind, Except.bind]
      · have : q = [] := by
          rcases q with _ | ⟨c, q⟩
          · rfl
          · simp only [List.nil_append, List.cons_prefix_cons, List.prefix_nil] at hq
            exact absurd (by rw [hq.1, hq.2]; rfl) hne
        subst this
        exact entriesLoop_nil _ k acc
    | (key, t) :: es, f, hw, hd => by
      simp only [wfEntries, Bool.and_eq_true, decide_eq_true_eq] at hw
      obtain ⟨⟨hkey, hwt⟩, hws⟩ := hw
      simp only [depthEntries] at hd
      obtain ⟨r, hr, hlen, hex, hpre⟩ :=
        entries_soft hm es f hws (Nat.le_trans (Nat.le_max_right _ _) hd)
      have hid0 := Tag.tagId_ne_zero hwt
      have hid12 := t.tagId_le
      obtain ⟨i, hi, hil, hI⟩ := soft_int .i8 _ (i8_inDom_id _ hid12)
      obtain ⟨np, hn, hN⟩ := srt_named hm (readPayload m f) (readPayload_nil_soft f) t.tagId key hkey
        (payload_srt hm t f hwt (Nat.le_trans (Nat.le_max_left _ _) hd))
      refine ⟨i ++ np ++ r, ?_, ?_, fun k acc rest hk hfresh hnd => ?_, fun k acc q hq hne => ?_⟩
      · -- the writer's `do` block is that chain of writes, by the monad laws
        have e : saveEntries m ((key, t) :: es) = IntT.i8.pack (t.tagId : Int) +++
            (writeUtf8 m key +++ savePayload m t) +++ saveEntries m es := by
          rw [saveEntries]
          simp only [seqW, bind_assoc, pure_bind, List.append_assoc]
        rw [e, hi, hn, hr, seqW_ok, seqW_ok, List.append_assoc]
      · simp only [List.length_cons, List.length_append, hil, IntT.width]; omega
      · obtain ⟨k, rfl⟩ : ∃ k', k = k' + 1 := ⟨k - 1, by simp at hk; omega⟩
        have e : i ++ np ++ r ++ 0 :: rest = i ++ (np ++ (r ++ 0 :: rest)) := by simp
        rw [e, entriesLoop_succ, hI.read]
        show loopStep _ k acc (t.tagId : Int) _ = _
        rw [loopStep_id _ k acc t.tagId hid0 hid12, hN.1]
        show entriesLoop _ k (dictSet acc key t) (r ++ 0 :: rest) = _
        have hkf : key ∉ acc.map (·.1) := hfresh (key, t) List.mem_cons_self
        simp only [List.map_cons, List.nodup_cons] at hnd
        rw [dictSet_fresh acc key t hkf, hex k _ rest (by simp at hk; omega) ?_ hnd.2]
        · simp
        · intro e he
          simp only [List.map_append, List.map_cons, List.map_nil, List.mem_append,
            List.mem_singleton, not_or]
          refine ⟨hfresh e (List.mem_cons_of_mem _ he), fun h => hnd.1 ?_⟩
          rw [← h]; exact List.mem_map.mpr ⟨e, he, rfl⟩
      · cases k with
        | zero => exact ⟨_, rfl⟩
        | succ k =>
          have e : i ++ np ++ r ++ [0] = i ++ (np ++ (r ++ [0])) := by simp
          rw [e] at hq hne
          rw [entriesLoop_succ]
          rcases strict_prefix_append hq hne with ⟨hq', hne'⟩ | ⟨q1, rfl, hq1, hne1⟩
          · obtain ⟨e, he⟩ := hI.prefixErr q hq' hne'
            exact ⟨e, by rw [he]; rfl⟩
          · rw [hI.read]
            show ∃ e, loopStep _ k acc (t.tagId : Int) q1 = .error e
            rw [loopStep_id _ k acc t.tagId hid0 hid12]
            exact err_seq hN (fun q2 hq2 hne2 => hpre k _ q2 hq2 hne2)
              (fun y => entriesLoop_nil _ k _) hq1 hne1
end

/-- a well-formed tag of depth ≤ `f`: its payload is written, is not empty, is read back by
`readPayload m f` whatever follows, and a strict prefix of it is rejected or eaten whole -/
theorem payload_soft (hm : Mutf8Law m) : ∀ (t : Tag) (f : Nat), t.wf m = true → t.depth ≤ f →
    ∃ bs, savePayload m t = .ok bs ∧ bs ≠ [] ∧ Soft0 (readPayload m f t.tagId) bs t :=
  fun t f hw hd =>
    let ⟨bs, h, hS⟩ := payload_srt hm t f hw hd
    ⟨bs, h, ne_nil_of_soft hS (readPayload_nil f _), hS⟩

theorem items_soft (hm : Mutf8Law m) : ∀ (ts : List Tag) (ty f : Nat),
    wfItems m ty ts = true → depthItems ts ≤ f →
    ∃ body, saveItems m ty ts = .ok body ∧
      Soft0 (repeatRead (readPayload m f ty) ts.length) body ts :=
  items_srt hm

/-! ## the root: `NBTFile.save` / `NBTFile(io=…)` -/

theorem loadFile_ten (fuel : Nat) (r : Bytes) : loadFile m fuel (10 :: r) =
    (readUtf8 m r >>= fun p =>
      entriesLoop (readNamed m (readPayload m fuel)) (p.2.length + 1) [] p.2 >>= fun q =>
        pure ((p.1, q.1), q.2)) := by
  unfold loadFile
  rw [i8_cons 10 10 (by decide) (by decide)]
  rfl

theorem loadFile_nil (fuel : Nat) : loadFile m fuel [] = .error .struct := by
  unfold loadFile
  rw [unpack_nil]
  rfl

/-- the whole file: written, read back whatever follows, and NO strict prefix is accepted -/
theorem file_rt (hm : Mutf8Law m) (es : Entries) (fuel : Nat) (hk : keysOk es = true)
    (hw : wfEntries m es = true) (hd : depthEntries es ≤ fuel) :
    ∃ bs, saveFile m "" es = .ok bs ∧ bs ≠ [] ∧
      (∀ rest, loadFile m fuel (bs ++ rest) = .ok (("", es), rest)) ∧
      ∀ p, p <+: bs → p ≠ bs → ∃ e, loadFile m fuel p = .error e := by
  obtain ⟨n, hn, hN⟩ := srt_utf8 hm "" (by rw [hm.empty]; decide)
  obtain ⟨body, hb, hlen, hex, hpre⟩ := entries_soft hm es fuel hw hd
  refine ⟨10 :: (n ++ (body ++ [0])), ?_, by simp, fun rest => ?_, fun p hp hne => ?_⟩
  · unfold saveFile
    rw [hk]
    show (do let n ← writeUtf8 m ""; let body ← saveEntries m es; pure (10 :: n ++ body ++ [0])) = _
    rw [hn, hb]; simp [bind, Except.bind, pure, Except.pure]
  · have e : 10 :: (n ++ (body ++ [0])) ++ rest = 10 :: (n ++ (body ++ 0 :: rest)) := by simp
    rw [e, loadFile_ten, hN.1]
    simp only [bind, Except.bind]
    rw [hex _ [] rest (by simp; omega) (by simp) (by simpa [keysOk] using hk)]
    rfl
  · rcases p with _ | ⟨c, p⟩
    · exact ⟨_, loadFile_nil fuel⟩
    · rw [List.cons_prefix_cons] at hp
      obtain ⟨rfl, hp⟩ := hp
      rw [loadFile_ten]
      refine err_seq hN (fun q hq hqne => ?_) (fun y => ?_) hp fun h => hne (by rw [h])
      · obtain ⟨e, he⟩ := hpre (q.length + 1) [] q hq hqne
        exact ⟨e, by simp only [he, bind, Except.bind]⟩
      · obtain ⟨e, he⟩ := entriesLoop_nil (readNamed m (readPayload m fuel)) (0 + 1) []
        exact ⟨e, by simp only [List.length_nil, he, bind, Except.bind]⟩

end payload

/-! ## tags as values -/

mutual
  theorem ofValue_toValue : ∀ t : Tag, ofValue t.toValue = some t
    | .end_ _ | .byte _ | .short _ | .int _ | .long _ | .float _ | .double _ | .byteArray _
    | .string _ => rfl
    | .list ty items => by
      simp only [Tag.toValue, ofValue]
      rw [if_pos (by omega), ofValues_items items]
      simp
    | .compound es => by
      simp only [Tag.toValue, ofValue]
      rw [ofEntries_entries es]; rfl
    | .intArray vs => by
      simp only [Tag.toValue, Value.ofInts, ofValue]
      rw [intsOf_map]; rfl
    | .longArray vs => by
      simp only [Tag.toValue, Value.ofInts, ofValue]
      rw [intsOf_map]; rfl
  theorem ofValues_items : ∀ ts : List Tag, ofValues (itemsToValue ts) = some ts
    | [] => rfl
    | t :: ts => by
      simp only [itemsToValue, ofValues]
      rw [ofValue_toValue t, ofValues_items ts]; rfl
  theorem ofEntries_entries : ∀ es : Entries, ofEntries (entriesToValue es) = some es
    | [] => rfl
    | (k, t) :: es => by
      simp only [entriesToValue, ofEntries]
      rw [ofValue_toValue t, ofEntries_entries es]; rfl
end

theorem ofRootValue_rootValue (name : String) (es : Entries) :
    ofRootValue (rootValue name es) = some (name, es) := by
  simp only [rootValue, ofRootValue]
  rw [ofEntries_entries]; rfl

mutual
  theorem valEqb_sound : ∀ a b : Value, valEqb a b = true → a = b
    | .bool a, b, h | .int a, b, h | .bytes a, b, h | .str a, b, h => by
      cases b <;> simp [valEqb] at h; rw [h]
    | .list a, b, h => by
      cases b with
      | list b => simp only [valEqb] at h; rw [valsEqb_sound a b h]
      | _ => simp [valEqb] at h
  theorem valsEqb_sound : ∀ a b : List Value, valsEqb a b = true → a = b
    | [], [], _ => rfl
    | a :: as, b :: bs, h => by
      simp only [valsEqb, Bool.and_eq_true] at h
      rw [valEqb_sound a b h.1, valsEqb_sound as bs h.2]
    | [], _ :: _, h | _ :: _, [], h => by simp [valsEqb] at h
end

mutual
  theorem valEqb_refl : ∀ a : Value, valEqb a a = true
    | .bool _ | .int _ | .bytes _ | .str _ => by simp [valEqb]
    | .list a => by simp only [valEqb]; exact valsEqb_refl a
  theorem valsEqb_refl : ∀ a : List Value, valsEqb a a = true
    | [] => rfl
    | a :: as => by simp only [valsEqb, valEqb_refl a, valsEqb_refl as, Bool.and_self]
end

/-- what `nbtDom` says: the value is a root named `''` over well-formed children -/
theorem nbtDom_iff (m : Mutf8) (v : Value) :
    nbtDom m v ↔ ∃ es, v = rootValue "" es ∧ rootWf m es = true := by
  constructor
  · intro h
    unfold nbtDom nbtDomB at h
    split at h
    · exact absurd h (by simp)
    · next name es _ =>
      simp only [Bool.and_eq_true, beq_iff_eq] at h
      obtain ⟨⟨rfl, hw⟩, he⟩ := h
      exact ⟨es, (valEqb_sound _ _ he).symm, hw⟩
  · rintro ⟨es, rfl, hw⟩
    unfold nbtDom nbtDomB
    rw [ofRootValue_rootValue]
    simp [hw, valEqb_refl]

/-! ## decidable equality of tags (a nested inductive: not derivable) -/

mutual
  def Tag.eqb : Tag → Tag → Bool
    | .end_ a, .end_ b => a == b
    | .byte a, .byte b => a == b
    | .short a, .short b => a == b
    | .int a, .int b => a == b
    | .long a, .long b => a == b
    | .float a, .float b => a == b
    | .double a, .double b => a == b
    | .byteArray a, .byteArray b => a == b
    | .string a, .string b => a == b
    | .list t a, .list u b => t == u && tagsEqb a b
    | .compound a, .compound b => entriesEqb a b
    | .intArray a, .intArray b => a == b
    | .longArray a, .longArray b => a == b
    | _, _ => false
  def tagsEqb : List Tag → List Tag → Bool
    | [], [] => true
    | a :: as, b :: bs => Tag.eqb a b && tagsEqb as bs
    | _, _ => false
  def entriesEqb : Entries → Entries → Bool
    | [], [] => true
    | (k, a) :: as, (l, b) :: bs => k == l && Tag.eqb a b && entriesEqb as bs
    | _, _ => false
end

mutual
  theorem Tag.eqb_sound : ∀ a b : Tag, Tag.eqb a b = true → a = b
    | .end_ a, b, h | .byte a, b, h | .short a, b, h | .int a, b, h | .long a, b, h
    | .float a, b, h | .double a, b, h | .byteArray a, b, h | .string a, b, h | .intArray a, b, h
    | .longArray a, b, h => by
      cases b <;> simp [Tag.eqb] at h; rw [h]
    | .list t a, b, h => by
      cases b with
      | list u b =>
        simp only [Tag.eqb, Bool.and_eq_true, beq_iff_eq] at h
        rw [h.1, tagsEqb_sound a b h.2]
      | _ => simp [Tag.eqb] at h
    | .compound a, b, h => by
      cases b with
      | compound b =>
        simp only [Tag.eqb] at h
        rw [entriesEqb_sound a b h]
      | _ => simp [Tag.eqb] at h
  theorem tagsEqb_sound : ∀ a b : List Tag, tagsEqb a b = true → a = b
    | [], [], _ => rfl
    | a :: as, b :: bs, h => by
      simp only [tagsEqb, Bool.and_eq_true] at h
      rw [Tag.eqb_sound a b h.1, tagsEqb_sound as bs h.2]
    | [], _ :: _, h | _ :: _, [], h => by simp [tagsEqb] at h
  theorem entriesEqb_sound : ∀ a b : Entries, entriesEqb a b = true → a = b
    | [], [], _ => rfl
    | (k, a) :: as, (l, b) :: bs, h => by
      simp only [entriesEqb, Bool.and_eq_true, beq_iff_eq] at h
      rw [h.1.1, Tag.eqb_sound a b h.1.2, entriesEqb_sound as bs h.2]
    | [], _ :: _, h | _ :: _, [], h => by simp [entriesEqb] at h
end

mutual
  theorem Tag.eqb_refl : ∀ a : Tag, Tag.eqb a a = true
    | .end_ _ | .byte _ | .short _ | .int _ | .long _ | .float _ | .double _ | .byteArray _
    | .string _ | .intArray _ | .longArray _ => by simp [Tag.eqb]
    | .list _ a => by simp only [Tag.eqb, beq_self_eq_true, Bool.true_and]; exact tagsEqb_refl a
    | .compound a => by simp only [Tag.eqb]; exact entriesEqb_refl a
  theorem tagsEqb_refl : ∀ a : List Tag, tagsEqb a a = true
    | [] => rfl
    | a :: as => by simp only [tagsEqb, Tag.eqb_refl a, tagsEqb_refl as, Bool.and_self]
  theorem entriesEqb_refl : ∀ a : Entries, entriesEqb a a = true
    | [] => rfl
    | (k, a) :: as => by
      simp only [entriesEqb, beq_self_eq_true, Tag.eqb_refl a, entriesEqb_refl as, Bool.and_self]
end

instance decEqTag : DecidableEq Tag := fun a b =>
  if h : Tag.eqb a b = true then isTrue (Tag.eqb_sound a b h)
  else isFalse fun e => h (e ▸ Tag.eqb_refl a)

theorem nbtSend_rootValue (m : Mutf8) (name : String) (es : Entries) :
    nbtSend m (rootValue name es) = saveFile m "" es := by
  unfold nbtSend; rw [ofRootValue_rootValue]

/-- the empty dict is in the domain, whatever `mutf8` is -/
theorem nbtDom_empty (m : Mutf8) : nbtDom m (rootValue "" []) :=
  (nbtDom_iff m _).mpr ⟨[], rfl, rfl⟩

/-! ## `realCustomWith n` encodes and decodes NBT-free types exactly as `realCustom` -/

theorem encode_with_eq (n : NbtCodec) : ∀ t : WType, t.hasNbt = false →
    ∀ v, encode (realCustomWith n) t v = encode realCustom t v := by
  intro t
  induction t with
  | array l t ih =>
    intro h v
    have e : encode (realCustomWith n) t = encode realCustom t :=
      funext (ih (by simpa [WType.hasNbt] using h))
    cases v <;> simp only [encode, e]
  | custom c =>
    intro h v
    exact realCustomWith_enc n c (by rintro rfl; simp [WType.hasNbt] at h) v
  | _ => intro _ v; cases v <;> rfl

theorem decode_with_eq (n : NbtCodec) : ∀ t : WType, t.hasNbt = false →
    ∀ bs, decode (realCustomWith n) t bs = decode realCustom t bs := by
  intro t
  induction t with
  | array l t ih =>
    intro h bs
    have e : decode (realCustomWith n) t = decode realCustom t :=
      funext (ih (by simpa [WType.hasNbt] using h))
    simp only [decode, e]
  | custom c =>
    intro h bs
    exact realCustomWith_dec n c (by rintro rfl; simp [WType.hasNbt] at h) bs
  | _ => intro _ bs; rfl

theorem encodeFields_with_eq (n : NbtCodec) : ∀ (L : Layout), Layout.hasNbt L = false →
    ∀ vals, encodeFields (realCustomWith n) L vals = encodeFields realCustom L vals := by
  intro L
  induction L with
  | nil => intro _ vals; cases vals <;> rfl
  | cons f L ih =>
    intro h vals
    obtain ⟨nm, t⟩ := f
    simp only [Layout.hasNbt, List.any_cons, Bool.or_eq_false_iff] at h
    cases vals with
    | nil => rfl
    | cons v vs =>
      simp only [encodeFields, encode_with_eq n t h.1 v, ih h.2 vs]

theorem decodeFields_with_eq (n : NbtCodec) : ∀ (L : Layout), Layout.hasNbt L = false →
    ∀ bs, decodeFields (realCustomWith n) L bs = decodeFields realCustom L bs := by
  intro L
  induction L with
  | nil => intro _ bs; rfl
  | cons f L ih =>
    intro h bs
    obtain ⟨nm, t⟩ := f
    simp only [Layout.hasNbt, List.any_cons, Bool.or_eq_false_iff] at h
    have e : decodeFields (realCustomWith n) L = decodeFields realCustom L := funext (ih h.2)
    simp only [decodeFields, decode_with_eq n t h.1, e]

/-! ## checkers for the vectors tabulated from the live code -/

/-- the field layout of class `cls` of table `table` under protocol `v` -/
def layoutAt (lays : LayoutCheck.LayoutTables) (table cls : String) (v : Nat) : Option Layout := do
  let rows ← lays.lookup table
  let vars ← rows.lookup cls
  let var ← vars.find? fun var => var.2.contains v
  var.1

/-- a row of `Gen.nbtPacketVectors`: the live round trip succeeded, the class has an NBT layout at that
version in the layout table, the model writes the same bytes and reads the values back exactly -/
def packetRowOk (cc : CustomCodec) (lays : LayoutCheck.LayoutTables)
    (row : String × String × Nat × List Value × Bytes × Bool) : Bool :=
  match layoutAt lays row.1 row.2.1 row.2.2.1 with
  | none => false
  | some L =>
    row.2.2.2.2.2 && Layout.hasNbt L &&
    decide (encodeFields cc L row.2.2.2.1 = .ok row.2.2.2.2.1) &&
    match decodeFields cc L row.2.2.2.2.1 with
    | .ok (vs, []) => valsEqb vs row.2.2.2.1
    | _ => false

end Nbt
end PyCraft
