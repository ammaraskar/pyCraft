import PyCraft.Lemmas.LifecycleInv
/-!
The event log of `Model/Lifecycle.lean`: a thread that has not taken over has no I/O event, and
I/O events of different networking threads are separated by the first thread's `fin` event.
-/
namespace PyCraft.Life

/-- Before the first action that may perform I/O. -/
def NPc.preIO : NPc → Bool
  | .unborn | .waitPrev | .takeOver | .tkRel => true
  | .loopChk | .wBody | .wRel | .wFailRel | .rChk | .rRead | .call _ | .callRel _ _ | .exit | .exc
  | .hRun | .hChk | .hRel | .epilogue | .epRel | .fin | .dead => false

/-- After the `finally` block. -/
def NPc.past : NPc → Bool
  | .fin | .dead => true
  | .unborn | .waitPrev | .takeOver | .tkRel | .loopChk | .wBody | .wRel | .wFailRel | .rChk
  | .rRead | .call _ | .callRel _ _ | .exit | .exc | .hRun | .hChk | .hRel | .epilogue
  | .epRel => false

theorem pc_partition (pc : NPc) : pc.preIO = true ∨ pc.ioPhase = true ∨ pc.past = true := by
  cases pc
  case call site => cases site <;> simp [NPc.preIO, NPc.ioPhase, NPc.past, NPc.phase]
  case callRel site out => cases site <;> simp [NPc.preIO, NPc.ioPhase, NPc.past, NPc.phase]
  all_goals simp [NPc.preIO, NPc.ioPhase, NPc.past, NPc.phase]

theorem afterCall_preIO (s : Sys) (site : Site) (out : Outcome) :
    (afterCall s site out).preIO = false :=
  afterCall_forall (·.preIO = false) rfl rfl rfl rfl s site out

theorem afterCall_past (s : Sys) (site : Site) (out : Outcome) :
    (afterCall s site out).past = false :=
  afterCall_forall (·.past = false) rfl rfl rfl rfl s site out

theorem ioPhase_call (site : Site) : (NPc.call site).ioPhase = true := by cases site <;> rfl

theorem ioPhase_callRel (site : Site) (out : Outcome) : (NPc.callRel site out).ioPhase = true := by
  cases site <;> rfl

/-- How the event `e` of an action that takes a thread from `pc` to `pc'` is related to the phases:
an I/O event is emitted in an I/O phase; no thread moves back before its first I/O action; a
thread gets past its `finally` block only by its `fin` event. -/
def phaseOk (pc pc' : NPc) (e : Ev) : Bool :=
  (!e.isIO || pc.ioPhase) && (!pc'.preIO || pc.preIO) &&
  (!pc'.past || pc.past || (e == .fin && pc.ioPhase))

theorem phaseOk_iff (pc pc' : NPc) (e : Ev) : phaseOk pc pc' e = true ↔
    (e.isIO = true → pc.ioPhase = true) ∧ (pc'.preIO = true → pc.preIO = true) ∧
    (pc'.past = true → pc.past = true ∨ (e = .fin ∧ pc.ioPhase = true)) := by
  cases h1 : e.isIO <;> cases h2 : pc'.preIO <;> cases h3 : pc'.past <;>
    simp [phaseOk, h1, h2, h3, and_assoc]

theorem Quiet.phases {env : List Beh} {s : Sys} {x x' : NetThr} {rh' : Nat} {e : Ev}
    (hq : Quiet env s x x' rh' e) : phaseOk x.pc x'.pc e = true := by
  obtain ⟨b, pv, pc⟩ := x
  cases hq
  all_goals
    cases ‹NetThr.pc _ = _›
    cases b <;> rfl

theorem Locked.phases {env : List Beh} {s c : Sys} {i : Nat} {pc' : NPc} {e : Ev}
    (hl : Locked env s i c pc' e) : phaseOk (s.net i).pc pc' e = true := by
  cases hl
  case call site out hpc hb => rw [hpc]; cases site <;> rfl
  all_goals
    rw [‹(s.net i).pc = _›]
    rfl

theorem Release.phases {s : Sys} {pc pc' : NPc} {rl' : Nat} {e : Ev}
    (hr : Release s pc pc' rl' e) : phaseOk pc pc' e = true := by
  cases hr
  case callRel site out =>
    simp only [phaseOk, afterCall_preIO, afterCall_past]; rfl
  all_goals rfl

/-- A thread that does not act, or is created by the step, moves neither back before its first I/O
action nor past its `finally` block. -/
theorem other_phases {pc pc' : NPc}
    (h : pc' = pc ∨ (pc = .unborn ∧ (pc' = .loopChk ∨ pc' = .waitPrev))) :
    (pc'.preIO = true → pc.preIO = true) ∧ (pc'.past = true → pc.past = true) := by
  rcases h with rfl | ⟨rfl, rfl | rfl⟩
  · exact ⟨id, id⟩
  · exact ⟨fun _ => rfl, nofun⟩
  · exact ⟨fun _ => rfl, nofun⟩

/-- Every step appends exactly one event, by the stepping thread, and what `phaseOk` says of the
acting thread holds of every thread. -/
theorem step_event (env : List Beh) (s s' : Sys) (t : Tid) (h : LInv s)
    (hs : step env s t = some s') :
    ∃ e, s'.log = s.log ++ [(t, e)] ∧
      (∀ i, t = .net i → e.isIO = true → (s.net i).pc.ioPhase = true) ∧
      (∀ j, (s'.net j).pc.preIO = true → (s.net j).pc.preIO = true) ∧
      (∀ j, (s'.net j).pc.past = true →
        (s.net j).pc.past = true ∨ (t = .net j ∧ e = .fin ∧ (s.net j).pc.ioPhase = true)) := by
  have hS := step_Step env s s' t hs
  have hoth := fun j ht => other_phases ((hS.threads h j).1 ht)
  rcases t with u | i
  · obtain ⟨e, he⟩ : ∃ e, s'.log = s.log ++ [(.user u, e)] := by cases hS <;> exact ⟨_, rfl⟩
    exact ⟨e, he, nofun, fun j => (hoth j nofun).1, fun j hp => .inl ((hoth j nofun).2 hp)⟩
  · obtain ⟨e, he, hok⟩ := hS.rows (fun pc _ pc' e => phaseOk pc pc' e) Quiet.phases
      (fun _ => Locked.phases) (fun _ => Release.phases) (fun _ => rfl) (fun _ => rfl)
    obtain ⟨h1, h2, h3⟩ := (phaseOk_iff _ _ _).mp hok
    refine ⟨e, he, fun k hk => by cases hk; exact h1, fun j => ?_, fun j hp => ?_⟩
    · by_cases hj : j = i
      · subst hj; exact h2
      · exact (hoth j (by simpa using Ne.symm hj)).1
    · by_cases hj : j = i
      · subst hj; exact (h3 hp).imp_right fun hr => ⟨rfl, hr⟩
      · exact .inl ((hoth j (by simpa using Ne.symm hj)).2 hp)

/-! ### The log invariant -/

theorem snoc_split {α} (L P S : List α) (x y : α) (h : L ++ [x] = P ++ y :: S) :
    (∃ S', S = S' ++ [x] ∧ L = P ++ y :: S') ∨ (S = [] ∧ y = x ∧ L = P) := by
  rcases List.eq_nil_or_concat S with rfl | ⟨S', z, rfl⟩
  · right
    have := List.append_inj' h rfl
    simp_all
  · left
    have h' : L ++ [x] = (P ++ y :: S') ++ [z] := by simpa using h
    have := List.append_inj' h' rfl
    refine ⟨S', ?_, this.1⟩
    simp_all

/-- Two I/O events by different networking threads are separated by the first thread's `fin`. -/
def Sep (log : List (Tid × Ev)) : Prop :=
  ∀ l1 l2 l3 i j e1 e2, log = l1 ++ (Tid.net i, e1) :: l2 ++ (Tid.net j, e2) :: l3 →
    e1.isIO = true → e2.isIO = true → i ≠ j → (Tid.net i, Ev.fin) ∈ l2

structure LogInv (s : Sys) : Prop where
  /-- a thread that has not yet taken over has performed no I/O -/
  no_io_pre : ∀ i e, (Tid.net i, e) ∈ s.log → e.isIO = true → (s.net i).pc.preIO = false
  /-- every I/O event of a thread that is past its `finally` block is followed by its `fin` -/
  closed : ∀ i, (s.net i).pc.past = true → ∀ l1 e l2, s.log = l1 ++ (Tid.net i, e) :: l2 →
    e.isIO = true → (Tid.net i, Ev.fin) ∈ l2
  sep : Sep s.log

theorem step_loginv (env : List Beh) (s s' : Sys) (t : Tid) (h : LInv s) (hl : LogInv s)
    (hs : step env s t = some s') : LogInv s' := by
  obtain ⟨e, hlog, hio, hpre, hpast⟩ := step_event env s s' t h hs
  refine ⟨?_, ?_, ?_⟩
  · intro i ev hm hev
    rw [hlog] at hm
    rcases List.mem_append.mp hm with hm | hm
    · have := hl.no_io_pre i ev hm hev
      cases hp : (s'.net i).pc.preIO with
      | false => rfl
      | true => rw [hpre i hp] at this; cases this
    · simp only [List.mem_singleton, Prod.mk.injEq] at hm
      obtain ⟨rfl, rfl⟩ := hm
      have h1 := hio i rfl hev
      cases hp : (s'.net i).pc.preIO with
      | false => rfl
      | true =>
        have h2 := hpre i hp
        revert h1 h2
        cases (s.net i).pc <;> simp [NPc.preIO, NPc.ioPhase, NPc.phase]
  · intro i hp l1 ev l2 hsplit hev
    rw [hlog] at hsplit
    rcases snoc_split _ _ _ _ _ hsplit with ⟨l2', rfl, hL⟩ | ⟨rfl, hxy, hL⟩
    · rcases hpast i hp with hp0 | ⟨rfl, rfl, -⟩
      · exact List.mem_append_left _ (hl.closed i hp0 l1 ev l2' hL hev)
      · exact List.mem_append_right _ (by simp)
    · simp only [Prod.mk.injEq] at hxy
      obtain ⟨rfl, rfl⟩ := hxy
      have h1 := hio i rfl hev
      rcases hpast i hp with hp0 | ⟨-, rfl, -⟩
      · revert h1 hp0
        cases (s.net i).pc <;> simp [NPc.past, NPc.ioPhase, NPc.phase]
      · cases hev
  · intro l1 l2 l3 i j e1 e2 hsplit h1 h2 hij
    rw [hlog] at hsplit
    have hsplit' : s.log ++ [(t, e)] = (l1 ++ (Tid.net i, e1) :: l2) ++ (Tid.net j, e2) :: l3 := by
      simpa using hsplit
    rcases snoc_split _ _ _ _ _ hsplit' with ⟨l3', rfl, hL⟩ | ⟨rfl, hxy, hL⟩
    · exact hl.sep l1 l2 l3' i j e1 e2 (by simpa using hL) h1 h2 hij
    · simp only [Prod.mk.injEq] at hxy
      obtain ⟨rfl, rfl⟩ := hxy
      have hj := hio j rfl h2
      have hm : (Tid.net i, e1) ∈ s.log := by rw [hL]; simp
      have hi := hl.no_io_pre i e1 hm h1
      rcases pc_partition (s.net i).pc with hp | hp | hp
      · rw [hp] at hi; cases hi
      · exact absurd (io_unique s h i j hp hj) hij
      · exact hl.closed i hp l1 e1 l2 hL h1

theorem init_loginv (progs : List (List Op)) (rl rh : Nat) : LogInv (init progs rl rh) := by
  refine ⟨?_, ?_, ?_⟩
  · intro i e hm; simp [init] at hm
  · intro i _ l1 e l2 hsplit; simp [init] at hsplit
  · intro l1 l2 l3 i j e1 e2 hsplit; simp [init] at hsplit

theorem reach_loginv (env : List Beh) (progs : List (List Op)) (rl rh : Nat) (sched : List Tid) :
    LogInv (run env (init progs rl rh) sched) :=
  run_induct_inv env LogInv (step_loginv env) sched _ (init_inv progs rl rh)
    (init_loginv progs rl rh)

end PyCraft.Life
