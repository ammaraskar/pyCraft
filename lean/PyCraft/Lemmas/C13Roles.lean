import PyCraft.Model.C13Roles
import PyCraft.Lemmas.Dispatch
/-!
Specification vocabulary and helper lemmas for `Props/C13Roles.lean`: the four registration flags
decide the ROLE a listener plays, in every dispatch of every session.  At the end: the vocabulary of
the generated (live) tables, and models of changed code against which the theorems are tested.
Line numbers refer to `minecraft/networking/connection.py`.
-/
namespace PyCraft.Roles
open PyCraft

/-- The listeners registered with exactly these flags, in registration order. -/
def sel (rs : List Reg) (early outgoing : Bool) : List Listener :=
  (rs.filter (fun r => r.early == early && r.outgoing == outgoing)).map (·.l)

theorem filter_slot (rs : List Reg) (e o : Bool) :
    rs.filter (fun r => slotOf r.early r.outgoing == slotOf e o) =
      rs.filter (fun r => r.early == e && r.outgoing == o) := by
  apply List.filter_congr
  intro r _
  cases e <;> cases o <;> cases r.early <;> cases r.outgoing <;> rfl

theorem registerAll_slot (rs : List Reg) (e o : Bool) :
    (registerAll {} rs).get (slotOf e o) = sel rs e o := by
  rw [registerAll_get, filter_slot]
  cases e <;> cases o <;> simp [Cfg.get, sel, slotOf]

theorem registerAll_early (rs : List Reg) :
    (registerAll {} rs).earlyPacketListeners = sel rs true false := registerAll_slot rs true false
theorem registerAll_ordinary (rs : List Reg) :
    (registerAll {} rs).packetListeners = sel rs false false := registerAll_slot rs false false
theorem registerAll_earlyOut (rs : List Reg) :
    (registerAll {} rs).earlyOutgoingPacketListeners = sel rs true true :=
  registerAll_slot rs true true
theorem registerAll_ordOut (rs : List Reg) :
    (registerAll {} rs).outgoingPacketListeners = sel rs false true := registerAll_slot rs false true

theorem registerAll_snoc (cfg : Cfg) (rs : List Reg) (r : Reg) :
    registerAll cfg (rs ++ [r]) = register (registerAll cfg rs) r.l r.early r.outgoing := by
  simp [registerAll, List.foldl_append]

theorem mem_sel {rs : List Reg} {e o : Bool} {l : Listener} (h : l ∈ sel rs e o) :
    ∃ r ∈ rs, r.l = l ∧ r.early = e ∧ r.outgoing = o := by
  simp only [sel, List.mem_map, List.mem_filter, Bool.and_eq_true, beq_iff_eq] at h
  obtain ⟨r, ⟨hr, he, ho⟩, hl⟩ := h
  exact ⟨r, hr, hl, he, ho⟩

/-- `Cfg.react` after registrations = the documented sequence over the listeners registered with
`early ∧ ¬outgoing` / `¬early ∧ ¬outgoing`. -/
theorem react_registerAll (hier : Hier) (rs : List Reg) (rIgn : Bool) (c : Nat) :
    (registerAll {} rs).react hier rIgn c =
      specIncoming hier (sel rs true false) (sel rs false false) rIgn c := by
  rw [Cfg.react, registerAll_early, registerAll_ordinary, reactIncoming_eq_spec]

theorem write_registerAll (hier : Hier) (rs : List Reg) (c : Nat) :
    (registerAll {} rs).write hier c =
      specOutgoing hier (sel rs true true) (sel rs false true) c := by
  rw [Cfg.write, registerAll_earlyOut, registerAll_ordOut, writeOutgoing_eq_spec]

/-- Every entry of an outgoing log names a matching listener of the list its tag says. -/
theorem mem_writeOutgoing_cases (hier : Hier) (earlyOut ordOut : List Listener) (c : Nat)
    (ev : OutEv) (h : ev ∈ writeOutgoing hier earlyOut ordOut c) :
    (∃ l ∈ earlyOut, l.matches hier c = true ∧ ev = OutEv.earlyOut l.id) ∨ ev = OutEv.written ∨
      (∃ l ∈ ordOut, l.matches hier c = true ∧ ev = OutEv.ordOut l.id) := by
  rw [writeOutgoing_log] at h
  rcases List.mem_append.mp h with h | h
  · exact .inl (runListeners_log_mem hier OutEv.earlyOut c earlyOut ev h)
  · split at h
    · simp at h
    · rcases List.mem_cons.mp h with h | h
      · exact .inr (.inl h)
      · exact .inr (.inr (runListeners_log_mem hier OutEv.ordOut c ordOut ev h))

@[simp] theorem regsOf_append (t u : List Tr) : regsOf (t ++ u) = regsOf t ++ regsOf u := by
  simp [regsOf]
@[simp] theorem issuedOf_append (f : Bool) (t u : List Tr) :
    issuedOf f (t ++ u) = issuedOf f t ++ issuedOf f u := by simp [issuedOf]
@[simp] theorem outsOf_append (x : Site) (t u : List Tr) :
    outsOf x (t ++ u) = outsOf x t ++ outsOf x u := by simp [outsOf]
@[simp] theorem incsOf_append (t u : List Tr) : incsOf (t ++ u) = incsOf t ++ incsOf u := by
  simp [incsOf]
@[simp] theorem reactionWritesOf_append (R : Reactor) (t u : List Tr) :
    reactionWritesOf R (t ++ u) = reactionWritesOf R t ++ reactionWritesOf R u := by
  simp [reactionWritesOf]
@[simp] theorem allIssuedOf_append (t u : List Tr) :
    allIssuedOf (t ++ u) = allIssuedOf t ++ allIssuedOf u := by simp [allIssuedOf]

@[simp] theorem regsOf_nil : regsOf [] = [] := rfl
@[simp] theorem issuedOf_nil (f : Bool) : issuedOf f [] = [] := rfl
@[simp] theorem outsOf_nil (x : Site) : outsOf x [] = [] := rfl
@[simp] theorem incsOf_nil : incsOf [] = [] := rfl
@[simp] theorem reactionWritesOf_nil (R : Reactor) : reactionWritesOf R [] = [] := rfl
@[simp] theorem allIssuedOf_nil : allIssuedOf [] = [] := rfl

@[simp] theorem regsOf_cons (e : Tr) (t : List Tr) :
    regsOf (e :: t) = (match e with | .reg r => [r] | _ => []) ++ regsOf t := by
  cases e <;> simp [regsOf]
@[simp] theorem issuedOf_cons (f : Bool) (e : Tr) (t : List Tr) :
    issuedOf f (e :: t) =
      (match e with | .issued p g => if g = f then [p] else [] | _ => []) ++ issuedOf f t := by
  cases e with
  | issued p g => by_cases h : g = f <;> simp [issuedOf, h]
  | _ => simp [issuedOf]
@[simp] theorem outsOf_cons (x : Site) (e : Tr) (t : List Tr) :
    outsOf x (e :: t) =
      (match e with | .out y p _ => if y = x then [p] else [] | _ => []) ++ outsOf x t := by
  cases e with
  | out y p evs => by_cases h : y = x <;> simp [outsOf, h]
  | _ => simp [outsOf]
@[simp] theorem incsOf_cons (e : Tr) (t : List Tr) :
    incsOf (e :: t) = (match e with | .inc p _ _ => [p] | _ => []) ++ incsOf t := by
  cases e <;> simp [incsOf]
@[simp] theorem reactionWritesOf_cons (R : Reactor) (e : Tr) (t : List Tr) :
    reactionWritesOf R (e :: t) =
      (match e with | .inc p evs _ => if Ev.reaction ∈ evs then R.writes p else [] | _ => []) ++
        reactionWritesOf R t := by
  cases e <;> simp [reactionWritesOf]
@[simp] theorem allIssuedOf_cons (e : Tr) (t : List Tr) :
    allIssuedOf (e :: t) = (match e with | .issued p f => [(p, f)] | _ => []) ++ allIssuedOf t := by
  cases e <;> simp [allIssuedOf]

/-! ## What a correct trace entry looks like -/

/-- The entry `e` is what the documentation promises when `rs` are the registrations made so far:
an outgoing dispatch ran the listeners registered with `outgoing=True` — those with `early=True`
before the write, the others after it; an incoming dispatch ran the listeners registered with
`outgoing=False` — those with `early=True` before the reaction, the others after it; both cut after
the first `IgnorePacket`. -/
def entryOKRegs (hier : Hier) (R : Reactor) (rs : List Reg) : Tr → Prop
  | .out _ p evs => evs = specOutgoing hier (sel rs true true) (sel rs false true) p.cls
  | .inc p evs ign =>
    (evs, ign) = specIncoming hier (sel rs true false) (sel rs false false) (R.ignores p) p.cls
  | _ => True

/-- The entry `e`, appended to a trace `pre`, is correct w.r.t. the registrations recorded in
`pre`. -/
def entryOK (hier : Hier) (R : Reactor) (pre : List Tr) (e : Tr) : Prop :=
  entryOKRegs hier R (regsOf pre) e

/-- Every entry of the trace is correct w.r.t. the part of the trace before it. -/
def AllOK (hier : Hier) (R : Reactor) (t : List Tr) : Prop :=
  ∀ pre e post, t = pre ++ e :: post → entryOK hier R pre e

theorem AllOK.nil (hier : Hier) (R : Reactor) : AllOK hier R [] := by
  intro pre e post h
  simp at h

theorem AllOK.snoc {hier : Hier} {R : Reactor} {t : List Tr} {e : Tr} (h : AllOK hier R t)
    (he : entryOK hier R t e) : AllOK hier R (t ++ [e]) := by
  intro pre x post hx
  rcases List.eq_nil_or_concat post with hp | ⟨q, y, hp⟩
  · subst hp
    have := List.append_inj' hx (by simp)
    obtain ⟨h1, h2⟩ := this
    simp only [List.cons.injEq, and_true] at h2
    subst h1; subst h2; exact he
  · subst hp
    have hx' : t ++ [e] = (pre ++ x :: q) ++ [y] := by simpa using hx
    have := List.append_inj' hx' (by simp)
    exact h pre x q this.1

/-- Listener lists agree with the recorded registrations, and all entries so far are correct. -/
def Inv (hier : Hier) (R : Reactor) (s : Conn) : Prop :=
  s.cfg = registerAll {} (regsOf s.trace) ∧ AllOK hier R s.trace

/-- Queue accounting: unforced packets leave in FIFO order and those not yet dispatched are exactly
the queue; forced packets are dispatched at once. -/
def Acct (s : Conn) : Prop :=
  outsOf .popped s.trace ++ s.queue = issuedOf false s.trace ∧
    outsOf .forced s.trace = issuedOf true s.trace

/-- Everything the theorems need about a call that only produces outgoing traffic: the
invariants survive, and the trace grew by `write_packet` / `_write_packet` entries only, `δ` = the
`write_packet` calls among them. -/
structure Pres (hier : Hier) (R : Reactor) (s s' : Conn) (δ : List (Pkt × Bool)) : Prop where
  inv : Inv hier R s → Inv hier R s'
  acct : Acct s → Acct s'
  cfg : s'.cfg = s.cfg
  inbox : s'.inbox = s.inbox
  grew : ∃ t, s'.trace = s.trace ++ t ∧ regsOf t = [] ∧ incsOf t = [] ∧
    reactionWritesOf R t = [] ∧ allIssuedOf t = δ

section
variable {hier : Hier} {R : Reactor} {s s' : Conn} {δ : List (Pkt × Bool)} (h : Pres hier R s s' δ)
include h

theorem Pres.ext : ∃ t, s'.trace = s.trace ++ t :=
  let ⟨t, ht, _⟩ := h.grew; ⟨t, ht⟩

theorem Pres.regs : regsOf s'.trace = regsOf s.trace := by
  obtain ⟨t, ht, h1, -⟩ := h.grew
  rw [ht, regsOf_append, h1, List.append_nil]

theorem Pres.incs : incsOf s'.trace = incsOf s.trace := by
  obtain ⟨t, ht, -, h2, -⟩ := h.grew
  rw [ht, incsOf_append, h2, List.append_nil]

theorem Pres.rws : reactionWritesOf R s'.trace = reactionWritesOf R s.trace := by
  obtain ⟨t, ht, -, -, h3, -⟩ := h.grew
  rw [ht, reactionWritesOf_append, h3, List.append_nil]

theorem Pres.iss : allIssuedOf s'.trace = allIssuedOf s.trace ++ δ := by
  obtain ⟨t, ht, -, -, -, h4⟩ := h.grew
  rw [ht, allIssuedOf_append, h4]

end

section Session
variable (hier : Hier) (R : Reactor)

theorem Pres.refl (s : Conn) : Pres hier R s s [] :=
  { inv := id, acct := id, cfg := rfl, inbox := rfl,
    grew := ⟨[], (List.append_nil _).symm, rfl, rfl, rfl, rfl⟩ }

theorem Pres.trans {hier : Hier} {R : Reactor} {s s' s'' : Conn} {δ δ' : List (Pkt × Bool)}
    (h : Pres hier R s s' δ) (h' : Pres hier R s' s'' δ') : Pres hier R s s'' (δ ++ δ') := by
  obtain ⟨t, ht, a1, a2, a3, a4⟩ := h.grew
  obtain ⟨t', ht', b1, b2, b3, b4⟩ := h'.grew
  exact ⟨fun x => h'.inv (h.inv x), fun x => h'.acct (h.acct x), h'.cfg.trans h.cfg,
    h'.inbox.trans h.inbox, t ++ t', by rw [ht', ht, List.append_assoc],
    by rw [regsOf_append, a1, b1]; rfl, by rw [incsOf_append, a2, b2]; rfl,
    by rw [reactionWritesOf_append, a3, b3]; rfl, by rw [allIssuedOf_append, a4, b4]⟩

theorem writeRaw_inv {hier : Hier} {R : Reactor} {s : Conn} (site : Site) (p : Pkt)
    (h : Inv hier R s) : Inv hier R (s.writeRaw hier site p) := by
  obtain ⟨hc, hok⟩ := h
  refine ⟨by simpa [Conn.writeRaw] using hc, ?_⟩
  simp only [Conn.writeRaw]
  apply hok.snoc
  simp only [entryOK, entryOKRegs, hc, write_registerAll]

theorem writePacket_pres (s : Conn) (p : Pkt) (f : Bool) :
    Pres hier R s (s.writePacket hier p f) [(p, f)] := by
  cases f
  · refine { inv := ?_, acct := ?_, cfg := rfl, inbox := rfl,
             grew := ⟨[Tr.issued p false], rfl, rfl, rfl, rfl, rfl⟩ }
    · rintro ⟨hc, hok⟩
      exact ⟨by simpa [Conn.writePacket] using hc, by
        simpa [Conn.writePacket] using hok.snoc (e := Tr.issued p false) trivial⟩
    · rintro ⟨h1, h2⟩
      simp only [Acct, Conn.writePacket, Bool.false_eq_true, ↓reduceIte] at *
      exact ⟨by simp [← h1], by simpa using h2⟩
  · refine { inv := ?_, acct := ?_, cfg := rfl, inbox := rfl,
             grew := ⟨[Tr.issued p true, Tr.out .forced p (s.cfg.write hier p.cls)],
               by simp [Conn.writePacket, Conn.writeRaw], rfl, rfl, rfl, rfl⟩ }
    · rintro ⟨hc, hok⟩
      have : Inv hier R { s with trace := s.trace ++ [Tr.issued p true] } :=
        ⟨by simpa using hc, hok.snoc (e := Tr.issued p true) trivial⟩
      simpa [Conn.writePacket] using writeRaw_inv .forced p this
    · rintro ⟨h1, h2⟩
      simp only [Acct, Conn.writePacket, ↓reduceIte, Conn.writeRaw] at *
      exact ⟨by simpa using h1, by simp [h2]⟩

theorem popPacket_pres (s : Conn) :
    Pres hier R s (s.popPacket hier).1 [] := by
  unfold Conn.popPacket
  split
  · exact Pres.refl hier R s
  · rename_i p q hq
    refine { inv := ?_, acct := ?_, cfg := rfl, inbox := rfl,
             grew := ⟨[Tr.out .popped p (s.cfg.write hier p.cls)], rfl, rfl, rfl, rfl, rfl⟩ }
    · rintro ⟨hc, hok⟩
      exact writeRaw_inv .popped p (s := { s with queue := q }) ⟨hc, hok⟩
    · rintro ⟨h1, h2⟩
      simp only [Acct, Conn.writeRaw] at *
      rw [hq] at h1
      exact ⟨by simpa using h1, by simpa using h2⟩

/-- `_pop_packet` answers `True` iff the queue was non-empty, and then the queue lost its head. -/
theorem popPacket_queue (hier : Hier) (s : Conn) :
    (s.popPacket hier).2 = !s.queue.isEmpty ∧ (s.popPacket hier).1.queue = s.queue.tail := by
  unfold Conn.popPacket
  split <;> rename_i h <;> simp [h, Conn.writeRaw]

theorem popPacket_trace (hier : Hier) (s : Conn) :
    outsOf .popped (s.popPacket hier).1.trace = outsOf .popped s.trace ++ s.queue.take 1 := by
  unfold Conn.popPacket
  split <;> rename_i h <;> simp [h, Conn.writeRaw]

theorem writeLoop_pres (budget : Nat) (s : Conn) (n : Nat) :
    Pres hier R s (writeLoop hier budget s n).1 [] := by
  fun_induction writeLoop hier budget s n
  case case1 => exact Pres.refl hier R _
  case case2 s _ s' hs ih =>
    have hp := popPacket_pres hier R s
    rw [hs] at hp
    simpa using hp.trans ih
  case case3 s _ s' hs =>
    have hp := popPacket_pres hier R s
    rw [hs] at hp
    exact hp

/-- The write phase pops exactly `min budget queue.length` packets, in queue order, and counts
them. -/
theorem writeLoop_progress (hier : Hier) (budget : Nat) (s : Conn) (n : Nat) :
    (writeLoop hier budget s n).2 = n + min budget s.queue.length ∧
    (writeLoop hier budget s n).1.queue = s.queue.drop (min budget s.queue.length) ∧
    outsOf .popped (writeLoop hier budget s n).1.trace =
      outsOf .popped s.trace ++ s.queue.take (min budget s.queue.length) := by
  fun_induction writeLoop hier budget s n
  case case1 => simp
  case case2 b s n s' hs ih =>
    -- `_pop_packet` answered `True`: the head of the queue went out
    obtain ⟨hq1, hq2⟩ := popPacket_queue hier s
    have ht := popPacket_trace hier s
    rw [hs] at hq1 hq2 ht
    obtain ⟨h1, h2, h3⟩ := ih
    cases hq' : s.queue with
    | nil => simp [hq'] at hq1
    | cons p q =>
      rw [hq'] at hq2 ht
      rw [h1, h2, h3, ht, hq2]
      simp only [Nat.succ_eq_add_one, List.length_cons, Nat.add_min_add_right, List.take_succ_cons,
        List.drop_succ_cons, List.tail_cons]
      exact ⟨by omega, trivial, by simp⟩
  case case3 b s n s' hs =>
    -- it answered `False`: the queue is empty
    obtain ⟨hq1, hq2⟩ := popPacket_queue hier s
    have ht := popPacket_trace hier s
    rw [hs] at hq1 hq2 ht
    cases hq' : s.queue with
    | nil => simp_all
    | cons a b => simp [hq'] at hq1

/-- The flush loop is the write phase without the counter. -/
theorem flushLoop_eq_writeLoop (hier : Hier) :
    ∀ (fuel : Nat) (s : Conn) (n : Nat), flushLoop hier fuel s = (writeLoop hier fuel s n).1 := by
  intro fuel
  induction fuel with
  | zero => intro s n; rfl
  | succ fuel ih =>
    intro s n
    simp only [flushLoop, writeLoop]
    rcases s.popPacket hier with ⟨s', _ | _⟩
    · rfl
    · exact ih s' (n + 1)

theorem flushLoop_pres (fuel : Nat) (s : Conn) :
    Pres hier R s (flushLoop hier fuel s) [] :=
  flushLoop_eq_writeLoop hier fuel s 0 ▸ writeLoop_pres hier R fuel s 0

theorem flushLoop_queue (hier : Hier) (fuel : Nat) (s : Conn) (h : s.queue.length ≤ fuel) :
    (flushLoop hier fuel s).queue = [] ∧
    outsOf .popped (flushLoop hier fuel s).trace = outsOf .popped s.trace ++ s.queue := by
  obtain ⟨-, h2, h3⟩ := writeLoop_progress hier fuel s 0
  rw [flushLoop_eq_writeLoop hier fuel s 0, h2, h3, Nat.min_eq_right h]
  simp

theorem writeAll_pres :
    ∀ (ws : List (Pkt × Bool)) (s : Conn), Pres hier R s (s.writeAll hier ws) ws := by
  intro ws
  induction ws with
  | nil => intro s; exact Pres.refl hier R s
  | cons w ws ih =>
    intro s
    have h1 := writePacket_pres hier R s w.1 w.2
    have h2 := ih (s.writePacket hier w.1 w.2)
    simpa [Conn.writeAll] using h1.trans h2

theorem writeAll_queue (hier : Hier) :
    ∀ (ws : List (Pkt × Bool)) (s : Conn),
      outsOf .popped (s.writeAll hier ws).trace = outsOf .popped s.trace ∧
      (s.writeAll hier ws).queue = s.queue ++ (ws.filter (fun w => !w.2)).map (·.1) := by
  intro ws
  induction ws with
  | nil => intro s; simp [Conn.writeAll]
  | cons w ws ih =>
    intro s
    obtain ⟨h1, h2⟩ := ih (s.writePacket hier w.1 w.2)
    simp only [Conn.writeAll, List.foldl_cons] at h1 h2 ⊢
    rw [h1, h2]
    obtain ⟨p, f⟩ := w
    cases f <;> simp [Conn.writePacket, Conn.writeRaw]

/-- `_react` in one piece: the call log is `Cfg.react` of the lists as they are at the call; the
reaction's `write_packet` calls — those the trace reader `reactionWritesOf` attributes to the new
entry — happen iff the reaction ran; nothing else changes. -/
theorem react_eq (s : Conn) (p : Pkt) :
    let e := Tr.inc p (s.cfg.react hier (R.ignores p) p.cls).1
      (s.cfg.react hier (R.ignores p) p.cls).2
    let s' := s.writeAll hier (reactionWritesOf R [e])
    s.react hier R p = { s' with trace := s'.trace ++ [e] } := by
  have hcfg := (writeAll_pres hier R (R.writes p) s).cfg
  have hno := not_mem_runListeners_of_tag hier Ev.early p.cls s.cfg.earlyPacketListeners
    Ev.reaction (by simp)
  simp only [Cfg.react, reactionWritesOf_cons, reactionWritesOf_nil, List.append_nil]
  cases h1 : (runListeners hier Ev.early p.cls s.cfg.earlyPacketListeners).2
  · cases h2 : R.ignores p
    · simp [Conn.react, reactIncoming, h1, h2, hcfg]
    · simp [Conn.react, reactIncoming, h1, h2]
  · simp [Conn.react, reactIncoming, h1, hno, Conn.writeAll]

/-- Everything the theorems need about a stretch of incoming dispatches: `took` = the packets
`_react` was called with. -/
structure IncFacts (hier : Hier) (R : Reactor) (s s' : Conn) (took : List Pkt) : Prop where
  inv : Inv hier R s → Inv hier R s'
  acct : Acct s → Acct s'
  cfg : s'.cfg = s.cfg
  regs : regsOf s'.trace = regsOf s.trace
  incs : incsOf s'.trace = incsOf s.trace ++ took
  popped : outsOf .popped s'.trace = outsOf .popped s.trace
  writes : ∃ δ, allIssuedOf s'.trace = allIssuedOf s.trace ++ δ ∧
    reactionWritesOf R s'.trace = reactionWritesOf R s.trace ++ δ ∧
    s'.queue = s.queue ++ (δ.filter (fun w => !w.2)).map (·.1)
  ext : ∃ t, s'.trace = s.trace ++ t

theorem IncFacts.setInbox (s : Conn) (ps : List Pkt) :
    IncFacts hier R s { s with inbox := ps } [] :=
  ⟨id, id, rfl, rfl, by simp, rfl, ⟨[], by simp, by simp, by simp⟩, ⟨[], by simp⟩⟩

theorem IncFacts.refl (s : Conn) : IncFacts hier R s s [] :=
  IncFacts.setInbox hier R s s.inbox

theorem IncFacts.trans {hier : Hier} {R : Reactor} {s s' s'' : Conn} {a b : List Pkt}
    (h : IncFacts hier R s s' a) (h' : IncFacts hier R s' s'' b) :
    IncFacts hier R s s'' (a ++ b) := by
  obtain ⟨d, hd1, hd2, hd3⟩ := h.writes
  obtain ⟨d', hd1', hd2', hd3'⟩ := h'.writes
  obtain ⟨t, ht⟩ := h.ext
  obtain ⟨t', ht'⟩ := h'.ext
  exact ⟨fun x => h'.inv (h.inv x), fun x => h'.acct (h.acct x), h'.cfg.trans h.cfg,
    h'.regs.trans h.regs, by rw [h'.incs, h.incs, List.append_assoc], h'.popped.trans h.popped,
    ⟨d ++ d', by rw [hd1', hd1, List.append_assoc], by rw [hd2', hd2, List.append_assoc],
      by rw [hd3', hd3]; simp⟩, ⟨t ++ t', by rw [ht', ht, List.append_assoc]⟩⟩

theorem react_facts (s : Conn) (p : Pkt) :
    IncFacts hier R s (s.react hier R p) [p] ∧ (s.react hier R p).inbox = s.inbox := by
  rw [react_eq]
  generalize hδ : reactionWritesOf R [Tr.inc p _ _] = δ
  have hw := writeAll_pres hier R δ s
  have hq := writeAll_queue hier δ s
  refine ⟨⟨fun hi => ?_, fun ha => ?_, hw.cfg, by simpa using hw.regs,
    by simpa using hw.incs, by simpa using hq.1,
    ⟨δ, by simpa using hw.iss, by simp [hδ, hw.rws], hq.2⟩, ?_⟩, hw.inbox⟩
  · obtain ⟨hc, hok⟩ := hw.inv hi
    refine ⟨by simpa using hc, hok.snoc ?_⟩
    simp only [entryOK, entryOKRegs]
    rw [← react_registerAll, ← hc, hw.cfg]
  · obtain ⟨h1, h2⟩ := hw.acct ha
    exact ⟨by simpa using h1, by simpa using h2⟩
  · obtain ⟨t, ht⟩ := hw.ext
    exact ⟨t ++ [_], by rw [ht, List.append_assoc]⟩

/-- The read phase reacts to exactly the first `min (capR - n) inbox.length` packets of the inbox,
in order, and leaves the rest there. -/
theorem readLoop_facts (capR : Nat) (todo : List Pkt) (s : Conn)
    (n : Nat) (h : s.inbox = todo) :
    IncFacts hier R s (readLoop hier R capR todo s n) (todo.take (min (capR - n) todo.length)) ∧
    (readLoop hier R capR todo s n).inbox = todo.drop (min (capR - n) todo.length) := by
  fun_induction readLoop hier R capR todo s n
  case case1 s _ => simpa [h] using IncFacts.refl hier R s
  case case2 p ps s n hn ih =>
    obtain ⟨h1, h1i⟩ := react_facts hier R { s with inbox := ps } p
    obtain ⟨h2, h2i⟩ := ih h1i
    have hm : min (capR - n) (p :: ps).length = min (capR - (n + 1)) ps.length + 1 := by
      simp only [List.length_cons]; omega
    rw [hm]
    exact ⟨by simpa using ((IncFacts.setInbox hier R s ps).trans h1).trans h2, by simpa using h2i⟩
  case case3 p ps s n hn =>
    have hm : min (capR - n) (p :: ps).length = 0 := by omega
    rw [hm]
    simpa [h] using IncFacts.refl hier R s

/-- What one iteration of `_run` does: `n` queued packets written, then `m` packets reacted to. -/
structure IterFacts (hier : Hier) (R : Reactor) (s s' : Conn) (n m : Nat) : Prop where
  inv : Inv hier R s → Inv hier R s'
  acct : Acct s → Acct s'
  cfg : s'.cfg = s.cfg
  regs : regsOf s'.trace = regsOf s.trace
  incs : incsOf s'.trace = incsOf s.trace ++ s.inbox.take m
  inbox : s'.inbox = s.inbox.drop m
  popped : outsOf .popped s'.trace = outsOf .popped s.trace ++ s.queue.take n
  writes : ∃ δ, allIssuedOf s'.trace = allIssuedOf s.trace ++ δ ∧
    reactionWritesOf R s'.trace = reactionWritesOf R s.trace ++ δ ∧
    s'.queue = s.queue.drop n ++ (δ.filter (fun w => !w.2)).map (·.1)
  ext : ∃ t, s'.trace = s.trace ++ t

theorem runIter_facts (caps : Caps) (s : Conn) :
    IterFacts hier R s (s.runIter hier R caps) (min caps.capW s.queue.length)
      (min (caps.capR - min caps.capW s.queue.length) s.inbox.length) := by
  have hw := writeLoop_pres hier R caps.capW s 0
  obtain ⟨hn, hq, hp⟩ := writeLoop_progress hier caps.capW s 0
  obtain ⟨hr, hri⟩ := readLoop_facts hier R caps.capR (writeLoop hier caps.capW s 0).1.inbox
    (writeLoop hier caps.capW s 0).1 (writeLoop hier caps.capW s 0).2 rfl
  simp only [hn, Nat.zero_add, hw.inbox] at hr hri
  obtain ⟨d, hd1, hd2, hd3⟩ := hr.writes
  simp only [Conn.runIter]
  simp only [hn, Nat.zero_add, hw.inbox]
  exact ⟨fun x => hr.inv (hw.inv x), fun x => hr.acct (hw.acct x), hr.cfg.trans hw.cfg,
    hr.regs.trans hw.regs, by rw [hr.incs, hw.incs], hri, by rw [hr.popped, hp],
    ⟨d, by rw [hd1, hw.iss, List.append_nil], by rw [hd2, hw.rws], by rw [hd3, hq]⟩, by
      obtain ⟨t, ht⟩ := hw.ext
      obtain ⟨t', ht'⟩ := hr.ext
      exact ⟨t ++ t', by rw [ht', ht, List.append_assoc]⟩⟩

/-- The registrations a session makes. -/
def regOpsOf (ops : List Op) : List Reg :=
  ops.filterMap fun | .register r => some r | _ => none

/-- The session invariant: `s` is reachable from a fresh connection by `ops`.  (`issued` counts
occurrences: the user's and the reactions' `write_packet` calls interleave in the trace, so only
how often each call occurs is determined, not one list.) -/
structure Top (hier : Hier) (R : Reactor) (ops : List Op) (s : Conn) : Prop where
  inv : Inv hier R s
  acct : Acct s
  regs : regsOf s.trace = regOpsOf ops
  arrived : incsOf s.trace ++ s.inbox = arrivedOf ops
  issued : ∀ w, (allIssuedOf s.trace).count w =
    (userWritesOf ops).count w + (reactionWritesOf R s.trace).count w

theorem Top.init : Top hier R [] {} :=
  ⟨⟨rfl, AllOK.nil hier R⟩, ⟨rfl, rfl⟩, rfl, rfl, by intro w; rfl⟩

theorem regOpsOf_append (a b : List Op) : regOpsOf (a ++ b) = regOpsOf a ++ regOpsOf b := by
  simp [regOpsOf]

theorem arrivedOf_append (a b : List Op) : arrivedOf (a ++ b) = arrivedOf a ++ arrivedOf b := by
  simp [arrivedOf]

theorem userWritesOf_append (a b : List Op) :
    userWritesOf (a ++ b) = userWritesOf a ++ userWritesOf b := by
  simp [userWritesOf]

/-- An operation that only produces outgoing traffic keeps the session invariant; `δ` must be the
`write_packet` calls the user made in it. -/
theorem Top.of_pres {hier : Hier} {R : Reactor} {ops : List Op} {s s' : Conn}
    {δ : List (Pkt × Bool)} (h : Top hier R ops s) (hp : Pres hier R s s' δ) (op : Op)
    (hr : regOpsOf [op] = []) (ha : arrivedOf [op] = []) (hw : userWritesOf [op] = δ) :
    Top hier R (ops ++ [op]) s' :=
  ⟨hp.inv h.inv, hp.acct h.acct,
    by rw [hp.regs, h.regs, regOpsOf_append, hr, List.append_nil],
    by rw [hp.incs, hp.inbox, h.arrived, arrivedOf_append, ha, List.append_nil],
    fun w => by
      rw [hp.iss, hp.rws, userWritesOf_append, hw, List.count_append, List.count_append,
        h.issued w]
      omega⟩

theorem Top.step {hier : Hier} {R : Reactor} (caps : Caps) {ops : List Op} {s : Conn}
    (h : Top hier R ops s) (op : Op) : Top hier R (ops ++ [op]) (s.step hier R caps op) := by
  cases op with
  | write p f => exact h.of_pres (writePacket_pres hier R s p f) _ rfl rfl rfl
  | pop => exact h.of_pres (popPacket_pres hier R s) _ rfl rfl rfl
  | flush => exact h.of_pres (flushLoop_pres hier R s.queue.length s) _ rfl rfl rfl
  | register r =>
    obtain ⟨⟨hc, hok⟩, ⟨h1, h2⟩, hregs, harr, hiss⟩ := h
    refine ⟨⟨?_, hok.snoc (e := Tr.reg r) trivial⟩, ⟨by simpa [Conn.step, Conn.register] using h1,
      by simpa [Conn.step, Conn.register] using h2⟩, ?_, ?_, fun w => ?_⟩
    · simp only [Conn.step, Conn.register, regsOf_append, regsOf_cons, regsOf_nil,
        List.append_nil, registerAll_snoc, ← hc]
    · simp only [Conn.step, Conn.register, regsOf_append, hregs, regOpsOf_append]; rfl
    · simpa [Conn.step, Conn.register, arrivedOf] using harr
    · simpa [Conn.step, Conn.register, userWritesOf] using hiss w
  | arrive ps =>
    obtain ⟨hinv, hacct, hregs, harr, hiss⟩ := h
    refine ⟨hinv, hacct, ?_, ?_, fun w => ?_⟩
    · simp only [Conn.step, hregs, regOpsOf_append]; exact (List.append_nil _).symm
    · simp only [Conn.step, ← List.append_assoc, harr, arrivedOf_append]; simp [arrivedOf]
    · simpa [Conn.step, userWritesOf] using hiss w
  | iter =>
    have hp := runIter_facts hier R caps s
    obtain ⟨d, hd1, hd2, _⟩ := hp.writes
    refine ⟨hp.inv h.inv, hp.acct h.acct, ?_, ?_, fun w => ?_⟩
    · simp only [Conn.step, hp.regs, h.regs, regOpsOf_append]; exact (List.append_nil _).symm
    · simp only [Conn.step, hp.incs, hp.inbox, List.append_assoc, List.take_append_drop, h.arrived,
        arrivedOf_append]
      exact (List.append_nil _).symm
    · simp only [Conn.step, hd1, hd2, List.count_append, h.issued w, userWritesOf_append]
      simp [userWritesOf]
      omega

theorem run_snoc (caps : Caps) (s : Conn) (ops : List Op) (op : Op) :
    Conn.run hier R caps s (ops ++ [op]) = (Conn.run hier R caps s ops).step hier R caps op := by
  simp [Conn.run, List.foldl_append]

theorem Top.run (caps : Caps) (ops : List Op) :
    Top hier R ops (Conn.run hier R caps {} ops) := by
  suffices h : ∀ (post pre : List Op) (s : Conn), Top hier R pre s →
      Top hier R (pre ++ post) (Conn.run hier R caps s post) by
    simpa using h ops [] {} (Top.init hier R)
  intro post
  induction post with
  | nil => intro pre s h; simpa [Conn.run] using h
  | cons op post ih =>
    intro pre s h
    have := ih (pre ++ [op]) (s.step hier R caps op) (h.step caps op)
    simpa [Conn.run] using this

theorem step_ext (caps : Caps) (s : Conn) (op : Op) :
    ∃ t, (s.step hier R caps op).trace = s.trace ++ t := by
  cases op with
  | register r => exact ⟨[Tr.reg r], rfl⟩
  | write p f => exact (writePacket_pres hier R s p f).ext
  | pop => exact (popPacket_pres hier R s).ext
  | flush => exact (flushLoop_pres hier R s.queue.length s).ext
  | arrive ps => exact ⟨[], by simp [Conn.step]⟩
  | iter => exact (runIter_facts hier R caps s).ext

/-- Every dispatch performed during one operation of a session is correct w.r.t. the registrations
made by the operations BEFORE it. -/
theorem step_roles (caps : Caps) (ops : List Op) (op : Op) :
    ∃ t, ((Conn.run hier R caps {} ops).step hier R caps op).trace =
        (Conn.run hier R caps {} ops).trace ++ t ∧
      ∀ e ∈ t, entryOKRegs hier R (regOpsOf ops) e := by
  obtain ⟨t, ht⟩ := step_ext hier R caps (Conn.run hier R caps {} ops) op
  refine ⟨t, ht, ?_⟩
  intro e he
  have h0 := Top.run hier R caps ops
  have h1 := Top.run hier R caps (ops ++ [op])
  rw [run_snoc] at h1
  obtain ⟨t1, t2, rfl⟩ := List.append_of_mem he
  have hok := h1.inv.2 ((Conn.run hier R caps {} ops).trace ++ t1) e t2 (by rw [ht]; simp)
  have hr := h1.regs
  rw [ht, regsOf_append, h0.regs] at hr
  simp only [entryOK, regsOf_append, h0.regs] at hok
  cases op with
  | register r =>
    have : t1 ++ e :: t2 = [Tr.reg r] := by
      have := ht
      simp only [Conn.step, Conn.register] at this
      exact (List.append_cancel_left this).symm
    have he' : e = Tr.reg r := by
      cases t1 with
      | nil => simpa using (List.cons.inj this).1
      | cons a t1 => simp at this
    subst he'
    trivial
  | _ =>
    have hz : regsOf (t1 ++ e :: t2) = [] := by simpa [regOpsOf] using hr
    rw [regsOf_append] at hz
    rw [(List.append_eq_nil_iff.mp hz).1, List.append_nil] at hok
    exact hok

end Session

theorem sel_filter_outgoing (rs : List Reg) (e o : Bool) :
    sel (rs.filter (fun r => r.outgoing == o)) e o = sel rs e o := by
  simp only [sel, List.filter_filter]
  congr 1
  apply List.filter_congr
  intro r _
  cases r.early <;> cases r.outgoing <;> cases e <;> cases o <;> rfl

/-! ## Vocabulary for the generated (live) tables -/

/-- Number of the Python attribute a `Slot` stands for (`Cfg.get`): 0 = `packet_listeners`,
1 = `early_packet_listeners`, 2 = `outgoing_packet_listeners`,
3 = `early_outgoing_packet_listeners`. -/
def slotIndex : Slot → Nat
  | .ordinary => 0 | .early => 1 | .outgoing => 2 | .earlyOutgoing => 3

/-- A call-log entry as the live probe prints it: the listener's id, `0` for the reaction. -/
def evNum : Ev → Nat
  | .early i => i | .reaction => 0 | .ordinary i => i

/-- Likewise for outgoing logs: `0` for the write. -/
def outEvNum : OutEv → Nat
  | .earlyOut i => i | .written => 0 | .ordOut i => i

/-- The configuration the live probe builds: the given `(id, types, early, outgoing)` registrations
in order, the callback of listener `ign` raising `IgnorePacket`. -/
def probeCfg (regs : List (Nat × List Nat × Bool × Bool)) (ign : Nat) : Cfg :=
  registerAll {} (regs.map fun x => ⟨⟨x.1, x.2.1, x.1 == ign⟩, x.2.2.1, x.2.2.2⟩)

/-! ## Models of CHANGED code (used only to show that the theorems notice the change) -/

/-- CHANGED `_react` (connection.py l.577): iterates `early_outgoing_packet_listeners` instead of
`early_packet_listeners`. -/
def reactWrongList (hier : Hier) (cfg : Cfg) (rIgn : Bool) (c : Nat) : List Ev × Bool :=
  reactIncoming hier cfg.earlyOutgoingPacketListeners cfg.packetListeners rIgn c

/-- CHANGED `_write_packet` (connection.py l.337/l.345): the two lists swapped. -/
def writeSwapped (hier : Hier) (cfg : Cfg) (c : Nat) : List OutEv :=
  writeOutgoing hier cfg.outgoingPacketListeners cfg.earlyOutgoingPacketListeners c

/-- CHANGED `_pop_packet` (connection.py l.330):
`self._write_packet(self._outgoing_packet_queue[0])` — the packet is not removed from the queue. -/
def popPacketPeek (hier : Hier) (s : Conn) : Conn × Bool :=
  match s.queue with
  | [] => (s, false)
  | p :: _ => (s.writeRaw hier .popped p, true)

/-- CHANGED `write_packet` (connection.py l.218-222): the `else:` is lost, a forced packet is also
queued. -/
def writePacketNoElse (hier : Hier) (s : Conn) (p : Pkt) (force : Bool) : Conn :=
  let s : Conn := { s with trace := s.trace ++ [Tr.issued p force] }
  let s := if force then s.writeRaw hier .forced p else s
  { s with queue := s.queue ++ [p] }

/-- CHANGED `_run` / `_react`: the `except IgnorePacket` sits around the read loop instead of inside
`_react`, so an ignored packet ends the read phase of the iteration. -/
def readLoopIgnoreEnds (hier : Hier) (R : Reactor) (capR : Nat) : List Pkt → Conn → Nat → Conn
  | [], s, _ => s
  | p :: ps, s, n =>
    if n < capR then
      let s' := ({ s with inbox := ps }).react hier R p
      if (s.cfg.react hier (R.ignores p) p.cls).2 then s'
      else readLoopIgnoreEnds hier R capR ps s' (n + 1)
    else s

end PyCraft.Roles
