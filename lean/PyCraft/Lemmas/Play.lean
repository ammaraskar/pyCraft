import PyCraft.Model.Play
/-!
Helper lemmas for C11: the networking loop against its closed form, for every pair of caps.

`finalOK c inbox` is the state the loop must end in when started in the live state `c` with
`inbox` still unread and every write succeeding. The loop invariant is "`finalOK` of the current
state and the unread inbox does not change", the variant is `2·|inbox| + |queue|`.
-/
namespace PyCraft.Play
open PyCraft

/-- The thread is running on an open connection. -/
def Live (c : Conn) : Prop := c.interrupt = false ∧ c.connected = true ∧ c.closed = false

def finalOK (newer : Bool) (c : Conn) (inbox : List PlayEv) : Conn :=
  { queue := [],
    wire := c.wire ++ c.queue ++ (beforeDisc inbox).flatMap (replyTo newer),
    delivered := c.delivered ++
      (beforeDisc inbox ++ if hasDisc inbox then [PlayEv.disconnect] else []).map PlayEv.asSeen,
    spawned := c.spawned || (beforeDisc inbox).any PlayEv.isPosLook,
    connected := !hasDisc inbox, interrupt := hasDisc inbox, closed := hasDisc inbox }

/-- Equal except possibly for the queue, and the wire of the first is a prefix of the second's. -/
def SameButWire (a b : Conn) : Prop :=
  a.delivered = b.delivered ∧ a.spawned = b.spawned ∧ a.connected = b.connected ∧
  a.interrupt = b.interrupt ∧ a.closed = b.closed ∧ a.wire <+: b.wire

theorem SameButWire.rfl' (a : Conn) : SameButWire a a :=
  ⟨rfl, rfl, rfl, rfl, rfl, List.prefix_refl _⟩

theorem beforeDisc_cons_ne (e : PlayEv) (rest : List PlayEv) (h : e ≠ .disconnect) :
    beforeDisc (e :: rest) = e :: beforeDisc rest := by
  simp [beforeDisc, h]

theorem beforeDisc_cons_disc (rest : List PlayEv) : beforeDisc (.disconnect :: rest) = [] := by
  simp [beforeDisc]

theorem hasDisc_cons_ne (e : PlayEv) (rest : List PlayEv) (h : e ≠ .disconnect) :
    hasDisc (e :: rest) = hasDisc rest := by
  have : PlayEv.disconnect ≠ e := fun h' => h h'.symm
  simp [hasDisc, this]

theorem hasDisc_cons_disc (rest : List PlayEv) : hasDisc (.disconnect :: rest) = true := by
  simp [hasDisc]

theorem hasDisc_nil : hasDisc [] = false := rfl
theorem beforeDisc_nil : beforeDisc [] = [] := rfl

section
variable (newer po : Bool) (capW capR : Nat)

/-! ### One event -/

theorem react_ne_disc (c : Conn) (e : PlayEv) (h : e ≠ .disconnect) :
    react newer po c e =
      { c with queue := c.queue ++ replyTo newer e, spawned := c.spawned || e.isPosLook } := by
  cases e with
  | disconnect => exact absurd rfl h
  | keepAlive id => simp [react, replyTo, PlayEv.isPosLook]
  | posLook x y z yaw pitch f tid => cases newer <;> simp [react, replyTo, PlayEv.isPosLook]
  | unknown p d => simp [react, replyTo, PlayEv.isPosLook]
  | other n => simp [react, replyTo, PlayEv.isPosLook]

theorem replyTo_length (e : PlayEv) : (replyTo newer e).length ≤ 1 := by
  cases e <;> simp [replyTo]
  split <;> simp

theorem flatMap_replyTo_length (l : List PlayEv) :
    (l.flatMap (replyTo newer)).length ≤ l.length := by
  induction l with
  | nil => simp
  | cons e es ih =>
    have := replyTo_length newer e
    simp only [List.flatMap_cons, List.length_append, List.length_cons]
    omega

theorem reactAll_ne_disc (c : Conn) (e : PlayEv) (rest : List PlayEv)
    (h : e ≠ .disconnect) (hl : Live c) :
    Live (reactAll newer po c e) ∧
    finalOK newer (reactAll newer po c e) rest = finalOK newer c (e :: rest) ∧
    (reactAll newer po c e).queue.length ≤ c.queue.length + 1 := by
  have hr := react_ne_disc newer po c e h
  obtain ⟨h1, h2, h3⟩ := hl
  refine ⟨?_, ?_, ?_⟩
  · simp [reactAll, hr, Live, h1, h2, h3]
  · simp [reactAll, hr, finalOK, beforeDisc_cons_ne e rest h, hasDisc_cons_ne e rest h,
      List.append_assoc, Bool.or_assoc]
  · have := replyTo_length newer e
    simp [reactAll, hr]; omega

/-- The disconnect branch of `react`, all cases at once (the flush of `disconnect()`, the
`except IOError`, an already closed socket): the flags are set; with an open socket the queue goes
to the wire if the peer still listens, else its first packet is lost. -/
theorem react_disc_eq (c : Conn) :
    react newer po c .disconnect =
      { c with connected := false, interrupt := true, closed := true,
               wire := if po && !c.closed then c.wire ++ c.queue else c.wire,
               queue := if c.closed then c.queue else if po then [] else c.queue.tail } := by
  cases c with
  | mk queue wire delivered spawned connected interrupt closed =>
    cases queue <;> cases closed <;> cases po <;> simp [react, disconnect]

theorem reactAll_disc (c : Conn) (rest : List PlayEv) (hl : Live c) :
    (reactAll newer po c .disconnect).interrupt = true ∧
    SameButWire (reactAll newer po c .disconnect) (finalOK newer c (.disconnect :: rest)) ∧
    (po = true → reactAll newer po c .disconnect = finalOK newer c (.disconnect :: rest)) := by
  obtain ⟨h1, h2, h3⟩ := hl
  cases po <;>
    simp [reactAll, react_disc_eq, finalOK, SameButWire, beforeDisc_cons_disc, hasDisc_cons_disc,
      PlayEv.asSeen, h3]

/-! ### The two phases -/

/-- The write phase moves a prefix `l` of the queue to the wire; the counter goes up by `|l|`, which
is positive unless the queue was empty. -/
theorem writeLoop_spec (num : Nat) (queue wire : List Reply) :
    ∀ r, writeLoop capW num queue wire = r →
    (∃ l, r.2.2 = wire ++ l ∧ l ++ r.2.1 = queue) ∧ r.2.1.length + r.1 = queue.length + num ∧
    (queue ≠ [] → num < r.1) ∧ (queue = [] → r.1 = num) := by
  intro r hr
  subst hr
  fun_induction writeLoop capW num queue wire with
  | case1 => simp
  | case2 num p q wire h => exact ⟨⟨[p], by simp⟩, by simp; omega⟩
  | case3 num p q wire h ih =>
    obtain ⟨⟨l, a1, a2⟩, b, c, d⟩ := ih
    refine ⟨⟨p :: l, by rw [a1]; simp, by rw [List.cons_append, a2]⟩,
      by simp only [List.length_cons]; omega, fun _ => ?_, by simp⟩
    cases q with
    | nil => have := d rfl; omega
    | cons x xs => have := c (by simp); omega

variable {newer po capR} in
theorem readLoop_interrupted {num : Nat} {c : Conn} {inbox : List PlayEv}
    (h : c.interrupt = true) : readLoop newer po capR num c inbox = (c, inbox) := by
  cases inbox <;> simp [readLoop, h]

theorem finalOK_closed (c : Conn) (inbox : List PlayEv) :
    (finalOK newer c inbox).closed = hasDisc inbox := rfl

/-- The read phase, for its result `r`: either the thread is still live, the closed form is unchanged
and the variant has not grown (it has shrunk if something could be read); or a disconnect was read
and `r` is the closed form up to a wire cut short. -/
theorem readLoop_spec (num : Nat) (c : Conn) (inbox : List PlayEv) (hl : Live c) :
    ∀ r, readLoop newer po capR num c inbox = r →
    (Live r.1 ∧ finalOK newer r.1 r.2 = finalOK newer c inbox ∧
      2 * r.2.length + r.1.queue.length ≤ 2 * inbox.length + c.queue.length ∧
      (num < capR → inbox ≠ [] →
        2 * r.2.length + r.1.queue.length < 2 * inbox.length + c.queue.length))
    ∨ (r.1.interrupt = true ∧ hasDisc inbox = true ∧ SameButWire r.1 (finalOK newer c inbox) ∧
        (po = true → r.1 = finalOK newer c inbox)) := by
  intro r hr
  subst hr
  fun_induction readLoop newer po capR num c inbox with
  | case1 => left; simp [hl]
  | case2 num c e rest hc ih =>
    by_cases he : e = .disconnect
    · subst he
      obtain ⟨hi, hs, heq⟩ := reactAll_disc newer po c rest hl
      rw [readLoop_interrupted hi]
      exact .inr ⟨hi, hasDisc_cons_disc rest, hs, heq⟩
    · obtain ⟨hl', hf, hq⟩ := reactAll_ne_disc newer po c e rest he hl
      rcases ih hl' with ⟨a, b, m, _⟩ | ⟨a, b, s, q⟩
      · left
        refine ⟨a, b.trans hf, ?_, fun _ _ => ?_⟩ <;> simp only [List.length_cons] <;> omega
      · right
        exact ⟨a, by rw [hasDisc_cons_ne e rest he]; exact b, hf ▸ s, fun hp => hf ▸ q hp⟩
  | case3 num c e rest hc =>
    exact .inl ⟨hl, rfl, Nat.le_refl _, fun hn _ => absurd ⟨hn, hl.1⟩ hc⟩

/-! ### The loop -/

theorem finalOK_of_write (c : Conn) (q w l : List Reply) (inbox : List PlayEv)
    (hw : w = c.wire ++ l) (hq : l ++ q = c.queue) :
    finalOK newer { c with queue := q, wire := w } inbox = finalOK newer c inbox := by
  simp [finalOK, hw, ← hq]

theorem finalOK_quiescent (c : Conn) (hl : Live c) (hq : c.queue = []) :
    finalOK newer c [] = c := by
  obtain ⟨h1, h2, h3⟩ := hl
  cases c with
  | mk queue wire delivered spawned connected interrupt closed =>
    simp only at h1 h2 h3 hq
    subst h1 h2 h3 hq
    simp [finalOK, beforeDisc_nil, hasDisc_nil]

variable {newer po capW capR} in
theorem loop_interrupted {fuel : Nat} {c : Conn} {inbox : List PlayEv}
    (h : c.interrupt = true) : loop newer po capW capR (fuel + 1) c inbox = some c := by
  simp [loop, h]

theorem loop_spec (hR : 1 ≤ capR) (fuel : Nat) (c : Conn)
    (inbox : List PlayEv) (hl : Live c) (hf : 2 * inbox.length + c.queue.length < fuel) :
    ∃ r, loop newer po capW capR fuel c inbox = some r ∧
      SameButWire r (finalOK newer c inbox) ∧
      ((po = true ∨ hasDisc inbox = false) → r = finalOK newer c inbox) := by
  induction fuel generalizing c inbox with
  | zero => omega
  | succ fuel ih =>
    have hni : c.interrupt = false := hl.1
    by_cases hq : inbox = [] ∧ c.queue = []
    · refine ⟨c, by simp [loop, hni, hq], ?_⟩
      obtain ⟨hq1, hq2⟩ := hq
      subst hq1
      rw [finalOK_quiescent newer c hl hq2]
      exact ⟨SameButWire.rfl' c, fun _ => rfl⟩
    · have hloop : loop newer po capW capR (fuel + 1) c inbox =
          loop newer po capW capR fuel
            (readLoop newer po capR (writeLoop capW 0 c.queue c.wire).1
              { c with queue := (writeLoop capW 0 c.queue c.wire).2.1,
                       wire := (writeLoop capW 0 c.queue c.wire).2.2 } inbox).1
            (readLoop newer po capR (writeLoop capW 0 c.queue c.wire).1
              { c with queue := (writeLoop capW 0 c.queue c.wire).2.1,
                       wire := (writeLoop capW 0 c.queue c.wire).2.2 } inbox).2 := by
        simp [loop, hni, hq]
      rw [hloop]
      obtain ⟨⟨l, w0, w1⟩, w2, w3, w4⟩ := writeLoop_spec capW 0 c.queue c.wire _ rfl
      generalize writeLoop capW 0 c.queue c.wire = w at *
      have hl1 : Live { c with queue := w.2.1, wire := w.2.2 } := hl
      have hfin := finalOK_of_write newer c w.2.1 w.2.2 l inbox w0 w1
      rcases readLoop_spec newer po capR w.1 { c with queue := w.2.1, wire := w.2.2 } inbox hl1 _ rfl
        with ⟨a, b, m, ms⟩ | ⟨a, b, s, q⟩
      · generalize readLoop newer po capR w.1 { c with queue := w.2.1, wire := w.2.2 } inbox = r at *
        have hmeasure : 2 * r.2.length + r.1.queue.length < fuel := by
          simp only at m ms
          by_cases hcq : c.queue = []
          · have hw : w.1 = 0 := w4 hcq
            have hin : inbox ≠ [] := fun h => hq ⟨h, hcq⟩
            have := ms (by omega) hin
            simp only [hcq, List.length_nil] at w2 hf
            omega
          · have := w3 hcq
            omega
        obtain ⟨r', h1, h2, h3⟩ := ih r.1 r.2 a hmeasure
        rw [b, hfin] at h2 h3
        refine ⟨r', h1, h2, fun hp => h3 ?_⟩
        rcases hp with hp | hp
        · exact Or.inl hp
        · right
          have : (finalOK newer r.1 r.2).closed = (finalOK newer c inbox).closed := by rw [b, hfin]
          rw [finalOK_closed, finalOK_closed] at this
          rw [this]; exact hp
      · generalize readLoop newer po capR w.1 { c with queue := w.2.1, wire := w.2.2 } inbox = r at *
        have hin : inbox ≠ [] := by
          intro h; subst h; simp [hasDisc_nil] at b
        have hfuel : ∃ k, fuel = k + 1 := by
          cases inbox with
          | nil => exact absurd rfl hin
          | cons x xs => simp only [List.length_cons] at hf; exact ⟨fuel - 1, by omega⟩
        obtain ⟨k, hk⟩ := hfuel
        subst hk
        rw [loop_interrupted a]
        rw [hfin] at s q
        refine ⟨r.1, rfl, s, fun hp => ?_⟩
        rcases hp with hp | hp
        · exact q hp
        · rw [hp] at b; cases b

theorem init_live : Live Conn.init := ⟨rfl, rfl, rfl⟩

end

/-- Everything the events before the disconnect must be answered with. -/
def fullWire (newer : Bool) (inbox : List PlayEv) : List Reply :=
  (beforeDisc inbox).flatMap (replyTo newer)

section
variable (newer po : Bool) (capW capR : Nat)

/-- The result of a run that has put `w` on the wire: everything else is determined by the inbox. -/
def resultWith (inbox : List PlayEv) (w : List Reply) : Result :=
  { wire := w
    delivered :=
      (beforeDisc inbox ++ if hasDisc inbox then [PlayEv.disconnect] else []).map PlayEv.asSeen
    spawned := (beforeDisc inbox).any PlayEv.isPosLook
    closed := hasDisc inbox
    exitCalls := if hasDisc inbox then 1 else 0
    errors := 0 }

/-- The networking loop terminates for every `capW` and every `capR ≥ 1`, and its result is the
closed form (the wire possibly cut short only when the peer is closed at the disconnect). -/
theorem runLoop_spec (hR : 1 ≤ capR) (inbox : List PlayEv) :
    ∃ w, w <+: fullWire newer inbox ∧
      ((po = true ∨ hasDisc inbox = false) → w = fullWire newer inbox) ∧
      runLoop newer po capW capR inbox = some (resultWith inbox w) := by
  obtain ⟨c, hc, ⟨s1, s2, s3, -, s5, s6⟩, he⟩ :=
    loop_spec newer po capW capR hR (2 * inbox.length + 1) Conn.init inbox init_live
      (by simp [Conn.init])
  refine ⟨c.wire, by simpa [finalOK, Conn.init, fullWire] using s6,
    fun hp => by simp [he hp, finalOK, Conn.init, fullWire], ?_⟩
  rw [runLoop, hc]
  simp only [resultWith, s1, s2, s3, s5, finalOK, Conn.init]
  cases hasDisc inbox <;> simp

/-! ### List facts used by the property theorems -/

/-- Events other than a disconnect in front are all "before the disconnect". -/
theorem beforeDisc_append_of_not_mem (seg l : List PlayEv) (h : PlayEv.disconnect ∉ seg) :
    beforeDisc (seg ++ l) = seg ++ beforeDisc l ∧ hasDisc (seg ++ l) = hasDisc l := by
  induction seg with
  | nil => simp
  | cons x xs ih =>
    simp only [List.mem_cons, not_or] at h
    have hx : x ≠ .disconnect := fun h' => h.1 h'.symm
    rw [List.cons_append, beforeDisc_cons_ne _ _ hx, hasDisc_cons_ne _ _ hx, (ih h.2).1, (ih h.2).2]
    simp

theorem beforeDisc_append_disc (pre post : List PlayEv) (h : PlayEv.disconnect ∉ pre) :
    beforeDisc (pre ++ .disconnect :: post) = pre ∧ hasDisc (pre ++ .disconnect :: post) = true := by
  obtain ⟨h1, h2⟩ := beforeDisc_append_of_not_mem pre (.disconnect :: post) h
  rw [h1, h2, beforeDisc_cons_disc, hasDisc_cons_disc, List.append_nil]
  exact ⟨rfl, rfl⟩

theorem beforeDisc_of_no_disc (l : List PlayEv) (h : PlayEv.disconnect ∉ l) :
    beforeDisc l = l ∧ hasDisc l = false := by
  simpa [beforeDisc_nil, hasDisc_nil] using beforeDisc_append_of_not_mem l [] h

theorem beforeDisc_filter (p : PlayEv → Bool) (hp : p .disconnect = true) (l : List PlayEv) :
    beforeDisc (l.filter p) = (beforeDisc l).filter p ∧ hasDisc (l.filter p) = hasDisc l := by
  induction l with
  | nil => simp [beforeDisc_nil, hasDisc_nil]
  | cons x xs ih =>
    by_cases hx : x = .disconnect
    · subst hx
      simp [hp, beforeDisc_cons_disc, hasDisc_cons_disc]
    · by_cases hpx : p x = true
      · simp [hpx, beforeDisc_cons_ne _ _ hx, hasDisc_cons_ne _ _ hx, ih.1, ih.2]
      · simp [hpx, beforeDisc_cons_ne _ _ hx, hasDisc_cons_ne _ _ hx, ih.1, ih.2]

theorem flatMap_filter_noreply (p : PlayEv → Bool)
    (hp : ∀ e, p e = false → replyTo newer e = []) (l : List PlayEv) :
    (l.filter p).flatMap (replyTo newer) = l.flatMap (replyTo newer) := by
  induction l with
  | nil => rfl
  | cons x xs ih =>
    by_cases hpx : p x = true
    · simp [hpx, ih]
    · have : p x = false := by simpa using hpx
      simp [this, ih, hp x this]

theorem replyTo_asSeen (e : PlayEv) : replyTo newer e.asSeen = replyTo newer e := by
  cases e <;> rfl

theorem keepAlive_of_flatMap (l : List PlayEv) :
    (l.flatMap (replyTo newer)).filterMap Reply.keepAliveId? = l.filterMap PlayEv.keepAliveId? := by
  induction l with
  | nil => rfl
  | cons x xs ih =>
    rw [List.flatMap_cons, List.filterMap_append, ih]
    cases x <;> cases newer <;> rfl

theorem acks_of_flatMap (l : List PlayEv) :
    (l.flatMap (replyTo newer)).filter (fun r => !r.isKeepAlive) = l.filterMap (expectedAck newer) := by
  induction l with
  | nil => rfl
  | cons x xs ih =>
    rw [List.flatMap_cons, List.filter_append, ih]
    cases x <;> cases newer <;> rfl

/-- With `capR = 0` the read phase never runs: an unread inbox stays unread for ever. -/
theorem loop_capR_zero (fuel : Nat) (inbox : List PlayEv) (h : inbox ≠ []) :
    loop newer po capW 0 fuel Conn.init inbox = none := by
  induction fuel with
  | zero => rfl
  | succ fuel ih =>
    cases inbox with
    | nil => exact absurd rfl h
    | cons e rest =>
      have : loop newer po capW 0 (fuel + 1) Conn.init (e :: rest) =
          loop newer po capW 0 fuel Conn.init (e :: rest) := by
        simp [loop, Conn.init, writeLoop, readLoop]
      rw [this, ih]

end

end PyCraft.Play
