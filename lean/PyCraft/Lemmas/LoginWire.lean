import PyCraft.Model.LoginWire
import PyCraft.Lemmas.Login
import PyCraft.Lemmas.FrameViews
/-!
Lemmas for `Props/C10Wire.lean`.  `WireInv` is what `exec` maintains and the bytes need: a frame is
encrypted iff an encryption response strictly precedes it (`switchOK`), the cipher flag says whether
one has been written, queued packets are writable plugin responses, and every encryption response
answers a request of the script with RSA(secret), RSA(token) under that request's key.  On such an
outbox the wire is plaintext frames up to and including the first encryption response, then ONE
CFB8 stream, and the reference server reads it back frame by frame.
-/
namespace PyCraft.LoginWire
open PyCraft PyCraft.Login

/-! ## the switch discipline of an outbox -/

/-- Each frame is encrypted iff an encryption response strictly precedes it (`seen`: one precedes
the list). -/
def switchOK : Bool → List Sent → Bool
  | _, [] => true
  | seen, f :: r => (f.encrypted == seen) && switchOK (seen || isEncResp f.pkt) r

def hasEncResp (l : List Sent) : Bool := l.any fun f => isEncResp f.pkt

/-- The two byte arrays of the first encryption response. -/
def firstEncResp : List Sent → Option (Bytes × Bytes)
  | [] => none
  | f :: r =>
    match f.pkt with
    | .encResp a b => some (a, b)
    | _ => firstEncResp r

theorem hasEncResp_append (a b : List Sent) :
    hasEncResp (a ++ b) = (hasEncResp a || hasEncResp b) := by
  simp [hasEncResp]

theorem switchOK_append (seen : Bool) (a b : List Sent) :
    switchOK seen (a ++ b) = (switchOK seen a && switchOK (seen || hasEncResp a) b) := by
  induction a generalizing seen with
  | nil => simp [switchOK, hasEncResp]
  | cons f r ih =>
    simp only [List.cons_append, switchOK, ih, hasEncResp, List.any_cons, Bool.and_assoc,
      Bool.or_assoc]

theorem switchOK_const (e : Bool) (m : List Sent)
    (h : ∀ f ∈ m, f.encrypted = e ∧ isEncResp f.pkt = false) : switchOK e m = true := by
  induction m <;> simp_all [switchOK]

theorem hasEncResp_false (m : List Sent) (h : ∀ f ∈ m, isEncResp f.pkt = false) :
    hasEncResp m = false := by
  simp only [hasEncResp, List.any_eq_false]
  intro f hf; simp [h f hf]

theorem switchOK_true_all (l : List Sent) (h : switchOK true l = true) :
    ∀ f ∈ l, f.encrypted = true := by
  induction l <;> simp_all [switchOK]

theorem switchOK_cons_false (f : Sent) (r : List Sent) (h : switchOK false (f :: r) = true) :
    f.encrypted = false ∧ switchOK (isEncResp f.pkt) r = true := by
  simpa [switchOK] using h

theorem splitAtEncResp_append (l : List Sent) :
    (splitAtEncResp l).1 ++ (splitAtEncResp l).2 = l := by
  fun_induction splitAtEncResp l <;> simp_all

/-- The flags of a disciplined outbox: plaintext up to and including the first encryption
response, encrypted behind it. -/
theorem split_flags (l : List Sent) (h : switchOK false l = true) :
    (∀ f ∈ (splitAtEncResp l).1, f.encrypted = false) ∧
      (∀ f ∈ (splitAtEncResp l).2, f.encrypted = true) := by
  fun_induction splitAtEncResp l with
  | case1 => simp
  | case2 f r hf =>
    obtain ⟨h1, h2⟩ := switchOK_cons_false f r h
    rw [hf] at h2
    simpa [h1] using switchOK_true_all r h2
  | case3 f r hf ih =>
    obtain ⟨h1, h2⟩ := switchOK_cons_false f r h
    simp only [Bool.not_eq_true] at hf
    rw [hf] at h2
    simpa [h1] using ih h2

/-- The plaintext part really is "up to and including the first encryption response": no
encryption response before its last entry, and the last entry is one if there is any at all. -/
theorem split_shape (l : List Sent) :
    (hasEncResp l = false → (splitAtEncResp l).1 = l ∧ (splitAtEncResp l).2 = []) ∧
    (hasEncResp l = true → ∃ pre x, (splitAtEncResp l).1 = pre ++ [x] ∧
      isEncResp x.pkt = true ∧ hasEncResp pre = false) := by
  induction l with
  | nil => simp [splitAtEncResp, hasEncResp]
  | cons f r ih =>
    by_cases hf : isEncResp f.pkt = true
    · simp only [hasEncResp, List.any_cons, hf, Bool.true_or, splitAtEncResp, if_true]
      exact ⟨fun h => (by cases h), fun _ => ⟨[], f, rfl, hf, rfl⟩⟩
    · have hf' : isEncResp f.pkt = false := by simpa using hf
      have hh : hasEncResp (f :: r) = hasEncResp r := by simp [hasEncResp, hf']
      rw [hh]
      simp only [splitAtEncResp, hf', Bool.false_eq_true, if_false]
      constructor
      · intro h; obtain ⟨a, b⟩ := ih.1 h; exact ⟨by rw [a], b⟩
      · intro h
        obtain ⟨pre, x, a, b, c⟩ := ih.2 h
        refine ⟨f :: pre, x, by rw [a]; rfl, b, ?_⟩
        simpa [hasEncResp, hf'] using c

theorem firstEncResp_mem (l : List Sent) (a b : Bytes) (h : firstEncResp l = some (a, b)) :
    ∃ f ∈ l, f.pkt = .encResp a b := by
  fun_induction firstEncResp l <;> simp_all

theorem firstEncResp_append (pre : List Sent) (x : Sent) (post : List Sent) (a b : Bytes)
    (hpre : hasEncResp pre = false) (hx : x.pkt = .encResp a b) :
    firstEncResp (pre ++ x :: post) = some (a, b) := by
  induction pre with
  | nil => simp [firstEncResp, hx]
  | cons f r ih =>
    cases hp : f.pkt <;> simp_all [hasEncResp, firstEncResp, isEncResp]

theorem hasEncResp_iff_first (l : List Sent) :
    hasEncResp l = (firstEncResp l).isSome := by
  fun_induction firstEncResp l <;> simp_all [hasEncResp, isEncResp]

/-! ## the invariant of `exec` -/

/-- What `exec` maintains (see the file header). -/
structure WireInv (P : LoginParams) (evs : List LoginEv) (s : ClientState) : Prop where
  sw : switchOK false s.outbox = true
  enc : s.encrypted = hasEncResp s.outbox
  queue : ∀ p ∈ s.queue, isEncResp p = false ∧ writable p = true
  wr : ∀ f ∈ s.outbox, writable f.pkt = true
  origin : ∀ f ∈ s.outbox, ∀ a b, f.pkt = .encResp a b →
    ∃ sid pk tok, LoginEv.encRequest sid pk tok ∈ evs ∧
      a = P.rsa.enc pk P.secret ∧ b = P.rsa.enc pk tok

theorem WireInv.init (P : LoginParams) : WireInv P [] ClientState.init :=
  ⟨rfl, rfl, (by intro p hp; cases hp), (by intro f hf; cases hf), (by intro f hf; cases hf)⟩

theorem WireInv.mono {P : LoginParams} {evs evs' : List LoginEv} {s : ClientState}
    (h : WireInv P evs s) (hsub : ∀ e ∈ evs, e ∈ evs') : WireInv P evs' s :=
  ⟨h.sw, h.enc, h.queue, h.wr, fun f hf a b hp => by
    obtain ⟨sid, pk, tok, hm, ha, hb⟩ := h.origin f hf a b hp
    exact ⟨sid, pk, tok, hsub _ hm, ha, hb⟩⟩

theorem WireInv.same {P : LoginParams} {evs : List LoginEv} {s s' : ClientState}
    (h : WireInv P evs s) (ho : s'.outbox = s.outbox) (he : s'.encrypted = s.encrypted)
    (hq : s'.queue = s.queue) : WireInv P evs s' :=
  ⟨ho ▸ h.sw, by rw [he, ho]; exact h.enc, hq ▸ h.queue, ho ▸ h.wr, ho ▸ h.origin⟩

theorem WireInv.flush {P : LoginParams} {evs : List LoginEv} {s : ClientState}
    (h : WireInv P evs s) : WireInv P evs s.flushQueue := by
  have hm : ∀ f ∈ s.queue.map (fun p => (⟨p, s.encrypted, s.threshold, false⟩ : Sent)),
      f.encrypted = s.encrypted ∧ isEncResp f.pkt = false ∧ writable f.pkt = true := by
    intro f hf
    obtain ⟨p, hp, rfl⟩ := List.mem_map.mp hf
    exact ⟨rfl, (h.queue p hp).1, (h.queue p hp).2⟩
  have hne := hasEncResp_false _ fun f hf => (hm f hf).2.1
  refine ⟨?_, ?_, ?_, ?_, ?_⟩
  · show switchOK false (s.outbox ++ _) = true
    rw [switchOK_append, h.sw, Bool.false_or, ← h.enc]
    exact switchOK_const _ _ fun f hf => ⟨(hm f hf).1, (hm f hf).2.1⟩
  · show s.encrypted = hasEncResp (s.outbox ++ _)
    rw [hasEncResp_append, hne, Bool.or_false]; exact h.enc
  · intro p hp; cases hp
  · intro f hf
    rcases List.mem_append.mp hf with hf | hf
    · exact h.wr f hf
    · exact (hm f hf).2.2
  · intro f hf a b hp
    rcases List.mem_append.mp hf with hf | hf
    · exact h.origin f hf a b hp
    · have := (hm f hf).2.1
      rw [hp] at this; cases this

theorem react_encRequest_queue (P : LoginParams) (s : ClientState) (sid : String)
    (pk tok : Bytes) : (react P s (.encRequest sid pk tok)).queue = s.queue := by
  rw [react_eq]
  exact List.append_nil _

theorem WireInv.react {P : LoginParams} {evs : List LoginEv} {s : ClientState}
    (h : WireInv P evs s) (e : LoginEv) : WireInv P (evs ++ [e]) (react P s e) := by
  have hmono : WireInv P (evs ++ [e]) s := h.mono fun x hx => by simp [hx]
  cases e with
  | setCompression t => exact hmono.same rfl rfl rfl
  | success => exact hmono.same rfl rfl rfl
  | disconnect j => exact hmono.same rfl rfl rfl
  | pluginRequest i c d =>
    refine ⟨hmono.sw, hmono.enc, ?_, hmono.wr, hmono.origin⟩
    intro p hp
    have hp' : p ∈ s.queue ++ [pluginReply P i c d] := hp
    rcases List.mem_append.mp hp' with hp' | hp'
    · exact h.queue p hp'
    · simp only [List.mem_singleton] at hp'
      subst hp'
      unfold pluginReply
      cases P.handler i c d <;> exact ⟨rfl, rfl⟩
  | encRequest sid pk tok =>
    obtain ⟨ho, he⟩ := react_encRequest P s sid pk tok
    have hq := react_encRequest_queue P s sid pk tok
    refine ⟨?_, ?_, hq ▸ h.queue, ?_, ?_⟩
    · rw [ho, switchOK_append, h.sw, Bool.false_or, ← h.enc]
      simp [switchOK]
    · rw [ho, he, hasEncResp_append]
      simp [hasEncResp, isEncResp]
    · rw [ho]
      intro f hf
      rcases List.mem_append.mp hf with hf | hf
      · exact h.wr f hf
      · simp only [List.mem_singleton] at hf; subst hf; rfl
    · rw [ho]
      intro f hf a b hp
      rcases List.mem_append.mp hf with hf | hf
      · exact hmono.origin f hf a b hp
      · simp only [List.mem_singleton] at hf; subst hf
        simp only [ClientPkt.encResp.injEq] at hp
        exact ⟨sid, pk, tok, by simp, hp.1.symm, hp.2.symm⟩

theorem WireInv.step {P : LoginParams} {evs : List LoginEv} {s : ClientState}
    (h : WireInv P evs s) (a : Step) : WireInv P (evs ++ events [a]) (step P s a) := by
  cases a with
  | flush =>
    simp only [events, List.append_nil, Login.step]
    split
    · exact h
    · exact h.flush
  | recv e =>
    simp only [events, Login.step]
    split
    · exact h.mono fun x hx => by simp [hx]
    · exact h.react e

theorem WireInv.exec {P : LoginParams} {evs : List LoginEv} {s : ClientState}
    (h : WireInv P evs s) (steps : List Step) :
    WireInv P (evs ++ events steps) (exec P s steps) := by
  induction steps generalizing s evs with
  | nil => simpa [events, exec_nil] using h
  | cons a r ih =>
    rw [exec_cons]
    have := ih (h.step a)
    have he : evs ++ events [a] ++ events r = evs ++ events (a :: r) := by
      rw [List.append_assoc, ← events_append]; rfl
    rw [he] at this; exact this

theorem wireInv_exec (P : LoginParams) (steps : List Step) :
    WireInv P (events steps) (exec P .init steps) := by
  simpa using (WireInv.init P).exec steps

/-- Under a private key matching every public key the server sent, the first encryption response of
the outbox decrypts to the client's secret. -/
theorem outbox_key (P : LoginParams) (steps : List Step) (priv : Bytes)
    (hkey : ∀ sid pk tok, LoginEv.encRequest sid pk tok ∈ events steps → P.rsa.matching pk priv) :
    ∀ a b, firstEncResp (exec P .init steps).outbox = some (a, b) → P.rsa.dec priv a = P.secret := by
  intro a b hab
  obtain ⟨f, hf, hfp⟩ := firstEncResp_mem _ a b hab
  obtain ⟨sid, pk, tok, hm, ha, -⟩ := (wireInv_exec P steps).origin f hf a b hfp
  rw [ha]
  exact P.rsa.law pk priv _ (hkey sid pk tok hm)

/-! ## the bytes of a disciplined outbox -/

theorem sendsOfSent_flatten (z : ZlibOps) (ids : Ids) (s : Sent) :
    (sendsOfSent z ids s).flatten = frameOfSent z ids s :=
  frameSends_flatten' z s.threshold _

theorem frameOfSent_eq (z : ZlibOps) (ids : Ids) (s : Sent) :
    frameOfSent z ids s = packetFrame z s.threshold (wirePkt ids s) := rfl

/-- `encSends` on the CFB8 encryptor: final register and output of the one-shot call. -/
theorem encSends_cfb8 (E : Bytes → Bytes) (ds : List Bytes) (reg : Bytes) :
    (encSends (cfb8EncX E) reg ds).1 = (cfb8Enc E reg ds.flatten).1 ∧
      (encSends (cfb8EncX E) reg ds).2.flatten = (cfb8Enc E reg ds.flatten).2 := by
  induction ds generalizing reg with
  | nil => exact ⟨rfl, rfl⟩
  | cons d ds ih =>
    obtain ⟨i1, i2⟩ := ih (cfb8Enc E reg d).1
    simp only [encSends, List.flatten_cons, cfb8Enc_append]
    exact ⟨i1, by rw [← i2]; rfl⟩

/-- Frames written through the wrapper: ONE CFB8 stream over the concatenated frames, whatever the
chunking into `send` calls. -/
theorem wireGo_enc (z : ZlibOps) (E : Bytes → Bytes) (ids : Ids) (l : List Sent) (reg : Bytes)
    (h : ∀ f ∈ l, f.encrypted = true) :
    (wireGo z E ids reg l).flatten = (cfb8Enc E reg (l.map (frameOfSent z ids)).flatten).2 := by
  induction l generalizing reg with
  | nil => rfl
  | cons f r ih =>
    have hf : f.encrypted = true := h f (by simp)
    obtain ⟨e1, e2⟩ := encSends_cfb8 E (sendsOfSent z ids f) reg
    simp only [wireGo, hf, if_true, List.flatten_append, List.map_cons, List.flatten_cons,
      cfb8Enc_append]
    rw [e2, e1, ih _ fun g hg => h g (by simp [hg]), sendsOfSent_flatten]

/-- What goes through the encryptor, as one plaintext: the frames of the entries written after the
wrapper was installed. -/
def encFrames (z : ZlibOps) (ids : Ids) (l : List Sent) : Bytes :=
  ((l.filter (·.encrypted)).map (frameOfSent z ids)).flatten

/-- The encryptor's register after the entries `l` (whatever their flags): that of the one-shot
call on `encFrames l`. -/
abbrev regAfter (z : ZlibOps) (E : Bytes → Bytes) (ids : Ids) (reg : Bytes) (l : List Sent) :
    Bytes :=
  (cfb8Enc E reg (encFrames z ids l)).1

theorem wireGo_plain_cons (z : ZlibOps) (E : Bytes → Bytes) (ids : Ids) (f : Sent)
    (r : List Sent) (reg : Bytes) (hf : f.encrypted = false) :
    (wireGo z E ids reg (f :: r)).flatten =
      frameOfSent z ids f ++ (wireGo z E ids reg r).flatten := by
  simp only [wireGo, hf, Bool.false_eq_true, if_false, List.flatten_append, sendsOfSent_flatten]

/-- Plaintext frames in front pass unchanged, whatever follows. -/
theorem wireGo_plain_append (z : ZlibOps) (E : Bytes → Bytes) (ids : Ids) (a r : List Sent)
    (reg : Bytes) (h : ∀ f ∈ a, f.encrypted = false) :
    (wireGo z E ids reg (a ++ r)).flatten =
      (a.map (frameOfSent z ids)).flatten ++ (wireGo z E ids reg r).flatten := by
  induction a with
  | nil => rfl
  | cons f a ih =>
    rw [List.cons_append, wireGo_plain_cons z E ids f _ reg (h f (by simp)),
      ih fun g hg => h g (by simp [hg])]
    simp

/-- The wire of a disciplined outbox: plaintext frames up to and including the first encryption
response, then the CFB8 encryption (register = `reg`) of all later frames as one stream. -/
theorem wireGo_split (z : ZlibOps) (E : Bytes → Bytes) (ids : Ids) (l : List Sent) (reg : Bytes)
    (h : switchOK false l = true) :
    (wireGo z E ids reg l).flatten =
      ((splitAtEncResp l).1.map (frameOfSent z ids)).flatten ++
        (cfb8Enc E reg ((splitAtEncResp l).2.map (frameOfSent z ids)).flatten).2 := by
  obtain ⟨h1, h2⟩ := split_flags l h
  conv => lhs; rw [← splitAtEncResp_append l]
  rw [wireGo_plain_append z E ids _ _ reg h1, wireGo_enc z E ids _ reg h2]

/-- On a disciplined outbox the encryptor has run over exactly the frames behind the first
encryption response. -/
theorem encFrames_split (z : ZlibOps) (ids : Ids) (l : List Sent) (h : switchOK false l = true) :
    encFrames z ids l = ((splitAtEncResp l).2.map (frameOfSent z ids)).flatten := by
  obtain ⟨h1, h2⟩ := split_flags l h
  conv => lhs; rw [← splitAtEncResp_append l]
  rw [encFrames, List.filter_append, List.filter_eq_nil_iff.2 fun f hf => by simp [h1 f hf],
    List.filter_eq_self.2 h2, List.nil_append]

/-- Behind the switch, the encrypted entries AND whatever is written next from the register they
leave are ONE cipher stream (`tail`: nothing for C10Wire, the play frames for a session), so a
decryptor started from `reg` on the unread segments sees the frames, then the tail. -/
theorem ahead_behind_switch (z : ZlibOps) (E : Bytes → Bytes) (ids : Ids) (r : List Sent)
    (reg tail : Bytes) (segs : Segs) (hall : ∀ f ∈ r, f.encrypted = true)
    (h : segs.flatten =
      (wireGo z E ids reg r).flatten ++ (cfb8Enc E (regAfter z E ids reg r) tail).2) :
    ahead (cfb8DecX E) (Sock.enc reg segs) = (r.map (frameOfSent z ids)).flatten ++ tail := by
  have e : (wireGo z E ids reg r).flatten ++ (cfb8Enc E (regAfter z E ids reg r) tail).2 =
      (cfb8Enc E reg ((r.map (frameOfSent z ids)).flatten ++ tail)).2 := by
    rw [wireGo_enc z E ids r reg hall, cfb8Enc_append, regAfter, encFrames,
      List.filter_eq_self.2 hall]
  rw [ahead_enc, h, e]
  exact (cfb8Dec_enc E reg _).1

/-! ## the reference server on those bytes -/

theorem readPrefixedArray_ok (a more : Bytes) (h : a.length < 2 ^ 42) :
    readPrefixedArray (prefixedArray a ++ more) = .ok (a, more) := by
  unfold readPrefixedArray prefixedArray
  rw [List.append_assoc, decVarInt_enc _ _ h]
  simp

theorem decodeEncResp_fields (a b : Bytes) (ha : a.length < 2 ^ 42) (hb : b.length < 2 ^ 42) :
    decodeEncResp (fieldsOf (.encResp a b)) = .ok (a, b) := by
  unfold decodeEncResp fieldsOf
  rw [readPrefixedArray_ok a _ ha]
  have := readPrefixedArray_ok b [] hb
  rw [List.append_nil] at this
  simp only [this]

/-- The VarInt guard of an encryption response bounds both byte arrays. -/
theorem frameOK_encResp (z : ZlibOps) (thr : Option Int) (id : Nat) (a b : Bytes)
    (h : FrameOK z thr (id, fieldsOf (.encResp a b))) :
    a.length < 2 ^ 42 ∧ b.length < 2 ^ 42 := by
  have h2 := h.2.1
  simp only [packetPayload, fieldsOf, prefixedArray, List.length_append] at h2
  omega

theorem ahead_nil_segs {σ : Type} (x : StreamXform σ) (k : Sock σ) (h : ahead x k = []) :
    k.segs.flatten = [] := (xform_eq_nil x k.st _).mp h

/-- What the server sees of an encryption response that passes the VarInt guard: the id, and fields
that decode to the two byte arrays. -/
theorem wirePkt_encResp (z : ZlibOps) (ids : Ids) (f : Sent) (a b : Bytes)
    (hpk : f.pkt = .encResp a b) (hok : FrameOK z f.threshold (wirePkt ids f)) :
    (wirePkt ids f).1 = ids.encResp ∧ decodeEncResp (wirePkt ids f).2 = .ok (a, b) := by
  have hw : wirePkt ids f = (ids.encResp, fieldsOf (.encResp a b)) := by
    simp [wirePkt, hpk, pktId]
  rw [hw] at hok ⊢
  obtain ⟨ha, hb⟩ := frameOK_encResp _ _ _ a b hok
  exact ⟨rfl, decodeEncResp_fields a b ha hb⟩

/-- Encrypted phase: the decrypted view ahead is a sequence of frames, each read back with its own
compression flag. -/
theorem recvEnc_frames (z : Zlib) (EK : Bytes → Bytes → Bytes) (key : Bytes) (ids : Ids)
    (l : List Sent) (k : Sock Bytes)
    (hok : ∀ f ∈ l, FrameOK z.toZlibOps f.threshold (wirePkt ids f))
    (hk : ahead (cfb8DecX (EK key)) k = (l.map (frameOfSent z.toZlibOps ids)).flatten) :
    recvEnc z.toZlibOps EK key (modesOf l) k = ⟨l.map (wirePkt ids), some key, none, []⟩ := by
  induction l generalizing k with
  | nil =>
    simp only [modesOf, List.map_nil, recvEnc]
    rw [ahead_nil_segs _ k (by simpa using hk)]
  | cons f r ih =>
    simp only [List.map_cons, List.flatten_cons] at hk
    obtain ⟨k', e1, e2⟩ := readPacketK_packetFrame _ z f.threshold (wirePkt ids f) _ k
      (hok f (by simp)) hk
    have := ih k' (fun g hg => hok g (by simp [hg])) e2
    simp only [modesOf] at this
    simp only [modesOf, List.map_cons, recvEnc, e1, this, Recovered.cons]

/-- The whole server run on the wire of a disciplined outbox whose first encryption response (if
any) decrypts to `secret` under the server's private key. -/
theorem recvPlain_outbox (z : Zlib) (EK : Bytes → Bytes → Bytes) (rsaDec : Bytes → Bytes)
    (secret : Bytes) (ids : Ids) (hids : ids.encResp ≠ ids.plugResp) (l : List Sent)
    (k : Sock Unit) (hsw : switchOK false l = true)
    (hok : ∀ f ∈ l, FrameOK z.toZlibOps f.threshold (wirePkt ids f))
    (hkey : ∀ a b, firstEncResp l = some (a, b) → rsaDec a = secret)
    (hk : k.segs.flatten = (wireGo z.toZlibOps (EK secret) ids secret l).flatten) :
    recvPlain z.toZlibOps EK rsaDec ids.encResp (modesOf l) k =
      ⟨l.map (wirePkt ids), if hasEncResp l then some secret else none, none, []⟩ := by
  induction l generalizing k with
  | nil =>
    simp only [modesOf, List.map_nil, recvPlain, hasEncResp, List.any_nil, Bool.false_eq_true,
      if_false]
    rw [hk]; rfl
  | cons f r ih =>
    obtain ⟨h1, h2⟩ := switchOK_cons_false f r hsw
    rw [wireGo_plain_cons _ _ ids f r secret h1, ← ahead_id] at hk
    obtain ⟨k', e1, e2⟩ := readPacketK_packetFrame idXform z f.threshold (wirePkt ids f) _ k
      (hok f (by simp)) hk
    rw [ahead_id] at e2
    have hokr : ∀ g ∈ r, FrameOK z.toZlibOps g.threshold (wirePkt ids g) :=
      fun g hg => hok g (by simp [hg])
    cases hpk : f.pkt with
    | encResp a b =>
      obtain ⟨hid, hdec⟩ := wirePkt_encResp _ ids f a b hpk (hok f (by simp))
      have hsec : rsaDec a = secret := hkey a b (by simp [firstEncResp, hpk])
      have hall : ∀ g ∈ r, g.encrypted = true := by
        apply switchOK_true_all; simpa [hpk, isEncResp] using h2
      have hahead : ahead (cfb8DecX (EK secret)) (Sock.enc secret k'.segs) =
          (r.map (frameOfSent z.toZlibOps ids)).flatten := by
        rw [ahead_enc, e2, wireGo_enc _ _ ids r secret hall]
        exact (cfb8Dec_enc (EK secret) secret _).1
      have henc := recvEnc_frames z EK secret ids r (Sock.enc secret k'.segs) hokr hahead
      have hh : hasEncResp (f :: r) = true := by simp [hasEncResp, hpk, isEncResp]
      simp only [modesOf] at henc
      simp only [modesOf, List.map_cons, recvPlain, e1, hid, if_true, hdec, hsec, henc, hh,
        Recovered.cons]
    | plugResp i s d =>
      have hid : (wirePkt ids f).1 ≠ ids.encResp := by
        simp only [wirePkt, hpk, pktId]; exact fun h => hids h.symm
      have hne : isEncResp f.pkt = false := by simp [hpk, isEncResp]
      rw [hne] at h2
      have hkey' : ∀ a b, firstEncResp r = some (a, b) → rsaDec a = secret := by
        intro a b hab; apply hkey a b; simpa [firstEncResp, hpk] using hab
      have := ih k' h2 hokr hkey' e2
      have hh : hasEncResp (f :: r) = hasEncResp r := by simp [hasEncResp, hne]
      simp only [modesOf] at this
      simp only [modesOf, List.map_cons, recvPlain, e1, hid, if_false, this, hh, Recovered.cons]

/-! ## concrete parameters for the non-vacuity examples and the negative witness -/

/-- A toy keyed block function (one output byte depending on key and register). -/
def toyEK : Bytes → Bytes → Bytes := fun key r => [(key ++ r).foldl (fun a b => 3 * a + b) 7]

/-- Ids of protocol 385–390 style numbering used in the examples (any distinct pair would do). -/
def demoIds : Ids := ⟨1, 2⟩

/-- compress 64 → encrypt → plugin request → success. -/
def demoScript : List LoginEv :=
  [.setCompression 64, .encRequest "srv" [7, 8] [9], .pluginRequest 5 "ch" [1], .success]

/-- The same with a second plugin request answered before the encryption request and a threshold
that makes the later plugin response compressed-framed (`Zlib.ident` stores). -/
def demoScript2 : List LoginEv :=
  [.pluginRequest 300 "a" [], .encRequest "-" [7, 8] [9], .setCompression 1,
   .pluginRequest 5 "ch" [1], .success]

/-- The reference server of the examples: store-only zlib, `toyEK`, the private-key operation of
`demoParams.rsa` ("drop one byte"), encryption response id 1. -/
def demoServer (modes : List Bool) (segs : Segs) : Recovered :=
  serverRecover Zlib.ident.toZlibOps toyEK (demoParams.rsa.dec []) demoIds.encResp modes segs

/-- The client's wire for an outbox under the example parameters. -/
def demoWire (outbox : List Sent) : Bytes :=
  wireBytes Zlib.ident.toZlibOps (toyEK demoParams.secret) demoParams.secret demoIds outbox

end PyCraft.LoginWire
