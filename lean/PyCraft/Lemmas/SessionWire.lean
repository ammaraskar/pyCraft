import PyCraft.Model.SessionWire
import PyCraft.Lemmas.HandshakeWire
import PyCraft.Lemmas.LoginWire
import PyCraft.Lemmas.PlayWire
/-!
Lemmas for `Props/Session.lean`.  The one stream of a session is first frames, login frames, play
frames; the cipher stream continues across the boundary because encrypting `A ++ B` is encrypting
`A`, then `B` from the register the encryptor was left in (`cfb8_continue`), and `wireRun` leaves
the register of the one-shot encryptor.  The reference server is followed through the two first
frames, the plaintext and the encrypted login phase with the play frames behind them, and the play
phase; the compression flags of the outbox are monotone (`ThrInv`), so its script only ever
switches compression on.  At the end the concrete sessions of the examples.
-/
namespace PyCraft.Session
open PyCraft PyCraft.Login PyCraft.Play PyCraft.LoginWire

/-! ## CFB8 continuity -/

/-- ONE stream across a boundary: the ciphertext of `A ++ B` from register `reg` is the ciphertext
of `A` followed by the ciphertext of `B` from the register reached after `A` (NOT from `reg`), and
the final registers agree. -/
theorem cfb8_continue (E : Bytes → Bytes) (reg A B : Bytes) :
    (cfb8Enc E reg (A ++ B)).2 = (cfb8Enc E reg A).2 ++ (cfb8Enc E (cfb8Enc E reg A).1 B).2 ∧
      (cfb8Enc E reg (A ++ B)).1 = (cfb8Enc E (cfb8Enc E reg A).1 B).1 := by
  constructor <;> rw [cfb8Enc_append]

/-- The receiving side of the same fact: a decryptor started from `reg` that has consumed the
ciphertext of `A` is in the register the encryptor was in after `A`, and from there decrypts the
ciphertext of `B` (encrypted from that register) to `B`. -/
theorem cfb8_continue_dec (E : Bytes → Bytes) (reg A B : Bytes) :
    (cfb8Dec E reg (cfb8Enc E reg A).2).1 = (cfb8Enc E reg A).1 ∧
      (cfb8Dec E (cfb8Enc E reg A).1 (cfb8Enc E (cfb8Enc E reg A).1 B).2).2 = B ∧
      (cfb8Dec E reg (cfb8Enc E reg (A ++ B)).2).2 = A ++ B :=
  ⟨(cfb8Dec_enc E reg A).2, (cfb8Dec_enc E _ B).1, (cfb8Dec_enc E reg (A ++ B)).1⟩

/-! ## the first write phase -/

theorem firstSends_eq (lsId : Nat) (fs : List HsWire.CFrame) :
    ((firstSends lsId fs).1.flatten, (firstSends lsId fs).2) = HsWire.clientWrites lsId fs := by
  induction fs with
  | nil => rfl
  | cons f fs ih =>
    simp only [firstSends, HsWire.clientWrites, HsWire.writeFrame]
    cases hw : HsWire.writePkt lsId f with
    | error e => rfl
    | ok p =>
      simp only [List.flatten_append, frameSends_flatten']
      rw [← ih]
      rfl

/-! ## `wireRun` -/

/-- For ANY outbox: `wireRun` is `wireGo` together with the register the one-shot encryption of
the encrypted entries' frames ends in. -/
theorem wireRun_eq (z : ZlibOps) (E : Bytes → Bytes) (ids : Ids) (l : List Sent) (reg : Bytes) :
    wireRun z E ids reg l = (regAfter z E ids reg l, wireGo z E ids reg l) := by
  induction l generalizing reg with
  | nil => rfl
  | cons f r ih =>
    by_cases hf : f.encrypted = true
    · simp only [wireRun, wireGo, regAfter, encFrames, hf, if_true, ih, List.filter_cons,
        List.map_cons, List.flatten_cons, cfb8Enc_append,
        (encSends_cfb8 E (sendsOfSent z ids f) reg).1, sendsOfSent_flatten]
    · simp only [wireRun, wireGo, regAfter, encFrames, hf, Bool.false_eq_true, if_false, ih,
        List.filter_cons]

/-- The register after the login part of a disciplined outbox: the secret's stream has run over
exactly the frames behind the encryption response. -/
theorem wireRun_split (z : ZlibOps) (E : Bytes → Bytes) (ids : Ids) (l : List Sent) (reg : Bytes)
    (h : switchOK false l = true) :
    (wireRun z E ids reg l).1 =
      (cfb8Enc E reg ((splitAtEncResp l).2.map (frameOfSent z ids)).flatten).1 := by
  rw [wireRun_eq, regAfter, encFrames_split z ids l h]

/-! ## the play chunks, the final threshold -/

theorem playFrames_eq (z : ZlibOps) (thr : Option Int) (P : PlayWire.Profile)
    (replies : List Reply) :
    playFrames z thr P replies =
      ((replies.map (PlayWire.replyFields P)).map (packetFrame z thr)).flatten := by
  unfold playFrames
  rw [List.map_map]
  rfl

theorem playChunks_some (z : ZlibOps) (E : Bytes → Bytes) (thr : Option Int)
    (P : PlayWire.Profile) (r : Bytes) (replies : List Reply) :
    (playChunks z E thr P (some r) replies).flatten =
      (cfb8Enc E r (playFrames z thr P replies)).2 :=
  PlayWire.wireWith_flatten z thr (cfb8EncX E) r _ _

theorem playChunks_none (z : ZlibOps) (E : Bytes → Bytes) (thr : Option Int)
    (P : PlayWire.Profile) (replies : List Reply) :
    (playChunks z E thr P none replies).flatten = playFrames z thr P replies :=
  PlayWire.wireWith_flatten z thr idXform () _ _

/-- The threshold of the login model's state is the last one announced, whatever the schedule. -/
theorem threshold_exec (P : LoginParams) (steps : List Step) :
    (exec P .init steps).threshold = announced (events steps) :=
  exec_closed P (fun s => s.threshold)
    (fun acc e => match e with
      | .setCompression t => some t
      | _ => acc)
    (fun _ => rfl) (fun s e _ => by rw [react_eq]; cases e <;> rfl) .init steps init_alive

theorem events_loginSteps (S : Session) : events S.loginSteps = events S.steps := by
  unfold Session.loginSteps
  rw [events_append]
  simp [events]

/-- The cipher flag of the final state says whether an encryption response is in the outbox. -/
theorem loginEnd_encrypted (S : Session) : (loginEnd S).encrypted = hasEncResp (outbox S) :=
  (wireInv_exec S.lp S.loginSteps).enc

/-! ## the reference server -/

/-- The play phase on a socket whose plaintext view ahead is exactly the play frames. -/
theorem playPhase_spec {τ : Type} (z : Zlib) (P : PlayWire.Profile) (dec : StreamXform τ)
    (thr : Option Int) (key : Option Bytes) (k : Sock τ) (replies : List Reply)
    (hSb : P.sbDistinct = true) (hwf : ∀ q ∈ replies, PlayWire.replyWf P q = true)
    (hok : ∀ q ∈ replies, FrameOK z.toZlibOps thr (PlayWire.replyFields P q))
    (hk : ahead dec k = playFrames z.toZlibOps thr P replies) :
    playPhase z.toZlibOps P dec thr.isSome key k =
      ⟨none, none, [], key, replies, none, some .eof⟩ := by
  have hr : readAllEnc dec k.st z.toZlibOps thr.isSome k.segs =
      (replies.map (PlayWire.replyFields P), .eof) := by
    rw [readAllEnc_spec]
    have : (dec.update k.st k.segs.flatten).2 = ahead dec k := rfl
    rw [this, hk, playFrames_eq]
    apply parseAll_conversation
    intro p hp
    obtain ⟨q, hq, rfl⟩ := List.mem_map.mp hp
    exact hok q hq
  simp only [playPhase, PlayWire.serverDecodeReplies, hr,
    PlayWire.decodeEach_replies P hSb replies hwf .eof]

theorem sessEnc_script_cons (z : ZlibOps) (EK : Bytes → Bytes → Bytes) (key : Bytes)
    (P : PlayWire.Profile) (c m : Bool) (rest : List Expect) (k : Sock Bytes) :
    sessEnc z EK key P c ((if m = c then [] else [Expect.comp m]) ++ .frame :: rest) k =
      sessEnc z EK key P m (.frame :: rest) k := by
  by_cases h : m = c
  · subst h; simp
  · simp [h, sessEnc]

theorem sessEnc_script_end (z : ZlibOps) (EK : Bytes → Bytes → Bytes) (key : Bytes)
    (P : PlayWire.Profile) (c fin : Bool) (k : Sock Bytes) :
    sessEnc z EK key P c (if fin = c then [] else [Expect.comp fin]) k =
      playPhase z P (cfb8DecX (EK key)) fin (some key) k := by
  by_cases h : fin = c
  · subst h; simp [sessEnc]
  · simp [h, sessEnc]

theorem sessPlain_script_cons (z : ZlibOps) (EK : Bytes → Bytes → Bytes) (rsaDec : Bytes → Bytes)
    (encRespId : Nat) (P : PlayWire.Profile) (c m : Bool) (rest : List Expect) (k : Sock Unit) :
    sessPlain z EK rsaDec encRespId P c
        ((if m = c then [] else [Expect.comp m]) ++ .frame :: rest) k =
      sessPlain z EK rsaDec encRespId P m (.frame :: rest) k := by
  by_cases h : m = c
  · subst h; simp
  · simp [h, sessPlain]

theorem sessPlain_script_end (z : ZlibOps) (EK : Bytes → Bytes → Bytes) (rsaDec : Bytes → Bytes)
    (encRespId : Nat) (P : PlayWire.Profile) (c fin : Bool) (k : Sock Unit) :
    sessPlain z EK rsaDec encRespId P c (if fin = c then [] else [Expect.comp fin]) k =
      playPhase z P idXform fin none k := by
  by_cases h : fin = c
  · subst h; simp [sessPlain]
  · simp [h, sessPlain]

/-- Encrypted phase: the decrypted view ahead is the remaining login frames followed by the play
frames; each login frame is read with its own flag, then the play phase takes over on the same
socket. -/
theorem sessEnc_frames (z : Zlib) (EK : Bytes → Bytes → Bytes) (key : Bytes) (ids : Ids)
    (P : PlayWire.Profile) (thr : Option Int) (replies : List Reply)
    (hSb : P.sbDistinct = true) (hwf : ∀ q ∈ replies, PlayWire.replyWf P q = true)
    (hokP : ∀ q ∈ replies, FrameOK z.toZlibOps thr (PlayWire.replyFields P q))
    (l : List Sent) (c : Bool) (k : Sock Bytes)
    (hok : ∀ f ∈ l, FrameOK z.toZlibOps f.threshold (wirePkt ids f))
    (hk : ahead (cfb8DecX (EK key)) k =
      (l.map (frameOfSent z.toZlibOps ids)).flatten ++ playFrames z.toZlibOps thr P replies) :
    sessEnc z.toZlibOps EK key P c (expectOf c (modesOf l) thr.isSome) k =
      ⟨none, none, l.map (wirePkt ids), some key, replies, none, some .eof⟩ := by
  induction l generalizing k c with
  | nil =>
    simp only [modesOf, List.map_nil, expectOf]
    rw [sessEnc_script_end]
    exact playPhase_spec z P _ thr (some key) k replies hSb hwf hokP (by simpa using hk)
  | cons f r ih =>
    simp only [List.map_cons, List.flatten_cons, List.append_assoc] at hk
    obtain ⟨k', e1, e2⟩ := readPacketK_packetFrame _ z f.threshold (wirePkt ids f) _ k
      (hok f (by simp)) hk
    have := ih f.threshold.isSome k' (fun g hg => hok g (by simp [hg])) e2
    simp only [modesOf] at this
    simp only [modesOf, List.map_cons, expectOf]
    rw [sessEnc_script_cons]
    simp only [sessEnc, e1, this, Recovered.cons]

/-- The whole login + play part of the server run, on the wire of a disciplined outbox followed by
the play chunks (encrypted from the register the login frames leave when a cipher was installed). -/
theorem sessPlain_outbox (z : Zlib) (EK : Bytes → Bytes → Bytes) (rsaDec : Bytes → Bytes)
    (secret : Bytes) (ids : Ids) (hids : ids.encResp ≠ ids.plugResp)
    (P : PlayWire.Profile) (thr : Option Int) (replies : List Reply)
    (hSb : P.sbDistinct = true) (hwf : ∀ q ∈ replies, PlayWire.replyWf P q = true)
    (hokP : ∀ q ∈ replies, FrameOK z.toZlibOps thr (PlayWire.replyFields P q))
    (l : List Sent) (c : Bool) (k : Sock Unit) (hsw : switchOK false l = true)
    (hok : ∀ f ∈ l, FrameOK z.toZlibOps f.threshold (wirePkt ids f))
    (hkey : ∀ a b, firstEncResp l = some (a, b) → rsaDec a = secret)
    (hk : k.segs.flatten =
      (wireGo z.toZlibOps (EK secret) ids secret l).flatten ++
        (playChunks z.toZlibOps (EK secret) thr P
          (if hasEncResp l then some (regAfter z.toZlibOps (EK secret) ids secret l) else none)
          replies).flatten) :
    sessPlain z.toZlibOps EK rsaDec ids.encResp P c (expectOf c (modesOf l) thr.isSome) k =
      ⟨none, none, l.map (wirePkt ids), if hasEncResp l then some secret else none, replies,
        none, some .eof⟩ := by
  induction l generalizing k c with
  | nil =>
    simp only [modesOf, List.map_nil, expectOf, hasEncResp, List.any_nil, Bool.false_eq_true,
      if_false]
    rw [sessPlain_script_end]
    apply playPhase_spec z P idXform thr none k replies hSb hwf hokP
    rw [ahead_id, hk]
    simp only [hasEncResp, List.any_nil, Bool.false_eq_true, if_false, wireGo, List.flatten_nil,
      List.nil_append]
    exact playChunks_none _ _ _ _ _
  | cons f r ih =>
    obtain ⟨h1, h2⟩ := switchOK_cons_false f r hsw
    have hreg : regAfter z.toZlibOps (EK secret) ids secret (f :: r) =
        regAfter z.toZlibOps (EK secret) ids secret r := by simp [regAfter, encFrames, h1]
    rw [wireGo_plain_cons _ _ ids f r secret h1, hreg, List.append_assoc, ← ahead_id] at hk
    obtain ⟨k', e1, e2⟩ := readPacketK_packetFrame idXform z f.threshold (wirePkt ids f) _ k
      (hok f (by simp)) hk
    rw [ahead_id] at e2
    have hokr : ∀ g ∈ r, FrameOK z.toZlibOps g.threshold (wirePkt ids g) :=
      fun g hg => hok g (by simp [hg])
    simp only [modesOf, List.map_cons, expectOf]
    rw [sessPlain_script_cons]
    cases hpk : f.pkt with
    | encResp a b =>
      obtain ⟨hid, hdec⟩ := wirePkt_encResp _ ids f a b hpk (hok f (by simp))
      have hsec : rsaDec a = secret := hkey a b (by simp [firstEncResp, hpk])
      have hall : ∀ g ∈ r, g.encrypted = true := by
        apply switchOK_true_all; simpa [hpk, isEncResp] using h2
      have hh : hasEncResp (f :: r) = true := by simp [hasEncResp, hpk, isEncResp]
      rw [hh, if_pos rfl, playChunks_some] at e2
      have henc := sessEnc_frames z EK secret ids P thr replies hSb hwf hokP r
        f.threshold.isSome (Sock.enc secret k'.segs) hokr
        (ahead_behind_switch _ _ ids r secret _ _ hall e2)
      simp only [modesOf] at henc
      simp only [sessPlain, e1, hid, if_true, hdec, hsec, henc, hh, Recovered.cons]
    | plugResp i s d =>
      have hid : (wirePkt ids f).1 ≠ ids.encResp := by
        simp only [wirePkt, hpk, pktId]; exact fun h => hids h.symm
      have hne : isEncResp f.pkt = false := by simp [hpk, isEncResp]
      rw [hne] at h2
      have hkey' : ∀ a b, firstEncResp r = some (a, b) → rsaDec a = secret := by
        intro a b hab; apply hkey a b; simpa [firstEncResp, hpk] using hab
      have hh : hasEncResp (f :: r) = hasEncResp r := by simp [hasEncResp, hne]
      rw [hh] at e2
      have := ih f.threshold.isSome k' h2 hokr hkey' e2
      simp only [modesOf] at this
      simp only [sessPlain, e1, hid, if_false, this, hh, Recovered.cons]
/-- The two first frames: handshake record (next state 2) and login start, then `sessPlain` on a
socket positioned exactly behind them. -/
theorem server_first (z : ZlibOps) (EK : Bytes → Bytes → Bytes) (rsaDec : Bytes → Bytes)
    (lsId encRespId : Nat) (P : PlayWire.Profile) (script : List Expect) (segs : Segs)
    (h : Neg.Handshake) (hh : HsWire.HsOK h) (hnext : h.next = 2) (name : String)
    (hl : lsId < 2 ^ 32) (hs : HsWire.StrOK name) (tail : Bytes)
    (hseg : segs.flatten = HsWire.plainFrame 0 (HsWire.handshakeFields h) ++
      (HsWire.plainFrame lsId (HsWire.encString name) ++ tail)) :
    ∃ k2 : Sock Unit, k2.segs.flatten = tail ∧
      serverRecoverSession z EK rsaDec lsId encRespId P script segs =
        { sessPlain z EK rsaDec encRespId P false script k2 with
          hs := some h, name := some name } := by
  obtain ⟨k1, e1, a1⟩ := HsWire.readPacketK_plain (0, HsWire.handshakeFields h) _ (Sock.plain segs)
    (HsWire.frameOK_handshake h hh) hseg
  obtain ⟨k2, e2, a2⟩ := HsWire.readPacketK_plain (lsId, HsWire.encString name) tail k1
    (HsWire.frameOK_string lsId name hl hs) a1
  refine ⟨k2, a2, ?_⟩
  have hf := HsWire.serverParseHandshake_fields h [] hh
  rw [List.append_nil] at hf
  have hd := HsWire.decode_loginStart lsId name hs
  simp only [serverRecoverSession, e1, ne_eq, not_true_eq_false, if_false, hf, hnext, e2, hd]

/-! ## the whole stream -/

/-- The play part of the flat stream under boundary behaviour `b`. -/
def playWireWith (b : Boundary) (z : ZlibOps) (E : Bytes → Bytes) (S : Session) : Bytes :=
  (playChunksWith b z E S).flatten

/-- With a port `struct.pack('>H')` accepts and a login name, nothing raises while the first
frames are written, and the stream is first frames ++ login frames ++ play part
(`HsWire.clientWrites_first` for the first write phase). -/
theorem clientBytesWith_ok (b : Boundary) (z : ZlibOps) (E : Bytes → Bytes) (S : Session)
    (hp : S.conn.port < 65536) (hn : Neg.loginName S.conn ≠ none) :
    clientBytesWith b z E S =
      (HsWire.firstBytes S.lsId S.conn S.plan ++
        (wireBytes z E S.lp.secret S.ids (outbox S) ++ playWireWith b z E S), none) := by
  have hw := HsWire.clientWrites_first S.lsId S.conn S.plan hp (fun v _ => hn)
  have hf := firstSends_eq S.lsId S.firstFrames
  have hw' : HsWire.clientWrites S.lsId S.firstFrames =
      (HsWire.firstBytes S.lsId S.conn S.plan, none) := hw
  rw [hw'] at hf
  obtain ⟨f1, f2⟩ := Prod.mk.inj hf
  have hl : (loginRun z E S).2.flatten = wireBytes z E S.lp.secret S.ids (outbox S) := by
    unfold loginRun wireBytes wireChunks
    rw [wireRun_eq]
  have ha : ∀ (first : List Bytes × Option Err) (later : List Bytes), first.2 = none →
      assemble first later = (first.1 ++ later, none) := by
    intro first later h
    unfold assemble
    rw [h]
  unfold clientBytesWith clientChunksWith
  rw [ha _ _ f2]
  simp only [List.flatten_append, f1, hl, playWireWith]

/-- The play part as pyCraft writes it, once the play state is reached: the play frames under the
final threshold — as they are on a plain socket, else encrypted FROM THE CARRIED REGISTER. -/
theorem playWire_carry (z : ZlibOps) (E : Bytes → Bytes) (S : Session) (hplay : ReachesPlay S) :
    playWireWith .carry z E S =
      match (finalMode S).cipher with
      | none => playFrames z (finalMode S).threshold S.profile (playReplies S)
      | some _ =>
        (cfb8Enc E (loginReg z E S)
          (playFrames z (finalMode S).threshold S.profile (playReplies S))).2 := by
  unfold playWireWith playChunksWith
  rw [if_pos hplay]
  cases hc : (finalMode S).cipher with
  | none => exact playChunks_none _ _ _ _ _
  | some sec => exact playChunks_some _ _ _ _ _ _

/-- The replies on the wire are a prefix of — and, unless the peer has closed at a disconnect,
exactly — the replies due (`PlayWire.run_facts`). -/
theorem playReplies_facts (S : Session) (hR : 1 ≤ S.capR) :
    playReplies S <+: PlayWire.due S.profile S.pkts ∧
      ((S.peerOpen = true ∨ PlayWire.hasDiscP S.pkts = false) →
        playReplies S = PlayWire.due S.profile S.pkts) := by
  obtain ⟨r, h, hp, he, -⟩ := PlayWire.run_facts S.profile S.pkts S.peerOpen S.capW S.capR hR
  unfold playReplies
  rw [h]
  exact ⟨hp, he⟩

/-- Under the server's matching private key, the first encryption response of the session's
outbox decrypts to the client's secret. -/
theorem session_key (S : Session) (priv : Bytes)
    (hkey : ∀ sid pk tok, LoginEv.encRequest sid pk tok ∈ events S.steps →
      S.lp.rsa.matching pk priv) :
    ∀ a b, firstEncResp (outbox S) = some (a, b) → S.lp.rsa.dec priv a = S.lp.secret :=
  outbox_key S.lp S.loginSteps priv (by rw [events_loginSteps]; exact hkey)

/-! ## thresholds are never unset: the server's flag is switched ON, at most once -/

theorem step_threshold_isSome (P : LoginParams) (s : ClientState) (a : Step)
    (h : s.threshold.isSome = true) : (step P s a).threshold.isSome = true := by
  cases a with
  | flush =>
    simp only [step]
    split <;> exact h
  | recv e =>
    simp only [step]
    split
    · exact h
    · rw [react_eq]
      cases e <;> first | exact h | rfl

/-- "once on, always on". -/
def OnOrder (a b : Bool) : Prop := a = true → b = true

theorem pairwise_const (c : Bool) : ∀ l : List Bool, (∀ m ∈ l, m = c) → l.Pairwise OnOrder
  | [], _ => List.Pairwise.nil
  | m :: l, h => by
    rw [List.pairwise_cons]
    refine ⟨?_, pairwise_const c l fun x hx => h x (by simp [hx])⟩
    intro x hx _
    rw [h x (by simp [hx]), ← h m (by simp)]
    assumption

/-- The compression flags of the outbox are monotone, and bounded by the flag of the state. -/
structure ThrInv (s : ClientState) : Prop where
  mono : (modesOf s.outbox).Pairwise OnOrder
  le : ∀ m ∈ modesOf s.outbox, m = true → s.threshold.isSome = true

theorem ThrInv.step {P : LoginParams} {s : ClientState} (h : ThrInv s) (a : Step) :
    ThrInv (step P s a) := by
  obtain ⟨later, ho, hf⟩ := step_frames P s a
  have hl : ∀ m ∈ modesOf later, m = s.threshold.isSome := by
    intro m hm
    obtain ⟨f, hf', rfl⟩ := List.mem_map.mp hm
    rw [(hf f hf').2]
  have hm : modesOf (Login.step P s a).outbox = modesOf s.outbox ++ modesOf later := by
    rw [ho]; simp [modesOf]
  constructor
  · rw [hm, List.pairwise_append]
    refine ⟨h.mono, pairwise_const _ _ hl, ?_⟩
    intro x hx y hy hxt
    rw [hl y hy]; exact h.le x hx hxt
  · intro m hmem hmt
    rw [hm] at hmem
    apply step_threshold_isSome
    rcases List.mem_append.mp hmem with hmem | hmem
    · exact h.le m hmem hmt
    · rw [← hl m hmem]; exact hmt

theorem thrInv_exec (P : LoginParams) (steps : List Step) : ThrInv (exec P .init steps) := by
  have : ∀ (s : ClientState), ThrInv s → ThrInv (exec P s steps) := by
    induction steps with
    | nil => intro s h; simpa [exec_nil] using h
    | cons a r ih => intro s h; rw [exec_cons]; exact ih _ (h.step a)
  exact this _ ⟨List.Pairwise.nil, fun m hm => by cases hm⟩

/-- A flag that differs from an earlier one is "on". -/
theorem OnOrder.ne_true {a b : Bool} (h : OnOrder a b) (hne : b ≠ a) : b = true := by
  cases a <;> cases b <;> first | rfl | exact absurd rfl hne | exact h rfl

/-- On monotone flags the script only ever announces "on". -/
theorem expectOf_on (cur : Bool) (modes : List Bool) (fin : Bool)
    (h : (cur :: (modes ++ [fin])).Pairwise OnOrder) :
    ∀ e ∈ expectOf cur modes fin, e = .frame ∨ e = .comp true := by
  induction modes generalizing cur with
  | nil =>
    intro e he
    rw [List.nil_append, List.pairwise_cons] at h
    by_cases hfc : fin = cur
    · simp [expectOf, hfc] at he
    · simp only [expectOf, hfc, if_false, List.mem_singleton] at he
      rw [he, (h.1 fin (by simp)).ne_true hfc]
      exact .inr rfl
  | cons m ms ih =>
    intro e he
    rw [List.cons_append, List.pairwise_cons] at h
    simp only [expectOf, List.mem_append, List.mem_cons] at he
    rcases he with he | he | he
    · by_cases hmc : m = cur
      · simp [hmc] at he
      · simp only [hmc, if_false, List.mem_singleton] at he
        rw [he, (h.1 m (by simp)).ne_true hmc]
        exact .inr rfl
    · exact .inl he
    · exact ih m h.2 e he

theorem expectOf_frames (cur : Bool) (modes : List Bool) (fin : Bool) :
    ((expectOf cur modes fin).filter (· == .frame)).length = modes.length := by
  fun_induction expectOf cur modes fin <;> simp_all <;> split <;> simp_all

/-! ## concrete sessions for the non-vacuity examples and the negative witnesses -/

/-- Login parameters of the examples: `Login.demoParams` (RSA = "prefix one byte" / "drop one
byte", token present) with a 16-byte secret. -/
def demoLP : LoginParams :=
  { Login.demoParams with
    secret := [0x10, 0x11, 0x12, 0x13, 0x14, 0x15, 0x16, 0x17, 0x18, 0x19, 0x1a, 0x1b, 0x1c, 0x1d,
      0x1e, 0x1f] }

/-- Protocol 757 (1.18): "localhost":25565, profile name "Steve"; the server sends encryption
request, set compression 8, a plugin request, login success — one packet per loop iteration — and
then, in play, keep-alive 1, position-and-look with teleport id 7, keep-alive 2.  Login packet ids
0x01 / 0x02, play ids of `PlayWire.p757`.  Threshold 8: a keep-alive reply (payload 9 bytes) takes
the `compress` branch, the plugin response (3) and the teleport confirm (2) do not. -/
def demoSession : Session :=
  { conn := ⟨"localhost", 25565, none, some "Steve"⟩
    proto := 757
    lsId := 0
    lp := demoLP
    ids := ⟨1, 2⟩
    steps := schedule 1
      [.encRequest "srv" [7, 8] [9], .setCompression 8, .pluginRequest 5 "ch" [1], .success]
    profile := PlayWire.p757
    pkts :=
      [.keepAlive 1,
       .posLook 0x4024000000000000 0x4050000000000000 0xC008000000000000 0x42B40000 0 0 7 false,
       .keepAlive 2]
    peerOpen := true
    capW := 300
    capR := 50 }

/-- The same session against an offline-mode server without compression: no cipher, no threshold
— the whole stream is plaintext. -/
def demoPlainSession : Session :=
  { demoSession with steps := schedule 1 [.pluginRequest 5 "ch" [1], .success] }

/-- A session whose login is refused. -/
def demoRefused : Session :=
  { demoSession with
    steps := schedule 1 [.encRequest "srv" [7, 8] [9], .disconnect "{\"text\": 5}", .success] }

/-- The client's bytes of a session under the example parameters (store-only zlib, the toy block
function keyed with the secret), with the boundary behaviour `b`. -/
def demoBytes (b : Boundary) (S : Session) : Bytes :=
  (clientBytesWith b Zlib.ident.toZlibOps (toyEK S.lp.secret) S).1

/-- The reference server of the examples for session `S` (its script, its ids, its profile), with
store-only zlib, `toyEK`, and the private-key operation of `demoParams.rsa` ("drop one byte"). -/
def demoServer (S : Session) (segs : Segs) : Recovered :=
  serverRecoverSession Zlib.ident.toZlibOps toyEK (S.lp.rsa.dec []) S.lsId S.ids.encResp S.profile
    (serverScript S) segs

end PyCraft.Session
