import PyCraft.Model.C16Ends
import PyCraft.Lemmas.Lifecycle
/-!
Helper lemmas for `Props/C16Ends.lean`, part A: the flush of `disconnect()`, the
guarded `disconnect` as a total function, and the projection of the extended system
(`Model/C16Ends.lean`) onto the lifecycle model (`Model/Lifecycle.lean`): for the current code a
thread step is `Life.step` on `sys` plus an update of the ghost fields (`stepE_eq`, `ghost`), from
which every fact about a thread step of the extended system is read off.
-/
namespace PyCraft.Ends
open PyCraft PyCraft.Life

/-- The attribute `_outgoing_packet_queue` exists whenever there is a socket object
(`_connect` creates the queue first, connection.py:437, the socket later, l.450). -/
def QInv (x : ESys) : Prop := x.sys.socket ≠ .none → x.queue.isSome = true

/-! ### One packet write -/

theorem writeOne_sys (F : Nat → Bool) (x : ESys) (p : Nat) : (writeOne F x p).1.sys = x.sys := by
  unfold writeOne; split
  · rfl
  · rfl
  · split <;> rfl

theorem writeOne_calls (F : Nat → Bool) (x : ESys) (p : Nat) :
    (writeOne F x p).1.calls = x.calls := by
  unfold writeOne; split
  · rfl
  · rfl
  · split <;> rfl

theorem writeOne_not_other (F : Nat → Bool) (x : ESys) (p : Nat) (h : x.sys.socket ≠ .none) :
    (writeOne F x p).2 ≠ .other := by
  unfold writeOne; split
  · next hs => exact absurd hs h
  · simp
  · split <;> simp

/-! ### The flush loop -/

theorem flushFrom_sys (F : Nat → Bool) : ∀ (q : List Nat) (x : ESys),
    (flushFrom F q x).1.sys = x.sys := by
  intro q
  induction q with
  | nil => intro x; rfl
  | cons p q ih =>
    intro x
    have hw := writeOne_sys F x p
    cases hr : writeOne F x p with
    | mk x1 r =>
      rw [hr] at hw
      cases r <;> simp only [flushFrom, hr]
      · rw [ih x1]; exact hw
      · exact hw
      · exact hw

theorem flushFrom_calls (F : Nat → Bool) : ∀ (q : List Nat) (x : ESys),
    (flushFrom F q x).1.calls = x.calls := by
  intro q
  induction q with
  | nil => intro x; rfl
  | cons p q ih =>
    intro x
    have hw := writeOne_calls F x p
    cases hr : writeOne F x p with
    | mk x1 r =>
      rw [hr] at hw
      cases r <;> simp only [flushFrom, hr]
      · rw [ih x1]; exact hw
      · exact hw
      · exact hw

theorem flushFrom_queue_some (F : Nat → Bool) : ∀ (q : List Nat) (x : ESys),
    (flushFrom F q x).1.queue.isSome = true := by
  intro q
  induction q with
  | nil => intro x; rfl
  | cons p q ih =>
    intro x
    cases hr : writeOne F x p with
    | mk x1 r =>
      cases r <;> simp only [flushFrom, hr]
      · exact ih x1
      · rfl
      · rfl

/-- With a socket object present no write of the flush raises anything but `IOError`. -/
theorem flushFrom_not_other (F : Nat → Bool) : ∀ (q : List Nat) (x : ESys),
    x.sys.socket ≠ .none → (flushFrom F q x).2 ≠ .other := by
  intro q
  induction q with
  | nil => intro x _; simp [flushFrom]
  | cons p q ih =>
    intro x h
    have hw := writeOne_sys F x p
    have hn := writeOne_not_other F x p h
    cases hr : writeOne F x p with
    | mk x1 r =>
      rw [hr] at hw hn
      cases r <;> simp only [flushFrom, hr]
      · exact ih x1 (by rw [hw]; exact h)
      · simp
      · exact absurd rfl hn

/-- The flush on a connected socket: the packets before the first failing write are delivered, in
order; the packet whose write fails is lost; the rest stays queued. -/
theorem flushFrom_open (F : Nat → Bool) (c : Nat) : ∀ (q : List Nat) (x : ESys),
    x.sys.socket = .open c →
    (flushFrom F q x).1.wire =
      x.wire ++ (q.take (firstFail F x.tick q.length)).map (fun p => (c, p)) ∧
    (flushFrom F q x).1.queue = some (q.drop (firstFail F x.tick q.length + 1)) ∧
    (flushFrom F q x).1.tick = x.tick + min (firstFail F x.tick q.length + 1) q.length ∧
    (flushFrom F q x).2 = (if firstFail F x.tick q.length < q.length then .ioError else .ok) := by
  intro q
  induction q with
  | nil => intro x _; simp [flushFrom, firstFail]
  | cons p q ih =>
    intro x hs
    by_cases hF : F x.tick = true
    · simp [flushFrom, writeOne, hs, hF, firstFail]
    · have hF' : F x.tick = false := by simpa using hF
      obtain ⟨a, b, c', d⟩ := ih { x with tick := x.tick + 1, wire := x.wire ++ [(c, p)] } hs
      simp only [flushFrom, writeOne, hs, hF', Bool.false_eq_true, if_false, firstFail,
        List.length_cons]
      refine ⟨?_, ?_, ?_, ?_⟩
      · rw [a]; simp
      · rw [b]; simp
      · rw [c']; simp only []; omega
      · rw [d]; simp

/-- The flush on a socket object that was never connected: the first write already fails. -/
theorem flushFrom_unconnected (F : Nat → Bool) (q : List Nat) (x : ESys)
    (hs : x.sys.socket = .unconnected) :
    (flushFrom F q x).1.wire = x.wire ∧ (flushFrom F q x).1.queue = some (q.drop 1) ∧
    (flushFrom F q x).2 = (if q = [] then .ok else .ioError) := by
  cases q with
  | nil => simp [flushFrom]
  | cons p q => simp [flushFrom, writeOne, hs]

/-! ### `disconnect` -/

theorem discTail_eq (s : Sys) : discTail { s with connected := false } = doDisconnect s := by
  unfold discTail doDisconnect
  rcases s with ⟨nt, newNt, socket, file, connected, conns, nthreads, rl, rh, owner, depth, net,
    usr, log⟩
  cases socket <;> rfl

theorem discTail_mark (x : ESys) : discTail (markDisc x).sys = doDisconnect x.sys :=
  discTail_eq x.sys

theorem flush_some (F : Nat → Bool) (x : ESys) (q : List Nat) (h : x.queue = some q) :
    flush F x = flushFrom F q x := by
  unfold flush; rw [h]

/-- `disconnect(immediate=True)` has no flush: it is exactly `Life.doDisconnect`, whatever the
guard, the oracle and the queue.  (This is the call made by `_handle_exception`, which the extended
system therefore takes over unchanged from the lifecycle model.) -/
theorem disconnectE_immediate (g : Bool) (F : Nat → Bool) (x : ESys) :
    disconnectE g true F x = ({ x with sys := doDisconnect x.sys }, .ok) := by
  simp only [disconnectE, Bool.not_true, Bool.false_and, Bool.false_eq_true, if_false,
    discTail_mark]
  rfl

/-- The state in which the flush of `disconnect(imm)` leaves queue, wire and write counter. -/
def afterFlush (imm : Bool) (F : Nat → Bool) (x : ESys) : ESys :=
  if !imm && x.sys.socket != Sock.none then (flush F (markDisc x)).1 else x

/-- The CURRENT `disconnect`: for every queue, every failure pattern of the writes and every
state with `QInv`, it returns normally, and its effect on the lifecycle state is `doDisconnect`. -/
theorem disconnectE_guarded (imm : Bool) (F : Nat → Bool) (x : ESys) (hq : QInv x) :
    disconnectE true imm F x =
      ({ afterFlush imm F x with sys := doDisconnect x.sys }, .ok) := by
  unfold disconnectE afterFlush
  have hs0 : (markDisc x).sys.socket = x.sys.socket := rfl
  simp only [hs0]
  by_cases hc : (!imm && x.sys.socket != Sock.none) = true
  · have hsock : x.sys.socket ≠ .none := by
      intro h; simp [h] at hc
    obtain ⟨q, hqq⟩ := Option.isSome_iff_exists.mp (hq hsock)
    simp only [hc, if_true]
    rw [flush_some F (markDisc x) q hqq]
    have hsys := flushFrom_sys F q (markDisc x)
    have hno := flushFrom_not_other F q (markDisc x) hsock
    generalize flushFrom F q (markDisc x) = r at hsys hno ⊢
    obtain ⟨y, w⟩ := r
    simp only [] at hsys hno
    cases w
    · simp only [hsys, discTail_mark]
    · simp only [hsys, discTail_mark]
    · exact absurd rfl hno
  · have hc0 : (!imm && x.sys.socket != Sock.none) = false := by simpa using hc
    simp only [hc0, Bool.false_eq_true, if_false, discTail_mark]
    rfl

theorem afterFlush_calls (imm : Bool) (F : Nat → Bool) (x : ESys) :
    (afterFlush imm F x).calls = x.calls := by
  unfold afterFlush
  split
  · unfold flush
    split
    · rfl
    · rw [flushFrom_calls]; rfl
  · rfl

/-- What the flush of `disconnect(imm)` does to queue, wire and write counter. -/
theorem afterFlush_spec (imm : Bool) (F : Nat → Bool) (x : ESys) :
    ((imm = true ∨ x.sys.socket = .none) → afterFlush imm F x = x) ∧
    (∀ c q, imm = false → x.sys.socket = .open c → x.queue = some q →
      (afterFlush imm F x).wire =
        x.wire ++ (q.take (firstFail F x.tick q.length)).map (fun p => (c, p)) ∧
      (afterFlush imm F x).queue = some (q.drop (firstFail F x.tick q.length + 1)) ∧
      (afterFlush imm F x).tick = x.tick + min (firstFail F x.tick q.length + 1) q.length) ∧
    (∀ q, imm = false → x.sys.socket = .unconnected → x.queue = some q →
      (afterFlush imm F x).wire = x.wire ∧ (afterFlush imm F x).queue = some (q.drop 1)) := by
  refine ⟨?_, ?_, ?_⟩
  · rintro (h | h) <;> simp [afterFlush, h]
  · intro c q hi hs hqq
    obtain ⟨a, b, c', -⟩ := flushFrom_open F c q (markDisc x) hs
    have hf : afterFlush imm F x = (flushFrom F q (markDisc x)).1 := by
      simp [afterFlush, hi, hs, flush_some F (markDisc x) q hqq]
    rw [hf]
    exact ⟨a, b, c'⟩
  · intro q hi hs hqq
    obtain ⟨a, b, -⟩ := flushFrom_unconnected F q (markDisc x) hs
    have hf : afterFlush imm F x = (flushFrom F q (markDisc x)).1 := by
      simp [afterFlush, hi, hs, flush_some F (markDisc x) q hqq]
    rw [hf]
    exact ⟨a, b⟩

/-! ### The API bodies of the current code against those of the lifecycle model -/

theorem connectE_spec (env : List Beh) (x : ESys) :
    (connectE env x).1.sys = (doConnect env x.sys).1 ∧
    (connectE env x).2 = lift (doConnect env x.sys).2 ∧
    (connectE env x).1.calls = x.calls ∧
    (QInv x → QInv (connectE env x).1) := by
  unfold connectE
  by_cases hb : busy x.sys = true
  · simp only [hb, if_true]
    have hd : doConnect env x.sys = (x.sys, .invalidState) := by simp [doConnect, hb]
    rw [hd]
    exact ⟨rfl, rfl, trivial, id⟩
  · simp only [hb, Bool.false_eq_true, if_false]
    cases hr : doConnect env x.sys with
    | mk s1 out =>
      cases out
      · exact ⟨rfl, rfl, rfl, fun _ _ => rfl⟩
      · exact ⟨rfl, rfl, rfl, fun _ _ => rfl⟩
      · exact ⟨rfl, rfl, rfl, fun _ _ => rfl⟩

/-- Current code: the body of every API call of a user thread returns what the lifecycle model
says (in particular never an exception other than `InvalidState` / `ConnectionRefusedError`), has
the lifecycle effect the model says, and keeps `QInv`. -/
theorem bodyE_guarded (F : Nat → Bool) (env : List Beh) (x : ESys) (op : Op) (hq : QInv x) :
    (bodyE true F env x op).1.sys = (body env x.sys op).1 ∧
    (bodyE true F env x op).2 = lift (body env x.sys op).2 ∧
    (bodyE true F env x op).1.calls = x.calls ∧
    QInv (bodyE true F env x op).1 := by
  cases op with
  | connect =>
    obtain ⟨a, b, c, d⟩ := connectE_spec env x
    exact ⟨a, b, c, d hq⟩
  | status =>
    obtain ⟨a, b, c, d⟩ := connectE_spec env x
    exact ⟨a, b, c, d hq⟩
  | disconnect imm =>
    simp only [bodyE, body, disconnectE_guarded imm F x hq]
    refine ⟨trivial, rfl, afterFlush_calls imm F x, ?_⟩
    intro h
    exact absurd (by simp [doDisconnect_discSt, discSt]) h

/-- Current code: the same for the call a networking thread makes at `site`; the `except IOError`
fallback of the reaction to a disconnect packet is never taken. -/
theorem siteBodyE_guarded (F : Nat → Bool) (env : List Beh) (x : ESys) (site : Site)
    (hq : QInv x) :
    siteBodyE true F env x site = bodyE true F env x site.op := by
  cases site with
  | react => simp only [siteBodyE, Site.op, bodyE, disconnectE_guarded false F x hq]
  | listen => rfl
  | handler => rfl

theorem outL_lift (o : Outcome) : outL (lift o) = o := by cases o <;> rfl

/-! ### Projection onto the lifecycle model -/

/-- The API call whose body is thread `t`'s next action, if it is one. -/
def callOf (s : Sys) : Tid → Option Op
  | .user u =>
    match (s.usr u).pc, (s.usr u).todo with
    | .idle, op :: _ => some op
    | _, _ => none
  | .net i =>
    match (s.net i).pc with
    | .call site => some site.op
    | _ => none

theorem callOf_iff (s : Sys) (t : Tid) (op : Op) : callOf s t = some op ↔ atCall s t op := by
  rcases t with u | i
  · simp only [callOf, atCall]
    split
    · next h1 h2 => simp [h1, h2]
    · next h => exact ⟨nofun, fun ⟨h1, rest, h2⟩ => absurd h2 (h _ _ h1)⟩
  · simp only [callOf, atCall]
    split
    · next site h => simp [h]
    · next h => exact ⟨nofun, fun ⟨site, h1, _⟩ => absurd h1 (h site)⟩

/-- A step that is not the body of an API call does not create a socket. -/
theorem step_socket_noncall (env : List Beh) (s s' : Sys) (t : Tid)
    (hs : step env s t = some s') (hc : callOf s t = none) :
    s'.socket = s.socket ∨ s'.socket = .none := by
  cases step_Step env s s' t hs with
  | ucall u op rest c out hpc htd hl hb => simp [callOf, hpc, htd] at hc
  | locked i c pc' e hl hk =>
    cases hk
    case call site out hpc hb => simp [callOf, hpc] at hc
    case cleanup => exact .inr rfl
    all_goals exact .inl rfl
  | _ => exact .inl rfl

/-- What a thread step does to the ghost fields: an API call leaves queue, wire and write counter
as its body does and records its outcome; any other action leaves them alone. -/
def ghost (F : Nat → Bool) (env : List Beh) (x : ESys) (t : Tid) : ESys :=
  match callOf x.sys t with
  | some op => { (bodyE true F env x op).1 with
      calls := x.calls ++ [(t, op, lift (body env x.sys op).2)] }
  | none => x

theorem ghost_call (F : Nat → Bool) (env : List Beh) (x : ESys) (t : Tid) (op : Op)
    (hat : atCall x.sys t op) :
    ghost F env x t = { (bodyE true F env x op).1 with
      calls := x.calls ++ [(t, op, lift (body env x.sys op).2)] } := by
  simp only [ghost, (callOf_iff _ _ _).mpr hat]

/-- Current code: a thread step of the extended system IS the step of the lifecycle model on the
`sys` component (same enabledness, same successor), with the ghost fields of `ghost`. -/
theorem stepE_eq (F : Nat → Bool) (env : List Beh) (x : ESys) (t : Tid) (hq : QInv x) :
    stepE true F env x (.thr t) =
      (step env x.sys t).map fun s' => { ghost F env x t with sys := s' } := by
  rcases t with u | i
  · simp only [stepE, step, ghost, callOf]
    unfold stepUserE stepUser
    cases hpc : (x.sys.usr u).pc with
    | rel out => rfl
    | idle =>
      cases htd : (x.sys.usr u).todo with
      | nil => rfl
      | cons op rest =>
        obtain ⟨a, b, -, -⟩ := bodyE_guarded F env x op hq
        simp only []
        split
        · simp only [Option.map_some, a, b, outL_lift]
        · rfl
  · simp only [stepE, step, ghost, callOf]
    unfold stepNetE
    split
    · next site hpc =>
      obtain ⟨a, b, -, -⟩ := bodyE_guarded F env x site.op hq
      simp only [stepNet, hpc, siteBodyE_guarded F env x site hq]
      split
      · simp only [Option.map_some, a, b, outL_lift]
      · rfl
    · simp only []

/-- … and that keeps `QInv`: the socket a call step leaves is the one its body leaves; no other
step creates one. -/
theorem ghost_qinv (F : Nat → Bool) (env : List Beh) (x : ESys) (t : Tid) (s' : Sys) (hq : QInv x)
    (hs : step env x.sys t = some s') : QInv { ghost F env x t with sys := s' } := by
  intro hne
  cases hc : callOf x.sys t with
  | some op =>
    have hat := (callOf_iff _ _ _).mp hc
    obtain ⟨a, -, -, d⟩ := bodyE_guarded F env x op hq
    rw [ghost_call F env x t op hat]
    refine d ?_
    rw [a]
    exact fun h => hne ((congrArg Shared.socket (call_step env x.sys s' t op hat hs).2.2.1).trans h)
  | none =>
    simp only [ghost, hc]
    rcases step_socket_noncall env x.sys s' t hs hc with hso | hso
    · exact hq (hso ▸ hne)
    · exact absurd hso hne

/-- The projection: same enabledness, the model's successor. -/
theorem stepE_thr (F : Nat → Bool) (env : List Beh) (x : ESys) (t : Tid) (hq : QInv x) :
    (stepE true F env x (.thr t)).map (·.sys) = step env x.sys t := by
  rw [stepE_eq F env x t hq]; cases step env x.sys t <;> rfl

theorem stepE_sys (F : Nat → Bool) (env : List Beh) (x x1 : ESys) (t : Tid) (hq : QInv x)
    (h : stepE true F env x (.thr t) = some x1) :
    step env x.sys t = some x1.sys ∧ x1 = { ghost F env x t with sys := x1.sys } := by
  rw [stepE_eq F env x t hq] at h
  cases hs : step env x.sys t with
  | none => rw [hs] at h; cases h
  | some s' => rw [hs] at h; cases h; exact ⟨rfl, rfl⟩

/-- `enq` / `deq` do not touch the lifecycle state. -/
theorem stepE_ext (g : Bool) (F : Nat → Bool) (env : List Beh) (x x' : ESys) (a : Act)
    (ha : ∀ t, a ≠ .thr t) (hs : stepE g F env x a = some x') :
    x'.sys = x.sys ∧ x'.calls = x.calls ∧ x'.wire = x.wire ∧ (QInv x → QInv x') := by
  cases a with
  | thr t => exact absurd rfl (ha t)
  | enq _ | deq =>
    simp only [stepE] at hs
    split at hs
    · simp only [Option.some.injEq] at hs; subst hs; exact ⟨rfl, rfl, rfl, fun _ _ => rfl⟩
    · cases hs

theorem stepE_qinv (F : Nat → Bool) (env : List Beh) (x x' : ESys) (a : Act) (hq : QInv x)
    (hs : stepE true F env x a = some x') : QInv x' := by
  cases a with
  | thr t =>
    obtain ⟨h1, e⟩ := stepE_sys F env x x' t hq hs
    rw [e]; exact ghost_qinv F env x t _ hq h1
  | enq _ | deq => exact (stepE_ext true F env x x' _ (by intro t h; cases h) hs).2.2.2 hq

theorem initE_QInv (progs : List (List Op)) (rl rh : Nat) : QInv (initE progs rl rh) := by
  intro h; exact absurd rfl h

/-- Current code: the lifecycle component of a run of the extended system is the run of the
lifecycle model over the thread steps of the schedule. -/
theorem runE_sys (F : Nat → Bool) (env : List Beh) : ∀ (acts : List Act) (x : ESys), QInv x →
    (runE true F env x acts).sys = run env x.sys (thrs acts) ∧ QInv (runE true F env x acts) := by
  intro acts
  induction acts with
  | nil => intro x hq; exact ⟨rfl, hq⟩
  | cons a as ih =>
    intro x hq
    cases a with
    | thr t =>
      simp only [runE, thrs, run, stepE_eq F env x t hq]
      cases hs : step env x.sys t with
      | none => exact ih x hq
      | some s' => exact ih _ (ghost_qinv F env x t s' hq hs)
    | enq _ | deq =>
      simp only [runE, thrs]
      split
      · next x' hst =>
        obtain ⟨e1, -, -, e4⟩ := stepE_ext true F env x x' _ (by intro t h; cases h) hst
        rw [← e1]
        exact ih x' (e4 hq)
      · exact ih x hq

/-- Every reachable state of the extended system (current code) projects to a reachable state of
the lifecycle model. -/
theorem reachE (F : Nat → Bool) (env : List Beh) (progs : List (List Op)) (rl rh : Nat)
    (acts : List Act) :
    (runE true F env (initE progs rl rh) acts).sys = run env (init progs rl rh) (thrs acts) ∧
    QInv (runE true F env (initE progs rl rh) acts) :=
  runE_sys F env acts (initE progs rl rh) (initE_QInv progs rl rh)

/-- `runE` is the generic run of `Lemmas/Sched.lean` over `stepE`. -/
theorem runE_eq (g : Bool) (F : Nat → Bool) (env : List Beh) (acts : List Act) :
    ∀ x, runE g F env x acts = Sched.run (stepE g F env) x acts := by
  induction acts with
  | nil => intro _; rfl
  | cons a as ih => intro x; cases h : stepE g F env x a <;> simp only [runE, Sched.run, h, ih]

theorem runE_append (g : Bool) (F : Nat → Bool) (env : List Beh) (x : ESys) (a b : List Act) :
    runE g F env x (a ++ b) = runE g F env (runE g F env x a) b := by
  simp only [runE_eq]; exact Sched.run_append _ a b x

theorem thrs_map_thr (l : List Tid) : thrs (l.map .thr) = l := by
  induction l with
  | nil => rfl
  | cons t ts ih => simp [thrs, ih]

/-- Current code: what ANY API call step records — the outcome the lifecycle model computes. -/
theorem stepE_call (F : Nat → Bool) (env : List Beh) (x x1 : ESys) (t : Tid) (op : Op)
    (hq : QInv x) (hat : atCall x.sys t op) (hs : stepE true F env x (.thr t) = some x1) :
    x1.calls = x.calls ++ [(t, op, lift (body env x.sys op).2)] := by
  rw [(stepE_sys F env x x1 t hq hs).2, ghost_call F env x t op hat]

/-- Current code: what a `disconnect` call step records and does to the ghost fields. -/
theorem stepE_disconnect (F : Nat → Bool) (env : List Beh) (x x1 : ESys) (t : Tid) (imm : Bool)
    (hq : QInv x) (hat : atCall x.sys t (.disconnect imm))
    (hs : stepE true F env x (.thr t) = some x1) :
    x1.calls = x.calls ++ [(t, .disconnect imm, .ok)] ∧
    x1.queue = (afterFlush imm F x).queue ∧ x1.wire = (afterFlush imm F x).wire ∧
    x1.tick = (afterFlush imm F x).tick := by
  rw [(stepE_sys F env x x1 t hq hs).2, ghost_call F env x t _ hat]
  simp [bodyE, body, lift, disconnectE_guarded imm F x hq]

/-- Every recorded outcome is one of the three the lifecycle model knows: no call has raised an
`IOError` or any other exception. -/
def NoExc (x : ESys) : Prop := ∀ e ∈ x.calls, ∃ o, e.2.2 = lift o

theorem stepE_noExc (F : Nat → Bool) (env : List Beh) (x x1 : ESys) (a : Act) (hq : QInv x)
    (hn : NoExc x) (hs : stepE true F env x a = some x1) : NoExc x1 := by
  cases a with
  | enq _ | deq =>
    obtain ⟨-, e, -, -⟩ := stepE_ext true F env x x1 _ (by intro t h; cases h) hs
    intro c hc; rw [e] at hc; exact hn c hc
  | thr t =>
    rw [(stepE_sys F env x x1 t hq hs).2]
    intro c hc
    simp only [ghost] at hc
    split at hc
    · rcases List.mem_append.mp hc with hc | hc
      · exact hn c hc
      · cases List.mem_singleton.mp hc; exact ⟨_, rfl⟩
    · exact hn c hc

theorem runE_noExc (F : Nat → Bool) (env : List Beh) (acts : List Act) (x : ESys) (hq : QInv x)
    (hn : NoExc x) : NoExc (runE true F env x acts) := by
  rw [runE_eq]
  exact (Sched.run_induct _ (fun x => QInv x ∧ NoExc x) acts (fun x x' a _ h hs =>
    ⟨stepE_qinv F env x x' a h.1 hs, stepE_noExc F env x x' a h.1 h.2 hs⟩) x ⟨hq, hn⟩).2

end PyCraft.Ends
