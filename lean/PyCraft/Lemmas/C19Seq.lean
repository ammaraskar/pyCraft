import PyCraft.Model.C19Seq
import PyCraft.Lemmas.C19Json
/-!
Helper lemmas for `Props/C19Seq.lean`: every method of `Model/C19Seq.lean` factors into
"checks and payload / ONE call of the network / processing of the response" (`run_factor`); the
request in one formula (`requestOf_eq`); what `storeReply` stores (`storeReply_cases`); when a token
can change (`finishStore_cases`, `finish_cases`, `run_cases`); the heap of profile objects
(`NoAlias`); sequences of calls (`runSeq`, `runSvc`, `runTok`).
-/
namespace PyCraft.AuthSeq
open PyCraft.Json

/-- The payload `authenticate` builds (`minecraft/authentication.py` l.107-120). -/
def authPayload (fresh : String) (t : Token) (user pass : String) (inv : Bool) : JVal :=
  .obj (if !inv then
      [("agent", .obj [("name", .str AGENT_NAME), ("version", .num AGENT_VERSION)]),
       ("username", .str user), ("password", .str pass)] ++
      [("clientToken", if t.clientToken.truthy then t.clientToken else .str fresh)]
    else
      [("agent", .obj [("name", .str AGENT_NAME), ("version", .num AGENT_VERSION)]),
       ("username", .str user), ("password", .str pass)])

/-- What happens before the network is called: an early exception, or the request. -/
def prepare (op : Op) (t : Token) : Except Outcome Request :=
  match op with
  | .authenticate fresh user pass inv =>
    .ok (makeRequest AUTH_SERVER "authenticate" (authPayload fresh t user pass inv))
  | .refresh =>
    if t.accessToken.isNone then .error (.valueError .accessTokenNotSet)
    else if t.clientToken.isNone then .error (.valueError .clientTokenNotSet)
    else .ok (makeRequest AUTH_SERVER "refresh"
      (.obj [("accessToken", t.accessToken), ("clientToken", t.clientToken)]))
  | .validate =>
    if t.accessToken.isNone then .error (.valueError .accessTokenNotSet)
    else .ok (makeRequest AUTH_SERVER "validate" (.obj [("accessToken", t.accessToken)]))
  | .invalidate =>
    .ok (makeRequest AUTH_SERVER "invalidate"
      (.obj [("accessToken", t.accessToken), ("clientToken", t.clientToken)]))
  | .join sid =>
    if !authenticated t then .error (.yggdrasil (some .notAuthenticated) none .null .null .null)
    else
      match t.profile.toDict with
      | .error e => .error e
      | .ok pd =>
        .ok (makeRequest SESSION_SERVER "join"
          (.obj [("accessToken", t.accessToken), ("selectedProfile", pd), ("serverId", .str sid)]))

/-- The tail of `invalidate` and `join`: `if res.status_code != 204: _raise_from_response(res)`,
`return True`. -/
def finish204 (t : Token) (rsp : Resp) : Token × Outcome :=
  match rsp with
  | .fail => (t, .transport)
  | .reply r =>
    if r.status ≠ 204 then
      match raiseFromResponse r with
      | some e => (t, e)
      | none => (t, .ret true)
    else (t, .ret true)

/-- What happens with the response. -/
def finish (op : Op) (t : Token) (rsp : Resp) : Token × Outcome :=
  match op with
  | .authenticate _ user _ _ => finishStore t { t with username := .str user } rsp
  | .refresh => finishStore t t rsp
  | .validate =>
    match rsp with
    | .fail => (t, .transport)
    | .reply r => if r.status = 204 then (t, .ret true) else (t, .retNone)
  | .invalidate => finish204 t rsp
  | .join _ => finish204 t rsp

theorem run_factor (op : Op) (net : Request → Resp) (t : Token) :
    run op net t =
      match prepare op t with
      | .error e => (t, e, none)
      | .ok q => ((finish op t (net q)).1, (finish op t (net q)).2, some q) := by
  cases op with
  | authenticate fresh user pass inv =>
    simp only [run, authenticate, prepare, finish, authPayload]
  | refresh =>
    simp only [run, refresh, prepare, finish]
    split
    · rfl
    · split <;> rfl
  | validate =>
    simp only [run, validate, prepare, finish]
    split
    · rfl
    · simp only []
      cases net _ with
      | fail => rfl
      | reply r => simp only []; split <;> rfl
  | invalidate =>
    simp only [run, invalidate, prepare, finish, finish204]
    cases net _ with
    | fail => rfl
    | reply r =>
      by_cases h204 : r.status = 204 <;> cases hr : raiseFromResponse r <;> simp [h204, hr]
  | join sid =>
    simp only [run, join, prepare, finish, finish204]
    split
    · rfl
    · cases hd : t.profile.toDict with
      | error e => rfl
      | ok pd =>
        simp only []
        cases net _ with
        | fail => rfl
        | reply r =>
          by_cases h204 : r.status = 204 <;> cases hr : raiseFromResponse r <;> simp [h204, hr]

/-- The request a call sends, if any: it does not depend on the network. -/
def requestOf (op : Op) (t : Token) : Option Request :=
  match prepare op t with
  | .error _ => none
  | .ok q => some q

theorem run_request (op : Op) (net : Request → Resp) (t : Token) :
    (run op net t).2.2 = requestOf op t := by
  rw [run_factor, requestOf]; cases prepare op t <;> rfl

/-- Only the response to the ONE request matters. -/
theorem run_congr (op : Op) (net net' : Request → Resp) (t : Token)
    (h : ∀ q, requestOf op t = some q → net q = net' q) : run op net t = run op net' t := by
  rw [run_factor, run_factor]
  cases hp : prepare op t with
  | error e => rfl
  | ok q => simp only []; rw [h q (by simp [requestOf, hp])]

theorem run_of_prepare_error (op : Op) (net : Request → Resp) (t : Token) (e : Outcome)
    (h : prepare op t = .error e) : run op net t = (t, e, none) := by
  rw [run_factor, h]

theorem run_of_prepare_ok (op : Op) (net : Request → Resp) (t : Token) (q : Request)
    (h : prepare op t = .ok q) :
    run op net t = ((finish op t (net q)).1, (finish op t (net q)).2, some q) := by
  rw [run_factor, h]

theorem prepare_of_request (op : Op) (t : Token) (q : Request) (h : requestOf op t = some q) :
    prepare op t = .ok q := by
  unfold requestOf at h
  cases hp : prepare op t with
  | error e => rw [hp] at h; cases h
  | ok q' => rw [hp] at h; cases h; rfl

@[simp] theorem isNone_iff (v : JVal) : v.isNone = true ↔ v = .null := by
  cases v <;> simp [JVal.isNone]

@[simp] theorem isNone_eq_false_iff (v : JVal) : v.isNone = false ↔ v ≠ .null := by
  cases v <;> simp [JVal.isNone]

theorem profile_truthy_of_authenticated (t : Token) (h : authenticated t = true) :
    t.profile.truthy = true := by
  unfold authenticated at h
  cases hp : t.profile.truthy with
  | true => rfl
  | false => simp [hp] at h

/-- The checks a method makes before it posts (`authenticate` and `invalidate` make none). -/
def ready (op : Op) (t : Token) : Bool :=
  match op with
  | .authenticate .. | .invalidate => true
  | .refresh => !t.accessToken.isNone && !t.clientToken.isNone
  | .validate => !t.accessToken.isNone
  | .join _ => authenticated t

/-- Server and endpoint a method posts to. -/
def target : Op → String × String
  | .authenticate .. => (AUTH_SERVER, "authenticate")
  | .refresh => (AUTH_SERVER, "refresh")
  | .validate => (AUTH_SERVER, "validate")
  | .invalidate => (AUTH_SERVER, "invalidate")
  | .join _ => (SESSION_SERVER, "join")

/-- The payload a method posts. -/
def payloadOf (op : Op) (t : Token) : JVal :=
  match op with
  | .authenticate fresh user pass inv => authPayload fresh t user pass inv
  | .refresh | .invalidate => .obj [("accessToken", t.accessToken), ("clientToken", t.clientToken)]
  | .validate => .obj [("accessToken", t.accessToken)]
  | .join sid =>
    .obj [("accessToken", t.accessToken),
          ("selectedProfile", .obj [("id", t.profile.id_), ("name", t.profile.name)]),
          ("serverId", .str sid)]

/-- `prepare`, as far as the request goes, in one formula. -/
theorem requestOf_eq (op : Op) (t : Token) :
    requestOf op t =
      if ready op t = true then some (makeRequest (target op).1 (target op).2 (payloadOf op t))
      else none := by
  cases op with
  | authenticate fresh user pass inv => rfl
  | refresh =>
    cases ha : t.accessToken.isNone <;> cases hc : t.clientToken.isNone <;>
      simp [requestOf, prepare, ready, target, payloadOf, ha, hc]
  | validate =>
    cases ha : t.accessToken.isNone <;> simp [requestOf, prepare, ready, target, payloadOf, ha]
  | invalidate => rfl
  | join sid =>
    cases hau : authenticated t with
    | false => simp [requestOf, prepare, ready, hau]
    | true =>
      simp [requestOf, prepare, ready, target, payloadOf, hau, Profile.toDict,
        profile_truthy_of_authenticated t hau]

theorem requestOf_of_ready (op : Op) (t : Token) (h : ready op t = true) :
    requestOf op t = some (makeRequest (target op).1 (target op).2 (payloadOf op t)) := by
  rw [requestOf_eq, if_pos h]

/-- `d.get(k)` on a value that may not be a dict: the member, if `j` is an object that has it. -/
def member (j : JVal) (k : String) : Option JVal :=
  match j with
  | .obj kvs => kvs.lookup k
  | _ => none

theorem subscript_obj (kvs : List (String × JVal)) (k : String) :
    subscript (.obj kvs) k = match kvs.lookup k with
      | some v => .ok v
      | none => .error (.keyError k) := rfl

theorem subscript_nonobj (j : JVal) (k : String) (h : ∀ kvs, j ≠ .obj kvs) :
    subscript j k = .error .typeError := by
  cases j with
  | obj kvs => exact absurd rfl (h kvs)
  | _ => rfl

theorem subscript_ok_iff (j : JVal) (k : String) (v : JVal) :
    subscript j k = .ok v ↔ member j k = some v := by
  cases j with
  | obj kvs => rw [subscript_obj, member]; cases kvs.lookup k <;> simp
  | _ => simp [subscript, member]

/-- A subscript yields the member, or — there being none — raises `KeyError` or `TypeError`. -/
theorem subscript_cases (j : JVal) (k : String) :
    (∃ v, subscript j k = .ok v ∧ member j k = some v) ∨
      ∃ e, subscript j k = .error e ∧ member j k = none ∧
        ((∃ k', e = .keyError k') ∨ e = .typeError) := by
  cases j with
  | obj kvs =>
    rw [subscript_obj, member]
    cases kvs.lookup k with
    | some v => exact .inl ⟨v, rfl, rfl⟩
    | none => exact .inr ⟨_, rfl, rfl, .inl ⟨k, rfl⟩⟩
  | _ => exact .inr ⟨_, rfl, rfl, .inr rfl⟩

/-- The five members `storeReply` reads: `a`, `c`, `sp` of the body `j`, and `i`, `n` of `sp`. -/
def Members (j a c sp i n : JVal) : Prop :=
  member j "accessToken" = some a ∧ member j "clientToken" = some c ∧
    member j "selectedProfile" = some sp ∧ member sp "id" = some i ∧ member sp "name" = some n

theorem storeReply_of_members (t : Token) {j a c sp i n : JVal} (h : Members j a c sp i n) :
    storeReply t j = (⟨t.username, a, c, ⟨i, n⟩⟩, .ret true) := by
  obtain ⟨h1, h2, h3, h4, h5⟩ := h
  simp only [storeReply, (subscript_ok_iff _ _ _).mpr h1, (subscript_ok_iff _ _ _).mpr h2,
    (subscript_ok_iff _ _ _).mpr h3, (subscript_ok_iff _ _ _).mpr h4,
    (subscript_ok_iff _ _ _).mpr h5]

/-- `storeReply` either finds all five members, stores them and returns `True`, or ends in the
`KeyError` / `TypeError` of the first subscript that fails. -/
theorem storeReply_cases (t : Token) (j : JVal) :
    (∃ a c sp i n, Members j a c sp i n ∧
      storeReply t j = (⟨t.username, a, c, ⟨i, n⟩⟩, .ret true)) ∨
    (∃ k, (storeReply t j).2 = .keyError k) ∨ (storeReply t j).2 = .typeError := by
  unfold storeReply
  rcases subscript_cases j "accessToken" with ⟨a, ha, ma⟩ | ⟨e, ha, _, he⟩
  case inr => rw [ha]; exact .inr he
  rcases subscript_cases j "clientToken" with ⟨c, hc, mc⟩ | ⟨e, hc, _, he⟩
  case inr => rw [ha, hc]; exact .inr he
  rcases subscript_cases j "selectedProfile" with ⟨sp, hs, ms⟩ | ⟨e, hs, _, he⟩
  case inr => rw [ha, hc, hs]; exact .inr he
  rcases subscript_cases sp "id" with ⟨i, hi, mi⟩ | ⟨e, hi, _, he⟩
  case inr => rw [ha, hc, hs]; simp only [hi]; exact .inr he
  rcases subscript_cases sp "name" with ⟨n, hn, mn⟩ | ⟨e, hn, _, he⟩
  case inr => rw [ha, hc, hs]; simp only [hi, hn]; exact .inr he
  rw [ha, hc, hs]; simp only [hi, hn]
  exact .inl ⟨a, c, sp, i, n, ⟨ma, mc, ms, mi, mn⟩, rfl⟩

theorem storeReply_true_iff (t : Token) (j : JVal) :
    (storeReply t j).2 = .ret true ↔
    ∃ a c sp i n, Members j a c sp i n ∧
      storeReply t j = (⟨t.username, a, c, ⟨i, n⟩⟩, .ret true) := by
  constructor
  · intro h
    rcases storeReply_cases t j with h' | ⟨k, h'⟩ | h'
    · exact h'
    · rw [h] at h'; cases h'
    · rw [h] at h'; cases h'
  · rintro ⟨_, _, _, _, _, _, h⟩; rw [h]

theorem raise_none_iff (r : Reply) : raiseFromResponse r = none ↔ r.status = 200 := by
  unfold raiseFromResponse
  by_cases h : r.status = 200
  · simp [h]
  · simp only [h, if_false]
    constructor
    · intro h'
      split at h'
      · split at h' <;> simp at h'
      · simp at h'
    · intro h'; exact absurd h' (by simp)

theorem raise_some_of_ne_200 (r : Reply) (h : r.status ≠ 200) :
    ∃ e, raiseFromResponse r = some e := by
  cases h' : raiseFromResponse r with
  | none => exact absurd ((raise_none_iff r).mp h') h
  | some e => exact ⟨e, rfl⟩

/-- Whatever `_raise_from_response` raises is a `YggdrasilError` with `args` and the status set. -/
theorem raise_some_shape (r : Reply) (e : Outcome) (h : raiseFromResponse r = some e) :
    r.status ≠ 200 ∧ ∃ msg er m c, e = .yggdrasil (some msg) (some r.status) er m c := by
  unfold raiseFromResponse at h
  by_cases hs : r.status = 200
  · simp [hs] at h
  · refine ⟨hs, ?_⟩
    simp only [hs, if_false] at h
    split at h
    · split at h <;> (simp only [Option.some.injEq] at h; exact ⟨_, _, _, _, h.symm⟩)
    · simp only [Option.some.injEq] at h; exact ⟨_, _, _, _, h.symm⟩

/-- Outcomes after which the caller expects nothing to have changed: a `YggdrasilError`, a
`ValueError`, an `AttributeError`, an exception of `requests.post`. -/
def Outcome.isRefusal : Outcome → Bool
  | .yggdrasil .. => true
  | .valueError _ => true
  | .attributeError => true
  | .transport => true
  | _ => false

/-- The only steps that can change a token: `authenticate` / `refresh` answered by a `200` response
whose body is JSON (decidable from the step alone). -/
def Storing : Op × Resp → Bool
  | (.authenticate _ _ _ _, .reply r) => r.status == 200 && r.json.isSome
  | (.refresh, .reply r) => r.status == 200 && r.json.isSome
  | _ => false

/-- `finishStore` either refuses and leaves the token as it was when the request was made, or — on a
`200` response whose body is JSON — is `storeReply`. -/
theorem finishStore_cases (t0 t1 : Token) (rsp : Resp) :
    ((finishStore t0 t1 rsp).1 = t0 ∧ (finishStore t0 t1 rsp).2.isRefusal = true) ∨
    ∃ r j, rsp = .reply r ∧ r.status = 200 ∧ r.json = some j ∧
      finishStore t0 t1 rsp = storeReply t1 j := by
  unfold finishStore
  cases rsp with
  | fail => exact .inl ⟨rfl, rfl⟩
  | reply r =>
    simp only []
    cases hr : raiseFromResponse r with
    | some e =>
      obtain ⟨_, _, _, _, _, rfl⟩ := raise_some_shape r e hr
      exact .inl ⟨rfl, rfl⟩
    | none =>
      cases hj : r.json with
      | none => exact .inl ⟨rfl, rfl⟩
      | some j => exact .inr ⟨r, j, rfl, (raise_none_iff r).mp hr, hj, rfl⟩

theorem finishStore_200 (t0 t1 : Token) (r : Reply) (j : JVal) (hs : r.status = 200)
    (hj : r.json = some j) : finishStore t0 t1 (.reply r) = storeReply t1 j := by
  simp only [finishStore, (raise_none_iff r).mpr hs, hj]

theorem storeReply_not_refusal (t : Token) (j : JVal) : (storeReply t j).2.isRefusal = false := by
  rcases storeReply_cases t j with ⟨_, _, _, _, _, _, h⟩ | ⟨k, h⟩ | h <;> rw [h] <;> rfl

/-- `authenticate` / `refresh` return `True` exactly on a `200` response whose JSON body has the five
members, which are then what the token holds. -/
theorem finishStore_true_iff (t0 t1 : Token) (rsp : Resp) :
    (finishStore t0 t1 rsp).2 = .ret true ↔
    ∃ r j a c sp i n, rsp = .reply r ∧ r.status = 200 ∧ r.json = some j ∧
      member j "accessToken" = some a ∧ member j "clientToken" = some c ∧
      member j "selectedProfile" = some sp ∧ member sp "id" = some i ∧ member sp "name" = some n ∧
      (finishStore t0 t1 rsp).1 = ⟨t1.username, a, c, ⟨i, n⟩⟩ := by
  constructor
  · intro h
    rcases finishStore_cases t0 t1 rsp with ⟨_, hr⟩ | ⟨r, j, hrsp, hs, hj, he⟩
    · rw [h] at hr; cases hr
    · rw [he] at h ⊢
      obtain ⟨a, c, sp, i, n, ⟨h1, h2, h3, h4, h5⟩, hst⟩ := (storeReply_true_iff t1 j).mp h
      exact ⟨r, j, a, c, sp, i, n, hrsp, hs, hj, h1, h2, h3, h4, h5, by rw [hst]⟩
  · rintro ⟨r, j, a, c, sp, i, n, rfl, hs, hj, h1, h2, h3, h4, h5, _⟩
    rw [finishStore_200 t0 t1 r j hs hj, storeReply_of_members t1 ⟨h1, h2, h3, h4, h5⟩]

/-- `invalidate` / `join` once the request is made: `True` exactly on `204` and `200`; otherwise
the failure of `requests.post`, or the `YggdrasilError` of `_raise_from_response`. -/
theorem finish204_snd (t : Token) (rsp : Resp) :
    ((finish204 t rsp).2 = .ret true ∧ ∃ r, rsp = .reply r ∧ (r.status = 204 ∨ r.status = 200)) ∨
    (((finish204 t rsp).2 = .transport ∨
        ∃ a st e m c, (finish204 t rsp).2 = .yggdrasil a st e m c) ∧
      ¬ ∃ r, rsp = .reply r ∧ (r.status = 204 ∨ r.status = 200)) := by
  unfold finish204
  cases rsp with
  | fail => exact .inr ⟨.inl rfl, fun ⟨_, h, _⟩ => nomatch h⟩
  | reply r =>
    by_cases h204 : r.status = 204
    · exact .inl ⟨by simp [h204], r, rfl, .inl h204⟩
    · cases hr : raiseFromResponse r with
      | none => exact .inl ⟨by simp [h204, hr], r, rfl, .inr ((raise_none_iff r).mp hr)⟩
      | some e =>
        obtain ⟨h200, _, _, _, _, rfl⟩ := raise_some_shape r e hr
        refine .inr ⟨.inr ⟨_, _, _, _, _, by simp only [h204, hr, ne_eq, not_false_eq_true, if_true]; rfl⟩, ?_⟩
        rintro ⟨r', h, h'⟩
        cases h
        exact h'.elim h204 h200
theorem finish204_fst (t : Token) (rsp : Resp) : (finish204 t rsp).1 = t := by
  unfold finish204
  cases rsp with
  | fail => rfl
  | reply r =>
    by_cases h : r.status = 204 <;> cases hr : raiseFromResponse r <;> simp [h, hr]

/-- What happens with the response leaves the token as it was, unless the step is `Storing` — and
then it does not end in a refusal. -/
theorem finish_cases (op : Op) (t : Token) (rsp : Resp) :
    (finish op t rsp).1 = t ∨
    (Storing (op, rsp) = true ∧ (finish op t rsp).2.isRefusal = false) := by
  have store : ∀ t1, (finishStore t t1 rsp).1 = t ∨
      ((∃ r, rsp = .reply r ∧ (r.status == 200 && r.json.isSome) = true) ∧
        (finishStore t t1 rsp).2.isRefusal = false) := by
    intro t1
    rcases finishStore_cases t t1 rsp with ⟨h, _⟩ | ⟨r, j, hrsp, hs, hj, he⟩
    · exact .inl h
    · exact .inr ⟨⟨r, hrsp, by simp [hs, hj]⟩, by rw [he]; exact storeReply_not_refusal t1 j⟩
  cases op with
  | authenticate fresh user pass inv =>
    rcases store { t with username := .str user } with h | ⟨⟨r, rfl, hr⟩, h⟩
    · exact .inl h
    · exact .inr ⟨hr, h⟩
  | refresh =>
    rcases store t with h | ⟨⟨r, rfl, hr⟩, h⟩
    · exact .inl h
    · exact .inr ⟨hr, h⟩
  | validate =>
    refine .inl ?_
    simp only [finish]
    cases rsp with
    | fail => rfl
    | reply r => simp only []; split <;> rfl
  | invalidate => exact .inl (finish204_fst t rsp)
  | join sid => exact .inl (finish204_fst t rsp)

theorem run_cases (op : Op) (net : Request → Resp) (t : Token) :
    (run op net t).1 = t ∨
    ∃ q, requestOf op t = some q ∧ Storing (op, net q) = true ∧
      (run op net t).2.1.isRefusal = false := by
  rw [run_factor, requestOf]
  cases prepare op t with
  | error e => exact .inl rfl
  | ok q =>
    rcases finish_cases op t (net q) with h | ⟨h1, h2⟩
    · exact .inl h
    · exact .inr ⟨q, rfl, h1, h2⟩

theorem run_not_storing (op : Op) (rsp : Resp) (t : Token) (h : Storing (op, rsp) = false) :
    (run op (fun _ => rsp) t).1 = t := by
  rcases run_cases op (fun _ => rsp) t with h' | ⟨_, _, h', _⟩
  · exact h'
  · rw [h] at h'; cases h'

theorem run_fst_of_not_store (op : Op) (net : Request → Resp) (t : Token)
    (h : ∀ f u p i, op ≠ .authenticate f u p i) (h' : op ≠ .refresh) : (run op net t).1 = t := by
  rcases run_cases op net t with h1 | ⟨q, _, h1, _⟩
  · exact h1
  · cases op with
    | authenticate f u p i => exact absurd rfl (h f u p i)
    | refresh => exact absurd rfl h'
    | _ => cases h1

theorem run_refusal (op : Op) (net : Request → Resp) (t : Token)
    (h : (run op net t).2.1.isRefusal = true) : (run op net t).1 = t := by
  rcases run_cases op net t with h1 | ⟨_, _, _, h1⟩
  · exact h1
  · rw [h] at h1; cases h1

/-- Every token refers to an existing profile object, and no two tokens refer to the same one. -/
def NoAlias (w : World) : Prop :=
  (∀ (i : Nat) (o : TokenObj), w.tokens[i]? = some o → o.profileRef < w.profiles.length) ∧
  (∀ (i j : Nat) (oi oj : TokenObj), w.tokens[i]? = some oi → w.tokens[j]? = some oj →
    oi.profileRef = oj.profileRef → i = j)

theorem noAlias_empty : NoAlias World.empty := by
  constructor <;> intro i <;> simp [World.empty]

theorem noAlias_newToken (w : World) (u a c : JVal) (h : NoAlias w) :
    NoAlias (w.newToken u a c) := by
  obtain ⟨h1, h2⟩ := h
  have key : ∀ i o, (w.tokens ++ [(⟨u, a, c, w.profiles.length⟩ : TokenObj)])[i]? = some o →
      (w.tokens[i]? = some o ∧ i < w.tokens.length) ∨
      (i = w.tokens.length ∧ o = ⟨u, a, c, w.profiles.length⟩) := by
    intro i o hi
    rcases Nat.lt_trichotomy i w.tokens.length with hlt | rfl | hgt
    · exact .inl ⟨by rwa [List.getElem?_append_left hlt] at hi, hlt⟩
    · rw [List.getElem?_concat_length] at hi; exact .inr ⟨rfl, (Option.some.inj hi).symm⟩
    · rw [List.getElem?_eq_none (by simp; omega)] at hi; cases hi
  constructor
  · intro i o hi
    simp only [World.newToken, List.length_append, List.length_cons, List.length_nil]
    rcases key i o hi with ⟨h', _⟩ | ⟨_, rfl⟩
    · have := h1 i o h'; omega
    · simp
  · intro i j oi oj hi hj href
    rcases key i oi hi with ⟨hi', hil⟩ | ⟨hi', rfl⟩ <;> rcases key j oj hj with ⟨hj', hjl⟩ | ⟨hj', rfl⟩
    · exact h2 i j oi oj hi' hj' href
    · have := h1 i oi hi'; simp at href; omega
    · have := h1 j oj hj'; simp at href; omega
    · omega

theorem store_tokens_length (w : World) (i : Nat) (t : Token) :
    (w.store i t).tokens.length = w.tokens.length ∧
    (w.store i t).profiles.length = w.profiles.length := by
  unfold World.store
  cases w.tokens[i]? <;> simp

theorem store_profileRef (w : World) (i : Nat) (t : Token) (j : Nat) :
    ((w.store i t).tokens[j]?).map (·.profileRef) = (w.tokens[j]?).map (·.profileRef) := by
  unfold World.store
  cases hi : w.tokens[i]? with
  | none => rfl
  | some o =>
    simp only [List.getElem?_set]
    split
    · next h =>
      subst h
      obtain ⟨hlt, rfl⟩ := List.getElem?_eq_some_iff.mp hi
      simp [hlt]
    · rfl

theorem noAlias_store (w : World) (i : Nat) (t : Token) (h : NoAlias w) :
    NoAlias (w.store i t) := by
  obtain ⟨h1, h2⟩ := h
  have ref : ∀ (j : Nat) (o : TokenObj), (w.store i t).tokens[j]? = some o →
      ∃ o' : TokenObj, w.tokens[j]? = some o' ∧ o'.profileRef = o.profileRef := by
    intro j o hj
    have := store_profileRef w i t j
    rw [hj] at this
    cases hw : w.tokens[j]? with
    | none => rw [hw] at this; simp at this
    | some o' => rw [hw] at this; simp at this; exact ⟨o', rfl, this.symm⟩
  constructor
  · intro j o hj
    obtain ⟨o', ho', hr⟩ := ref j o hj
    rw [(store_tokens_length w i t).2, ← hr]
    exact h1 j o' ho'
  · intro j k oj ok hj hk href
    obtain ⟨oj', hoj', hrj⟩ := ref j oj hj
    obtain ⟨ok', hok', hrk⟩ := ref k ok hk
    exact h2 j k oj' ok' hoj' hok' (by rw [hrj, hrk, href])

theorem view_of_token (w : World) (i : Nat) (o : TokenObj) (hi : w.tokens[i]? = some o) :
    w.view i = (w.profiles[o.profileRef]?).map
      (fun p => ⟨o.username, o.accessToken, o.clientToken, p⟩) := by
  unfold World.view; rw [hi]; cases hp : w.profiles[o.profileRef]? <;> simp [hp]

theorem view_none_of_token (w : World) (i : Nat) (hi : w.tokens[i]? = none) : w.view i = none := by
  unfold World.view; rw [hi]

/-- After a method of token `i` wrote back `t`, token `i` shows `t`. -/
theorem view_store_self (w : World) (i : Nat) (t t0 : Token) (h : NoAlias w)
    (hv : w.view i = some t0) : (w.store i t).view i = some t := by
  cases hi : w.tokens[i]? with
  | none => rw [view_none_of_token w i hi] at hv; simp at hv
  | some o =>
    have hlt : i < w.tokens.length := (List.getElem?_eq_some_iff.mp hi).1
    have hp := h.1 i o hi
    have hget : w.tokens[i] = o := (List.getElem?_eq_some_iff.mp hi).2
    have hnew : (w.store i t).tokens[i]? =
        some ⟨t.username, t.accessToken, t.clientToken, o.profileRef⟩ := by
      simp [World.store, hlt, hget]
    rw [view_of_token _ i _ hnew]
    simp [World.store, hi, hp]

/-- … and every OTHER token shows what it showed before — provided no profile object is shared. -/
theorem view_store_other (w : World) (i j : Nat) (t : Token) (h : NoAlias w) (hij : i ≠ j) :
    (w.store i t).view j = w.view j := by
  cases hi : w.tokens[i]? with
  | none => simp [World.store, hi]
  | some o =>
    cases hj : w.tokens[j]? with
    | none =>
      rw [view_none_of_token w j hj, view_none_of_token]
      simp [World.store, hi, hij, hj]
    | some oj =>
      have hne : o.profileRef ≠ oj.profileRef := fun e => hij (h.2 i j o oj hi hj e)
      have hnew : (w.store i t).tokens[j]? = some oj := by
        simp [World.store, hi, hij, hj]
      rw [view_of_token _ j _ hnew, view_of_token w j oj hj]
      simp [World.store, hi, hne]

theorem store_view_self (w : World) (i : Nat) (t : Token) (hv : w.view i = some t) :
    w.store i t = w := by
  cases hi : w.tokens[i]? with
  | none => simp [World.store, hi]
  | some o =>
    rw [view_of_token w i o hi] at hv
    cases hp : w.profiles[o.profileRef]? with
    | none => rw [hp] at hv; cases hv
    | some p =>
      rw [hp] at hv; cases hv
      obtain ⟨hlt, rfl⟩ := List.getElem?_eq_some_iff.mp hi
      obtain ⟨hlt', rfl⟩ := List.getElem?_eq_some_iff.mp hp
      simp only [World.store, hi]
      rw [List.set_getElem_self]
      exact congrArg (World.mk w.profiles) (List.set_getElem_self hlt)

theorem view_newToken_new (w : World) (u a c : JVal) :
    (w.newToken u a c).view w.tokens.length = some ⟨u, a, c, ⟨.null, .null⟩⟩ := by
  have h : (w.newToken u a c).tokens[w.tokens.length]? = some ⟨u, a, c, w.profiles.length⟩ := by
    simp [World.newToken]
  rw [view_of_token _ _ _ h]
  simp [World.newToken]

theorem view_newToken_old (w : World) (u a c : JVal) (h : NoAlias w) (j : Nat)
    (hj : j < w.tokens.length) : (w.newToken u a c).view j = w.view j := by
  have hget : w.tokens[j]? = some w.tokens[j] := List.getElem?_eq_getElem hj
  have hnew : (w.newToken u a c).tokens[j]? = some w.tokens[j] := by
    simp [World.newToken, List.getElem?_append_left hj]
  have hp := h.1 j _ hget
  rw [view_of_token _ _ _ hnew, view_of_token _ _ _ hget]
  simp [World.newToken, List.getElem?_append_left hp]

/-- The request a call sends, if any. -/
def World.requestOf (w : World) (c : Call) : Option Request :=
  match c with
  | .method i op => (w.view i).bind (AuthSeq.requestOf op)
  | .signOut user pass =>
    some (makeRequest AUTH_SERVER "signout" (.obj [("username", .str user), ("password", .str pass)]))

theorem signOut_snd (net : Request → Resp) (user pass : String) :
    (signOut net user pass).2 =
      makeRequest AUTH_SERVER "signout" (.obj [("username", .str user), ("password", .str pass)]) := by
  unfold signOut
  simp only []
  split
  · rfl
  · split <;> rfl

theorem call_request (w : World) (c : Call) (net : Request → Resp) :
    Obs.request (w.call c net).2 = w.requestOf c := by
  cases c with
  | method i op =>
    simp only [World.call, World.requestOf]
    cases w.view i with
    | none => rfl
    | some t => simp [Obs.request, run_request]
  | signOut user pass => simp [World.call, World.requestOf, Obs.request, signOut_snd]

theorem call_congr (w : World) (c : Call) (net net' : Request → Resp)
    (h : ∀ q, w.requestOf c = some q → net q = net' q) : w.call c net = w.call c net' := by
  cases c with
  | method i op =>
    simp only [World.call]
    cases hv : w.view i with
    | none => rfl
    | some t =>
      simp only []
      rw [run_congr op net net' t (fun q hq => h q (by simp [World.requestOf, hv, hq]))]
  | signOut user pass =>
    have := h _ (rfl : w.requestOf (.signOut user pass) = some _)
    simp only [World.call, signOut, this]

theorem noAlias_call (w : World) (c : Call) (net : Request → Resp) (h : NoAlias w) :
    NoAlias (w.call c net).1 := by
  cases c with
  | method i op =>
    simp only [World.call]
    cases w.view i with
    | none => exact h
    | some t => exact noAlias_store _ _ _ h
  | signOut user pass => exact h

theorem call_refusal (w : World) (c : Call) (net : Request → Resp) (o : Outcome)
    (q : Option Request) (h : (w.call c net).2 = some (o, q)) (ho : o.isRefusal = true) :
    (w.call c net).1 = w := by
  cases c with
  | method i op =>
    simp only [World.call] at h ⊢
    cases hv : w.view i with
    | none => rfl
    | some t =>
      rw [hv] at h
      simp only [Option.some.injEq, Prod.mk.injEq] at h
      have := run_refusal op net t (by rw [h.1]; exact ho)
      simp only []
      rw [this]
      exact store_view_self w i t hv
  | signOut user pass => rfl

theorem runSeq_append (w : World) (a b : List (Call × Resp)) :
    runSeq w (a ++ b) =
      ((runSeq (runSeq w a).1 b).1, (runSeq w a).2 ++ (runSeq (runSeq w a).1 b).2) := by
  induction a generalizing w with
  | nil => simp [runSeq]
  | cons s a ih => obtain ⟨c, rsp⟩ := s; simp [runSeq, ih]

theorem runTok_append (t : Token) (a b : List (Op × Resp)) :
    runTok t (a ++ b) =
      ((runTok (runTok t a).1 b).1, (runTok t a).2 ++ (runTok (runTok t a).1 b).2) := by
  induction a generalizing t with
  | nil => simp [runTok]
  | cons s a ih => obtain ⟨op, rsp⟩ := s; simp [runTok, ih]

theorem noAlias_runSeq (w : World) (steps : List (Call × Resp)) (h : NoAlias w) :
    NoAlias (runSeq w steps).1 := by
  induction steps generalizing w with
  | nil => exact h
  | cons s steps ih => obtain ⟨c, rsp⟩ := s; exact ih _ (noAlias_call w c _ h)

/-- The calls of a history that are methods of token `j`. -/
def stepsFor (j : Nat) : List (Call × Resp) → List (Op × Resp)
  | [] => []
  | (.method i op, rsp) :: rest => if i = j then (op, rsp) :: stepsFor j rest else stepsFor j rest
  | (.signOut _ _, _) :: rest => stepsFor j rest

/-- The observations of a history that belong to methods of token `j`. -/
def obsFor (j : Nat) : List (Call × Resp) → List Obs → List Obs
  | (.method i _, _) :: rest, o :: os => if i = j then o :: obsFor j rest os else obsFor j rest os
  | (.signOut _ _, _) :: rest, _ :: os => obsFor j rest os
  | _, _ => []

theorem view_call_self (w : World) (i : Nat) (op : Op) (net : Request → Resp) (t : Token)
    (h : NoAlias w) (hv : w.view i = some t) :
    (w.call (.method i op) net).1.view i = some (run op net t).1 ∧
    (w.call (.method i op) net).2 = some ((run op net t).2.1, (run op net t).2.2) := by
  simp only [World.call, hv]
  exact ⟨view_store_self w i _ t h hv, trivial⟩

theorem view_call_other (w : World) (c : Call) (net : Request → Resp) (j : Nat) (h : NoAlias w)
    (hc : ∀ op, c ≠ .method j op) : (w.call c net).1.view j = w.view j := by
  cases c with
  | method i op =>
    have hij : i ≠ j := fun e => hc op (by rw [e])
    simp only [World.call]
    cases w.view i with
    | none => rfl
    | some t => exact view_store_other w i j _ h hij
  | signOut user pass => rfl

theorem view_call_none (w : World) (c : Call) (net : Request → Resp) (j : Nat)
    (hv : w.view j = none) (h : NoAlias w) : (w.call c net).1.view j = none := by
  cases c with
  | method i op =>
    by_cases hij : i = j
    · subst hij; simp [World.call, hv]
    · rw [view_call_other w _ net j h (fun op' e => hij (by cases e; rfl)), hv]
  | signOut user pass => exact hv

theorem runSeq_view_none (w : World) (steps : List (Call × Resp)) (j : Nat) (h : NoAlias w)
    (hv : w.view j = none) : (runSeq w steps).1.view j = none := by
  induction steps generalizing w with
  | nil => exact hv
  | cons s steps ih =>
    obtain ⟨c, rsp⟩ := s
    exact ih _ (noAlias_call w c _ h) (view_call_none w c _ j hv h)

/-- Token `j` at the end of a history, and everything observed of its calls, is what its own calls
alone produce. -/
theorem runSeq_view_some (w : World) (steps : List (Call × Resp)) (j : Nat) (t : Token)
    (h : NoAlias w) (hv : w.view j = some t) :
    (runSeq w steps).1.view j = some (runTok t (stepsFor j steps)).1 ∧
    obsFor j steps (runSeq w steps).2 = (runTok t (stepsFor j steps)).2.map some := by
  induction steps generalizing w t with
  | nil => exact ⟨hv, rfl⟩
  | cons s steps ih =>
    obtain ⟨c, rsp⟩ := s
    cases c with
    | method i op =>
      by_cases hij : i = j
      · subst hij
        obtain ⟨h1, h2⟩ := view_call_self w i op (fun _ => rsp) t h hv
        have := ih _ _ (noAlias_call w _ _ h) h1
        simp only [runSeq, stepsFor, if_true, runTok, obsFor, List.map_cons, h2]
        exact ⟨this.1, by rw [this.2]⟩
      · have h1 := view_call_other w (.method i op) (fun _ => rsp) j h
          (fun op' e => hij (by cases e; rfl))
        have := ih _ t (noAlias_call w _ _ h) (h1.trans hv)
        simp only [runSeq, stepsFor, hij, if_false, obsFor]
        exact this
    | signOut user pass =>
      have := ih w t h hv
      simp only [runSeq, stepsFor, obsFor, World.call]
      exact this

theorem runTok_filter_storing (t : Token) (hist : List (Op × Resp)) :
    (runTok t hist).1 = (runTok t (hist.filter Storing)).1 ∧
    ((hist.zip (runTok t hist).2).filter (fun p => Storing p.1)).map (·.2) =
      (runTok t (hist.filter Storing)).2 := by
  induction hist generalizing t with
  | nil => exact ⟨rfl, rfl⟩
  | cons s hist ih =>
    obtain ⟨op, rsp⟩ := s
    cases hs : Storing (op, rsp) with
    | true =>
      simp only [runTok, List.filter_cons, hs, if_true, List.zip_cons_cons, List.map_cons]
      exact ⟨(ih _).1, by rw [(ih _).2]⟩
    | false =>
      have := run_not_storing op rsp t hs
      simp only [runTok, List.filter_cons, hs, List.zip_cons_cons, this]
      exact ih t

theorem runTok_all_inert (t : Token) (hist : List (Op × Resp))
    (h : ∀ s ∈ hist, Storing s = false) : (runTok t hist).1 = t := by
  rw [(runTok_filter_storing t hist).1]
  have : hist.filter Storing = [] := by
    rw [List.filter_eq_nil_iff]; intro s hs; simp [h s hs]
  rw [this]; rfl

theorem runTok_length (t : Token) (hist : List (Op × Resp)) :
    (runTok t hist).2.length = hist.length := by
  induction hist generalizing t with
  | nil => rfl
  | cons s hist ih => obtain ⟨op, rsp⟩ := s; simp [runTok, ih]

theorem runSvc_eq_runSeq {σ : Type} (svc : Service σ) (s : σ) (w : World) (calls : List Call) :
    ∃ resps : List Resp, resps.length = calls.length ∧
      (runSvc svc s w calls).2 = runSeq w (calls.zip resps) := by
  induction calls generalizing s w with
  | nil => exact ⟨[], rfl, rfl⟩
  | cons c calls ih =>
    let rsp : Resp := match w.requestOf c with
      | some q => (svc.handle s q).2
      | none => .fail
    have hc : w.call c (fun q => (svc.handle s q).2) = w.call c (fun _ => rsp) := by
      apply call_congr
      intro q hq
      simp only [rsp, hq]
    obtain ⟨resps, hl, hr⟩ := ih
      (svc.advance s (Obs.request (w.call c (fun q => (svc.handle s q).2)).2))
      (w.call c (fun q => (svc.handle s q).2)).1
    refine ⟨rsp :: resps, by simp [hl], ?_⟩
    simp only [runSvc, List.zip_cons_cons, runSeq, ← hc]
    rw [hr]

/-- Tokens made by the real constructor: no shared profile objects, and each shows its constructor
arguments and an empty profile. -/
theorem build_newToken_spec (inits : List (JVal × JVal × JVal)) :
    NoAlias (build World.newToken inits) ∧
    (build World.newToken inits).tokens.length = inits.length ∧
    ∀ j x, inits[j]? = some x →
      (build World.newToken inits).view j = some ⟨x.1, x.2.1, x.2.2, ⟨.null, .null⟩⟩ := by
  have gen : ∀ (inits : List (JVal × JVal × JVal)) (w : World), NoAlias w →
      let w' := inits.foldl (fun w x => World.newToken w x.1 x.2.1 x.2.2) w
      NoAlias w' ∧ w'.tokens.length = w.tokens.length + inits.length ∧
      (∀ j, j < w.tokens.length → w'.view j = w.view j) ∧
      ∀ j x, inits[j]? = some x →
        w'.view (w.tokens.length + j) = some ⟨x.1, x.2.1, x.2.2, ⟨.null, .null⟩⟩ := by
    intro inits
    induction inits with
    | nil => intro w hw; exact ⟨hw, rfl, fun _ _ => rfl, fun j x h => by simp at h⟩
    | cons y inits ih =>
      intro w hw
      have hw' := noAlias_newToken w y.1 y.2.1 y.2.2 hw
      have hlen : (w.newToken y.1 y.2.1 y.2.2).tokens.length = w.tokens.length + 1 := by
        simp [World.newToken]
      obtain ⟨h1, h2, h3, h4⟩ := ih _ hw'
      refine ⟨h1, by rw [List.foldl_cons, h2, hlen]; simp; omega, ?_, ?_⟩
      · intro j hj
        rw [List.foldl_cons, h3 j (by omega)]
        exact view_newToken_old w _ _ _ hw j hj
      · intro j x hx
        cases j with
        | zero =>
          simp only [List.getElem?_cons_zero, Option.some.injEq] at hx
          subst hx
          rw [List.foldl_cons, Nat.add_zero, h3 _ (by omega)]
          exact view_newToken_new w _ _ _
        | succ j =>
          simp only [List.getElem?_cons_succ] at hx
          have := h4 j x hx
          rw [hlen] at this
          rw [List.foldl_cons, ← this]
          congr 1; omega
  obtain ⟨h1, h2, _, h4⟩ := gen inits World.empty noAlias_empty
  refine ⟨h1, by simpa [World.empty, build] using h2, fun j x hx => ?_⟩
  have := h4 j x hx
  simpa [World.empty, build] using this

/-- Server, endpoint and payload of the request a call sends, if any. -/
def World.partsOf (w : World) (c : Call) : Option (String × String × JVal) :=
  match c with
  | .method i op => (w.view i).bind fun t =>
      if ready op t = true then some ((target op).1, (target op).2, payloadOf op t) else none
  | .signOut user pass =>
    some (AUTH_SERVER, "signout", .obj [("username", .str user), ("password", .str pass)])

/-- What was observed of one call: an entry of `LiveRun.seen`. -/
abbrev Seen := Option (Outcome × Option String × Option Request)

/-- The request with these parts is the observed one; the body is compared as characters with
`dumps` of the payload, so that the text is not built. -/
def reqMatches : Option (String × String × JVal) → Option Request → Bool
  | none, none => true
  | some (s, e, d), some q =>
    q.method == "POST" && q.url == s ++ "/" ++ e && q.headers == HEADERS && q.timeout == TIMEOUT &&
      dumps d == decodeUtf8 q.body.toByteArray.data.toList
  | _, _ => false

def entryOk (parts : Option (String × String × JVal)) :
    Obs → Seen → Bool
  | none, none => true
  | some (o, _), some (so, stxt, sq) =>
    o.eraseMsg == so && o.argsText (fun _ => "") == stxt && reqMatches parts sq
  | _, _ => false

def checkSeq (w : World) :
    List (Call × Resp) → List (Seen) → Bool
  | [], [] => true
  | (c, rsp) :: rest, s :: ss =>
    entryOk (w.partsOf c) (w.call c (fun _ => rsp)).2 s &&
      checkSeq (w.call c (fun _ => rsp)).1 rest ss
  | _, _ => false

theorem World.partsOf_request (w : World) (c : Call) :
    w.requestOf c = (w.partsOf c).map fun p => makeRequest p.1 p.2.1 p.2.2 := by
  cases c with
  | method i op =>
    simp only [World.requestOf, World.partsOf]
    cases w.view i with
    | none => rfl
    | some t => simp only [Option.bind_some, requestOf_eq]; split <;> rfl
  | signOut user pass => rfl

theorem reqMatches_sound (p : Option (String × String × JVal)) (q : Option Request)
    (h : reqMatches p q = true) : (p.map fun p => makeRequest p.1 p.2.1 p.2.2) = q := by
  match p, q with
  | none, none => rfl
  | some (s, e, d), some ⟨m, u, hd, b, t⟩ =>
    simp only [reqMatches, Bool.and_eq_true, beq_iff_eq] at h
    obtain ⟨⟨⟨⟨h1, h2⟩, h3⟩, h4⟩, h5⟩ := h
    simp only [Option.map_some, makeRequest, Option.some.injEq, Request.mk.injEq]
    exact ⟨h1.symm, h2.symm, h3.symm, (jsonDumps_eq_iff d b).mpr h5, h4.symm⟩
  | none, some _ => cases h
  | some _, none => cases h

theorem entryOk_sound (parts : Option (String × String × JVal)) (obs : Obs)
    (s : Seen)
    (hreq : Obs.request obs = parts.map fun p => makeRequest p.1 p.2.1 p.2.2)
    (h : entryOk parts obs s = true) :
    obs.map (fun p => (p.1.eraseMsg, p.1.argsText (fun _ => ""), p.2)) = s := by
  match obs, s with
  | none, none => rfl
  | some (o, q), some (so, stxt, sq) =>
    simp only [entryOk, Bool.and_eq_true, beq_iff_eq] at h
    obtain ⟨⟨h1, h2⟩, h3⟩ := h
    have hq : q = sq := hreq.trans (reqMatches_sound _ _ h3)
    simp only [Option.map_some, h1, h2, hq]
  | none, some _ => cases h
  | some _, none => cases h

theorem checkSeq_sound (w : World) (steps : List (Call × Resp))
    (seen : List (Seen))
    (h : checkSeq w steps seen = true) :
    (runSeq w steps).2.map
      (fun o => o.map (fun p => (p.1.eraseMsg, p.1.argsText (fun _ => ""), p.2))) = seen := by
  induction steps generalizing w seen with
  | nil =>
    cases seen with
    | nil => rfl
    | cons _ _ => cases h
  | cons st rest ih =>
    obtain ⟨c, rsp⟩ := st
    cases seen with
    | nil => cases h
    | cons s ss =>
      simp only [checkSeq, Bool.and_eq_true] at h
      simp only [runSeq, List.map_cons]
      rw [entryOk_sound _ _ _ (by rw [call_request, World.partsOf_request]) h.1, ih _ _ h.2]

theorem LiveRun.check_of (r : LiveRun)
    (h : checkSeq (build World.newToken r.inits) r.steps r.seen = true ∧
      r.predicted.2 = r.final.map some) : r.check = true :=
  decide_eq_true (Prod.ext (checkSeq_sound _ _ _ h.1) h.2)

end PyCraft.AuthSeq
