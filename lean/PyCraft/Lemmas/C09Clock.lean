import PyCraft.Model.C09Clock
import PyCraft.Lemmas.Basic
/-!
Helper lemmas and specification vocabulary for `Props/C09Clock.lean`.
-/
namespace PyCraft.C09Clock
open PyCraft

/-! ### Specification vocabulary -/

/-- A conversion is monotone non-decreasing on (valid) readings. -/
def MonotoneConv (f : Reading → Int) : Prop :=
  ∀ a b : Reading, a.Valid → b.Valid → a ≤ b → f a ≤ f b

/-- The numerator of `1000 · (t₁ − t₀)` over the common denominator `t₀.den * t₁.den`: the elapsed
time in milliseconds is `scaledElapsedNum t₀ t₁ / (t₀.den * t₁.den)`. -/
def scaledElapsedNum (t₀ t₁ : Reading) : Int :=
  1000 * ((t₁.num : Int) * t₀.den) - 1000 * ((t₀.num : Int) * t₁.den)

/-- The millisecond boundary `k` (the instant `k / 1000` s) lies in the half-open interval
`(t₀, t₁]`: `1000·t₀ < k ≤ 1000·t₁`. -/
def crosses (t₀ t₁ : Reading) (k : Nat) : Bool :=
  decide (1000 * t₀.num < k * t₀.den) && decide (k * t₁.den ≤ 1000 * t₁.num)

/-- How many millisecond boundaries lie in `(t₀, t₁]`.  (Every such boundary is `≤ ⌊1000·t₁⌋`:
`crosses_lt`.) -/
def boundariesCrossed (t₀ t₁ : Reading) : Nat :=
  (List.range (millisFloor t₁ + 1)).countP (crosses t₀ t₁)

/-- If the pong site converts monotonically and the ping site never stamps more than `c` above what
the pong site would at the same reading, a monotonic clock never reports less than `−c`. -/
theorem latency_ge_of_dominated (f g : Reading → Int) (c : Int) (hg : MonotoneConv g)
    (hfg : ∀ t, f t ≤ g t + c) (t₀ t₁ : Reading) (h₀ : t₀.Valid) (h₁ : t₁.Valid) (h : t₀ ≤ t₁) :
    -c ≤ latency f g t₀ t₁ := by
  have := hg t₀ t₁ h₀ h₁ h
  have := hfg t₀
  simp only [latency, pongLatency, pingStamp]
  omega

/-! ### Floor -/

theorem floor_spec (t : Reading) :
    1000 * t.num = t.den * millisFloor t + millisRem t := by
  unfold millisFloor millisRem
  exact (Nat.div_add_mod _ _).symm

theorem rem_lt (t : Reading) (h : t.Valid) : millisRem t < t.den := Nat.mod_lt _ h

theorem le_floor_iff (t : Reading) (h : t.Valid) (k : Nat) :
    k ≤ millisFloor t ↔ k * t.den ≤ 1000 * t.num := by
  unfold millisFloor
  exact Nat.le_div_iff_mul_le h

theorem floor_lt_iff (t : Reading) (h : t.Valid) (k : Nat) :
    millisFloor t < k ↔ 1000 * t.num < k * t.den := by
  unfold millisFloor
  exact Nat.div_lt_iff_lt_mul h

theorem floor_eq_iff (t : Reading) (h : t.Valid) (k : Nat) :
    millisFloor t = k ↔ k * t.den ≤ 1000 * t.num ∧ 1000 * t.num < (k + 1) * t.den := by
  rw [← le_floor_iff t h, ← floor_lt_iff t h]
  omega

theorem floor_mono (a b : Reading) (ha : a.Valid) (hb : b.Valid) (h : a ≤ b) :
    millisFloor a ≤ millisFloor b := by
  rw [le_floor_iff b hb]
  have h1 : millisFloor a * a.den ≤ 1000 * a.num := (le_floor_iff a ha _).1 (Nat.le_refl _)
  have h2 : a.num * b.den ≤ b.num * a.den := h
  apply Nat.le_of_mul_le_mul_right _ ha
  calc millisFloor a * b.den * a.den
      = millisFloor a * a.den * b.den := by rw [Nat.mul_right_comm]
    _ ≤ 1000 * a.num * b.den := Nat.mul_le_mul_right _ h1
    _ = 1000 * (a.num * b.den) := Nat.mul_assoc _ _ _
    _ ≤ 1000 * (b.num * a.den) := Nat.mul_le_mul_left _ h2
    _ = 1000 * b.num * a.den := (Nat.mul_assoc _ _ _).symm

/-- With equal floors, the order of two readings is the order of their fractional parts. -/
theorem rem_cross_le (a b : Reading) (h : a ≤ b) (hq : millisFloor a = millisFloor b) :
    millisRem a * b.den ≤ millisRem b * a.den := by
  have h2 : a.num * b.den ≤ b.num * a.den := h
  have h3 : 1000 * a.num * b.den ≤ 1000 * b.num * a.den := by
    rw [Nat.mul_assoc, Nat.mul_assoc]; exact Nat.mul_le_mul_left _ h2
  rw [floor_spec a, floor_spec b, hq, Nat.add_mul, Nat.add_mul] at h3
  have h4 : a.den * millisFloor b * b.den = b.den * millisFloor b * a.den := by
    rw [Nat.mul_right_comm, Nat.mul_comm a.den b.den, Nat.mul_right_comm]
  omega

/-! ### Round half even -/

theorem round_eq (t : Reading) :
    millisRoundHalfEven t = millisFloor t + (if roundsUp t then 1 else 0) := by
  unfold millisRoundHalfEven
  split <;> rfl

theorem floor_le_round (t : Reading) : millisFloor t ≤ millisRoundHalfEven t := by
  rw [round_eq]; omega

theorem round_le_floor_succ (t : Reading) : millisRoundHalfEven t ≤ millisFloor t + 1 := by
  rw [round_eq]; split <;> omega

theorem truncConv_le_roundConv (t : Reading) : truncConv t ≤ roundConv t + 0 := by
  have := floor_le_round t
  simp only [roundConv, truncConv]
  omega

theorem roundConv_le_truncConv_succ (t : Reading) : roundConv t ≤ truncConv t + 1 := by
  have := round_le_floor_succ t
  simp only [roundConv, truncConv]
  omega

theorem roundsUp_iff (t : Reading) :
    roundsUp t = true ↔
      t.den < 2 * millisRem t ∨ (2 * millisRem t = t.den ∧ millisFloor t % 2 = 1) := by
  simp [roundsUp]

/-- Within one millisecond, rounding up is monotone in the reading. -/
theorem roundsUp_mono (a b : Reading) (ha : a.Valid) (hb : b.Valid) (h : a ≤ b)
    (hq : millisFloor a = millisFloor b) (hu : roundsUp a = true) : roundsUp b = true := by
  rw [roundsUp_iff] at hu ⊢
  rw [← hq]
  -- the fractional parts compare like the readings; multiply out against the denominators
  have key : 2 * millisRem a * b.den ≤ 2 * millisRem b * a.den := by
    rw [Nat.mul_assoc, Nat.mul_assoc]
    exact Nat.mul_le_mul_left 2 (rem_cross_le a b h hq)
  rcases hu with hgt | ⟨heq, hodd⟩
  · have h1 : a.den * b.den < 2 * millisRem a * b.den := Nat.mul_lt_mul_of_pos_right hgt hb
    have h2 : b.den * a.den < 2 * millisRem b * a.den := by
      rw [Nat.mul_comm b.den]
      exact Nat.lt_of_lt_of_le h1 key
    exact .inl (Nat.lt_of_mul_lt_mul_right h2)
  · rw [heq, Nat.mul_comm a.den] at key
    rcases Nat.lt_or_eq_of_le (Nat.le_of_mul_le_mul_right key ha) with h4 | h4
    · exact .inl h4
    · exact .inr ⟨h4.symm, hodd⟩

theorem round_mono (a b : Reading) (ha : a.Valid) (hb : b.Valid) (h : a ≤ b) :
    millisRoundHalfEven a ≤ millisRoundHalfEven b := by
  have hf := floor_mono a b ha hb h
  rcases Nat.lt_or_eq_of_le hf with hlt | heq
  · exact Nat.le_trans (round_le_floor_succ a) (Nat.le_trans hlt (floor_le_round b))
  · rw [round_eq a, round_eq b, heq]
    by_cases hu : roundsUp a = true
    · rw [roundsUp_mono a b ha hb h heq hu]; simp [hu]
    · simp [hu]


/-! ### Elapsed time -/

theorem scaled_parts (t₀ t₁ : Reading) :
    1000 * (t₀.num * t₁.den) = millisFloor t₀ * (t₀.den * t₁.den) + millisRem t₀ * t₁.den ∧
    1000 * (t₁.num * t₀.den) = millisFloor t₁ * (t₀.den * t₁.den) + millisRem t₁ * t₀.den := by
  constructor
  · rw [← Nat.mul_assoc, floor_spec t₀, Nat.add_mul, Nat.mul_comm t₀.den (millisFloor t₀), Nat.mul_assoc]
  · rw [← Nat.mul_assoc, floor_spec t₁, Nat.add_mul, Nat.mul_comm t₁.den (millisFloor t₁), Nat.mul_assoc,
      Nat.mul_comm t₁.den t₀.den]

theorem elapsed_bounds (t₀ t₁ : Reading) (h₀ : t₀.Valid) (h₁ : t₁.Valid) :
    (((millisFloor t₁ : Int) - millisFloor t₀) - 1) * ((t₀.den : Int) * t₁.den) < scaledElapsedNum t₀ t₁ ∧
    scaledElapsedNum t₀ t₁ < (((millisFloor t₁ : Int) - millisFloor t₀) + 1) * ((t₀.den : Int) * t₁.den) := by
  obtain ⟨e0, e1⟩ := scaled_parts t₀ t₁
  have ha : millisRem t₀ * t₁.den < t₀.den * t₁.den := Nat.mul_lt_mul_of_lt_of_le (rem_lt t₀ h₀) (Nat.le_refl _) h₁
  have hb : millisRem t₁ * t₀.den < t₀.den * t₁.den := by
    rw [Nat.mul_comm t₀.den]; exact Nat.mul_lt_mul_of_lt_of_le (rem_lt t₁ h₁) (Nat.le_refl _) h₀
  have e0' := congrArg (fun n : Nat => (n : Int)) e0
  have e1' := congrArg (fun n : Nat => (n : Int)) e1
  have ha' := Int.ofNat_lt.2 ha
  have hb' := Int.ofNat_lt.2 hb
  have na : (0 : Int) ≤ ((millisRem t₀ * t₁.den : Nat) : Int) := Int.natCast_nonneg _
  have nb : (0 : Int) ≤ ((millisRem t₁ * t₀.den : Nat) : Int) := Int.natCast_nonneg _
  simp only [Int.natCast_mul, Int.natCast_add, Int.cast_ofNat_Int] at e0' e1' ha' hb' na nb
  unfold scaledElapsedNum
  simp only [Int.sub_mul, Int.add_mul, Int.one_mul]
  rw [e0', e1']
  generalize (millisFloor t₀ : Int) * ((t₀.den : Int) * t₁.den) = P0 at *
  generalize (millisFloor t₁ : Int) * ((t₀.den : Int) * t₁.den) = P1 at *
  generalize ((t₀.den : Int) * t₁.den) = D at *
  generalize (millisRem t₀ : Int) * t₁.den = a at *
  generalize (millisRem t₁ : Int) * t₀.den = b at *
  omega

/-! ### Counting boundaries -/

theorem crosses_iff (t₀ t₁ : Reading) (h₀ : t₀.Valid) (h₁ : t₁.Valid) (k : Nat) :
    crosses t₀ t₁ k = true ↔ millisFloor t₀ < k ∧ k ≤ millisFloor t₁ := by
  simp [crosses, floor_lt_iff t₀ h₀, le_floor_iff t₁ h₁]

theorem countP_range_Ioc (p : Nat → Bool) (lo : Nat) :
    ∀ n, lo ≤ n → (∀ k, k < n + 1 → (p k = true ↔ lo < k ∧ k ≤ n)) →
      (List.range (n + 1)).countP p = n - lo := by
  intro n hlo hp
  have below : ∀ m, m ≤ lo → m ≤ n → (List.range (m + 1)).countP p = 0 := fun m hm hn =>
    List.countP_eq_zero.2 fun k hk hpk => by
      have := List.mem_range.1 hk
      have := (hp k (by omega)).1 hpk
      omega
  have upto : ∀ m, lo ≤ m → m ≤ n → (List.range (m + 1)).countP p = m - lo := by
    intro m
    induction m with
    | zero => intro _ h0; rw [below 0 (Nat.zero_le _) h0]; omega
    | succ m ih =>
      intro h1 h2
      by_cases hl : lo ≤ m
      · rw [List.range_succ, List.countP_append, ih hl (by omega), List.countP_singleton,
          if_pos ((hp (m + 1) (by omega)).2 ⟨by omega, h2⟩)]
        omega
      · rw [below (m + 1) (by omega) h2]
        omega
  exact upto n hlo (Nat.le_refl n)

/-! ### The constructor with two tables -/

/-- `Neg.dictGet` on a table whose keys are given by their codes (compared with `Nat.beq`, which the
kernel evaluates directly on numerals). -/
def codedGet : List (Nat × Nat) → Nat → Option Nat
  | [], _ => none
  | (k, v) :: rest, c => bif k.beq c then some v else codedGet rest c

theorem dictGet_eq_codedGet (tbl : List (String × Nat)) (s : String) :
    Neg.dictGet tbl s = codedGet (tbl.map fun e => (keyCode e.1, e.2)) (keyCode s) := by
  induction tbl with
  | nil => rfl
  | cons e rest ih =>
    simp only [Neg.dictGet, List.map, codedGet, ih]
    by_cases h : e.1 = s
    · rw [if_pos h, h, Nat.beq_refl]
      rfl
    · have hc : (keyCode e.1).beq (keyCode s) = false :=
        Bool.eq_false_iff.2 fun hc => h (keyCode_inj _ _ (Nat.eq_of_beq_eq_true hc))
      rw [if_neg h, hc]
      rfl

/-- Is every element of `xs` in `ys`?  Each element is looked for from where the previous one was
found (`cur`, a tail of `ys`), and in the whole of `ys` only if it is not there: linear when `xs`
runs through `ys` in order, as a table sorted like its index does. -/
def coveredFrom (ys : List Nat) : List Nat → List Nat → Bool
  | [], _ => true
  | x :: xs, cur =>
    match cur.dropWhile (· != x) with
    | [] => ys.contains x && coveredFrom ys xs cur
    | y :: rest => coveredFrom ys xs (y :: rest)

theorem mem_of_coveredFrom {ys xs cur : List Nat} (hcur : ∀ y ∈ cur, y ∈ ys)
    (h : coveredFrom ys xs cur = true) : ∀ x ∈ xs, x ∈ ys := by
  induction xs generalizing cur with
  | nil => intro x hx; cases hx
  | cons a xs ih =>
    unfold coveredFrom at h
    split at h
    · rw [Bool.and_eq_true] at h
      intro x hx
      rcases List.mem_cons.1 hx with rfl | hx
      · exact List.contains_iff_mem.1 h.1
      · exact ih hcur h.2 x hx
    · rename_i y rest heq
      have hsub : ∀ z ∈ y :: rest, z ∈ ys := fun z hz =>
        hcur z ((List.dropWhile_suffix _).subset (heq ▸ hz))
      intro x hx
      rcases List.mem_cons.1 hx with rfl | hx
      · -- the first element that `dropWhile (· != x)` keeps is `x`
        have hy := List.head_dropWhile_not (· != x) (l := cur) (heq ▸ List.cons_ne_nil y rest)
        simp only [heq, List.head_cons, bne_eq_false_iff_eq] at hy
        exact hsub x (hy ▸ List.mem_cons_self)
      · exact ih hsub h x hx

/-- `proto_version` on a name, with the lookup in a modelled table `tbl`. -/
theorem resolveWith_name (lk : Lookup) (env : VEnv2) (tbl : List (String × Nat))
    (h : env.table lk = some tbl) (s : String) :
    resolveWith lk env (.name s) =
      match Neg.dictGet tbl s with
      | some p => if p ∈ env.base.supportedProtocols then .ok p else .error .value
      | none => .error .value := by
  simp only [resolveWith, protoOfWith, h, Option.map]
  cases Neg.dictGet tbl s with
  | none => rfl
  | some p => simp [Neg.inZ]

theorem resolveWith_supported (env : VEnv2) (r : Neg.VReq) :
    resolveWith .supported env r = Neg.resolve env.base r := by
  cases r with
  | name s =>
    simp only [resolveWith, protoOfWith, VEnv2.table, Option.map, Neg.resolve, Neg.protoOf]
    cases Neg.dictGet env.base.supportedNames s <;> rfl
  | num n => rfl
  | other => rfl

theorem resolveAllWith_supported (env : VEnv2) (rs : List Neg.VReq) :
    resolveAllWith .supported env rs = Neg.resolveAll env.base rs := by
  induction rs with
  | nil => rfl
  | cons r rs ih =>
    simp only [resolveAllWith, Neg.resolveAll, resolveWith_supported, ih]
    rfl

theorem allowedSetWith_supported (env : VEnv2) (allowed : Option (List Neg.VReq)) :
    allowedSetWith .supported env allowed = Neg.allowedSet env.base allowed := by
  cases allowed with
  | none => rfl
  | some reqs =>
    simp only [allowedSetWith, Neg.allowedSet, resolveAllWith_supported]
    rfl

theorem resolveWith_error (lk : Lookup) (env : VEnv2) (r : Neg.VReq) (e : Err)
    (hlk : lk ≠ .other) (h : resolveWith lk env r = .error e) : e = .value := by
  unfold resolveWith at h
  split at h
  · rename_i hp
    cases r with
    | name s =>
      cases lk with
      | supported => simp [protoOfWith, VEnv2.table] at hp
      | known => simp [protoOfWith, VEnv2.table] at hp
      | other => exact absurd rfl hlk
    | num n => simp [protoOfWith] at hp
    | other => simp [protoOfWith] at hp
  · cases h; rfl
  · split at h
    · cases h
    · cases h; rfl

end PyCraft.C09Clock
