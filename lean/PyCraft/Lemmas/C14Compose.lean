import PyCraft.Model.C14Compose
import PyCraft.Lemmas.Handlers
/-!
Specification vocabulary and helper lemmas for `Props/C14Compose.lean`, sequential part
(`Model/C14Compose.lean`, namespace `ExcFlow`): the connection attributes under API calls, the
dispatch of one packet against its specification, the shape of the thread log, and the projection
of the stateful `_handle_exception` onto the pure C14 model.
-/
namespace PyCraft.ExcFlow
open PyCraft

/-! ## The connection attributes under `disconnect()` / `connect()` -/

/-- An uninterrupted `new_networking_thread` owns the open socket of the latest `_connect()`. -/
def Conn.FreshNew (c : Conn) : Prop :=
  c.new = some false → (∃ k, c.sock = some k ∧ k + 1 = c.conns) ∧ c.connected = true

/-- The step relation "some API calls happened". -/
structure Conn.Le (c c' : Conn) : Prop where
  slot : c.nt.isSome → c'.nt.isSome
  intr : c.nt = some true → c'.nt = some true
  conns : c.conns ≤ c'.conns
  closed : ∃ more, c'.closed = c.closed ++ more
  fresh : c.FreshNew → c'.FreshNew
  /-- nothing connected: the only possible change is a disconnect -/
  same : c'.conns = c.conns → c'.new = c.new ∨ (c.new.isSome ∧ c'.new = some true)
  noNew : c'.conns = c.conns → c.new = none → c'.new = none
  /-- nothing connected: the socket is still the same one, or it has been closed -/
  sockKept : c'.conns = c.conns → ∀ k, c.sock = some k → c'.sock = some k ∨ k ∈ c'.closed

theorem Conn.Le.refl (c : Conn) : c.Le c :=
  ⟨id, id, Nat.le_refl _, ⟨[], by simp⟩, id, fun _ => .inl rfl, fun _ h => h,
    fun _ _ h => .inl h⟩

theorem Conn.Le.trans {a b c : Conn} (h1 : a.Le b) (h2 : b.Le c) : a.Le c := by
  -- if nothing connected from `a` to `c`, nothing connected in either part
  have hc1 := h1.conns
  have hc2 := h2.conns
  refine ⟨fun h => h2.slot (h1.slot h), fun h => h2.intr (h1.intr h),
    Nat.le_trans hc1 hc2, ?_, fun h => h2.fresh (h1.fresh h), ?_, ?_, ?_⟩
  · obtain ⟨m1, e1⟩ := h1.closed
    obtain ⟨m2, e2⟩ := h2.closed
    exact ⟨m1 ++ m2, by rw [e2, e1, List.append_assoc]⟩
  · intro he
    have e1 : b.conns = a.conns := by omega
    have e2 : c.conns = b.conns := by omega
    rcases h1.same e1 with h | ⟨h, h'⟩
    · rcases h2.same e2 with g | ⟨g, g'⟩
      · exact .inl (g.trans h)
      · exact .inr ⟨by rw [← h]; exact g, g'⟩
    · rcases h2.same e2 with g | ⟨g, g'⟩
      · exact .inr ⟨h, g.trans h'⟩
      · exact .inr ⟨h, g'⟩
  · intro he hn
    exact h2.noNew (by omega) (h1.noNew (by omega) hn)
  · intro he k hk
    rcases h1.sockKept (by omega) k hk with h | h
    · exact h2.sockKept (by omega) k h
    · obtain ⟨m, hm⟩ := h2.closed
      right; rw [hm]; exact List.mem_append_left _ h

theorem disconnect_le (c : Conn) : c.Le c.disconnect := by
  rcases c with ⟨nt, new, sock, connected, conns, closed⟩
  cases nt <;> cases new <;> cases sock <;>
    refine ⟨?_, ?_, ?_, ?_, ?_, ?_, ?_, ?_⟩ <;>
    simp [Conn.disconnect, Conn.FreshNew]

theorem connect_le (c c' : Conn) (h : c.connect = some c') : c.Le c' := by
  rcases c with ⟨nt, new, sock, connected, conns, closed⟩
  unfold Conn.connect at h
  split at h
  · cases h
  · next hb =>
    cases nt <;> cases new <;> simp [Conn.busy] at hb <;>
      simp only [Option.some.injEq] at h <;> subst h <;>
      refine ⟨?_, ?_, ?_, ?_, ?_, ?_, ?_, ?_⟩ <;>
      simp [Conn.FreshNew]

/-- `disconnect()`: the socket is gone and closed, `connected` is false, the flag of the selected
thread is set, nothing else changes. -/
theorem disconnect_spec (c : Conn) :
    c.disconnect.sock = none ∧ c.disconnect.connected = false ∧
    (∀ k, c.sock = some k → k ∈ c.disconnect.closed) ∧ c.disconnect.conns = c.conns ∧
    (c.new.isSome → c.disconnect.new = some true ∧ c.disconnect.nt = c.nt) ∧
    (c.new = none → c.disconnect.new = none ∧ c.disconnect.nt = c.nt.map fun _ => true) := by
  rcases c with ⟨nt, new, sock, connected, conns, closed⟩
  cases nt <;> cases new <;> cases sock <;> simp [Conn.disconnect]

theorem runActs_le (inv : Exc) (acts : List Act) :
    ∀ c : Conn, c.Le (runActs inv acts c).1 := by
  induction acts with
  | nil => intro c; exact Conn.Le.refl c
  | cons a acts ih =>
    intro c
    cases a with
    | disconnect => exact (disconnect_le c).trans (ih _)
    | connect =>
      simp only [runActs]
      cases hc : c.connect with
      | none => exact Conn.Le.refl c
      | some c' => exact (connect_le c c' hc).trans (ih _)

/-- The only API error is `InvalidState`. -/
theorem runActs_err (inv : Exc) (acts : List Act) :
    ∀ (c : Conn) x, (runActs inv acts c).2 = some x → x = inv := by
  induction acts with
  | nil => intro c x h; simp [runActs] at h
  | cons a acts ih =>
    intro c x h
    cases a with
    | disconnect => exact ih _ _ h
    | connect =>
      simp only [runActs] at h
      cases hc : c.connect with
      | none => simp [hc] at h; exact h.symm
      | some c' => simp only [hc] at h; exact ih _ _ h

/-- Callbacks that never call `connect()` cannot fail and cannot start a connection. -/
theorem runActs_noConnect (inv : Exc) (acts : List Act) (h : Act.connect ∉ acts) :
    ∀ c, (runActs inv acts c).2 = none ∧ (runActs inv acts c).1.conns = c.conns := by
  induction acts with
  | nil => intro c; simp [runActs]
  | cons a acts ih =>
    intro c
    cases a with
    | connect => simp at h
    | disconnect =>
      have := ih (by simpa using h) c.disconnect
      exact ⟨this.1, this.2.trans (disconnect_spec c).2.2.2.1⟩

/-- `connect()` succeeds exactly when `_check_connection` passes, installs the next socket and
creates a new uninterrupted thread (as successor when the slot is occupied). -/
theorem connect_spec (c : Conn) :
    (c.connect = none ↔ c.busy = true) ∧
    (∀ c', c.connect = some c' →
      c'.sock = some c.conns ∧ c'.connected = true ∧ c'.conns = c.conns + 1 ∧
      c'.closed = c.closed ∧
      (c.nt = none → c'.nt = some false ∧ c'.new = none) ∧
      (c.nt.isSome → c'.nt = c.nt ∧ c'.new = some false)) := by
  rcases c with ⟨nt, new, sock, connected, conns, closed⟩
  cases nt with
  | none => cases new <;> simp [Conn.connect, Conn.busy] <;> intro c' h <;> subst h <;> simp
  | some b =>
    cases b <;> cases new <;> simp [Conn.connect, Conn.busy] <;> intro c' h <;> subst h <;> simp

/-- In the exception path (own flag set) with no successor yet, a callback's first `connect()`
succeeds, whatever `disconnect()` calls precede it. -/
theorem first_connect_ok (inv : Exc) (pre : List Act) (hpre : Act.connect ∉ pre) (c : Conn)
    (hnt : c.nt = some true) (hnew : c.new = none) :
    (runActs inv (pre ++ [.connect]) c).2 = none ∧
    (runActs inv (pre ++ [.connect]) c).1.new = some false ∧
    (runActs inv (pre ++ [.connect]) c).1.conns = c.conns + 1 := by
  induction pre generalizing c with
  | nil =>
    rcases c with ⟨nt, new, sock, connected, conns, closed⟩
    simp only at hnt hnew
    subst hnt hnew
    simp [runActs, Conn.connect, Conn.busy]
  | cons a pre ih =>
    cases a with
    | connect => simp at hpre
    | disconnect =>
      obtain ⟨-, -, -, hc, -, hn⟩ := disconnect_spec c
      obtain ⟨h1, h2⟩ := hn hnew
      have := ih (by simpa using hpre) c.disconnect (by rw [h2, hnt]; rfl) h1
      simpa [runActs, hc] using this

/-! ## One packet: `_react` against its specification -/

/-- A listener matches a packet class iff one of its types is the class or a superclass. -/
def XListener.matches (hier : Hier) (l : XListener) (cls : Nat) : Bool :=
  l.types.any (fun t => isSub hier cls t)

/-- The matching listeners of one stage, in registration order, as call events. -/
def stageX (hier : Hier) (tag : Nat → Ev) (cls : Nat) (ls : List XListener) : List DEv :=
  (ls.filter (fun l => l.matches hier cls)).map (fun l => ⟨tag l.id, l.disc, l.out⟩)

/-- Documented call sequence for an incoming packet before truncation. -/
def stagesX (hier : Hier) (early ordinary : List XListener) (rx : PCb) (cls : Nat) : List DEv :=
  stageX hier Ev.early cls early ++ [⟨Ev.reaction, rx.disc, rx.out⟩] ++
    stageX hier Ev.ordinary cls ordinary

/-- A call that did not return normally. -/
def DEv.notOk (ev : DEv) : Bool := !ev.out.isOk

/-- How the dispatch ends, given the first call that did not return normally. -/
def classify : Option DEv → RRes
  | none => .done
  | some ev =>
    match ev.out with
    | .ok => .done
    | .ignore => .ignored
    | .raises e => .escaped e

/-- The `disconnect()` calls made by the callbacks of a log, applied in order. -/
def applyDiscs (c : Conn) (log : List DEv) : Conn :=
  log.foldl (fun c ev => if ev.disc then c.disconnect else c) c

theorem invoked_eq (hier : Hier) (l : XListener) (cls : Nat) :
    l.invoked hier cls = l.matches hier cls := by
  simp only [XListener.invoked, callPacketLoop_eq, XListener.matches]
  split <;> simp_all

theorem runListenersX_eq (hier : Hier) (tag : Nat → Ev) (cls : Nat) (ls : List XListener) :
    ∀ c, runListenersX hier tag cls ls c =
      (cutAfterFirst DEv.notOk (stageX hier tag cls ls),
       applyDiscs c (cutAfterFirst DEv.notOk (stageX hier tag cls ls)),
       classify ((stageX hier tag cls ls).find? DEv.notOk)) := by
  induction ls with
  | nil => intro c; simp [runListenersX, stageX, cutAfterFirst_nil, applyDiscs, classify]
  | cons l ls ih =>
    intro c
    simp only [runListenersX, invoked_eq]
    by_cases hm : l.matches hier cls = true
    · have hs : stageX hier tag cls (l :: ls) =
          ⟨tag l.id, l.disc, l.out⟩ :: stageX hier tag cls ls := by
        simp [stageX, hm]
      rw [hs]
      cases ho : l.out with
      | ok =>
        simp only [hm, ↓reduceIte, ih, cutAfterFirst_cons, DEv.notOk, LOut.isOk,
          Bool.not_true, Bool.false_eq_true, List.find?_cons]
        simp [applyDiscs]
      | ignore =>
        simp [hm, cutAfterFirst_cons, DEv.notOk, LOut.isOk, applyDiscs, classify]
      | raises e =>
        simp [hm, cutAfterFirst_cons, DEv.notOk, LOut.isOk, applyDiscs, classify]
    · simp only [Bool.not_eq_true] at hm
      have hs : stageX hier tag cls (l :: ls) = stageX hier tag cls ls := by
        simp [stageX, hm]
      rw [hs]
      simp [hm, ih]

theorem applyDiscs_append (c : Conn) (a b : List DEv) :
    applyDiscs c (a ++ b) = applyDiscs (applyDiscs c a) b := by
  simp [applyDiscs, List.foldl_append]

/-- How a dispatch ends, read off the documented sequence: normally iff every callback returns
normally, otherwise as the first callback that does not decides. -/
theorem classify_find (xs : List DEv) :
    (classify (xs.find? DEv.notOk) = .done ↔ ∀ ev ∈ xs, ev.out = .ok) ∧
    (∀ e, classify (xs.find? DEv.notOk) = .escaped e ↔
      ∃ ev, xs.find? DEv.notOk = some ev ∧ ev.out = .raises e) ∧
    (classify (xs.find? DEv.notOk) = .ignored ↔
      ∃ ev, xs.find? DEv.notOk = some ev ∧ ev.out = .ignore) := by
  cases hf : xs.find? DEv.notOk with
  | none =>
    refine ⟨⟨fun _ ev hev => ?_, fun _ => rfl⟩, by simp [classify], by simp [classify]⟩
    have := List.find?_eq_none.mp hf ev hev
    cases ho : ev.out <;> simp_all [DEv.notOk, LOut.isOk]
  | some ev =>
    have hp := List.find?_some hf
    refine ⟨⟨fun h => ?_, fun h => ?_⟩, ?_, ?_⟩
    · cases ho : ev.out <;> simp_all [classify, DEv.notOk, LOut.isOk]
    · simp [DEv.notOk, LOut.isOk, h ev (List.mem_of_find?_eq_some hf)] at hp
    all_goals cases ho : ev.out <;> simp_all [classify]

/-- `_react` computes: the documented sequence of matching callbacks, cut just after the first
one that does not return normally; the outcome is decided by that callback. -/
theorem reactX_eq (hier : Hier) (early ordinary : List XListener) (rx : PCb) (cls : Nat)
    (c : Conn) :
    reactX hier early ordinary rx cls c =
      (cutAfterFirst DEv.notOk (stagesX hier early ordinary rx cls),
       applyDiscs c (cutAfterFirst DEv.notOk (stagesX hier early ordinary rx cls)),
       classify ((stagesX hier early ordinary rx cls).find? DEv.notOk)) := by
  unfold reactX
  simp only [runListenersX_eq, stagesX]
  generalize stageX hier Ev.early cls early = A
  generalize stageX hier Ev.ordinary cls ordinary = B
  cases hfA : A.find? DEv.notOk with
  | none =>
    -- every early listener returned normally: the reaction runs
    have hA0 : A.any DEv.notOk = false := by
      rw [Bool.eq_false_iff, Ne, List.any_eq_true]
      rintro ⟨x, hx, hp⟩
      exact List.find?_eq_none.mp hfA x hx hp
    simp only [List.append_assoc, cutAfterFirst_append, hA0, Bool.false_eq_true, ↓reduceIte,
      List.find?_append, hfA, Option.none_or, cutAfterFirst_of_not_any _ _ hA0, classify]
    cases rx.out <;> simp [cutAfterFirst_cons, DEv.notOk, LOut.isOk, applyDiscs]
  | some x =>
    -- the early listener `x` ends the dispatch
    have hp := List.find?_some hfA
    have hA1 : A.any DEv.notOk = true :=
      List.any_eq_true.mpr ⟨x, List.mem_of_find?_eq_some hfA, hp⟩
    simp only [List.append_assoc, cutAfterFirst_append, hA1, ↓reduceIte, List.find?_append, hfA,
      Option.some_or]
    cases ho : x.out <;> simp_all [classify, DEv.notOk, LOut.isOk]

end PyCraft.ExcFlow
