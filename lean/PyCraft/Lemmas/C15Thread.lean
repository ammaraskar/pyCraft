import PyCraft.Model.C15Thread
import PyCraft.Lemmas.FrameViews
import PyCraft.Lemmas.Handlers
import PyCraft.Model.Cfb8
/-!
Helper lemmas (and a little specification vocabulary: `Adv`, `LoopRes.view`, `Quiet`, `ReactOK`,
`soleLog`) for `Props/C15Thread.lean`.

1. `Adv`: where the socket is after a reader call — not only what is still AHEAD in plain text
   (`ahead`, `Lemmas/Frame.lean`) but the raw unread bytes and the decryptor context, which is what
   wrapping the file object acts on.
2. `readPacketK_sync` / `readPacketK_cut`: one complete / one truncated frame written by a peer whose
   encryptor is in step (from `readPacketK_packetFrame` / `readPacketK_prefix` and `Adv`).
3. `threadLoop_cut`: the induction over the conversation.
4. Counters, fuel, reactor kinds and endings along the loop; the reference run.
5. The session: a login thread never reconnects; every thread but the first is a direct login
   (`threadsFuel_succ`), hence at most two threads whatever the fuel; bounds per thread.
6. A toy client, server stream and conversation (`demo*`) for the examples and the negative
   witnesses of `Props/C15Thread.lean`.
-/
namespace PyCraft.C15Thread
open PyCraft

/-- From `k` to `k'` the reader consumed a prefix `a` of the raw unread bytes and ran the
decryptor over exactly `a`. -/
def Adv {σ : Type} (x : StreamXform σ) (k k' : Sock σ) : Prop :=
  ∃ a, k.segs.flatten = a ++ k'.segs.flatten ∧ k'.st = (x.update k.st a).1

theorem Adv.trans {σ : Type} {x : StreamXform σ} {a b c : Sock σ} (h1 : Adv x a b)
    (h2 : Adv x b c) : Adv x a c := by
  obtain ⟨p, hp1, hp2⟩ := h1
  obtain ⟨q, hq1, hq2⟩ := h2
  refine ⟨p ++ q, by rw [hp1, hq1, List.append_assoc], ?_⟩
  rw [hq2, hp2, x.chunk]

theorem read_adv {σ : Type} (x : StreamXform σ) (k : Sock σ) (n : Nat) : Adv x k (k.read x n).2 :=
  ⟨(Segs.read k.segs n).1, (Segs.read_flatten k.segs n).symm, rfl⟩

theorem readPacketK_adv {σ : Type} (x : StreamXform σ) (z : ZlibOps) (c : Bool) (k : Sock σ) :
    Adv x k (readPacketK x z c k).2 :=
  (readPacketK_reads x z c k).rel (R := Adv x) Adv.trans (read_adv x) k 1 rfl

/-- a complete frame, encrypted by the peer in step, then anything: `read_packet` delivers the
packet and leaves the socket exactly behind the frame, decryptor in step with the encryptor -/
theorem readPacketK_sync {τ : Type} (cp : CipherPair τ) (z : Zlib) (thr : Option Int)
    (p : Nat × Bytes) (hp : FrameOK z.toZlibOps thr p) (k : Sock τ) (more : Bytes)
    (hflat : k.segs.flatten =
      (cp.enc.update k.st (packetFrame z.toZlibOps thr p)).2 ++ more) :
    ∃ k', readPacketK cp.dec z.toZlibOps thr.isSome k = (.ok p, k') ∧
      k'.segs.flatten = more ∧
      k'.st = (cp.enc.update k.st (packetFrame z.toZlibOps thr p)).1 := by
  obtain ⟨k', e1, e2⟩ := readPacketK_packetFrame cp.dec z thr p _ k hp
    (by unfold ahead; rw [hflat, cp.dec.chunk, (cp.inv k.st _).1, (cp.inv k.st _).2])
  obtain ⟨a, ha1, ha2⟩ := readPacketK_adv cp.dec z.toZlibOps thr.isSome k
  rw [e1] at ha1 ha2
  -- as much cipher text is left as plain text is ahead, so `a` is the frame's cipher text
  obtain ⟨q1, q2⟩ := List.append_inj' (ha1.symm.trans hflat)
    (by rw [← cp.dec.len _ more, ← e2]; exact (ahead_length cp.dec k').symm)
  exact ⟨k', e1, q2, by rw [ha2, q1, (cp.inv k.st _).2]⟩

/-- A frame encrypted by the peer in step but cut anywhere inside, then end of stream:
`EOFError`. -/
theorem readPacketK_cut {τ : Type} (cp : CipherPair τ) (z : ZlibOps) (thr : Option Int) (c : Bool)
    (p : Nat × Bytes) (hp : FrameOK z thr p) (k : Sock τ) (j : Nat)
    (hj : j < (packetFrame z thr p).length)
    (hflat : k.segs.flatten = (cp.enc.update k.st (packetFrame z thr p)).2.take j) :
    ∃ k', readPacketK cp.dec z c k = (.error .eof, k') := by
  refine readPacketK_prefix cp.dec z thr c p ((packetFrame z thr p).drop j) k hp ?_
    (fun h => by have := List.drop_eq_nil_iff.mp h; omega)
  unfold ahead
  rw [hflat, ← xform_take, (cp.inv k.st _).1, List.take_append_drop]

/-- what the loop leaves behind, without the socket -/
def LoopRes.view {τ : Type} (r : LoopRes τ) : List (Nat × Bytes) × End × RMode :=
  (r.delivered, r.ending, r.mode)

theorem view_cons {τ : Type} (p : Nat × Bytes) (r : LoopRes τ) :
    (r.cons p).view = (p :: r.view.1, r.view.2) := rfl

theorem srvWire_nil {τ κ : Type} (enc : StreamXform τ) (install : τ → κ → τ) (z : ZlibOps)
    (react : React κ) (sm : SMode τ) : srvWire enc install z react sm [] = [] := rfl

theorem srvWire_cons {τ κ : Type} (enc : StreamXform τ) (install : τ → κ → τ) (z : ZlibOps)
    (react : React κ) (sm : SMode τ) (p : Nat × Bytes) (ps : List (Nat × Bytes)) :
    srvWire enc install z react sm (p :: ps) =
      (enc.update sm.st (packetFrame z sm.thr p)).2 ++
        srvWire enc install z react
          (SMode.after install { sm with st := (enc.update sm.st (packetFrame z sm.thr p)).1 }
            (react sm.kind p)) ps := rfl

theorem after_comp {κ : Type} (m : RMode) (thr : Option Int) (eff : Effect κ)
    (h : m.comp = thr.isSome) : (m.after eff).comp = (thrAfter thr eff).isSome := by
  cases eff <;> simp [RMode.after, thrAfter, h]

theorem packetFrame_pos (z : ZlibOps) (thr : Option Int) (p : Nat × Bytes) :
    0 < (packetFrame z thr p).length := by
  unfold packetFrame frame
  simp only [List.length_append]
  have := enc_length_pos (frameBody z thr (packetPayload p.1 p.2)).length
  omega

/-- the count of frames lying wholly inside the first `j` bytes of the server's stream exists -/
theorem srvWire_count {τ κ : Type} (enc : StreamXform τ) (install : τ → κ → τ) (z : ZlibOps)
    (react : React κ) : ∀ (ps : List (Nat × Bytes)) (sm : SMode τ) (j : Nat),
    ∃ n, n ≤ ps.length ∧
      (srvWire enc install z react sm (ps.take n)).length ≤ j ∧
      (n < ps.length → j < (srvWire enc install z react sm (ps.take (n + 1))).length) := by
  intro ps
  induction ps with
  | nil => intro sm j; exact ⟨0, by simp, by simp [srvWire_nil], by simp⟩
  | cons p ps ih =>
    intro sm j
    by_cases hj : j < (enc.update sm.st (packetFrame z sm.thr p)).2.length
    · refine ⟨0, by simp, by simp [srvWire_nil], ?_⟩
      intro _
      simp only [List.take_succ_cons, List.take_zero, srvWire_cons, srvWire_nil, List.append_nil]
      exact hj
    · obtain ⟨n, h1, h2, h3⟩ := ih
        (SMode.after install { sm with st := (enc.update sm.st (packetFrame z sm.thr p)).1 }
          (react sm.kind p)) (j - (enc.update sm.st (packetFrame z sm.thr p)).2.length)
      refine ⟨n + 1, by simp; omega, ?_, ?_⟩
      · simp only [List.take_succ_cons, srvWire_cons, List.length_append]; omega
      · intro hn
        simp only [List.length_cons] at hn
        have := h3 (by omega)
        simp only [List.take_succ_cons, srvWire_cons, List.length_append]; omega

/-- THE induction: the thread on the first `j` bytes of the server's stream (any segmentation) does
what the reference run does on the `n` packets whose frames lie wholly inside those bytes. -/
theorem threadLoop_cut {τ κ : Type} (cp : CipherPair τ) (st0 : τ) (install : τ → κ → τ) (z : Zlib)
    (react : React κ) : ∀ (ps : List (Nat × Bytes)) (m : RMode) (sm : SMode τ) (k : Sock τ)
    (j fuel n : Nat),
    sm.kind = m.kind → m.comp = sm.thr.isSome → k.st = sm.st →
    WireOK z.toZlibOps react sm.kind sm.thr ps →
    k.segs.flatten = (srvWire cp.enc install z.toZlibOps react sm ps).take j →
    k.segs.flatten.length < fuel →
    n ≤ ps.length →
    (srvWire cp.enc install z.toZlibOps react sm (ps.take n)).length ≤ j →
    (n < ps.length → j < (srvWire cp.enc install z.toZlibOps react sm (ps.take (n + 1))).length) →
    (threadLoop ⟨cp.dec, st0, install, z.toZlibOps, react⟩ fuel m k).view =
      refRun react m (ps.take n) := by
  intro ps
  induction ps with
  | nil =>
    intro m sm k j fuel n _ _ _ _ hflat hfuel _ _ _
    obtain ⟨fuel, rfl⟩ : ∃ f, fuel = f + 1 := ⟨fuel - 1, by omega⟩
    obtain ⟨k', e1⟩ := readPacketK_nil cp.dec z.toZlibOps m.comp k
      (ahead_eq_nil _ k (by rw [hflat, srvWire_nil]; simp))
    simp only [threadLoop, e1, List.take_nil, refRun, LoopRes.view]
  | cons p ps ih =>
    intro m sm k j fuel n hkind hcomp hst hok hflat hfuel hn h1 h2
    obtain ⟨fuel, rfl⟩ : ∃ f, fuel = f + 1 := ⟨fuel - 1, by omega⟩
    obtain ⟨hfok, hokr⟩ := hok
    rw [srvWire_cons] at hflat
    have hclen : (cp.enc.update sm.st (packetFrame z.toZlibOps sm.thr p)).2.length =
        (packetFrame z.toZlibOps sm.thr p).length := cp.enc.len _ _
    cases n with
    | zero =>
      have h2 := h2 (by simp)
      simp only [Nat.zero_add, List.take_succ_cons, List.take_zero, srvWire_cons, srvWire_nil,
        List.append_nil] at h2
      rw [List.take_append_of_le_length (by omega), ← hst] at hflat
      obtain ⟨k', e1⟩ := readPacketK_cut cp z.toZlibOps sm.thr m.comp p hfok k j (by omega) hflat
      simp only [threadLoop, e1, List.take_zero, refRun, LoopRes.view]
    | succ n =>
      simp only [List.take_succ_cons, srvWire_cons, List.length_append] at h1 h2
      simp only [List.length_cons] at hn h2
      rw [List.take_append, List.take_of_length_le (by omega), ← hst] at hflat
      obtain ⟨k', e1, e2, e3⟩ := readPacketK_sync cp z sm.thr p hfok k _ hflat
      rw [← hcomp] at e1
      simp only [List.take_succ_cons, threadLoop, e1, refRun]
      rw [← hkind]
      cases hs : (react sm.kind p).stop with
      | some de => rfl
      | none =>
        simp only [view_cons]
        rw [ih (m.after (react sm.kind p))
          (SMode.after install
            { sm with st := (cp.enc.update sm.st (packetFrame z.toZlibOps sm.thr p)).1 }
            (react sm.kind p))
          (sockAfter install k' (react sm.kind p))
          (j - (cp.enc.update sm.st (packetFrame z.toZlibOps sm.thr p)).2.length) fuel n
          (by simp [SMode.after, RMode.after, hkind])
          (after_comp m sm.thr _ hcomp)
          (by simp [sockAfter, SMode.after, e3, hst])
          hokr
          (by simp only [sockAfter]; rw [e2, hst])
          (by
            simp only [sockAfter]
            have := congrArg List.length hflat
            rw [List.length_append, ← e2, cp.enc.len] at this
            have hp := packetFrame_pos z.toZlibOps sm.thr p
            omega)
          (by omega) (by omega) (fun h => by have := h2 (by omega); omega)]

theorem mono_sockAfter {τ κ : Type} (install : τ → κ → τ) (k k' : Sock τ) (eff : Effect κ)
    (h : Mono k k') : Mono k (sockAfter install k' eff) := h

section Loop
variable {τ κ : Type} (C : Client τ κ)

theorem threadLoop_tally (fuel : Nat) (m : RMode) (k : Sock τ) :
    Mono k (threadLoop C fuel m k).sock ∧
    (threadLoop C fuel m k).sock.empties ≤ k.empties + 2 ∧
    (threadLoop C fuel m k).delivered.length + (threadLoop C fuel m k).sock.rem ≤ k.rem := by
  fun_induction threadLoop C fuel m k
  case case1 => exact ⟨Mono.refl _, Nat.le_add_right _ _, by simp⟩
  case case2 m k e k' h =>
    have p1 := readPacketK_mono C.dec C.z m.comp k
    have p2 := readPacketK_empties_le C.dec C.z m.comp k
    rw [h] at p1 p2
    exact ⟨p1, p2, by have := p1.1; simp only [List.length_nil] at this ⊢; omega⟩
  case case3 m k p k' h d e _ =>
    have p1 := readPacketK_mono C.dec C.z m.comp k
    have p2 := readPacketK_empties_le C.dec C.z m.comp k
    have hlt := readPacketK_consumes C.dec C.z m.comp k p (by rw [h])
    rw [h] at p1 p2 hlt
    refine ⟨p1, p2, ?_⟩
    simp only at hlt ⊢
    -- the packet was delivered (one entry) or not (none)
    split
    · simp only [List.length_singleton]
      omega
    · simp only [List.length_nil]
      omega
  case case4 m k p k' h _ ih =>
    have p1 := readPacketK_mono C.dec C.z m.comp k
    have hlt := readPacketK_consumes C.dec C.z m.comp k p (by rw [h])
    have he := readPacketK_ok_empties C.dec C.z m.comp k p (by rw [h])
    rw [h] at p1 hlt he
    obtain ⟨i1, i2, i3⟩ := ih
    have hrem : (sockAfter C.install k' (C.react m.kind p)).rem = k'.rem := rfl
    have hemp : (sockAfter C.install k' (C.react m.kind p)).empties = k'.empties := rfl
    simp only at hlt he
    exact ⟨p1.trans i1, by simp only [LoopRes.cons]; omega,
      by simp only [LoopRes.cons, List.length_cons]; omega⟩

/-- the fuel is never the reason to stop -/
theorem threadLoop_fuel_free (f1 f2 : Nat) (m : RMode) (k : Sock τ) (h1 : k.rem < f1)
    (h2 : k.rem < f2) :
    threadLoop C f1 m k = threadLoop C f2 m k := by
  fun_induction threadLoop C f1 m k generalizing f2
  case case1 => omega
  all_goals obtain ⟨f2, rfl⟩ : ∃ f, f2 = f + 1 := ⟨f2 - 1, by omega⟩
  case case2 hread => simp only [threadLoop, hread]
  case case3 hread _ _ hstop => simp only [threadLoop, hread, hstop]
  case case4 f1 m k p k' hread hstop ih =>
    have hlt := readPacketK_consumes C.dec C.z m.comp k p (by rw [hread])
    rw [hread] at hlt
    simp only [threadLoop, hread, hstop]
    rw [ih f2 (by show k'.rem < f1; simp only at hlt; omega)
      (by show k'.rem < f2; simp only at hlt; omega)]

theorem kindAfter_cases {κ : Type} (kind : ReactorKind) (eff : Effect κ) :
    kindAfter kind eff = kind ∨ kindAfter kind eff = .playing := by
  cases eff <;> simp [kindAfter]

theorem stop_negotiated {κ : Type} (eff : Effect κ) (d : Bool) (v : Nat)
    (h : eff.stop = some (d, .negotiated v)) : eff = .negotiated v := by
  cases eff <;> simp [Effect.stop] at h
  obtain ⟨-, h⟩ := h; rw [h]

/-- the reactor at the end is the initial one or `PlayingReactor`; a `negotiated` ending was
produced by a reaction in one of these two states -/
theorem threadLoop_kinds (fuel : Nat) (m : RMode) (k : Sock τ) :
    ((threadLoop C fuel m k).mode.kind = m.kind ∨ (threadLoop C fuel m k).mode.kind = .playing) ∧
    (∀ v, (threadLoop C fuel m k).ending = .negotiated v →
      ∃ kind p, (kind = m.kind ∨ kind = .playing) ∧ C.react kind p = .negotiated v) := by
  fun_induction threadLoop C fuel m k
  case case1 | case2 => exact ⟨.inl rfl, nofun⟩
  case case3 m _ p _ _ d e hs =>
    refine ⟨.inl rfl, fun v h => ?_⟩
    cases h
    exact ⟨m.kind, p, .inl rfl, stop_negotiated _ d v hs⟩
  case case4 m _ p _ _ _ ih =>
    -- the reactor after this reaction is again the initial one or `PlayingReactor`
    have hk : ∀ kind, kind = (m.after (C.react m.kind p)).kind ∨ kind = .playing →
        kind = m.kind ∨ kind = .playing := by
      rintro kind (h | h)
      · rw [h]; exact kindAfter_cases _ _
      · exact .inr h
    refine ⟨hk _ ih.1, fun v hv => ?_⟩
    obtain ⟨kind, q, hq1, hq2⟩ := ih.2 v hv
    exact ⟨kind, q, hk kind hq1, hq2⟩

/-- how the loop can end: a framing error of `read_packet` (one of four), or a stopping reaction -/
theorem threadLoop_ending (fuel : Nat) (m : RMode) (k : Sock τ) (hf : k.rem < fuel) :
    ((threadLoop C fuel m k).ending = .raised .eof ∨
     (threadLoop C fuel m k).ending = .raised .tooLong ∨
     (threadLoop C fuel m k).ending = .raised .zlib ∨
     (threadLoop C fuel m k).ending = .raised .assertion) ∨
    (∃ kind p d, (C.react kind p).stop = some (d, (threadLoop C fuel m k).ending)) := by
  fun_induction threadLoop C fuel m k
  case case1 => omega
  case case2 m k e _ hread =>
    left
    rcases readPacketK_err C.dec C.z m.comp k e (by rw [hread]) with h | h | h | h <;> simp [h]
  case case3 m _ p _ _ d e hs => exact .inr ⟨m.kind, p, d, hs⟩
  case case4 fuel m k p k' hread _ ih =>
    have hlt := readPacketK_consumes C.dec C.z m.comp k p (by rw [hread])
    rw [hread] at hlt
    exact ih (by show k'.rem < fuel; simp only at hlt; omega)

end Loop

theorem refRun_prefix {κ : Type} (react : React κ) : ∀ (l : List (Nat × Bytes)) (m : RMode),
    (refRun react m l).1 <+: l := by
  intro l
  induction l with
  | nil => intro m; simp [refRun]
  | cons p l ih =>
    intro m
    simp only [refRun]
    cases hs : (react m.kind p).stop with
    | some de =>
      simp only
      split
      · exact List.prefix_iff_eq_take.mpr (by simp)
      · exact List.nil_prefix
    | none =>
      simp only
      exact List.cons_prefix_cons.mpr ⟨rfl, ih _⟩

/-- no stopping reaction among the packets: all are delivered, then `EOFError` -/
def Quiet {κ : Type} (react : React κ) : ReactorKind → List (Nat × Bytes) → Prop
  | _, [] => True
  | kind, p :: ps => (react kind p).stop = none ∧ Quiet react (kindAfter kind (react kind p)) ps

instance instDecidableQuiet {κ : Type} (react : React κ) :
    ∀ (kind : ReactorKind) (ps : List (Nat × Bytes)), Decidable (Quiet react kind ps)
  | _, [] => isTrue trivial
  | kind, p :: ps =>
    have := instDecidableQuiet react (kindAfter kind (react kind p)) ps
    inferInstanceAs (Decidable (_ ∧ _))

theorem refRun_quiet {κ : Type} (react : React κ) : ∀ (l : List (Nat × Bytes)) (m : RMode),
    Quiet react m.kind l →
    (refRun react m l).1 = l ∧ (refRun react m l).2.1 = .raised .eof ∧
      ((refRun react m l).2.2.kind = m.kind ∨ (refRun react m l).2.2.kind = .playing) := by
  intro l
  induction l with
  | nil => intro m _; exact ⟨rfl, rfl, Or.inl rfl⟩
  | cons p l ih =>
    intro m hq
    obtain ⟨h1, h2⟩ := hq
    simp only [refRun, h1]
    obtain ⟨i1, i2, i3⟩ := ih (m.after (react m.kind p)) h2
    refine ⟨by rw [i1], i2, ?_⟩
    have hk : (m.after (react m.kind p)).kind = m.kind ∨
        (m.after (react m.kind p)).kind = .playing := kindAfter_cases _ _
    rcases i3 with i3 | i3
    · rw [i3]; exact hk
    · exact Or.inr i3

/-- A loop that does what the reference run does on a conversation without a stopping reaction has
delivered all of it and ended by `EOFError`. -/
theorem view_quiet {τ κ : Type} {react : React κ} {r : LoopRes τ} {m : RMode}
    {l : List (Nat × Bytes)} (h : r.view = refRun react m l) (hq : Quiet react m.kind l) :
    r.delivered = l ∧ r.ending = .raised .eof := by
  obtain ⟨q1, q2, -⟩ := refRun_quiet react l m hq
  exact ⟨(congrArg Prod.fst h).trans q1, (congrArg (fun x => x.2.1) h).trans q2⟩

/-- `handle_proto_version` is reached from `PlayingStatusReactor.handle_status` only. -/
def ReactOK {κ : Type} (react : React κ) : Prop :=
  ∀ kind p v, react kind p = .negotiated v → kind = .playingStatus

theorem connectPlan_single (env : Neg.VEnv) (v : Nat) :
    Neg.connectPlan env [v] = .ok (.direct v) := rfl

theorem reconnect_ok (H : Handling) (env : Neg.VEnv) (v : Nat) (srv : Segs) :
    reconnect H env v (.ok srv) = .ok (.direct v, srv) := rfl

theorem reconnect_error (H : Handling) (env : Neg.VEnv) (v : Nat) (e : Exc) :
    reconnect H env v (.error e) = .error e := rfl

/-- the log of a thread that cannot reconnect -/
def soleLog {τ κ : Type} (C : Client τ κ) (H : Handling) (plan : Neg.Plan) (srv : Segs) :
    ThreadLog :=
  let t := runThread C (kindOfPlan plan) srv
  mkLog plan srv t
    (match t.ending with
     | .raised e => some (handleException H.hier .retFalse H.hs H.fin (H.excOf e))
     | _ => none)

theorem reactorHandle_not {α : Type} (hier : Hier) (eofCls : Nat) (kind : ReactorKind)
    (fb : Except Exc α) (e : Exc)
    (h : ¬ (kind = .playingStatus ∧ isSub hier e.cls eofCls = true)) :
    reactorHandle hier eofCls kind fb e = .retFalse := by
  cases kind <;> simp_all [reactorHandle]

theorem kindOfPlan_direct (v : Nat) : kindOfPlan (.direct v) = .login := rfl

section Session
variable {τ κ : Type} (C : Client τ κ) (H : Handling) (env : Neg.VEnv) (dflt : Nat)
  (dial : Nat → Except Exc Segs)

theorem threadsFuel_login (hr : ReactOK C.react) (fuel i : Nat) (plan : Neg.Plan) (srv : Segs)
    (hk : kindOfPlan plan = .login) :
    threadsFuel C H env dflt dial (fuel + 1) i plan srv = [soleLog C H plan srv] := by
  obtain ⟨k1, k2⟩ := threadLoop_kinds C (srv.flatten.length + 1) ⟨kindOfPlan plan, false⟩
    (Sock.enc C.st0 srv)
  have hkind : (runThread C (kindOfPlan plan) srv).mode.kind ≠ .playingStatus := by
    unfold runThread
    rcases k1 with h | h <;> rw [h] <;> simp [hk]
  simp only [threadsFuel, soleLog]
  cases he : (runThread C (kindOfPlan plan) srv).ending with
  | interrupted => rfl
  | negotiated v =>
    exfalso
    obtain ⟨kind, p, hq1, hq2⟩ := k2 v he
    have := hr kind p v hq2
    rcases hq1 with h | h <;> rw [h] at this <;> simp [hk] at this
  | raised e =>
    simp only
    rw [reactorHandle_not _ _ _ _ _ fun h => hkind h.1]

theorem threadsFuel_raised (fuel i : Nat) (plan : Neg.Plan) (srv : Segs) (e : Err)
    (he : (runThread C (kindOfPlan plan) srv).ending = .raised e) :
    threadsFuel C H env dflt dial (fuel + 1) i plan srv =
      mkLog plan srv (runThread C (kindOfPlan plan) srv)
        (some (handleException H.hier
          (reactorHandle H.hier H.eofCls (runThread C (kindOfPlan plan) srv).mode.kind
            (reconnect H env dflt (dial i)) (H.excOf e)) H.hs H.fin (H.excOf e))) ::
        (match reactorHandle H.hier H.eofCls (runThread C (kindOfPlan plan) srv).mode.kind
            (reconnect H env dflt (dial i)) (H.excOf e), reconnect H env dflt (dial i) with
         | .retTrue, .ok nx => threadsFuel C H env dflt dial fuel (i + 1) nx.1 nx.2
         | _, _ => []) := by
  simp only [threadsFuel, he]
  rfl

/-- The exception path of a thread starts at most one more thread: a direct login with the default
version, when the reactor's handler swallowed the exception after a successful fallback
`connect()`.  (`f` stands for the threads started on the new connection.) -/
theorem fallback_tail (r : RBeh) (d : Except Exc Segs) :
    (∀ f : Neg.Plan → Segs → List ThreadLog, (match r, reconnect H env dflt d with
        | .retTrue, .ok nx => f nx.1 nx.2
        | _, _ => []) = []) ∨
    ∃ s, ∀ f : Neg.Plan → Segs → List ThreadLog, (match r, reconnect H env dflt d with
        | .retTrue, .ok nx => f nx.1 nx.2
        | _, _ => []) = f (.direct dflt) s := by
  cases r with
  | retTrue =>
    cases d with
    | ok s => exact .inr ⟨s, fun _ => rfl⟩
    | error _ => exact .inl fun _ => rfl
  | retFalse => cases d <;> exact .inl fun _ => rfl
  | raises _ => cases d <;> exact .inl fun _ => rfl

/-- One thread of the session: it is the last one, or the next one is a direct login — after a
negotiated status exchange, or as the fallback — and which of the two does not depend on the
fuel. -/
theorem threadsFuel_succ (i : Nat) (plan : Neg.Plan) (srv : Segs) :
    ∃ o, (∀ fuel, threadsFuel C H env dflt dial (fuel + 1) i plan srv =
        [mkLog plan srv (runThread C (kindOfPlan plan) srv) o]) ∨
      ∃ j v s, ∀ fuel, threadsFuel C H env dflt dial (fuel + 1) i plan srv =
        mkLog plan srv (runThread C (kindOfPlan plan) srv) o ::
          threadsFuel C H env dflt dial fuel j (.direct v) s := by
  cases hend : (runThread C (kindOfPlan plan) srv).ending with
  | interrupted => exact ⟨none, .inl fun fuel => by simp only [threadsFuel, hend]⟩
  | negotiated v =>
    cases hd : dial i with
    | ok s2 =>
      exact ⟨none, .inr ⟨i + 1, v, s2, fun fuel => by
        simp only [threadsFuel, hend, hd, reconnect_ok]⟩⟩
    | error e' =>
      rcases fallback_tail H env dflt (reactorHandle H.hier H.eofCls
        (runThread C (kindOfPlan plan) srv).mode.kind (reconnect H env dflt (dial (i + 1))) e')
        (dial (i + 1)) with h | ⟨s, h⟩
      · exact ⟨_, .inl fun fuel => by
          simp only [threadsFuel, hend, hd, reconnect_error]
          exact congrArg _ (h _)⟩
      · exact ⟨_, .inr ⟨_, _, s, fun fuel => by
          simp only [threadsFuel, hend, hd, reconnect_error]
          exact congrArg _ (h _)⟩⟩
  | raised e =>
    rcases fallback_tail H env dflt (reactorHandle H.hier H.eofCls
      (runThread C (kindOfPlan plan) srv).mode.kind (reconnect H env dflt (dial i)) (H.excOf e))
      (dial i) with h | ⟨s, h⟩
    · exact ⟨_, .inl fun fuel => by
        rw [threadsFuel_raised C H env dflt dial fuel i plan srv e hend]
        exact congrArg _ (h _)⟩
    · exact ⟨_, .inr ⟨_, _, s, fun fuel => by
        rw [threadsFuel_raised C H env dflt dial fuel i plan srv e hend]
        exact congrArg _ (h _)⟩⟩

/-- At most two threads, the second a direct login that cannot reconnect, and two threads' worth
of fuel is as good as any larger amount. -/
theorem threadsFuel_two (hr : ReactOK C.react) (i : Nat) (plan : Neg.Plan) (srv : Segs) :
    ∃ l, (∀ fuel, threadsFuel C H env dflt dial (fuel + 2) i plan srv = l) ∧ l.length ≤ 2 ∧
      ∀ t ∈ l.tail, ∃ v s, t = soleLog C H (.direct v) s := by
  obtain ⟨o, h | ⟨j, v, s, h⟩⟩ := threadsFuel_succ C H env dflt dial i plan srv
  · exact ⟨_, fun fuel => h _, by simp, by simp⟩
  · refine ⟨[mkLog plan srv (runThread C (kindOfPlan plan) srv) o, soleLog C H (.direct v) s],
      fun fuel => ?_, by simp, ?_⟩
    · rw [h, threadsFuel_login C H env dflt dial hr fuel j _ s rfl]
    · simp only [List.tail_cons, List.mem_singleton]
      exact fun t ht => ⟨v, s, ht⟩

theorem mkLog_bounds (plan : Neg.Plan) (kind : ReactorKind) (srv : Segs) (o : Option Outcome) :
    (mkLog plan srv (runThread C kind srv) o).reads ≤
      (mkLog plan srv (runThread C kind srv) o).streamLen + 2 ∧
    (mkLog plan srv (runThread C kind srv) o).empties ≤ 2 ∧
    (mkLog plan srv (runThread C kind srv) o).delivered.length ≤
      (mkLog plan srv (runThread C kind srv) o).streamLen := by
  obtain ⟨⟨m1, m2, m3⟩, h2, h3⟩ := threadLoop_tally C (srv.flatten.length + 1) ⟨kind, false⟩
    (Sock.enc C.st0 srv)
  have hrem : (Sock.enc C.st0 srv).rem = srv.flatten.length := rfl
  have hr : (Sock.enc C.st0 srv).reads = 0 := rfl
  have he : (Sock.enc C.st0 srv).empties = 0 := rfl
  simp only [mkLog, runThread]
  omega

/-- every thread of the session: at most (bytes + 2) reads, at most two of them empty, at most
(bytes) packets delivered -/
theorem threadsFuel_bounds (fuel i : Nat) (plan : Neg.Plan) (srv : Segs) :
    ∀ t ∈ threadsFuel C H env dflt dial fuel i plan srv,
      t.reads ≤ t.streamLen + 2 ∧ t.empties ≤ 2 ∧ t.delivered.length ≤ t.streamLen := by
  induction fuel generalizing i plan srv with
  | zero => intro t ht; cases ht
  | succ fuel ih =>
    obtain ⟨o, h | ⟨j, v, s, h⟩⟩ := threadsFuel_succ C H env dflt dial i plan srv
    · rw [h]
      exact List.forall_mem_singleton.mpr (mkLog_bounds C plan _ srv o)
    · rw [h]
      exact List.forall_mem_cons.mpr ⟨mkLog_bounds C plan _ srv o, ih _ _ _⟩

end Session

theorem sum_reads_le (l : List ThreadLog)
    (h : ∀ t ∈ l, t.reads ≤ t.streamLen + 2) :
    (l.map (·.reads)).sum ≤ (l.map (·.streamLen)).sum + 2 * l.length := by
  induction l with
  | nil => simp
  | cons a l ih =>
    have := h a (by simp)
    have := ih (fun t ht => h t (by simp [ht]))
    simp only [List.map_cons, List.sum_cons, List.length_cons]
    omega

theorem reactorHandle_eof_ok {α : Type} (hier : Hier) (eofCls : Nat) (a : α) (e : Exc)
    (h : isSub hier e.cls eofCls = true) :
    reactorHandle hier eofCls .playingStatus (.ok a) e = .retTrue := by
  simp [reactorHandle, h]

theorem reactorHandle_eof_error {α : Type} (hier : Hier) (eofCls : Nat) (e' e : Exc)
    (h : isSub hier e.cls eofCls = true) :
    reactorHandle (α := α) hier eofCls .playingStatus (.error e') e = .raises e' := by
  simp [reactorHandle, h]

/-- any other exception, or any other reactor: not swallowed, no further thread -/
theorem threadsFuel_reported {τ κ : Type} (C : Client τ κ) (H : Handling) (env : Neg.VEnv)
    (dflt : Nat) (dial : Nat → Except Exc Segs) (fuel i : Nat) (plan : Neg.Plan) (srv : Segs)
    (e : Err) (he : (runThread C (kindOfPlan plan) srv).ending = .raised e)
    (hno : ¬ ((runThread C (kindOfPlan plan) srv).mode.kind = .playingStatus ∧
      isSub H.hier (H.excOf e).cls H.eofCls = true)) :
    threadsFuel C H env dflt dial (fuel + 1) i plan srv =
      [mkLog plan srv (runThread C (kindOfPlan plan) srv)
        (some (handleException H.hier .retFalse H.hs H.fin (H.excOf e)))] := by
  rw [threadsFuel_raised C H env dflt dial fuel i plan srv e he,
    reactorHandle_not _ _ _ _ _ hno]

theorem quiet_take {κ : Type} (react : React κ) : ∀ (ps : List (Nat × Bytes)) (kind : ReactorKind)
    (n : Nat), Quiet react kind ps → Quiet react kind (ps.take n) := by
  intro ps
  induction ps with
  | nil => intro kind n h; simpa using h
  | cons p ps ih =>
    intro kind n h
    cases n with
    | zero => exact trivial
    | succ n => exact ⟨h.1, ih _ n h.2⟩

/-! ## concrete parameters for the non-vacuity examples and the negative witnesses -/

/-- A toy block function (one output byte depending on the whole register). -/
def toyE : Bytes → Bytes := fun r => [r.foldl (fun a b => 3 * a + b) 7]

/-- Reactions of a toy protocol with the shape of pyCraft's reactors.  Login state: id 3 = set
compression (threshold = first payload byte), id 1 = encryption request (the client's secret is
`[1, 2, 3, 4]`), id 2 = login success, id 0 = disconnect (`LoginDisconnect`); play state: id 26 =
disconnect; status states: id 0 = the response (`PlayingStatusReactor`: the server's version 47 is
allowed; `StatusReactor` without ping: `disconnect()`). -/
def demoReact : React Bytes := fun kind p =>
  match kind with
  | .login =>
    if p.1 = 3 then .setCompression ((p.2.headD 0).toNat : Int)
    else if p.1 = 1 then .encrypt [1, 2, 3, 4]
    else if p.1 = 2 then .loginSuccess
    else if p.1 = 0 then .raise .other
    else .pass
  | .playing => if p.1 = 26 then .interrupt else .pass
  | .playingStatus => if p.1 = 0 then .negotiated 47 else .pass
  | .status => if p.1 = 0 then .interrupt else .pass

theorem demoReact_ok : ReactOK demoReact := by
  intro kind p v h
  cases kind with
  | playingStatus => rfl
  | status => simp only [demoReact] at h; split at h <;> cases h
  | playing => simp only [demoReact] at h; split at h <;> cases h
  | login =>
    simp only [demoReact] at h
    repeat (first | (split at h) | cases h)

/-- pyCraft's client over the toy cipher and the store-only zlib. -/
def demoClient : Client (List Bytes) Bytes :=
  stackClient (cfb8Pair toyE) (fun key => key) Zlib.ident.toZlibOps demoReact

/-- The reference server's stream for a conversation with `demoClient` in state `kind`. -/
def demoWire (kind : ReactorKind) (ps : List (Nat × Bytes)) : Bytes :=
  srvWire (stackEnc (cfb8Pair toyE).enc) (stackInstall fun key => key) Zlib.ident.toZlibOps
    demoReact ⟨kind, none, []⟩ ps

/-- login conversation: plugin-request-like packet, set compression 2, a packet above and one
below the threshold, encryption request, a packet, login success, a play packet. -/
def demoLogin : List (Nat × Bytes) :=
  [(4, [9]), (3, [2]), (5, [0x61, 0x62, 0x63]), (6, []), (1, [7, 7]), (8, [0x64]), (2, []),
   (33, [1, 2])]

/-- 1 = `Exception`, 2 = `EOFError`, 3 = `ValueError`, 4 = `OSError`, 5 =
`ConnectionRefusedError(OSError)`. -/
def demoHier : Hier := [(2, 1), (3, 1), (4, 1), (5, 4)]

/-- No user handlers, a returning final handler; `EOFError` and the VarInt `ValueError` map to
their classes of `demoHier`, every other error to `Exception`. -/
def demoHandling : Handling :=
  { hier := demoHier, eofCls := 2,
    excOf := fun e => match e with
      | .eof => ⟨2, 0⟩
      | .tooLong => ⟨3, 0⟩
      | _ => ⟨1, 0⟩
    hs := [], fin := .fn .returns }

/-- two supported versions, both known. -/
def demoEnv : Neg.VEnv := ⟨[("1.8.9", 47), ("1.12.2", 340)], [47, 340], [47, 340]⟩

end PyCraft.C15Thread
