import PyCraft.Model.Trackers
import PyCraft.Lemmas.Basic
import PyCraft.Lemmas.Assoc
/-! Helper lemmas for the tracker models (property C20): ordered dicts, the player-list
abstraction relation, the map pixel loop, `mod360`. -/
namespace PyCraft.Trackers

/-! ### Ordered dicts -/

section dict
variable {β : Type}

abbrev keys (l : List (Int × β)) : List Int := l.map Prod.fst

/-- The dict of this model is the association list of `Lemmas/Assoc.lean`, which has its laws. -/
theorem dictGet_eq (k : Int) (l : List (Int × β)) : dictGet k l = l.lookup k := by
  induction l with
  | nil => rfl
  | cons e r ih => obtain ⟨a, b⟩ := e; rw [dictGet, Assoc.lookup_cons, ih]

theorem dictSet_eq (k : Int) (v : β) (l : List (Int × β)) : dictSet k v l = Assoc.set l k v := by
  induction l with
  | nil => rfl
  | cons e r ih => simp only [dictSet, Assoc.set, ih]

theorem dictGet_none_iff (k : Int) (l : List (Int × β)) : dictGet k l = none ↔ k ∉ keys l := by
  rw [dictGet_eq]; exact Assoc.lookup_eq_none l k

theorem dictGet_dictSet (k k' : Int) (v : β) (l : List (Int × β)) :
    dictGet k' (dictSet k v l) = if k' = k then some v else dictGet k' l := by
  rw [dictGet_eq, dictSet_eq, dictGet_eq, Assoc.lookup_set]; simp only [eq_comm]

theorem keys_dictSet (k : Int) (v : β) (l : List (Int × β)) :
    keys (dictSet k v l) = if k ∈ keys l then keys l else keys l ++ [k] := by
  rw [dictSet_eq]; exact Assoc.keys_set l k v

theorem nodup_keys_dictSet (k : Int) (v : β) (l : List (Int × β)) (h : (keys l).Nodup) :
    (keys (dictSet k v l)).Nodup := by
  rw [keys_dictSet]
  split
  · exact h
  · rename_i hk
    exact List.nodup_append.2 ⟨h, List.nodup_cons.2 ⟨List.not_mem_nil, List.nodup_nil⟩,
      fun a ha b hb => by rw [List.mem_singleton.1 hb]; exact fun e => hk (e ▸ ha)⟩

theorem dictSet_of_not_mem (k : Int) (v : β) (l : List (Int × β)) (h : k ∉ keys l) :
    dictSet k v l = l ++ [(k, v)] := by
  rw [dictSet_eq]; exact Assoc.set_of_not_mem l k v h

theorem dictGet_dictModify (k k' : Int) (f : β → β) (l : List (Int × β)) :
    dictGet k' (dictModify k f l) = if k' = k then (dictGet k l).map f else dictGet k' l := by
  induction l with
  | nil => simp [dictModify, dictGet]
  | cons q qs ih =>
    obtain ⟨k₀, v₀⟩ := q
    unfold dictModify
    by_cases h : k₀ = k
    · subst h
      simp only [if_true, dictGet]
      grind
    · simp only [h, if_false, dictGet, ih]; grind

theorem keys_dictModify (k : Int) (f : β → β) (l : List (Int × β)) :
    keys (dictModify k f l) = keys l := by
  induction l with
  | nil => rfl
  | cons q qs ih =>
    simp only [dictModify, keys, List.map_cons] at ih ⊢
    split <;> simp only [List.map_cons, ih]

theorem dictModify_of_not_mem (k : Int) (f : β → β) (l : List (Int × β)) (h : k ∉ keys l) :
    dictModify k f l = l := by
  induction l with
  | nil => rfl
  | cons q qs ih =>
    simp only [keys, List.map_cons, List.mem_cons, not_or] at h
    simp [dictModify, Ne.symm h.1, ih h.2]

theorem dictDel_of_not_mem (k : Int) (l : List (Int × β)) (h : k ∉ keys l) : dictDel k l = l := by
  induction l with
  | nil => rfl
  | cons q qs ih =>
    simp only [keys, List.map_cons, List.mem_cons, not_or] at h
    simp [dictDel, Ne.symm h.1, ih h.2]

/-- With distinct keys, `del` is the filter removing the key. -/
theorem dictDel_eq_filter (k : Int) (l : List (Int × β)) (hnd : (keys l).Nodup) :
    dictDel k l = l.filter (fun q => q.1 ≠ k) := by
  induction l with
  | nil => rfl
  | cons q qs ih =>
    obtain ⟨k₀, v₀⟩ := q
    simp only [keys, List.map_cons, List.nodup_cons] at hnd
    unfold dictDel
    by_cases h : k₀ = k
    · -- the rest has no entry for `k`, so neither operation changes it
      subst h
      have := ih hnd.2
      rw [dictDel_of_not_mem k₀ qs hnd.1] at this
      simpa using this
    · simp [h, ih hnd.2]

theorem keys_filter (k : Int) (l : List (Int × β)) :
    keys (l.filter (fun q => q.1 ≠ k)) = (keys l).filter (· ≠ k) := by
  induction l with
  | nil => rfl
  | cons q qs ih =>
    simp only [keys, List.filter_cons, List.map_cons] at ih ⊢
    split <;> simp_all

theorem dictGet_filter (k k' : Int) (l : List (Int × β)) :
    dictGet k' (l.filter (fun q => q.1 ≠ k)) = if k' = k then none else dictGet k' l := by
  induction l with
  | nil => simp [dictGet]
  | cons q qs ih =>
    obtain ⟨k₀, v₀⟩ := q
    by_cases h : k₀ = k
    · subst h; simp only [List.filter_cons, ne_eq, not_true_eq_false, decide_false, dictGet]
      grind
    · simp only [List.filter_cons, ne_eq, h, not_false_eq_true, decide_true, if_true, dictGet, ih]
      grind

theorem keys_dictDel (k : Int) (l : List (Int × β)) (hnd : (keys l).Nodup) :
    keys (dictDel k l) = (keys l).filter (· ≠ k) := by
  rw [dictDel_eq_filter k l hnd, keys_filter]

theorem dictGet_dictDel (k k' : Int) (l : List (Int × β)) (hnd : (keys l).Nodup) :
    dictGet k' (dictDel k l) = if k' = k then none else dictGet k' l := by
  rw [dictDel_eq_filter k l hnd, dictGet_filter]

/-- `filterMap` only looks at the function on the list's elements (core has `map_congr_left` but no
`filterMap` counterpart). -/
theorem filterMap_congr_left {α γ : Type} {f g : α → Option γ} {l : List α}
    (h : ∀ a ∈ l, f a = g a) : l.filterMap f = l.filterMap g := by
  induction l with
  | nil => rfl
  | cons a as ih =>
    rw [List.filterMap_cons, List.filterMap_cons, h a (by simp),
      ih (fun x hx => h x (List.mem_cons_of_mem _ hx))]

/-- Reading a dict with distinct keys back from its key list and lookup function. -/
theorem items_of_keys (l : List (Int × β)) (hnd : (keys l).Nodup) :
    (keys l).filterMap (fun k => (dictGet k l).map fun p => (k, p)) = l := by
  induction l with
  | nil => rfl
  | cons q qs ih =>
    rw [keys, List.map_cons, List.nodup_cons] at hnd
    simp only [keys, List.map_cons, List.filterMap_cons, dictGet, if_true, Option.map_some]
    congr 1
    -- below the head, lookups skip the head's key
    refine (filterMap_congr_left fun k hk => ?_).trans (ih hnd.2)
    rw [if_neg fun e : q.1 = k => hnd.1 (e ▸ hk)]
end dict

/-! ### Player list: abstraction relation -/

/-- The concrete dict `l` represents the abstract state `s`. -/
def Rel (s : RefState) (l : PlayerList) : Prop :=
  (keys l).Nodup ∧ s.order = keys l ∧ ∀ k, s.get k = dictGet k l

theorem Rel.ofList (l : PlayerList) (h : (keys l).Nodup) : Rel (RefState.ofList l) l :=
  ⟨h, rfl, fun _ => rfl⟩

theorem Rel.items {s : RefState} {l : PlayerList} (h : Rel s l) : s.items = l := by
  obtain ⟨hnd, ho, hg⟩ := h
  simp only [RefState.items, ho, hg]
  exact items_of_keys l hnd

theorem Rel.modify {s : RefState} {l : PlayerList} (h : Rel s l) (u : Int) (f : Player → Player) :
    Rel ⟨fun k => if k = u then (s.get u).map f else s.get k, s.order⟩ (dictModify u f l) := by
  obtain ⟨hnd, ho, hg⟩ := h
  refine ⟨by rw [keys_dictModify]; exact hnd, by rw [keys_dictModify]; exact ho, ?_⟩
  intro k
  simp only [dictGet_dictModify, hg]

theorem Rel.step {s : RefState} {l : PlayerList} (h : Rel s l) (a : Action) :
    Rel (refAction s a) (applyAction l a) := by
  cases a with
  | add p =>
    obtain ⟨hnd, ho, hg⟩ := h
    exact ⟨nodup_keys_dictSet _ _ l hnd, by simp only [applyAction, refAction, keys_dictSet, ho],
      fun k => by simp only [applyAction, refAction, dictGet_dictSet, hg]⟩
  | gamemode u g | latency u g | displayName u g => exact h.modify u _
  | remove u =>
    obtain ⟨hnd, ho, hg⟩ := h
    refine ⟨?_, ?_, fun k => ?_⟩
    · rw [applyAction, keys_dictDel u l hnd]; exact hnd.sublist List.filter_sublist
    · rw [applyAction, keys_dictDel u l hnd, refAction, ho]
    · simp only [applyAction, dictGet_dictDel u k l hnd, refAction, hg]

theorem Rel.packet {s : RefState} {l : PlayerList} (h : Rel s l) (pkt : List Action) :
    Rel (pkt.foldl refAction s) (applyPacket l pkt) :=
  List.foldl_rel h fun a _ _ _ hc => hc.step a

theorem Rel.replay {s : RefState} {l : PlayerList} (h : Rel s l) (hist : List (List Action)) :
    Rel (refReplay hist s) (replay hist l) :=
  List.foldl_rel h fun p _ _ _ hc => hc.packet p

/-! ### Map pixel loop -/

theorem pySetItem_nat (bs : Bytes) (j : Nat) (v : UInt8) (h : j < bs.length) :
    pySetItem bs (j : Int) v = .ok (bs.set j v) := by
  unfold pySetItem
  have h1 : ¬ ((j : Int) < 0) := by omega
  simp only [h1, if_false]
  have h2 : (0 : Int) ≤ j ∧ (j : Int) < bs.length := ⟨by omega, by omega⟩
  simp [h2]

/-- The flat index written for packet pixel `i`. -/
def cellIdx (W width ox oz i : Nat) : Nat := (ox + i % width) + W * (oz + i / width)

theorem cellIdx_lt (W H width height ox oz i : Nat) (hw : ox + width ≤ W) (hh : oz + height ≤ H)
    (hi : i < width * height) : cellIdx W width ox oz i < W * H := by
  have hwpos : 0 < width := by
    rcases Nat.eq_zero_or_pos width with h | h
    · subst h; simp at hi
    · exact h
  have hx : ox + i % width < W := by have := Nat.mod_lt i hwpos; omega
  have hz : i / width < height := (Nat.div_lt_iff_lt_mul hwpos).2 (by rw [Nat.mul_comm]; exact hi)
  have hz' : oz + i / width + 1 ≤ H := by omega
  unfold cellIdx
  calc ox + i % width + W * (oz + i / width) < W + W * (oz + i / width) := by omega
    _ = W * (oz + i / width + 1) := by rw [Nat.mul_succ, Nat.add_comm]
    _ ≤ W * H := Nat.mul_le_mul_left _ hz'

theorem cellIdx_coords (W width ox oz i : Nat) (hwpos : 0 < width) (hw : ox + width ≤ W) :
    cellIdx W width ox oz i % W = ox + i % width ∧ cellIdx W width ox oz i / W = oz + i / width := by
  have hx : ox + i % width < W := by have := Nat.mod_lt i hwpos; omega
  have hW : 0 < W := by omega
  unfold cellIdx
  constructor
  · rw [Nat.add_mul_mod_self_left, Nat.mod_eq_of_lt hx]
  · rw [Nat.add_mul_div_left _ _ hW, Nat.div_eq_of_lt hx, Nat.zero_add]

theorem cellIdx_of_xz (W width ox oz x z : Nat) (hwpos : 0 < width) (hx : ox ≤ x)
    (hx' : x < ox + width) (hz : oz ≤ z) :
    cellIdx W width ox oz ((x - ox) + width * (z - oz)) = x + W * z := by
  unfold cellIdx
  rw [Nat.add_mul_mod_self_left, Nat.mod_eq_of_lt (by omega), Nat.add_mul_div_left _ _ hwpos,
    Nat.div_eq_of_lt (by omega), Nat.zero_add, Nat.add_sub_cancel' hx, Nat.add_sub_cancel' hz]

theorem patchLoop_append (mapW width : Nat) (off : Int × Int) (px qs : Bytes) :
    ∀ (i : Nat) (cur : Bytes),
      patchLoop mapW width off i (px ++ qs) cur =
        (match patchLoop mapW width off i px cur with
         | .error e => .error e
         | .ok r => patchLoop mapW width off (i + px.length) qs r) := by
  induction px with
  | nil => intro i cur; rfl
  | cons b bs ih =>
    intro i cur
    simp only [List.cons_append, patchLoop, List.length_cons]
    split
    · rfl
    · split
      · rfl
      · rw [ih, Nat.add_comm bs.length, Nat.add_assoc]

/-- The pixel loop on a `W×H` map for a patch whose columns fit the map and whose pixel rows end at
or before the last row: it does not raise, and afterwards every cell holds the patch's pixel for
it, or its old content if the patch has none.  (By induction on the pixels from the end: the last
write decides.) -/
theorem patchLoop_cells (W H width ox oz : Nat) (px : Bytes) (hx : ox + width ≤ W) :
    ∀ cur : Bytes, cur.length = W * H → px.length ≤ width * (H - oz) →
    ∃ r, patchLoop W width ((ox : Int), (oz : Int)) 0 px cur = .ok r ∧ r.length = W * H ∧
      ∀ x z, x < W → z < H →
        r[x + W * z]? =
          (if ox ≤ x ∧ x < ox + width ∧ oz ≤ z then px[(x - ox) + width * (z - oz)]?
            else none).or cur[x + W * z]? := by
  induction px using snoc_induction with
  | nil =>
    intro cur hlen _
    refine ⟨cur, rfl, hlen, fun x z _ _ => ?_⟩
    split <;> simp
  | snoc px b ih =>
    intro cur hlen hpx
    rw [List.length_append, List.length_singleton] at hpx
    have hwpos : 0 < width := Nat.pos_of_ne_zero fun h => by simp [h] at hpx
    have hoz : oz ≤ H := by
      rcases Nat.le_total oz H with h | h
      · exact h
      · rw [Nat.sub_eq_zero_of_le h, Nat.mul_zero] at hpx; omega
    obtain ⟨r, hr, hl, hcell⟩ := ih cur hlen (by omega)
    -- the last pixel is written at flat index `c`, inside the array
    have hc : cellIdx W width ox oz px.length < r.length := by
      rw [hl]
      exact cellIdx_lt W H width (H - oz) ox oz _ hx (by omega) (by omega)
    have hidx : ((ox : Int) + ((px.length % width : Nat) : Int)) +
        (W : Int) * ((oz : Int) + ((px.length / width : Nat) : Int)) =
          ((cellIdx W width ox oz px.length : Nat) : Int) := by
      unfold cellIdx
      push_cast
      rfl
    refine ⟨r.set (cellIdx W width ox oz px.length) b, ?_, by rw [List.length_set, hl], ?_⟩
    · rw [patchLoop_append, hr]
      simp only [Nat.zero_add, patchLoop, Nat.ne_of_gt hwpos, if_false, hidx, pySetItem_nat r _ b hc]
    · intro x z hxW hzH
      rw [List.getElem?_set, hcell x z hxW hzH]
      by_cases hn : (ox ≤ x ∧ x < ox + width ∧ oz ≤ z) ∧ (x - ox) + width * (z - oz) = px.length
      · -- the cell of the last pixel
        obtain ⟨⟨c1, c2, c3⟩, hj⟩ := hn
        have := cellIdx_of_xz W width ox oz x z hwpos c1 c2 c3
        rw [hj] at this
        rw [if_pos this, if_pos hc, if_pos ⟨c1, c2, c3⟩, hj, List.getElem?_concat_length]
        rfl
      · -- any other cell is not written by the last step and its patch pixel is not the last one
        have hne : cellIdx W width ox oz px.length ≠ x + W * z := by
          intro e
          have hcc := cellIdx_coords W width ox oz px.length hwpos hx
          rw [e, Nat.add_mul_mod_self_left, Nat.mod_eq_of_lt hxW,
            Nat.add_mul_div_left _ _ (by omega), Nat.div_eq_of_lt hxW, Nat.zero_add] at hcc
          apply hn
          rw [hcc.1, hcc.2, Nat.add_sub_cancel_left, Nat.add_sub_cancel_left, Nat.mod_add_div]
          exact ⟨⟨Nat.le_add_right _ _, Nat.add_lt_add_left (Nat.mod_lt _ hwpos) _,
            Nat.le_add_right _ _⟩, rfl⟩
        rw [if_neg hne]
        congr 1
        split
        · rename_i hcond
          have : (x - ox) + width * (z - oz) ≠ px.length := fun e => hn ⟨hcond, e⟩
          rw [List.getElem?_append]
          split
          · rfl
          · rw [List.getElem?_eq_none (by omega), List.getElem?_eq_none (by simp; omega)]
        · rfl

/-- `apply_to_map_set` is `apply_to_map` on the known map, or on a fresh one, stored under the id. -/
theorem applyToMapSet_eq (p : MapPacket) (s : MapSet) :
    applyToMapSet p s =
      (match applyToMap p ((dictGet p.mapId s).getD (MapState.new (some p.mapId))) with
       | .error e => .error e
       | .ok m' => .ok (dictSet p.mapId m' s)) := by
  unfold applyToMapSet
  cases dictGet p.mapId s <;> rfl

/-! ### Position -/

/-- `relOrAbs` in terms of the `k`-th binary digit of `flags`. -/
theorem relOrAbs_bit (flags k : Nat) (cur pkt : Rat) :
    relOrAbs flags (2 ^ k) cur pkt = if flags / 2 ^ k % 2 = 1 then cur + pkt else pkt := by
  unfold relOrAbs
  by_cases h : flags / 2 ^ k % 2 = 1
  · simp only [h, if_true]; rw [if_pos ((and_two_pow_ne_zero flags k).2 h)]
  · simp only [h, if_false]; rw [if_neg (fun e => h ((and_two_pow_ne_zero flags k).1 e))]

theorem mod360_range (a : Rat) : 0 ≤ mod360 a ∧ mod360 a < 360 := by
  unfold mod360
  have h1 := Rat.floor_le (a / 360)
  have h2 := Rat.lt_floor_add_one (a / 360)
  have h3 : a = 360 * (a / 360) := by grind
  constructor <;> grind

/-- `mod360 a` differs from `a` by a whole number of turns. -/
theorem mod360_congr (a : Rat) : ∃ n : Int, a = mod360 a + 360 * (n : Rat) :=
  ⟨(a / 360).floor, by unfold mod360; grind⟩

end PyCraft.Trackers
