import PyCraft.Lemmas.Custom
import PyCraft.Lemmas.Layout
import PyCraft.Generated.Ids
import PyCraft.Generated.Layouts
/-!
Bool-valued checkers over tabulated id / layout tables (the shapes of `Generated/Ids.lean` and
`Generated/Layouts.lean`) and the lemmas lifting `checker = true` to the ∀-statement.  Everything is
generic in the tables; `Props/C05.lean` runs the checkers on the generated ones by `decide +kernel`.

The kernel evaluates roughly 30 000 list steps per second, so membership of a version in a variant's
version list is not tested entry by entry (that is ~10^7 steps): the version lists of one class are
walked ONCE, in step with the rows of the id table (`covers`).
-/
namespace PyCraft.LayoutCheck
open PyCraft PyCraft.Gen

abbrev IdTables := List (String × List IdRow)
abbrev LayoutTables := List (String × List LayoutRow)
abbrev Variant := Option Layout × List Nat

/-! ### coverage of versions -/

/-- remove `v` from the head of the first list that starts with it -/
def popHead (v : Nat) : List (List Nat) → Option (List (List Nat))
  | [] => none
  | [] :: rest => (popHead v rest).map ([] :: ·)
  | (h :: tl) :: rest =>
    if h == v then some (tl :: rest) else (popHead v rest).map ((h :: tl) :: ·)

/-- walk the id rows; the version lists `ls` of the variants of class `cls` (each in row order) are
consumed in step.  A row whose version is at the head of none of them must not be a supported row
that registers `cls`. -/
def covers (cls : String) : List IdRow → List (List Nat) → Bool
  | [], _ => true
  | r :: rs, ls =>
    match popHead r.1 ls with
    | some ls' => covers cls rs ls'
    | none => !(r.2.1 && r.2.2.any (·.1 == cls)) && covers cls rs ls

theorem popHead_some (v : Nat) : ∀ (ls ls' : List (List Nat)), popHead v ls = some ls' →
    (∃ l ∈ ls, v ∈ l) ∧ ∀ l' ∈ ls', ∀ x ∈ l', ∃ l ∈ ls, x ∈ l := by
  intro ls
  induction ls with
  | nil => intro ls' h; simp [popHead] at h
  | cons l rest ih =>
    intro ls' h
    cases l with
    | nil =>
      simp only [popHead, Option.map_eq_some_iff] at h
      obtain ⟨r', hr, rfl⟩ := h
      obtain ⟨⟨l, hl, hv⟩, h2⟩ := ih r' hr
      refine ⟨⟨l, List.mem_cons_of_mem _ hl, hv⟩, fun l' hl' x hx => ?_⟩
      rcases List.mem_cons.mp hl' with rfl | hl'
      · simp at hx
      · obtain ⟨l, hl, hx⟩ := h2 l' hl' x hx
        exact ⟨l, List.mem_cons_of_mem _ hl, hx⟩
    | cons a tl =>
      simp only [popHead] at h
      split at h
      · next hav =>
        have hav : a = v := by simpa using hav
        subst hav
        cases h
        refine ⟨⟨a :: tl, List.mem_cons_self, List.mem_cons_self⟩, fun l' hl' x hx => ?_⟩
        rcases List.mem_cons.mp hl' with rfl | hl'
        · exact ⟨a :: l', List.mem_cons_self, List.mem_cons_of_mem _ hx⟩
        · exact ⟨l', List.mem_cons_of_mem _ hl', hx⟩
      · simp only [Option.map_eq_some_iff] at h
        obtain ⟨r', hr, rfl⟩ := h
        obtain ⟨⟨l, hl, hv⟩, h2⟩ := ih r' hr
        refine ⟨⟨l, List.mem_cons_of_mem _ hl, hv⟩, fun l' hl' x hx => ?_⟩
        rcases List.mem_cons.mp hl' with rfl | hl'
        · exact ⟨a :: tl, List.mem_cons_self, hx⟩
        · obtain ⟨l, hl, hx⟩ := h2 l' hl' x hx
          exact ⟨l, List.mem_cons_of_mem _ hl, hx⟩

theorem covers_sound (cls : String) : ∀ (rows : List IdRow) (ls : List (List Nat)),
    covers cls rows ls = true → ∀ r ∈ rows, r.2.1 = true → (∃ e ∈ r.2.2, e.1 = cls) →
      ∃ l ∈ ls, r.1 ∈ l
  | [], _, _, r, hr, _, _ => by simp at hr
  | r0 :: rows, ls, h, r, hr, hs, he => by
    rw [covers] at h
    split at h
    · next ls' hp =>
      obtain ⟨h0, lift⟩ := popHead_some r0.1 ls ls' hp
      rcases List.mem_cons.mp hr with rfl | hr
      · exact h0
      · obtain ⟨l', hl', hx⟩ := covers_sound cls rows ls' h r hr hs he
        exact lift l' hl' r.1 hx
    · rw [Bool.and_eq_true] at h
      rcases List.mem_cons.mp hr with rfl | hr
      · obtain ⟨e, hm, rfl⟩ := he
        have : (r.2.2.any fun x => x.1 == e.1) = true := List.any_eq_true.mpr ⟨e, hm, by simp⟩
        simp [hs, this] at h
      · exact covers_sound cls rows ls h.2 r hr hs he

/-! ### every registered class has an id and a layout entry covering the version -/

/-- every entry of a supported version has an id, and its class has a row in the layout table -/
def checkEntries (ids : IdTables) (lays : LayoutTables) : Bool :=
  ids.all fun t =>
    match lays.lookup t.1 with
    | none => t.2.all fun r => !r.2.1 || r.2.2.isEmpty
    | some rows => t.2.all fun r => !r.2.1 || r.2.2.all fun e =>
        e.2.isSome && rows.any fun row => row.1 == e.1

def checkCover (ids : IdTables) (lays : LayoutTables) : Bool :=
  ids.all fun t =>
    match lays.lookup t.1 with
    | none => true
    | some rows => rows.all fun row => covers row.1 t.2 (row.2.map (·.2))

/-- the ∀-statement: for every table, every SUPPORTED version and every class registered for it, the
class has an id and appears in the layout table (same table name) with a variant (a field layout, or
`none` = hand-written codec) that lists this version -/
def Covered (ids : IdTables) (lays : LayoutTables) : Prop :=
  ∀ t ∈ ids, ∀ r ∈ t.2, r.2.1 = true → ∀ e ∈ r.2.2,
    (∃ i : Int, e.2 = some i) ∧
    ∃ rows, lays.lookup t.1 = some rows ∧ ∃ row ∈ rows, row.1 = e.1 ∧ ∃ var ∈ row.2, r.1 ∈ var.2

theorem covered_of_checks (ids : IdTables) (lays : LayoutTables)
    (h1 : checkEntries ids lays = true) (h2 : checkCover ids lays = true) : Covered ids lays := by
  intro t ht r hr hs e he
  simp only [checkEntries, List.all_eq_true] at h1
  simp only [checkCover, List.all_eq_true] at h2
  have a := h1 t ht
  have b := h2 t ht
  cases hl : lays.lookup t.1 with
  | none =>
    simp only [hl, List.all_eq_true] at a
    have := a r hr
    simp only [hs, Bool.not_true, Bool.false_or, List.isEmpty_iff] at this
    rw [this] at he
    simp at he
  | some rows =>
    simp only [hl, List.all_eq_true] at a b
    have := a r hr
    simp only [hs, Bool.not_true, Bool.false_or, List.all_eq_true, Bool.and_eq_true,
      List.any_eq_true] at this
    obtain ⟨hid, row, hrow, hname⟩ := this e he
    have hname : row.1 = e.1 := by simpa using hname
    obtain ⟨l, hl, hv⟩ := covers_sound row.1 t.2 _ (b row hrow) r hr hs ⟨e, he, hname.symm⟩
    obtain ⟨var, hvar, rfl⟩ := List.mem_map.mp hl
    exact ⟨Option.isSome_iff_exists.mp hid, rows, rfl, row, hrow, hname, var, hvar, hv⟩

/-! ### the layouts themselves -/

def _root_.PyCraft.WType.hasNbt : WType → Bool
  | .custom .nbt => true
  | .array _ t => t.hasNbt
  | _ => false

/-- some field is (an array of) NBT — the one type outside the model -/
def _root_.PyCraft.Layout.hasNbt (L : Layout) : Bool := L.any fun f => f.2.hasNbt

/-- all (table, class, layout, versions) with a field layout -/
def fieldLayouts (lays : LayoutTables) : List (String × String × Layout × List Nat) :=
  lays.flatMap fun t => t.2.flatMap fun row => row.2.filterMap fun var =>
    var.1.map fun L => (t.1, row.1, L, var.2)

/-- (table, class, versions) of the layouts with an NBT field -/
def nbtClassesOf (lays : LayoutTables) : List (String × String × List Nat) :=
  (fieldLayouts lays).filterMap fun x =>
    if Layout.hasNbt x.2.2.1 then some (x.1, x.2.1, x.2.2.2) else none

/-- (table, class) with a hand-written codec in some version -/
def handWrittenOf (lays : LayoutTables) : List (String × String) :=
  lays.flatMap fun t => t.2.filterMap fun row =>
    if row.2.any (fun var => var.1.isNone) then some (t.1, row.1) else none

/-- (table, class) with a field layout in some version -/
def fieldClassesOf (lays : LayoutTables) : List (String × String) :=
  lays.flatMap fun t => t.2.filterMap fun row =>
    if row.2.any (fun var => var.1.isSome) then some (t.1, row.1) else none

def sameSet (a b : List (String × String)) : Bool :=
  a.all (fun x => b.contains x) && b.all (fun x => a.contains x)

theorem sameSet_iff (a b : List (String × String)) (h : sameSet a b = true) (x : String × String) :
    x ∈ a ↔ x ∈ b := by
  simp only [sameSet, Bool.and_eq_true, List.all_eq_true, List.contains_iff_mem] at h
  exact ⟨h.1 x, h.2 x⟩

/-- every field layout is admissible, and has an NBT field only if its class is listed -/
def checkLayouts (lays : LayoutTables) (nbtNames : List (String × String)) : Bool :=
  lays.all fun t => t.2.all fun row => row.2.all fun var =>
    match var.1 with
    | none => true
    | some L => Layout.ok L && (!Layout.hasNbt L || nbtNames.contains (t.1, row.1))

theorem checkLayouts_sound (lays : LayoutTables) (nbtNames : List (String × String))
    (h : checkLayouts lays nbtNames = true) :
    ∀ t ∈ lays, ∀ row ∈ t.2, ∀ var ∈ row.2, ∀ L, var.1 = some L →
      Layout.ok L = true ∧ (Layout.hasNbt L = true → (t.1, row.1) ∈ nbtNames) := by
  intro t ht row hrow var hvar L hL
  simp only [checkLayouts, List.all_eq_true] at h
  have := h t ht row hrow var hvar
  simp only [hL, Bool.and_eq_true, Bool.or_eq_true, Bool.not_eq_true', List.contains_iff_mem] at this
  refine ⟨this.1, fun hn => ?_⟩
  rcases this.2 with h' | h'
  · rw [hn] at h'; cases h'
  · exact h'

/-! ### an in-domain sample value of every NBT-free type (non-vacuity of the round-trip theorems) -/

def sampleVal : WType → Value
  | .bool => .bool true
  | .int _ => .int 1
  | .varint => .int 300
  | .varlong => .int 300
  | .string => .str "a"
  | .uuid => .bytes (List.replicate 16 7)
  | .angle => .int 1
  | .fixed _ _ => .int 1
  | .bytesVarint => .bytes [1, 2]
  | .bytesShort => .bytes [1, 2]
  | .trailing => .bytes [1, 2]
  | .array _ t => .list [sampleVal t, sampleVal t]
  | .custom (.record _) => Value.ofInts [1, 2, 3, 4]
  | .custom (.pitch _ _) => .int 1
  | .custom .nbt => .int 0
  | .custom _ => Value.ofInts [1, 2, 3]

theorem sample_custom : ∀ c : CustomT, c ≠ .nbt → realDom c (sampleVal (.custom c))
  | .nbt, h => absurd rfl h
  | .position b, _ => by cases b <;> decide
  | .record b, _ => by cases b <;> decide
  | .pitch a b, _ => by cases a <;> cases b <;> decide
  | .secpos, _ => by decide
  | .explRecord, _ => by decide
  | .effectPos, _ => by decide

theorem sample_wellTyped : ∀ t : WType, t.hasNbt = false → WellTyped realDom t (sampleVal t) := by
  intro t
  induction t with
  | int t => intro _; show IntT.inDom t 1; cases t <;> decide
  | fixed b _ => intro _; show IntT.inDom b 1; cases b <;> decide
  | string => intro _; show (utf8 "a").length < 2 ^ 31; decide +kernel
  | array l t ih =>
    intro h
    have ht : t.hasNbt = false := by simpa [WType.hasNbt] using h
    have := ih ht
    cases l <;> simp [sampleVal, WellTyped, this]
  | custom c => intro h; exact sample_custom c (by rintro rfl; simp [WType.hasNbt] at h)
  | _ => intro _; simp [sampleVal, WellTyped]

theorem sample_wellTypedFields : ∀ L : Layout, Layout.hasNbt L = false →
    WellTypedFields realDom L (L.map fun f => sampleVal f.2) := by
  intro L
  induction L with
  | nil => intro _; exact True.intro
  | cons f L ih =>
    intro h
    obtain ⟨n, t⟩ := f
    simp only [Layout.hasNbt, List.any_cons, Bool.or_eq_false_iff] at h
    exact ⟨sample_wellTyped t h.1, ih h.2⟩

end PyCraft.LayoutCheck
