import PyCraft.Model.Ids
import PyCraft.Lemmas.Basic
namespace PyCraft

theorem dupIds_nil_of_nodup : ∀ (ents : List IdEnt), (ents.map (·.2)).Nodup → dupIds ents = []
  | [], _ => rfl
  | e :: rest, h => by
    simp only [List.map_cons, List.nodup_cons] at h
    have : rest.any (fun f => f.2 == e.2) = false := by
      rw [List.any_eq_false]
      intro f hf hfe
      have : f.2 = e.2 := by simpa using hfe
      exact h.1 (this ▸ List.mem_map_of_mem hf)
    simp [dupIds, this, dupIds_nil_of_nodup rest h.2]

theorem nodup_of_dupIds_nil : ∀ (ents : List IdEnt), dupIds ents = [] → (ents.map (·.2)).Nodup
  | [], _ => by simp
  | e :: rest, h => by
    simp only [dupIds, List.append_eq_nil_iff] at h
    have hrest := nodup_of_dupIds_nil rest h.2
    simp only [List.map_cons, List.nodup_cons]
    refine ⟨?_, hrest⟩
    intro hmem
    obtain ⟨f, hf, hfe⟩ := List.mem_map.mp hmem
    have : rest.any (fun f => f.2 == e.2) = true := by
      rw [List.any_eq_true]; exact ⟨f, hf, by simp [hfe]⟩
    simp [this] at h

theorem find_filter_ne {α : Type} (k i : Int) (hki : k ≠ i) (d : List (Int × α)) :
    (d.filter (fun kv => decide (kv.1 ≠ k))).find? (fun x => x.1 == i) =
      d.find? (fun x => x.1 == i) := by
  rw [List.find?_filter]
  congr 1
  funext x
  by_cases hx : x.1 = i
  · simp [hx, Ne.symm hki]
  · simp [hx]

/-- a dict built by inserting pairs in order, a later pair replacing an earlier one with the same key:
under each key it holds the LAST pair inserted with that key -/
theorem find?_foldl_insert {α : Type} (ents : List (Int × α)) : ∀ (d : List (Int × α)) (i : Int),
    (ents.foldl (fun d e => e :: d.filter (fun kv => kv.1 ≠ e.1)) d).find? (·.1 == i) =
      (ents.reverse.find? (·.1 == i)).or (d.find? (·.1 == i)) := by
  induction ents with
  | nil => intro d i; rfl
  | cons e rest ih =>
    intro d i
    rw [List.foldl_cons, ih, List.reverse_cons, List.find?_append, Option.or_assoc]
    congr 1
    by_cases hi : e.1 = i
    · simp [hi]
    · rw [List.find?_cons_of_neg (by simpa using hi), find_filter_ne e.1 i hi d]
      simp [hi]

theorem dictGet_buildDict (l : List (String × Int)) (i : Int) :
    dictGet (buildDict l) i = (l.reverse.find? (fun e => e.2 == i)).map (·.1) := by
  have h := find?_foldl_insert (l.map fun e => (e.2, e.1)) [] i
  rw [List.foldl_map] at h
  rw [dictGet, buildDict, h, ← List.map_reverse, List.find?_map]
  simp [Function.comp_def]

end PyCraft
