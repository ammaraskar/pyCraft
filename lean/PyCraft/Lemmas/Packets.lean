import PyCraft.Lemmas.Wire
import PyCraft.Model.Packets.Map
import PyCraft.Model.Packets.PlayerListItem
import PyCraft.Model.Packets.SpawnObject
import PyCraft.Model.Packets.CombatEvent
import PyCraft.Model.Packets.FacePlayer
import PyCraft.Model.Packets.PluginResponse
/-!
Helper lemmas for property C05 (hand-written packet codecs): the typed primitives agree with the
generic `encode` / `decode` of C02, the round-trip relation `RT` and its closure under sequencing,
conditionals and loops, and the round trip of every component of the six packet models.
-/
namespace PyCraft.Pk
open PyCraft

/-! ## the typed primitives are the C02 codecs -/

theorem wBool_eq_encode (cc : CustomCodec) (b : Bool) : wBool b = encode cc .bool (.bool b) := rfl
theorem wInt_eq_encode (cc : CustomCodec) (t : IntT) (v : Int) :
    wInt t v = encode cc (.int t) (.int v) := rfl
theorem wVarInt_eq_encode (cc : CustomCodec) (v : Int) : wVarInt v = encode cc .varint (.int v) := rfl
theorem wString_eq_encode (cc : CustomCodec) (s : String) :
    wString s = encode cc .string (.str s) := rfl
theorem wUuid_eq_encode (cc : CustomCodec) (b : Bytes) : wUuid b = encode cc .uuid (.bytes b) := rfl
theorem wBytesV_eq_encode (cc : CustomCodec) (b : Bytes) :
    wBytesV b = encode cc .bytesVarint (.bytes b) := rfl
theorem wTrailing_eq_encode (cc : CustomCodec) (b : Bytes) :
    wTrailing b = encode cc .trailing (.bytes b) := rfl

/-- a typed reader `r` with embedding `inj` is the generic decoder of `t` -/
def AgreesWith {α : Type} (r : Reader α) (inj : α → Value) (t : WType) : Prop :=
  ∀ cc bs, decode cc t bs = (r bs).map (fun p => (inj p.1, p.2))

theorem rBool_eq_decode : AgreesWith rBool Value.bool .bool := by
  intro cc bs
  unfold decode rBool
  cases h : takeN 1 bs <;> simp [bind, Except.bind, Except.map, pure, Except.pure]

theorem rInt_eq_decode (t : IntT) : AgreesWith (rInt t) Value.int (.int t) := by
  intro cc bs
  unfold decode rInt
  cases h : t.unpack bs <;> simp [bind, Except.bind, Except.map, pure, Except.pure]

theorem rVarInt_eq_decode : AgreesWith rVarInt Value.int .varint := by
  intro cc bs
  unfold decode rVarInt rVarNat
  cases h : decVarInt 5 bs <;> simp [bind, Except.bind, Except.map, pure, Except.pure]

theorem rString_eq_decode : AgreesWith rString Value.str .string := by
  intro cc bs
  unfold decode rString rVarNat
  cases h : decVarInt 5 bs with
  | error e => simp [bind, Except.bind, Except.map]
  | ok p =>
    simp only [bind, Except.bind]
    split
    · rfl
    · cases utf8Decode (List.take p.1 p.2) <;> rfl

theorem rUuid_eq_decode : AgreesWith rUuid Value.bytes .uuid := by
  intro cc bs
  unfold decode rUuid
  split <;> rfl

theorem rBytesV_eq_decode : AgreesWith rBytesV Value.bytes .bytesVarint := by
  intro cc bs
  unfold decode rBytesV rVarNat
  cases h : decVarInt 5 bs with
  | error e => simp [bind, Except.bind, Except.map]
  | ok p =>
    simp only [bind, Except.bind]
    cases takeN p.1 p.2 <;> rfl

theorem rTrailing_eq_decode : AgreesWith rTrailing Value.bytes .trailing := by
  intro cc bs; rfl

/-! ## the round-trip relation -/

/-- the writer succeeds and the reader, given the written bytes followed by anything, returns `x`
and leaves exactly what followed -/
def RT {α : Type} (w : Except Err Bytes) (r : Reader α) (x : α) : Prop :=
  ∃ bs, w = .ok bs ∧ ∀ rest, r (bs ++ rest) = .ok (x, rest)

/-- in particular the written bytes alone are read back exactly -/
theorem rt_exact {α : Type} {w : Except Err Bytes} {r : Reader α} {x : α} (h : RT w r x) :
    ∃ bs, w = .ok bs ∧ r bs = .ok (x, []) ∧ ∀ rest, r (bs ++ rest) = .ok (x, rest) := by
  obtain ⟨bs, hw, hr⟩ := h
  exact ⟨bs, hw, by simpa using hr [], hr⟩

/-- the round trips of a typed primitive are those of the C02 codec it agrees with (`item_main`) -/
theorem rt_of_agrees {α : Type} {r : Reader α} {inj : α → Value} {t : WType}
    (ha : AgreesWith r inj t) (hinj : ∀ a b, inj a = inj b → a = b) (hs : t.selfDelimiting = true)
    (x : α) (hw : WellTyped noCustomDom t (inj x)) : RT (encode noCustomCodec t (inj x)) r x := by
  obtain ⟨bs, h1, _, h2, _⟩ := item_main noCustomLaw t hs (inj x) hw
  refine ⟨bs, h1, fun rest => ?_⟩
  have h := (ha noCustomCodec (bs ++ rest)).symm.trans (h2 rest)
  cases hr : r (bs ++ rest) with
  | error e => rw [hr] at h; cases h
  | ok p =>
    rw [hr] at h
    injection h with h; injection h with h3 h4
    obtain ⟨a, b⟩ := p
    exact congrArg Except.ok (Prod.ext (hinj _ _ h3) h4)

theorem seqW_ok (a b : Bytes) : (Except.ok a : Except Err Bytes) +++ .ok b = .ok (a ++ b) := rfl

theorem seqW_assoc (a b c : Except Err Bytes) : (a +++ b) +++ c = a +++ (b +++ c) := by
  cases a <;> cases b <;> cases c <;> simp [seqW, bind, Except.bind, pure, Except.pure]

/-- sequencing: a field is written first and read first; the value read is passed, with the rest of
the input, to the continuation `k` of the reader (the shape of a `do` block:
`let (a, bs) ← r₁ bs; …`) -/
theorem rt_seq {α β : Type} {w1 w2 : Except Err Bytes} {r1 : Reader α} {x : α}
    {k : α × Bytes → Except Err (β × Bytes)} {y : β}
    (h1 : RT w1 r1 x) (h2 : RT w2 (fun bs => k (x, bs)) y) :
    RT (w1 +++ w2) (fun bs => r1 bs >>= k) y := by
  obtain ⟨a, ha, ra⟩ := h1
  obtain ⟨b, hb, rb⟩ := h2
  refine ⟨a ++ b, by rw [ha, hb, seqW_ok], fun rest => ?_⟩
  simp only [List.append_assoc, ra, bind, Except.bind]
  exact rb rest

/-- the last field: the continuation only builds the result -/
theorem rt_last {α β : Type} {w : Except Err Bytes} {r : Reader α} {x : α}
    {k : α × Bytes → Except Err (β × Bytes)} {y : β}
    (h : RT w r x) (hk : ∀ bs, k (x, bs) = .ok (y, bs)) : RT w (fun bs => r bs >>= k) y := by
  obtain ⟨a, ha, ra⟩ := h
  exact ⟨a, ha, fun rest => by simp only [ra, bind, Except.bind, hk]⟩

/-- a step of the reader that consumes nothing: a computed value is passed on -/
theorem rt_okBind {β γ : Type} {w : Except Err Bytes} {e : Except Err γ} {v : γ}
    {k : γ → Reader β} {y : β} (he : e = .ok v) (h : RT w (k v) y) :
    RT w (fun bs => e >>= fun a => k a bs) y := by
  rw [he]; exact h

/-- a conditional tail: writer and reader branch on the same condition -/
theorem rt_cond {β : Type} {c : Prop} [Decidable c] {w1 w2 : Except Err Bytes} {r1 r2 : Reader β}
    {y : β} (h1 : c → RT w1 r1 y) (h2 : ¬ c → RT w2 r2 y) :
    RT (if c then w1 else w2) (fun bs => if c then r1 bs else r2 bs) y := by
  by_cases h : c
  · simp only [h, if_true]; exact h1 h
  · simp only [h, if_false]; exact h2 h

theorem rt_nil {α : Type} (x : α) : RT nilW (fun bs => pure (x, bs)) x :=
  ⟨[], rfl, fun _ => rfl⟩

theorem rt_bool (b : Bool) : RT (wBool b) rBool b :=
  rt_of_agrees rBool_eq_decode (fun _ _ h => Value.bool.inj h) rfl b trivial

theorem rt_int (t : IntT) (v : Int) (h : t.inDom v) : RT (wInt t v) (rInt t) v :=
  rt_of_agrees (rInt_eq_decode t) (fun _ _ h => Value.int.inj h) rfl v h

theorem rt_varnat (n : Nat) (h : n < 2 ^ 32) : RT (wVarInt (n : Int)) rVarNat n := by
  refine ⟨encVarInt n, ?_, fun rest => ?_⟩
  · simp [wVarInt, encVarIntZ]
  · exact (hdr_varint 5 n (by omega)).read rest

theorem rt_varint (v : Int) (h : VarIntDom v) : RT (wVarInt v) rVarInt v :=
  rt_of_agrees rVarInt_eq_decode (fun _ _ h => Value.int.inj h) rfl v h

theorem rt_string (s : String) (h : StrDom s) : RT (wString s) rString s :=
  rt_of_agrees rString_eq_decode (fun _ _ h => Value.str.inj h) rfl s h

theorem rt_uuid (u : Bytes) (h : u.length = 16) : RT (wUuid u) rUuid u :=
  rt_of_agrees rUuid_eq_decode (fun _ _ h => Value.bytes.inj h) rfl u h

theorem rt_bytesV (b : Bytes) (h : b.length < 2 ^ 31) : RT (wBytesV b) rBytesV b :=
  rt_of_agrees rBytesV_eq_decode (fun _ _ h => Value.bytes.inj h) rfl b h

theorem rt_optString (o : Option String) (h : OptStrDom o) : RT (wOptString o) rOptString o := by
  cases o with
  | none => exact rt_last (rt_bool false) fun _ => rfl
  | some s => exact rt_seq (rt_bool true) (rt_last (rt_string s h) fun _ => rfl)

/-- `UnsignedByte.send` read back by `Byte.read`: the value modulo 256, reinterpreted as signed -/
theorem rt_u8_i8 (v : Int) (h : IntT.u8.inDom v) : RT (wInt .u8 v) (rInt .i8) (asSigned8 v) := by
  obtain ⟨bs, h1, h2, h3⟩ := IntT.u8.pack_spec v h
  refine ⟨bs, h1, fun rest => ?_⟩
  obtain ⟨v', e1, _, _, e4⟩ := IntT.i8.unpack_spec bs rest h2
  have hd : 0 ≤ v ∧ v < 256 := by simpa [IntT.inDom, IntT.signed, IntT.width] using h
  simp only [IntT.width] at h3 e4
  have hs : IntT.i8.inDom (asSigned8 v) := by
    unfold asSigned8
    simp [IntT.inDom, IntT.signed, IntT.width]
    split <;> omega
  have hm : asSigned8 v % (256 : Int) ^ 1 = (beValue bs : Int) := by
    rw [h3]
    unfold asSigned8
    split <;> omega
  rw [rInt, e1, e4 (asSigned8 v) hs hm]

theorem rt_if {α : Type} (c : Bool) {w : Except Err Bytes} {r : Reader α} {x : α} (d : α)
    (h : c = true → RT w r x) : RT (wIf c w) (rIf c r d) (if c then x else d) := by
  cases c with
  | false => exact ⟨[], rfl, fun _ => rfl⟩
  | true =>
    obtain ⟨b, hw, hr⟩ := h rfl
    exact ⟨b, hw, fun rest => by simp [rIf, hr]⟩

theorem rt_some {α : Type} {w : Except Err Bytes} {r : Reader α} {x : α} (h : RT w r x) :
    RT w (rSome r) (some x) := rt_last h fun _ => rfl

/-- an assigned, in-domain attribute -/
theorem rt_attr {α : Type} {P : α → Prop} {o : Option α} {w : α → Except Err Bytes} {r : Reader α}
    (h : OptDom P o) (hrt : ∀ v, P v → RT (w v) r v) : RT (attr o w) (rSome r) o := by
  cases o with
  | none => exact h.elim
  | some v => exact rt_some (hrt v h)

/-- the loop: element-wise round trip (up to `g`) gives the round trip of the whole list -/
theorem rt_each {α : Type} (w : α → Except Err Bytes) (r : Reader α) (g : α → α) :
    ∀ xs : List α, (∀ x ∈ xs, RT (w x) r (g x)) →
      RT (wEach w xs) (rRepeat r xs.length) (xs.map g)
  | [], _ => ⟨[], rfl, fun _ => rfl⟩
  | x :: xs, h =>
    rt_seq (h x List.mem_cons_self)
      (rt_last (rt_each w r g xs fun y hy => h y (List.mem_cons_of_mem _ hy)) fun _ => rfl)

theorem wIf_false (w : Except Err Bytes) : wIf false w = .ok [] := rfl
theorem wIf_true (w : Except Err Bytes) : wIf true w = w := rfl
theorem rIf_false {α : Type} (r : Reader α) (d : α) (bs : Bytes) : rIf false r d bs = .ok (d, bs) := rfl
theorem rIf_true {α : Type} (r : Reader α) (d : α) (bs : Bytes) : rIf true r d bs = r bs := rfl

theorem attr_some {α : Type} (v : α) (w : α → Except Err Bytes) : attr (some v) w = w v := rfl

theorem optDom_some {α : Type} {P : α → Prop} {o : Option α} (h : OptDom P o) :
    ∃ v, o = some v ∧ P v := by
  cases o with
  | none => exact h.elim
  | some v => exact ⟨v, rfl, h⟩

/-! ## PluginResponsePacket -/

theorem plugresp_rt (p : PluginRespPkt) (h : PluginRespWF p) :
    ∃ bs, writePluginResp p = .ok bs ∧ readPluginResp bs = .ok (p.normalise, []) ∧
      (p.effSuccessful = false → ∀ rest, readPluginResp (bs ++ rest) = .ok (p.normalise, rest)) := by
  obtain ⟨h1, h2⟩ := h
  cases he : p.effSuccessful with
  | false =>
    have hrt : RT (writePluginResp p) readPluginResp p.normalise := by
      unfold writePluginResp PluginRespPkt.normalise
      rw [he]
      exact rt_seq (rt_varint _ h1) (rt_seq (rt_bool false) (rt_nil _))
    obtain ⟨bs, hw, h0, hr⟩ := rt_exact hrt
    exact ⟨bs, hw, h0, fun _ => hr⟩
  | true =>
    obtain ⟨b1, w1, r1⟩ := rt_varint _ h1
    obtain ⟨b2, w2, r2⟩ := rt_bool true
    obtain ⟨d, hd⟩ := Option.isSome_iff_exists.mp (h2 he)
    refine ⟨b1 ++ (b2 ++ d), ?_, ?_, fun hf => by simp at hf⟩
    · simp only [writePluginResp, he, hd, w1, w2, wTrailing, seqW_ok, if_true]
    · simp only [readPluginResp, r1, r2, bind, Except.bind, pure, Except.pure, rTrailing,
        PluginRespPkt.normalise, he, hd]
      rfl

/-! ## FacePlayerPacket -/

theorem rt_face (f : FaceFlags) (p : FacePkt) (h : FaceWF f p) :
    RT (writeFace f p) (readFace f) (p.normalise f) := by
  obtain ⟨v353⟩ := f
  obtain ⟨origin, x, y, z, eid, eo⟩ := p
  cases v353 with
  | true =>
    simp only [FaceWF, if_true] at h
    obtain ⟨h1, h2, h3, h4, h5⟩ := h
    cases origin with | none => exact h1.elim | some origin => ?_
    cases x with | none => exact h2.elim | some x => ?_
    cases y with | none => exact h3.elim | some y => ?_
    cases z with | none => exact h4.elim | some z => ?_
    refine rt_seq (rt_varint origin h1) (rt_seq (rt_int .f64 x h2) (rt_seq (rt_int .f64 y h3)
      (rt_seq (rt_int .f64 z h4) ?_)))
    cases eid with
    | none => exact rt_last (rt_bool false) fun _ => rfl
    | some e =>
      cases eo with | none => exact h5.2.elim | some eo => ?_
      exact rt_seq (rt_bool true) (rt_seq (rt_varint e h5.1) (rt_last (rt_varint eo h5.2) fun _ => rfl))
  | false =>
    simp only [FaceWF, Bool.false_eq_true, if_false] at h
    cases eid with
    | some e => exact rt_seq (rt_bool true) (rt_last (rt_varint e h) fun _ => rfl)
    | none =>
      obtain ⟨h2, h3, h4⟩ := h
      cases x with | none => exact h2.elim | some x => ?_
      cases y with | none => exact h3.elim | some y => ?_
      cases z with | none => exact h4.elim | some z => ?_
      exact rt_seq (rt_bool false) (rt_seq (rt_int .f64 x h2) (rt_seq (rt_int .f64 y h3)
        (rt_last (rt_int .f64 z h4) fun _ => rfl)))

/-! ## CombatEventPacket -/

theorem rt_combat (f : CombatFlags) (ev : CombatEvent) (h : CombatWF f ev) :
    RT (writeCombat f ev) (readCombat f) ev := by
  obtain ⟨pre15⟩ := f
  obtain ⟨hf, hw⟩ := h
  cases hf
  cases ev with
  | enter => exact rt_seq (rt_varnat 0 (by omega)) (rt_nil _)
  | endCombat duration entityId =>
    exact rt_seq (rt_varnat 1 (by omega)) (rt_seq (rt_varint duration hw.1)
      (rt_last (rt_int .i32 entityId hw.2) fun _ => rfl))
  | dead playerId entityId message =>
    exact rt_seq (rt_varnat 2 (by omega)) (rt_seq (rt_varint playerId hw.1)
      (rt_seq (rt_int .i32 entityId hw.2.1) (rt_last (rt_string message hw.2.2) fun _ => rfl)))

/-! ## SpawnObjectPacket -/

theorem rt_spawn (f : SpawnFlags) (p : SpawnPkt) (h : SpawnWF f p) :
    RT (writeSpawn f p) (readSpawn f) (p.normalise f) := by
  obtain ⟨hId, hUuid, hType, hX, hY, hZ, hPitch, hYaw, hData, hVel⟩ := h
  have rtType : RT (if f.v458 then wVarInt p.typeId else wInt .i8 p.typeId)
      (if f.v458 then rVarInt else rInt .i8) p.typeId := by
    cases hc : f.v458
    · simp only [hc, Bool.false_eq_true, if_false] at hType ⊢
      exact rt_int _ _ hType
    · simp only [hc, if_true] at hType ⊢
      exact rt_varint _ hType
  refine rt_seq (rt_varint _ hId)
    (rt_seq (rt_if f.v49 none fun hc => rt_attr (hUuid hc) fun v hv => rt_uuid v hv)
    (rt_seq rtType (rt_seq (rt_int _ _ hX) (rt_seq (rt_int _ _ hY) (rt_seq (rt_int _ _ hZ)
      (rt_seq (rt_int _ _ hPitch) (rt_seq (rt_int _ _ hYaw) (rt_seq (rt_int _ _ hData) ?_))))))))
  unfold SpawnPkt.normalise
  unfold SpawnPkt.hasVelocity at hVel ⊢
  show RT _ (fun bs => if (f.v49 || decide (p.data > 0)) = true then _ else _) _
  generalize (f.v49 || decide (p.data > 0)) = c at hVel
  cases c with
  | false => exact rt_nil _
  | true =>
    obtain ⟨g1, g2, g3⟩ := hVel rfl
    obtain ⟨vx, ex, dx⟩ := optDom_some g1
    obtain ⟨vy, ey, dy⟩ := optDom_some g2
    obtain ⟨vz, ez, dz⟩ := optDom_some g3
    rw [ex, ey, ez]
    exact rt_seq (rt_int .i16 vx dx) (rt_seq (rt_int .i16 vy dy) (rt_last (rt_int .i16 vz dz) fun _ => rfl))

/-! ## MapPacket -/

/-- the nibble packing, arithmetically -/
theorem typeAndDirection_eq (t d : Int) : typeAndDirection t d = (t % 16) * 16 + d % 16 := by
  unfold typeAndDirection pyMask
  have h1 : (t * 2 ^ 4 % 2 ^ 8).toNat = (t % 16).toNat <<< 4 := by
    rw [Nat.shiftLeft_eq]; omega
  have h2 : (d % 2 ^ 4).toNat < 2 ^ 4 := by omega
  rw [h1, ← Nat.shiftLeft_add_eq_or_of_lt h2, Nat.shiftLeft_eq]
  omega

theorem rt_iconHead (f : MapFlags) (ic : MapIcon)
    (h : f.v373 = true → VarIntDom ic.type) :
    RT (writeIconHead f ic) (readIconHead f)
      (if f.v373 then ic.type else ic.type % 16, if f.v373 then 0 else ic.direction % 16) := by
  refine rt_cond (fun hc => ?_) fun hc => ?_
  · rw [if_pos hc, if_pos hc]
    exact rt_last (rt_varint _ (h hc)) fun _ => rfl
  · have hd : IntT.u8.inDom (typeAndDirection ic.type ic.direction) := by
      rw [typeAndDirection_eq]; simp [IntT.inDom, IntT.signed, IntT.width]; omega
    have e1 : (ic.type % 16 * 16 + ic.direction % 16) / 16 = ic.type % 16 := by omega
    have e2 : (ic.type % 16 * 16 + ic.direction % 16) % 16 = ic.direction % 16 := by omega
    rw [if_neg hc, if_neg hc]
    exact rt_last (rt_int .u8 _ hd) fun bs => by
      show Except.ok ((_ / 16, _ % 16), bs) = _
      rw [typeAndDirection_eq, e1, e2]

theorem rt_icon (f : MapFlags) (ic : MapIcon) (h : ic.WF f) :
    RT (writeIcon f ic) (readIcon f) (ic.normalise f) := by
  obtain ⟨h1, h2, h3, h4⟩ := h
  exact rt_seq (rt_iconHead f ic fun hc => (h1 hc).1) (rt_seq (rt_int .i8 _ h2)
    (rt_seq (rt_int .i8 _ h3) (rt_seq (rt_if f.v373 _ fun hc => rt_int .u8 _ (h1 hc).2)
      (rt_last (rt_if f.v364 none fun hc => rt_optString _ (h4 hc)) fun _ => by
        unfold MapIcon.normalise; cases f.v373 <;> rfl))))

theorem rt_map (f : MapFlags) (p : MapPkt) (h : MapWF f p) :
    RT (writeMap f p) (readMap f) (p.normalise f) := by
  obtain ⟨h1, h2, h3, h4, h5, h6⟩ := h
  have hic := rt_each (writeIcon f) (readIcon f) (MapIcon.normalise f) p.icons
    fun ic hic => rt_icon f ic (h4 ic hic)
  -- `map_packet.py` `read`: the `elif protocol_earlier(107)` and the final `else` both leave
  -- `is_tracking_position = True`; the nested `if` below is that chain as the reader runs it
  have ht : (if f.pre6 = true then p.isTrackingPosition
      else if (f.v107 && !f.pre6) = true then p.isTrackingPosition
      else if (!f.v107) = true then true else true) =
      (if (f.v107 || f.pre6) = true then p.isTrackingPosition else true) := by
    cases f.v107 <;> cases f.pre6 <;> rfl
  refine rt_seq (rt_varint _ h1) (rt_seq (rt_int .i8 _ h2)
    (rt_seq (rt_if (f.v107 && !f.pre6) _ fun _ => rt_bool p.isTrackingPosition)
    (rt_seq (rt_if f.v452 false fun _ => rt_bool p.isLocked)
    (rt_seq (rt_if f.pre6 _ fun _ => rt_bool p.isTrackingPosition)
    (rt_seq (rt_varnat p.icons.length (by omega)) (rt_seq hic (rt_seq (rt_int .u8 _ h5)
      (rt_cond (fun hw => ?_) fun hw => ?_))))))))
  · obtain ⟨g1, g2, g3⟩ := h6 hw
    obtain ⟨⟨ox, oz⟩, eo, dox, doz⟩ := optDom_some g2
    obtain ⟨px, ep, dp⟩ := optDom_some g3
    rw [eo, ep]
    show RT (wInt .u8 p.height +++ ((wInt .u8 ox +++ wInt .u8 oz) +++ wBytesV px)) _ _
    rw [seqW_assoc]
    exact rt_seq (rt_int .u8 _ g1) (rt_seq (rt_u8_i8 ox dox) (rt_seq (rt_u8_i8 oz doz)
      (rt_last (rt_bytesV px dp) fun _ => by
        simp only [MapPkt.normalise, hw, ht, eo, ep, ne_eq, not_false_eq_true, if_true,
          Option.map_some]
        rfl)))
  · have hw : p.width = 0 := Decidable.not_not.mp hw
    exact ⟨[], rfl, fun _ => by
      simp only [MapPkt.normalise, hw, ht, ne_eq, not_true_eq_false, if_false, List.nil_append, pure,
        Except.pure]⟩

theorem asSigned8_id (v : Int) : asSigned8 v = v ↔ v < 128 := by
  unfold asSigned8; split <;> omega

/-! ## PlayerListItemPacket -/

theorem rt_property (pr : PlayerProperty) (h : pr.WF) : RT (writeProperty pr) readProperty pr :=
  rt_seq (rt_string _ h.1) (rt_seq (rt_string _ h.2.1) (rt_last (rt_optString _ h.2.2) fun _ => rfl))

theorem rt_action (a : Action) (h : a.WF) : RT (writeAction a) (readAction a.kind) a := by
  cases a with
  | addPlayer uuid name properties gamemode ping displayName =>
    obtain ⟨h1, h2, h3, h4, h5, h6, h7⟩ := h
    have hp := rt_each writeProperty readProperty id properties fun pr hp => rt_property pr (h4 pr hp)
    rw [List.map_id] at hp
    exact rt_seq (rt_uuid _ h1) (rt_seq (rt_string _ h2) (rt_seq (rt_varnat properties.length (by omega))
      (rt_seq hp (rt_seq (rt_varint _ h5) (rt_seq (rt_varint _ h6)
        (rt_last (rt_optString _ h7) fun _ => rfl))))))
  | updateGameMode uuid gamemode =>
    exact rt_seq (rt_uuid _ h.1) (rt_last (rt_varint _ h.2) fun _ => rfl)
  | updateLatency uuid ping =>
    exact rt_seq (rt_uuid _ h.1) (rt_last (rt_varint _ h.2) fun _ => rfl)
  | updateDisplayName uuid displayName =>
    exact rt_seq (rt_uuid _ h.1) (rt_last (rt_optString _ h.2) fun _ => rfl)
  | removePlayer uuid => exact rt_seq (rt_uuid _ h) (rt_nil _)

theorem actionKind_id (k : ActionKind) :
    ∃ n : Nat, k.actionId = (n : Int) ∧ n < 2 ^ 32 ∧ actionKindOfId n = .ok k := by
  cases k
  · exact ⟨0, rfl, by omega, rfl⟩
  · exact ⟨1, rfl, by omega, rfl⟩
  · exact ⟨2, rfl, by omega, rfl⟩
  · exact ⟨3, rfl, by omega, rfl⟩
  · exact ⟨4, rfl, by omega, rfl⟩

theorem rt_pli (p : PliPkt) (h : PliWF p) : RT (writePli p) readPli p := by
  obtain ⟨h1, h2⟩ := h
  obtain ⟨n, e1, e2, e3⟩ := actionKind_id p.actionType
  have ha := rt_each writeAction (readAction p.actionType) id p.actions fun a ha => by
    have := rt_action a (h2 a ha).2
    rwa [(h2 a ha).1] at this
  rw [List.map_id] at ha
  rw [writePli, e1]
  exact rt_seq (rt_varnat n e2) (rt_okBind e3
    (rt_seq (rt_varnat p.actions.length (by omega)) (rt_last ha fun _ => rfl)))

end PyCraft.Pk
