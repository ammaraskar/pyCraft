import PyCraft.Lemmas.LifecycleBase
import PyCraft.Lemmas.LifecycleInv
import PyCraft.Lemmas.LifecycleLog
import PyCraft.Lemmas.LifecycleTerm
import PyCraft.Lemmas.LifecycleApi
/-!
Helper lemmas for `Props/C16.lean` (connection lifecycle), split over
`LifecycleBase` (vocabulary, the kinds of action `Step`), `LifecycleInv` (the invariant `LInv`),
`LifecycleLog` (the event-log invariant), `LifecycleTerm` (termination of interrupted threads) and
`LifecycleApi` (API calls as steps).
-/
