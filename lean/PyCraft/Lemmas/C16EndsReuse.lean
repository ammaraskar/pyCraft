import PyCraft.Lemmas.Lifecycle
import PyCraft.Lemmas.LifecycleFairLive
/-!
Helper lemmas for `Props/C16Ends.lean`, part B, all about `Model/Lifecycle.lean`
(on top of `Lemmas/Lifecycle.lean` and the fairness results of `Lemmas/LifecycleFairLive.lean`):
the invariant "a thread that has left its read/write loop, or has run its own reaction to a
disconnect packet, is interrupted" (`OInv`), the preservation of ended connections (`Ended`,
defined in `Lemmas/LifecycleInv.lean`), and "ended ⇒ not busy, now or after the pending
hand-over".
-/
namespace PyCraft.Ends
open PyCraft PyCraft.Life

/-- The sites whose API call is `connect()`. -/
def siteReconnects : Site → Bool
  | .react => false
  | .listen => true
  | .handler => true

/-- Program counters at which the thread's OWN `interrupt` flag is necessarily set:
* after its own reaction to a disconnect packet (`callRel react`) and in the listeners that run
  after it (`call listen`, `callRel listen`);
* after leaving the loop normally (`exit` = `_handle_exit`; the loop condition is
  `not self.interrupt`);
* after `except Exception as e: self.interrupt = True` (`hRun`, the handlers `call handler`,
  `callRel handler`, `hChk`, `hRel`) — NOT at `exc` itself, which is the action that sets the flag;
* in and after the `finally` block. -/
def over : NPc → Bool
  | .call site => siteReconnects site
  | .callRel _ _ | .exit | .hRun | .hChk | .hRel | .epilogue | .epRel | .fin | .dead => true
  | .unborn | .waitPrev | .takeOver | .tkRel | .loopChk | .wBody | .wRel | .wFailRel | .rChk
  | .rRead | .exc => false

theorem siteReconnects_eq (site : Site) : siteReconnects site = site.op.isConn := by
  cases site <;> rfl

/-- Every thread at a program counter of `over` has its `interrupt` flag set. -/
def OInv (s : Sys) : Prop := ∀ i, over (s.net i).pc = true → (s.net i).intr = true

/-- How an action that takes a thread with flag `b` from `pc` to `pc'` is related to `over`: the
thread gets there only from there, by leaving the loop with its flag set, by the `except` clause,
or by its own reaction to a disconnect packet. -/
def overOk (pc : NPc) (b : Bool) (pc' : NPc) : Bool :=
  !over pc' || over pc || (pc == .loopChk && b) || pc == .exc || pc == .call .react

theorem overOk_iff (pc : NPc) (b : Bool) (pc' : NPc) : overOk pc b pc' = true ↔
    (over pc' = true → over pc = true ∨ (pc = .loopChk ∧ b = true) ∨ pc = .exc ∨
      pc = .call .react) := by
  cases h1 : over pc' <;> simp [overOk, h1, or_assoc]

theorem _root_.PyCraft.Life.Quiet.over {env : List Beh} {s : Sys} {x x' : NetThr} {rh' : Nat}
    {e : Ev}
    (hq : Quiet env s x x' rh' e) : overOk x.pc x.intr x'.pc = true := by
  obtain ⟨b, pv, pc⟩ := x
  cases hq
  all_goals
    cases ‹NetThr.pc _ = _›
    cases b <;> rfl

theorem _root_.PyCraft.Life.Locked.over {env : List Beh} {s c : Sys} {i : Nat} {pc' : NPc} {e : Ev}
    (hl : Locked env s i c pc' e) (b : Bool) : overOk (s.net i).pc b pc' = true := by
  cases hl
  case call site out hpc hb => rw [hpc]; cases site <;> cases b <;> rfl
  all_goals
    rw [‹(s.net i).pc = _›]
    cases b <;> rfl

theorem _root_.PyCraft.Life.Release.over {s : Sys} {pc pc' : NPc} {rl' : Nat} {e : Ev}
    (hr : Release s pc pc' rl' e) (b : Bool) : overOk pc b pc' = true := by
  cases hr
  case callRel site out => simp [overOk, Ends.over]
  all_goals cases b <;> rfl

theorem inv_over (env : List Beh) (s s' : Sys) (t : Tid) (h : LInv s) (ho : OInv s)
    (hs : step env s t = some s') : OInv s' := by
  have hS := step_Step env s s' t hs
  intro j hj
  by_cases ht : t = .net j
  · subst ht
    have hb : (s.net j).pc ≠ .unborn := fun hc => by simp [step, stepNet, hc] at hs
    obtain ⟨-, -, hok⟩ := hS.rows (fun pc b pc' _ => overOk pc b pc') Quiet.over
      (fun b h => h.over b) (fun b h => h.over b) (fun b => by cases b <;> rfl)
      (fun b => by cases b <;> rfl)
    rcases (overOk_iff _ _ _).mp hok hj with hov | ⟨-, hi⟩ | hx | hx
    · exact intr_sticky env s s' _ h hs j hb (ho j hov)
    · exact intr_sticky env s s' _ h hs j hb hi
    · obtain ⟨s1, hs1, hi, -⟩ := exc_step env s j hx
      rw [hs] at hs1; cases hs1; exact hi
    · -- the thread's own `disconnect()`: it holds the slot
      obtain ⟨-, -, -, -, -, hth, -⟩ :=
        call_step env s s' (.net j) (.disconnect false) ⟨.react, hx, rfl⟩ hs
      rw [(hth j).1]
      simp only [body, doDisconnect_discSt, discSt]
      exact h.disc_intr j (.inl (by rw [hx]; rfl))
  · rcases (hS.threads h j).1 ht with hpc | ⟨-, hpc | hpc⟩
    · exact intr_sticky env s s' t h hs j (by intro hc; rw [hpc, hc] at hj; cases hj)
        (ho j (hpc ▸ hj))
    · rw [hpc] at hj; cases hj
    · rw [hpc] at hj; cases hj

theorem init_over (progs : List (List Op)) (rl rh : Nat) : OInv (init progs rl rh) := by
  intro i h; simp [init, over] at h

theorem reach_over (env : List Beh) (progs : List (List Op)) (rl rh : Nat) (sched : List Tid) :
    OInv (run env (init progs rl rh) sched) :=
  run_induct_inv env OInv (inv_over env) sched _ (init_inv progs rl rh) (init_over progs rl rh)

/-- An `over` thread that still occupies the slot, with nobody queued behind it: the connection
is not busy (`_check_connection` passes). -/
theorem over_not_busy (s : Sys) (ho : OInv s) (i : Nat) (hn : s.nt = some i)
    (hov : over (s.net i).pc = true) (hnew : s.newNt = none) : busy s = false := by
  simp [busy, hn, hnew, ho i hov]

/-! ### Ended connections -/

theorem ended_busy (s : Sys) (he : Ended s) : busy s = s.newNt.isSome := by
  unfold busy
  cases hn : s.nt with
  | none => simp
  | some t => simp [he t (Or.inl hn)]

/-- While a successor is queued (`new_networking_thread = k`) no step creates a thread or clears a
flag: the connection stays ended, and the successor slot either still holds `k` or has been
emptied by `k`'s take-over. -/
theorem ended_step (env : List Beh) (s s' : Sys) (t : Tid) (k : Nat) (h : LInv s) (he : Ended s)
    (hk : s.newNt = some k) (hs : step env s t = some s') :
    Ended s' ∧ (s'.newNt = some k ∨ s'.newNt = none) := by
  obtain ⟨c, hc, ha⟩ := (step_Step env s s' t hs).effect
  have hbusy : busy s = true := by rw [ended_busy s he, hk]; rfl
  have hn : c.nthreads = s.nthreads := by
    cases hc
    case direct hb _ | succ hb _ => rw [hbusy] at hb; cases hb
    all_goals rfl
  obtain ⟨h1, h2⟩ := hc.slots h hn he
  refine ⟨fun j hj => ?_, ?_⟩
  · rw [ha.nt, ha.newNt] at hj; exact ha.intr j (h1 j hj)
  · rw [ha.newNt, ← hk]; exact h2

theorem ended_run_prefix (env : List Beh) (k : Nat) : ∀ (sched : List Tid) (s : Sys),
    LInv s → Ended s → s.newNt = some k →
    (∃ m, m ≤ sched.length ∧ busy (run env s (sched.take m)) = false) ∨
    (Ended (run env s sched) ∧ (run env s sched).newNt = some k) := by
  intro sched
  induction sched with
  | nil => intro s _ he hk; exact Or.inr ⟨he, hk⟩
  | cons t ts ih =>
    intro s h he hk
    cases hst : step env s t with
    | none =>
      rcases ih s h he hk with ⟨m, hm, hb⟩ | hr
      · refine Or.inl ⟨m + 1, by simp; omega, ?_⟩
        simp only [List.take_succ_cons, run, hst]; exact hb
      · right; simp only [run, hst]; exact hr
    | some s' =>
      obtain ⟨he', hk'⟩ := ended_step env s s' t k h he hk hst
      rcases hk' with hk' | hk'
      · rcases ih s' (step_inv env s s' t h hst) he' hk' with ⟨m, hm, hb⟩ | hr
        · refine Or.inl ⟨m + 1, by simp; omega, ?_⟩
          simp only [List.take_succ_cons, run, hst]; exact hb
        · right; simp only [run, hst]; exact hr
      · refine Or.inl ⟨1, by simp, ?_⟩
        simp only [List.take_succ_cons, List.take_zero, run, hst]
        rw [ended_busy s' he', hk']; rfl

theorem ended_runN_prefix (env : List Beh) (k : Nat) (s : Sys) (σ : Nat → Tid) (h : LInv s)
    (he : Ended s) (hk : s.newNt = some k) : ∀ n,
    (∃ m, m ≤ n ∧ busy (runN env s σ m) = false) ∨
    (Ended (runN env s σ n) ∧ (runN env s σ n).newNt = some k) := by
  intro n
  simp only [runN_eq_run]
  rcases ended_run_prefix env k ((List.range n).map σ) s h he hk with ⟨m, hm, hb⟩ | hr
  · rw [List.length_map, List.length_range] at hm
    rw [← List.map_take, List.take_range, Nat.min_eq_left hm] at hb
    exact Or.inl ⟨m, hm, hb⟩
  · exact Or.inr hr

theorem waiting_not_dead (pc : NPc) (h : pc.waiting = true) : pc ≠ .dead ∧ pc ≠ .unborn := by
  cases pc <;> simp_all [NPc.waiting]

/-- An ended connection is not busy now, or stops being busy within 47 steps of some schedule
(the interrupted predecessor dies, the interrupted successor takes the slot over). -/
theorem ended_eventually (env : List Beh) (s : Sys) (h : LInv s) (he : Ended s) :
    ∃ more, more.length ≤ 47 ∧ busy (run env s more) = false := by
  cases hn : s.newNt with
  | none => exact ⟨[], by simp, by rw [run, ended_busy s he, hn]; rfl⟩
  | some k =>
    have hw := (h.new_iff k).mp hn
    obtain ⟨sched, hl, hd⟩ := can_terminate env s h k (waiting_not_dead _ hw).2
      (he k (Or.inr hn))
    rcases ended_run_prefix env k sched s h he hn with ⟨m, hm, hb⟩ | ⟨-, hk⟩
    · exact ⟨sched.take m, by rw [List.length_take]; omega, hb⟩
    · have := (waiting_not_dead _ (((run_inv env s h sched).new_iff k).mp hk)).1
      exact absurd hd this

/-- … and on EVERY weakly fair infinite schedule. -/
theorem ended_eventually_fair (env : List Beh) (U : Nat) (s : Sys) (σ : Nat → Tid) (h : LInv s)
    (hub : UB U s) (he : Ended s) (hf : WeakFair env s σ) :
    ∃ n, busy (runN env s σ n) = false := by
  cases hn : s.newNt with
  | none => exact ⟨0, by rw [runN, ended_busy s he, hn]; rfl⟩
  | some k =>
    have hw := (h.new_iff k).mp hn
    obtain ⟨n, hd⟩ := eventually_always_dead env U k s σ h hub (waiting_not_dead _ hw).2
      (.inl (he k (Or.inr hn))) hf
    rcases ended_runN_prefix env k s σ h he hn n with ⟨m, -, hb⟩ | ⟨-, hk⟩
    · exact ⟨m, hb⟩
    · have := (waiting_not_dead _ (((runN_inv env s h σ n).new_iff k).mp hk)).1
      exact absurd (hd n (Nat.le_refl _)) this

/-! ### Small facts used by the property theorems -/

theorem busy_congr_threads (a b : Sys) (h1 : a.nt = b.nt) (h2 : a.newNt = b.newNt)
    (h3 : ∀ j, (a.net j).intr = (b.net j).intr) : busy a = busy b := by
  unfold busy
  rw [h1, h2]
  cases b.nt with
  | none => rfl
  | some t => simp only [h3 t]

/-- A state with the attributes and flags of another is as busy as it, and ended if it is. -/
theorem busy_of_same {a b : Sys} {t : Tid} (hsh : a.shared = b.shared)
    (hst : SameThreads b a t) : busy a = busy b :=
  busy_congr_threads a b (congrArg Shared.nt hsh) (congrArg Shared.newNt hsh) fun j => (hst j).1

theorem Ended.of_same {a b : Sys} {t : Tid} (he : Ended b) (hsh : a.shared = b.shared)
    (hst : SameThreads b a t) : Ended a := by
  intro j hj
  have e1 : a.nt = b.nt := congrArg Shared.nt hsh
  have e2 : a.newNt = b.newNt := congrArg Shared.newNt hsh
  rw [e1, e2] at hj
  rw [(hst j).1]
  exact he j hj

/-- After `disconnect()` the connection has ended. -/
theorem ended_disc {s : Sys} (h : LInv s) : Ended (discSt s) :=
  fun j hj => h.disc_intr j (hj.imp (h.nt_iff j).mp (h.new_iff j).mp)

theorem holds_alive (pc : NPc) (h : pc.holds = true) : pc.alive = true := by
  cases pc <;> simp_all [NPc.holds, NPc.alive]

theorem waiting_alive (pc : NPc) (h : pc.waiting = true) : pc.alive = true := by
  cases pc <;> simp_all [NPc.waiting, NPc.alive]

end PyCraft.Ends
