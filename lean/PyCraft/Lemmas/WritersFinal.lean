import PyCraft.Lemmas.Writers
/-!
History invariants of `Model/Writers.lean` over the event LOG (`HistInv`): the wire and the queue
as functions of the log, and the shape of the log around the critical section in which a
`disconnect` closes the socket.  Used by `Props/C12Final.lean`.
-/
namespace PyCraft.Writers

abbrev Log := List (Tid × Ev)

/-! ### Reading a log -/

/-- The packets appended to the queue, in log order. -/
def appsOf (l : Log) : List Pkt := l.flatMap fun e => e.2.apps
/-- The packets popped from the queue, in log order. -/
def popsOf (l : Log) : List Pkt := l.flatMap fun e => e.2.pops
/-- The chunks sent, in log order. -/
def sndsOf (l : Log) : List Chunk := l.flatMap fun e => e.2.snds

/-- Nobody acquires or releases the lock in `l`. -/
def LockFree (l : Log) : Prop := ∀ e ∈ l, e.2.isLock = false
/-- Nothing is popped and nothing is sent in `l`. -/
def NoMove (l : Log) : Prop := ∀ e ∈ l, e.2.isMove = false
/-- Nobody looks at the queue length in `l`. -/
def NoChk (l : Log) : Prop := ∀ e ∈ l, e.2.isChk = false
/-- No `cls` and no `fail` in `l`. -/
def NoDead (l : Log) : Prop := ∀ e ∈ l, e.2 ≠ .cls ∧ e.2 ≠ .fail
/-- No `cls` in `l`. -/
def NoCls (l : Log) : Prop := ∀ e ∈ l, e.2 ≠ .cls

instance (l : Log) : Decidable (LockFree l) := by unfold LockFree; infer_instance
instance (l : Log) : Decidable (NoMove l) := by unfold NoMove; infer_instance
instance (l : Log) : Decidable (NoChk l) := by unfold NoChk; infer_instance
instance (l : Log) : Decidable (NoDead l) := by unfold NoDead; infer_instance
instance (l : Log) : Decidable (NoCls l) := by unfold NoCls; infer_instance

/-- Somebody looked at the queue length in `l`.  For the critical section of a `disconnect`
(`closer_kind`): the disconnect is graceful (it runs the flush loop). -/
def flushes (l : Log) : Bool := l.any fun e => e.2.isChk

@[simp] theorem appsOf_nil : appsOf [] = [] := rfl
@[simp] theorem popsOf_nil : popsOf [] = [] := rfl
@[simp] theorem sndsOf_nil : sndsOf [] = [] := rfl
theorem appsOf_append (a b : Log) : appsOf (a ++ b) = appsOf a ++ appsOf b := by simp [appsOf]
theorem popsOf_append (a b : Log) : popsOf (a ++ b) = popsOf a ++ popsOf b := by simp [popsOf]
theorem sndsOf_append (a b : Log) : sndsOf (a ++ b) = sndsOf a ++ sndsOf b := by simp [sndsOf]
theorem appsOf_cons (e : Tid × Ev) (b : Log) : appsOf (e :: b) = e.2.apps ++ appsOf b := by
  simp [appsOf]
theorem popsOf_cons (e : Tid × Ev) (b : Log) : popsOf (e :: b) = e.2.pops ++ popsOf b := by
  simp [popsOf]
theorem sndsOf_cons (e : Tid × Ev) (b : Log) : sndsOf (e :: b) = e.2.snds ++ sndsOf b := by
  simp [sndsOf]

theorem mem_appsOf (l : Log) (p : Pkt) : p ∈ appsOf l ↔ ∃ u, (u, Ev.app p) ∈ l := by
  simp only [appsOf, List.mem_flatMap]
  constructor
  · rintro ⟨⟨u, e⟩, he, hp⟩
    cases e <;> simp [Ev.apps] at hp
    subst hp; exact ⟨u, he⟩
  · rintro ⟨u, hu⟩; exact ⟨_, hu, by simp [Ev.apps]⟩

theorem mem_popsOf (l : Log) (p : Pkt) : p ∈ popsOf l ↔ ∃ u, (u, Ev.pop p) ∈ l := by
  simp only [popsOf, List.mem_flatMap]
  constructor
  · rintro ⟨⟨u, e⟩, he, hp⟩
    cases e <;> simp [Ev.pops] at hp
    subst hp; exact ⟨u, he⟩
  · rintro ⟨u, hu⟩; exact ⟨_, hu, by simp [Ev.pops]⟩

theorem mem_sndsOf (l : Log) (c : Chunk) : c ∈ sndsOf l ↔ ∃ u, (u, Ev.snd c.1 c.2) ∈ l := by
  simp only [sndsOf, List.mem_flatMap]
  constructor
  · rintro ⟨⟨u, e⟩, he, hp⟩
    cases e <;> simp [Ev.snds] at hp
    subst hp; exact ⟨u, he⟩
  · rintro ⟨u, hu⟩; exact ⟨_, hu, by simp [Ev.snds]⟩

theorem NoMove.pops {l : Log} (h : NoMove l) : popsOf l = [] := by
  simp only [popsOf, List.flatMap_eq_nil_iff]
  intro e he; have := h e he
  revert this; cases e.2 <;> simp [Ev.isMove, Ev.pops]

theorem NoMove.snds {l : Log} (h : NoMove l) : sndsOf l = [] := by
  simp only [sndsOf, List.flatMap_eq_nil_iff]
  intro e he; have := h e he
  revert this; cases e.2 <;> simp [Ev.isMove, Ev.snds]

theorem NoMove.append {a b : Log} (ha : NoMove a) (hb : NoMove b) : NoMove (a ++ b) := by
  intro e he; rcases List.mem_append.mp he with h | h
  · exact ha e h
  · exact hb e h

theorem NoChk.not_flushes {l : Log} (h : NoChk l) : flushes l = false := by
  simp only [flushes, List.any_eq_false]
  intro e he; simp [h e he]

/-! ### What one step does, as seen by the history invariant -/

/-- A step of a thread that does not hold the lock: it acquires the free lock, or it is one of
`app`, `rdi`, `sel`, `end` and leaves lock, holder and socket alone. -/
def FactsOut (s s' : Sys) (t : Tid) (ev : Ev) : Prop :=
  s.owner ≠ some t → s'.sockOpen = s.sockOpen ∧
    ((ev = .acq ∧ s.owner = none ∧ s'.owner = some t) ∨
     (s'.owner = s.owner ∧ cur s' = cur s ∧ ev.isLock = false ∧ ev.isMove = false ∧
       ev.isChk = false ∧ ev ≠ .cls ∧ ev ≠ .fail))

/-- An acquisition that starts a `disconnect` records the queue and the wire; with the socket open,
only an immediate disconnect skips the flush loop. -/
def FactsAcq (s s' : Sys) (ev : Ev) : Prop :=
  ev = .acq → ∀ c, (cur s').dctx = some c → c.snap = s.queue ∧ c.wire0 = s.wire ∧
    (s.sockOpen = true → (cur s').flushing = false → c.imm = true)

/-- A step of the lock holder: the release, the close, or a step that keeps lock, socket and
disconnect context. -/
def FactsIn (s s' : Sys) (t : Tid) (ev : Ev) : Prop :=
  s.owner = some t →
    (ev = .rel ∧ s'.owner = none ∧ s'.sockOpen = s.sockOpen) ∨
    (ev = .cls ∧ s.sockOpen = true ∧ s'.sockOpen = false ∧ s'.owner = some t ∧
      (cur s).dctx ≠ none ∧ (cur s).flushing = false) ∨
    (ev.isLock = false ∧ ev ≠ .cls ∧ s'.owner = some t ∧ s'.sockOpen = s.sockOpen ∧
      (cur s').dctx = (cur s).dctx ∧ (s.sockOpen = true → ev ≠ .fail) ∧
      (s.sockOpen = false → ev.isMove = false) ∧
      (ev.isMove = true → (cur s).dctx ≠ none → (cur s').flushing = true) ∧
      (ev.isChk = true → (cur s).dctx ≠ none →
        (cur s).flushing = true ∧ ((cur s').flushing = false → ev = .chk 0 ∧ s.queue = [])) ∧
      (ev.isMove = false → ev.isChk = false → (cur s').flushing = (cur s).flushing))

/-- What a step does to the wire, the queue, the issued packets and the packet in flight from the
queue, in the terms in which the history invariant reads the log. -/
def FactsLog (s s' : Sys) (ev : Ev) : Prop :=
  s'.wire = s.wire ++ ev.snds ∧ s.queue ++ ev.apps = ev.pops ++ s'.queue ∧
  (∃ x, s'.issued = s.issued ++ x ∧ ev.apps.Sublist x) ∧
  (∀ p, p ∈ (cur s).popped ∨ p ∈ ev.pops → p ∈ sentPkts ev.snds ∨ p ∈ (cur s').popped)

/-- The steps of the lock holder other than the release, as the flush loop of a running
`disconnect` sees them (`needsOpen` program points with the socket open). -/
theorem Trans.inside {cfg : Cfg} {s : Sys} {t : Tid} {pc pc' : Pc} {td td' : List Op} {ev : Ev}
    (h : Trans cfg s t pc td ev pc' td') (hc : pc.crit = true) (hr : ev ≠ .rel)
    (hno : pc.needsOpen = true → s.sockOpen = true) :
    (ev = .cls ∧ pc.dctx ≠ none ∧ pc.flushing = false ∧ s.sockOpen = true) ∨
    (ev.isLock = false ∧ ev ≠ .cls ∧ pc'.dctx = pc.dctx ∧ (s.sockOpen = true → ev ≠ .fail) ∧
      (s.sockOpen = false → ev.isMove = false) ∧
      (ev.isMove = true → pc.dctx ≠ none → pc'.flushing = true) ∧
      (ev.isChk = true → pc.dctx ≠ none →
        pc.flushing = true ∧ (pc'.flushing = false → ev = .chk 0 ∧ s.queue = [])) ∧
      (ev.isMove = false → ev.isChk = false → pc'.flushing = pc.flushing)) := by
  cases h <;> simp_all [Pc.crit, UPc.crit, NPc.crit, Pc.needsOpen, Pc.dctx, Pc.flushing, Ev.isLock,
    Ev.isMove, Ev.isChk]

/-- Everything about one step that the history invariant needs, for ONE event `ev`. -/
theorem step_all (cfg : Cfg) (s s' : Sys) (t : Tid) (hl : LockInv s) (hw : WireInv s)
    (hs : step cfg s t = some s') :
    ∃ ev, s'.log = s.log ++ [(t, ev)] ∧ FactsLog s s' ev ∧ FactsOut s s' t ev ∧ FactsAcq s s' ev ∧
      FactsIn s s' t ev ∧ (s.sockOpen = false → s'.sockOpen = false) := by
  obtain ⟨ev, pc, pc', td, td', f⟩ := step_facts cfg s s' t hl hs
  have htr := f.trans
  have hcur := f.holder
  have h1t := hl.crit_owner t
  rw [f.thr] at h1t
  have w2 := hw.needs_open
  have he : FactsLog s s' ev := by
    obtain ⟨d1, d2, -, d4⟩ := f.lists
    obtain ⟨ops, -, hops, -, -, hsub⟩ := htr.todo
    refine ⟨d1, ?_, ⟨pktsOf ops, by rw [d4, hops], hsub⟩, htr.popped hcur w2⟩
    rw [d2]
    by_cases hp : ev.pops = []
    · rw [if_pos hp, hp]; rfl
    · obtain ⟨g1, g2⟩ := htr.guard.2 hp
      rw [if_neg hp, g2, List.append_nil]; exact g1
  obtain ⟨ha, hr, hn⟩ := htr.crit
  obtain ⟨hcl, hso, hcls⟩ := sockOpen_step f.flags.sockOpen
  refine ⟨ev, f.log, he, fun hown => ?_, fun hacq c0 hd => ?_, fun hown => ?_, hcl⟩
  · have hk1 : pc.crit = false := by
      cases h : pc.crit with
      | false => rfl
      | true => exact absurd (h1t.mp h) hown
    rcases f.lock with ⟨rfl, k1, k2, -, -⟩ | ⟨-, k1, -⟩ | ⟨k1, k2, k3, -, k5⟩
    · exact ⟨hso (by simp), Or.inl ⟨rfl, k1, k2⟩⟩
    · exact absurd k1 hown
    · have hk2 : pc'.crit = false := by rw [k5, hk1]
      obtain ⟨-, -, q4, q5, -, -, -, q2, q3⟩ := htr.out hk1 hk2
      have q1 : ev.isLock = false := by cases ev <;> simp_all [Ev.isLock]
      exact ⟨hso q4, Or.inr ⟨k3, hcur.outside hk1 hk2, q1, q2, q3, q4, q5⟩⟩
  · subst hacq
    rcases htr.dctx hcur c0 hd with ⟨-, e, -⟩ | ⟨-, e1, e2, e3, e4⟩
    · exact absurd rfl e
    · refine ⟨e1, e2, fun ho hf => ?_⟩
      cases hi : c0.imm with
      | true => rfl
      | false => rw [e4.mpr ⟨hi, ho⟩] at hf; cases hf
  · have hk1 : pc.crit = true := h1t.mpr hown
    obtain ⟨hc, hc'⟩ := hcur.at_lock (Or.inl hk1)
    have hat : pc.atLock = pc := by rw [Pc.atLock, hk1]; rfl
    rw [hat] at hc
    rw [hc] at w2
    rcases f.lock with ⟨-, k1, -⟩ | ⟨rfl, -, k2, -, -⟩ | ⟨k1, k2, k3, -, k5⟩
    · rw [k1] at hown; cases hown
    · exact Or.inl ⟨rfl, k2, hso (by simp)⟩
    · have hat' : pc'.atLock = pc' := by rw [Pc.atLock, k5, hk1]; rfl
      rw [hat'] at hc'
      rw [hc, hc']
      rcases htr.inside hk1 k2 w2 with ⟨rfl, i1, i2, i3⟩ | ⟨i1, i2, i3⟩
      · exact Or.inr (Or.inl ⟨rfl, i3, hcls rfl, k3.trans hown, i1, i2⟩)
      · exact Or.inr (Or.inr ⟨i1, i2, k3.trans hown, hso i2, i3⟩)

/-! ### The history invariant -/

/-- The critical section of a `disconnect` by thread `t` (`pre` = the log before its `acq`, `mid` =
the log since) once it is past the flush loop: an immediate disconnect has popped, sent and checked
nothing; a graceful one has seen the queue empty (`chk 0`, at which moment every packet appended so
far had been popped) and nothing was popped, sent or checked since. -/
def PastFlush (imm : Bool) (t : Tid) (pre mid : Log) : Prop :=
  (imm = true → NoMove mid ∧ NoChk mid) ∧
  (imm = false → ∃ flush tail, mid = flush ++ (t, .chk 0) :: tail ∧ NoMove tail ∧ NoChk tail ∧
    appsOf (pre ++ (t, .acq) :: flush) = popsOf (pre ++ (t, .acq) :: flush))

theorem nil_all {α : Type} {P : α → Prop} : ∀ e ∈ ([] : List α), P e := fun _ he => nomatch he

theorem snoc_mem {α : Type} {P : α → Prop} {l : List α} {a : α} (hl : ∀ e ∈ l, P e) (ha : P a) :
    ∀ e ∈ l ++ [a], P e := by
  intro e he
  rcases List.mem_append.mp he with he | he
  · exact hl e he
  · simp at he; subst he; exact ha

theorem PastFlush.snoc {imm : Bool} {t : Tid} {pre mid : Log} (h : PastFlush imm t pre mid)
    (u : Tid) (ev : Ev) (h1 : ev.isMove = false) (h2 : ev.isChk = false) :
    PastFlush imm t pre (mid ++ [(u, ev)]) := by
  refine ⟨fun hi => ?_, fun hi => ?_⟩
  · obtain ⟨a, b⟩ := h.1 hi
    exact ⟨snoc_mem a h1, snoc_mem b h2⟩
  · obtain ⟨flush, tail, e1, a, b, e2⟩ := h.2 hi
    exact ⟨flush, tail ++ [(u, ev)], by rw [e1]; simp, snoc_mem a h1, snoc_mem b h2, e2⟩

structure HistInv (s : Sys) : Prop where
  /-- the wire is the sequence of `snd` events -/
  wire_log : s.wire = sndsOf s.log
  /-- the queue is FIFO: appended = popped ++ still queued -/
  queue_log : appsOf s.log = popsOf s.log ++ s.queue
  /-- every `app` event issued its packet, in this order -/
  apps_issued : (appsOf s.log).Sublist s.issued
  /-- a popped packet is sent, or in flight at the lock holder -/
  pops_sent : ∀ p ∈ popsOf s.log, p ∈ sentPkts s.wire ∨ p ∈ (cur s).popped
  /-- while the socket is open nothing has been closed and no write has failed -/
  open_quiet : s.sockOpen = true → NoDead s.log
  /-- a running `disconnect` that found the socket open -/
  disc : s.sockOpen = true → ∀ c, (cur s).dctx = some c →
    ∃ t pre mid, s.owner = some t ∧ s.log = pre ++ (t, .acq) :: mid ∧ LockFree mid ∧
      appsOf pre = popsOf pre ++ c.snap ∧ sndsOf pre = c.wire0 ∧
      ((cur s).flushing = false → PastFlush c.imm t pre mid)
  /-- once the socket is closed, the log has the shape
  `pre ++ acq :: mid ++ cls :: post` around the critical section of the closing `disconnect` -/
  closed : s.sockOpen = false →
    ∃ t pre mid post imm snap, s.log = pre ++ (t, .acq) :: (mid ++ (t, .cls) :: post) ∧
      LockFree mid ∧ NoDead (pre ++ (t, .acq) :: mid) ∧ NoMove post ∧ NoCls post ∧
      appsOf pre = popsOf pre ++ snap ∧ PastFlush imm t pre mid

theorem hist_init (progs : List (List Op)) : HistInv (init progs) := by
  have hc : cur (init progs) = .user .idle := rfl
  refine ⟨rfl, rfl, by simp [init], by simp [init], ?_, ?_, ?_⟩
  · intro _ e he; simp [init] at he
  · intro _ c h; rw [hc] at h; simp [Pc.dctx] at h
  · intro h; simp [init] at h

theorem dctx_owner {s : Sys} {c : DCtx} (h : (cur s).dctx = some c) : ∃ t, s.owner = some t := by
  cases ho : s.owner with
  | none => rw [cur_of_free ho] at h; simp [Pc.dctx] at h
  | some t => exact ⟨t, rfl⟩

theorem hist_step_quiet (s s' : Sys) (t : Tid) (ev : Ev) (h : HistInv s)
    (hlog : s'.log = s.log ++ [(t, ev)]) (fo : FactsOut s s' t ev) (fi : FactsIn s s' t ev)
    (hcc : s.sockOpen = false → s'.sockOpen = false) : s'.sockOpen = true → NoDead s'.log := by
  intro ho'
  have ho : s.sockOpen = true := by
    cases hso : s.sockOpen with
    | true => rfl
    | false => rw [hcc hso] at ho'; cases ho'
  rw [hlog]
  refine snoc_mem (h.open_quiet ho) ?_
  by_cases hown : s.owner = some t
  · rcases fi hown with ⟨rfl, -⟩ | ⟨-, -, hc, -⟩ | ⟨-, h1, -, -, -, h2, -⟩
    · simp
    · rw [hc] at ho'; cases ho'
    · exact ⟨h1, h2 ho⟩
  · rcases (fo hown).2 with ⟨rfl, -⟩ | ⟨-, -, -, -, -, h1, h2⟩
    · simp
    · exact ⟨h1, h2⟩

theorem hist_step_disc (s s' : Sys) (t : Tid) (ev : Ev) (hw : WireInv s) (h : HistInv s)
    (hlog : s'.log = s.log ++ [(t, ev)]) (fo : FactsOut s s' t ev) (fa : FactsAcq s s' ev)
    (fi : FactsIn s s' t ev) :
    s'.sockOpen = true → ∀ c, (cur s').dctx = some c →
    ∃ t pre mid, s'.owner = some t ∧ s'.log = pre ++ (t, .acq) :: mid ∧ LockFree mid ∧
      appsOf pre = popsOf pre ++ c.snap ∧ sndsOf pre = c.wire0 ∧
      ((cur s').flushing = false → PastFlush c.imm t pre mid) := by
  intro ho' c hc
  by_cases hown : s.owner = some t
  · rcases fi hown with ⟨-, h1, -⟩ | ⟨-, -, h1, -⟩ | ⟨k1, k2, k3, k4, k5, k6, k7, k8, k9, k10⟩
    · rw [cur_of_free h1] at hc; simp [Pc.dctx] at hc
    · rw [h1] at ho'; cases ho'
    · have ho : s.sockOpen = true := by rw [← k4]; exact ho'
      rw [k5] at hc
      obtain ⟨t0, pre, mid, e1, e2, e3, e4, e5, e6⟩ := h.disc ho c hc
      have : t0 = t := by rw [hown] at e1; exact (Option.some.inj e1).symm
      subst this
      refine ⟨t0, pre, mid ++ [(t0, ev)], k3, by rw [hlog, e2]; simp, snoc_mem e3 k1, e4, e5, ?_⟩
      intro hf'
      have hne : (cur s).dctx ≠ none := by rw [hc]; simp
      cases hm : ev.isMove with
      | true => rw [k8 hm hne] at hf'; cases hf'
      | false =>
        cases hk : ev.isChk with
        | false =>
          rw [k10 hm hk] at hf'
          exact (e6 hf').snoc t0 ev hm hk
        | true =>
          obtain ⟨hfl, hz⟩ := k9 hk hne
          obtain ⟨rfl, hq⟩ := hz hf'
          obtain ⟨hi, -⟩ := hw.flush_ctx c hc hfl
          refine ⟨fun hi' => ?_, fun _ => ⟨mid, [], rfl, ?_, ?_, ?_⟩⟩
          · rw [hi] at hi'; cases hi'
          · exact nil_all
          · exact nil_all
          · have := h.queue_log
            rw [hq, List.append_nil, e2] at this; exact this
  · obtain ⟨hso, hcase⟩ := fo hown
    rcases hcase with ⟨rfl, h1, h2⟩ | ⟨h1, h2, h3, h4, h5, -, -⟩
    · obtain ⟨a1, a2, a3⟩ := fa rfl c hc
      refine ⟨t, s.log, [], h2, by rw [hlog], nil_all, ?_, ?_, ?_⟩
      · rw [a1]; exact h.queue_log
      · rw [a2]; exact h.wire_log.symm
      · intro hf'
        have hi := a3 (by rw [← hso]; exact ho') hf'
        refine ⟨fun _ => ⟨nil_all, nil_all⟩, fun hi' => ?_⟩
        rw [hi] at hi'; cases hi'
    · rw [h2] at hc ⊢
      obtain ⟨t0, pre, mid, e1, e2, e3, e4, e5, e6⟩ := h.disc (by rw [← hso]; exact ho') c hc
      refine ⟨t0, pre, mid ++ [(t, ev)], by rw [h1]; exact e1, by rw [hlog, e2]; simp,
        snoc_mem e3 h3, e4, e5, fun hf => (e6 hf).snoc t ev h4 h5⟩

theorem hist_step_closed (s s' : Sys) (t : Tid) (ev : Ev) (h : HistInv s)
    (hlog : s'.log = s.log ++ [(t, ev)]) (fo : FactsOut s s' t ev) (fi : FactsIn s s' t ev) :
    s'.sockOpen = false →
    ∃ t pre mid post imm snap, s'.log = pre ++ (t, .acq) :: (mid ++ (t, .cls) :: post) ∧
      LockFree mid ∧ NoDead (pre ++ (t, .acq) :: mid) ∧ NoMove post ∧ NoCls post ∧
      appsOf pre = popsOf pre ++ snap ∧ PastFlush imm t pre mid := by
  intro hc'
  cases ho : s.sockOpen with
  | true =>
    by_cases hown : s.owner = some t
    · rcases fi hown with ⟨-, -, h1⟩ | ⟨rfl, -, -, -, h1, h2⟩ | ⟨-, -, -, h1, -⟩
      · rw [h1, ho] at hc'; cases hc'
      · cases hd : (cur s).dctx with
        | none => exact absurd hd h1
        | some c =>
          obtain ⟨t0, pre, mid, e1, e2, e3, e4, -, e6⟩ := h.disc ho c hd
          have : t0 = t := by rw [hown] at e1; exact (Option.some.inj e1).symm
          subst this
          refine ⟨t0, pre, mid, [], c.imm, c.snap, by rw [hlog, e2]; simp, e3, ?_,
            nil_all, nil_all, e4, e6 h2⟩
          rw [← e2]; exact h.open_quiet ho
      · rw [h1, ho] at hc'; cases hc'
    · rw [(fo hown).1, ho] at hc'; cases hc'
  | false =>
    obtain ⟨t0, pre, mid, post, imm, snap, e1, e2, e3, e4, e5, e6, e7⟩ := h.closed ho
    have hev : ev.isMove = false ∧ ev ≠ .cls := by
      by_cases hown : s.owner = some t
      · rcases fi hown with ⟨rfl, -⟩ | ⟨-, h1, -⟩ | ⟨-, h1, -, -, -, -, h2, -⟩
        · exact ⟨rfl, by simp⟩
        · rw [ho] at h1; cases h1
        · exact ⟨h2 ho, h1⟩
      · rcases (fo hown).2 with ⟨rfl, -⟩ | ⟨-, -, -, h1, -, h2, -⟩
        · exact ⟨rfl, by simp⟩
        · exact ⟨h1, h2⟩
    exact ⟨t0, pre, mid, post ++ [(t, ev)], imm, snap, by rw [hlog, e1]; simp, e2, e3,
      snoc_mem e4 hev.1, snoc_mem e5 hev.2, e6, e7⟩

theorem hist_step (cfg : Cfg) (s s' : Sys) (t : Tid) (hl : LockInv s) (hw : WireInv s)
    (h : HistInv s) (hs : step cfg s t = some s') : HistInv s' := by
  obtain ⟨ev, hlog, ⟨d1, d2, ⟨x, d4, hx⟩, hpop⟩, fo, fa, fi, hcc⟩ := step_all cfg s s' t hl hw hs
  have hsnoc : sndsOf s'.log = sndsOf s.log ++ ev.snds ∧ appsOf s'.log = appsOf s.log ++ ev.apps ∧
      popsOf s'.log = popsOf s.log ++ ev.pops := by
    rw [hlog]; simp [sndsOf, appsOf, popsOf]
  refine ⟨by rw [hsnoc.1, d1, h.wire_log], ?_, by rw [hsnoc.2.1, d4]; exact h.apps_issued.append hx,
    fun p hp => ?_, hist_step_quiet s s' t ev h hlog fo fi hcc, hist_step_disc s s' t ev hw h hlog fo fa fi,
    hist_step_closed s s' t ev h hlog fo fi⟩
  · rw [hsnoc.2.1, hsnoc.2.2, h.queue_log, List.append_assoc, d2, List.append_assoc]
  · rw [hsnoc.2.2] at hp
    rw [d1, sentPkts_append, List.mem_append, or_assoc]
    rcases List.mem_append.mp hp with hp | hp
    · rcases h.pops_sent p hp with k | k
      · exact Or.inl k
      · exact Or.inr (hpop p (Or.inl k))
    · exact Or.inr (hpop p (Or.inr hp))

theorem hist_run (cfg : Cfg) (progs : List (List Op)) (sched : List Tid) (s : Sys)
    (hi : WInv progs s) (h : HistInv s) : HistInv (run cfg s sched) :=
  run_induct_inv cfg progs HistInv sched
    (fun x x' t hi hp hs => hist_step cfg x x' t hi.lock hi.wire hp hs) s hi h

/-- Every state reached from the initial state satisfies the history invariant. -/
theorem reach_hist (cfg : Cfg) (progs : List (List Op)) (hnd : (progs.flatMap pktsOf).Nodup)
    (sched : List Tid) : HistInv (run cfg (init progs) sched) :=
  hist_run cfg progs sched _ (init_inv progs hnd) (hist_init progs)

/-! ### The closing critical section -/

/-- Two ways of cutting a list at an element with `P` agree, if the second has no `P` behind the
cut and, besides, the first has none behind it or the second none before it. -/
theorem split_unique {α : Type} (P : α → Prop) {l1 l2 l1' l2' : List α} {a a' : α}
    (ha : P a) (ha' : P a') (h2' : ∀ x ∈ l2', ¬ P x)
    (hx : (∀ x ∈ l2, ¬ P x) ∨ (∀ x ∈ l1', ¬ P x))
    (h : l1 ++ a :: l2 = l1' ++ a' :: l2') : l1 = l1' ∧ a = a' ∧ l2 = l2' := by
  induction l1 generalizing l1' with
  | nil =>
    cases l1' with
    | nil => simp at h; exact ⟨rfl, h.1, h.2⟩
    | cons b r =>
      simp at h; obtain ⟨rfl, rfl⟩ := h
      rcases hx with hx | hx
      · exact absurd ha' (hx a' (by simp))
      · exact absurd ha (hx a (by simp))
  | cons b r ih =>
    cases l1' with
    | nil =>
      simp at h; obtain ⟨rfl, rfl⟩ := h
      exact absurd ha (h2' a (by simp))
    | cons b' r' =>
      simp at h; obtain ⟨rfl, h⟩ := h
      obtain ⟨rfl, rfl, rfl⟩ := ih (hx.imp_right fun hx x hm => hx x (by simp [hm])) h
      exact ⟨rfl, rfl, rfl⟩

/-- Past its flush loop, `flushes mid` tells the two kinds of disconnect apart. -/
theorem PastFlush.kind {imm : Bool} {t : Tid} {pre mid : Log} (h : PastFlush imm t pre mid) :
    flushes mid = !imm := by
  cases imm with
  | true => exact (h.1 rfl).2.not_flushes
  | false =>
    obtain ⟨flush, tail, rfl, -⟩ := h.2 rfl
    simp [flushes, Ev.isChk]

/-- A log splits in at most one way as `pre ++ acq :: mid ++ cls :: post` with no lock event in
`mid`, if in one of the splittings the `cls` is the only one. -/
theorem section_unique {t t' : Tid} {pre mid post pre' mid' post' : Log}
    (h : pre ++ (t, Ev.acq) :: (mid ++ (t, .cls) :: post) =
      pre' ++ (t', .acq) :: (mid' ++ (t', .cls) :: post'))
    (g : LockFree mid) (g' : LockFree mid')
    (hd : ∀ x ∈ pre' ++ (t', Ev.acq) :: mid', x.2 ≠ .cls) (hp : NoCls post') :
    t = t' ∧ pre = pre' ∧ mid = mid' ∧ post = post' := by
  have e : (pre ++ (t, Ev.acq) :: mid) ++ (t, Ev.cls) :: post
      = (pre' ++ (t', Ev.acq) :: mid') ++ (t', Ev.cls) :: post' := by
    rw [List.append_assoc, List.append_assoc, List.cons_append, List.cons_append, h]
  obtain ⟨a1, a2, a3⟩ := split_unique (fun x : Tid × Ev => x.2 = .cls) rfl rfl hp (Or.inr hd) e
  obtain ⟨b1, -, b3⟩ := split_unique (fun x : Tid × Ev => x.2.isLock = true) rfl rfl
    (fun x hx => by simp [g' x hx]) (Or.inl fun x hx => by simp [g x hx]) a1
  exact ⟨congrArg Prod.fst a2, b1, b3, a3⟩

/-- In a state with the socket closed, ANY way of writing the log as
`pre ++ acq :: mid ++ cls :: post` with nobody taking or releasing the lock in `mid` is the
closing critical section of the invariant. -/
theorem closed_shape {s : Sys} (h : HistInv s) (hc : s.sockOpen = false) {t : Tid}
    {pre mid post : Log} (hlog : s.log = pre ++ (t, .acq) :: (mid ++ (t, .cls) :: post))
    (hheld : LockFree mid) :
    NoDead (pre ++ (t, .acq) :: mid) ∧ NoMove post ∧ NoCls post ∧
      (∃ snap, appsOf pre = popsOf pre ++ snap) ∧ PastFlush (!flushes mid) t pre mid := by
  obtain ⟨t0, pre0, mid0, post0, imm, snap, e1, e2, e3, e4, e5, e6, e7⟩ := h.closed hc
  obtain ⟨rfl, rfl, rfl, rfl⟩ :=
    section_unique (hlog.symm.trans e1) hheld e2 (fun x hx => (e3 x hx).1) e5
  refine ⟨e3, e4, e5, ⟨snap, e6⟩, ?_⟩
  rw [e7.kind]; simpa using e7

/-- In a state with the socket closed, the splitting of the log around the closing critical
section is unique. -/
theorem closed_split_unique {s : Sys} (h : HistInv s) (hc : s.sockOpen = false)
    {t t' : Tid} {pre mid post pre' mid' post' : Log}
    (h1 : s.log = pre ++ (t, .acq) :: (mid ++ (t, .cls) :: post)) (g1 : LockFree mid)
    (h2 : s.log = pre' ++ (t', .acq) :: (mid' ++ (t', .cls) :: post')) (g2 : LockFree mid') :
    t = t' ∧ pre = pre' ∧ mid = mid' ∧ post = post' := by
  obtain ⟨c1, -, c3, -⟩ := closed_shape h hc h2 g2
  exact section_unique (h1.symm.trans h2) g1 g2 (fun x hx => (c1 x hx).1) c3

/-- The only `cls` event of a closed state's log. -/
theorem closed_cls_unique {s : Sys} (h : HistInv s) (hc : s.sockOpen = false) {t : Tid}
    {pre mid post : Log} (hlog : s.log = pre ++ (t, .acq) :: (mid ++ (t, .cls) :: post))
    (hheld : LockFree mid) (u : Tid) (hu : (u, Ev.cls) ∈ s.log) : u = t := by
  obtain ⟨c1, -, c3, -⟩ := closed_shape h hc hlog hheld
  rw [hlog] at hu
  have : (u, Ev.cls) ∈ (pre ++ (t, Ev.acq) :: mid) ++ (t, Ev.cls) :: post := by simpa using hu
  rcases List.mem_append.mp this with h1 | h1
  · exact absurd rfl (c1 _ h1).1
  · rcases List.mem_cons.mp h1 with h2 | h2
    · exact congrArg Prod.fst h2
    · exact absurd rfl (c3 _ h2)

/-- A thread about to close the socket: the log since its `acq`. -/
theorem at_cls_section {s : Sys} (hl : LockInv s) (hw : WireInv s) (h : HistInv s) (t : Tid)
    (c : DCtx) (hpc : (s.thr t).pc = .user (.dCls c)) :
    ∃ pre mid, s.log = pre ++ (t, .acq) :: mid ∧ LockFree mid ∧ flushes mid = !c.imm ∧
      appsOf pre = popsOf pre ++ c.snap ∧ sndsOf pre = c.wire0 ∧ NoDead s.log := by
  have hown : s.owner = some t := (hl.crit_owner t).mp (by rw [hpc]; rfl)
  have hcur : cur s = .user (.dCls c) := (cur_of_owner hown).trans hpc
  have ho : s.sockOpen = true := hw.needs_open (by rw [hcur]; rfl)
  obtain ⟨t0, pre, mid, e1, e2, e3, e4, e5, e6⟩ := h.disc ho c (by rw [hcur]; rfl)
  have : t0 = t := by rw [hown] at e1; exact (Option.some.inj e1).symm
  subst this
  exact ⟨pre, mid, e2, e3, (e6 (by rw [hcur]; rfl)).kind, e4, e5, h.open_quiet ho⟩

/-- Popped packets of a state in which nothing is in flight from the queue are sent. -/
theorem pops_all_sent {s : Sys} (h : HistInv s) (hp : (cur s).popped = []) :
    ∀ p ∈ popsOf s.log, p ∈ sentPkts s.wire := by
  intro p hpp
  rcases h.pops_sent p hpp with h1 | h1
  · exact h1
  · rw [hp] at h1; cases h1

theorem closed_popped {s : Sys} (hw : WireInv s) (hc : s.sockOpen = false) :
    (cur s).popped = [] := by
  cases hp : (cur s).popped with
  | nil => rfl
  | cons a l =>
    have := hw.needs_open (popped_needsOpen _ (by rw [hp]; simp))
    rw [hc] at this; cases this

theorem apps_nodup {s : Sys} (hf : FreshInv s) (h : HistInv s) : (appsOf s.log).Nodup :=
  h.apps_issued.nodup hf.issued_nodup

/-- Closed socket, graceful closer: the last `chk 0` splits the critical section; everything
appended before it is on the wire, and the queue is exactly what was appended after it. -/
theorem closed_graceful {s : Sys} (hw : WireInv s) (h : HistInv s) (hc : s.sockOpen = false)
    {t : Tid} {pre mid post : Log} (hlog : s.log = pre ++ (t, .acq) :: (mid ++ (t, .cls) :: post))
    (hheld : LockFree mid) (hg : flushes mid = true) :
    ∃ flush tail, mid = flush ++ (t, .chk 0) :: tail ∧ NoMove tail ∧ NoChk tail ∧ NoMove post ∧
      s.queue = appsOf tail ++ appsOf post ∧ s.wire = sndsOf (pre ++ (t, .acq) :: flush) ∧
      ∀ p ∈ appsOf (pre ++ (t, .acq) :: flush), p ∈ sentPkts s.wire := by
  obtain ⟨-, c2, -, -, c5⟩ := closed_shape h hc hlog hheld
  rw [hg] at c5
  obtain ⟨flush, tail, e1, e2, e3, e4⟩ := c5.2 rfl
  refine ⟨flush, tail, e1, e2, e3, c2, ?_, ?_, ?_⟩
  · have hq := h.queue_log
    have hl : s.log = (pre ++ (t, .acq) :: flush) ++ ((t, .chk 0) :: tail ++ (t, .cls) :: post) := by
      rw [hlog, e1]; simp
    rw [hl, appsOf_append, popsOf_append, e4, List.append_assoc] at hq
    have hq2 := List.append_cancel_left hq
    simp only [List.cons_append, appsOf_cons, popsOf_cons, appsOf_append, popsOf_append, Ev.apps,
      Ev.pops, e2.pops, c2.pops, List.nil_append] at hq2
    exact hq2.symm
  · have hl : s.log = (pre ++ (t, .acq) :: flush) ++ ((t, .chk 0) :: tail ++ (t, .cls) :: post) := by
      rw [hlog, e1]; simp
    rw [h.wire_log, hl, sndsOf_append]
    simp [sndsOf_cons, sndsOf_append, Ev.snds, e2.snds, c2.snds]
  · intro p hp
    apply pops_all_sent h (closed_popped hw hc)
    rw [e4] at hp
    rw [hlog, e1]
    have : pre ++ (t, Ev.acq) :: (flush ++ (t, Ev.chk 0) :: tail ++ (t, Ev.cls) :: post)
        = (pre ++ (t, .acq) :: flush) ++ ((t, .chk 0) :: tail ++ (t, .cls) :: post) := by simp
    rw [this, popsOf_append]
    exact List.mem_append_left _ hp

/-- Closed socket, immediate closer: nothing was popped or sent from its `acq` on; the queue is
what it was at the `acq` followed by what was appended since. -/
theorem closed_immediate {s : Sys} (h : HistInv s) (hc : s.sockOpen = false)
    {t : Tid} {pre mid post : Log} (hlog : s.log = pre ++ (t, .acq) :: (mid ++ (t, .cls) :: post))
    (hheld : LockFree mid) (hg : flushes mid = false) :
    NoMove mid ∧ NoChk mid ∧ NoMove post ∧ s.wire = sndsOf pre ∧
      ∃ snap, appsOf pre = popsOf pre ++ snap ∧ popsOf s.log = popsOf pre ∧
        s.queue = snap ++ appsOf mid ++ appsOf post := by
  obtain ⟨-, c2, -, ⟨snap, c4⟩, c5⟩ := closed_shape h hc hlog hheld
  rw [hg] at c5
  obtain ⟨e1, e2⟩ := c5.1 rfl
  have hpops : popsOf s.log = popsOf pre := by
    rw [hlog]
    simp [popsOf_append, popsOf_cons, Ev.pops, e1.pops, c2.pops]
  refine ⟨e1, e2, c2, ?_, snap, c4, hpops, ?_⟩
  · rw [h.wire_log, hlog]
    simp [sndsOf_cons, sndsOf_append, Ev.snds, e1.snds, c2.snds]
  · have hq := h.queue_log
    rw [hpops, hlog] at hq
    simp only [appsOf_append, appsOf_cons, Ev.apps, List.nil_append, c4, List.append_assoc] at hq
    rw [List.append_assoc]; exact (List.append_cancel_left hq).symm

/-! ### A failed forced write was started after the close -/

/-- `p` is a forced write that has acquired the lock on a closed socket (it is about to `fail`),
or has already failed. -/
def Doomed (s : Sys) (p : Pkt) : Prop :=
  p ∈ s.failed ∨ (cur s = .user (.fSnd0 p) ∧ s.sockOpen = false)

/-- The holder is at the start of a forced write because the stepping thread has just taken the
lock for it, or because it was there already. -/
theorem Trans.to_fSnd0 {cfg : Cfg} {s : Sys} {t : Tid} {pc pc' c c' : Pc} {td td' : List Op}
    {ev : Ev} {p : Pkt} (h : Trans cfg s t pc td ev pc' td') (hh : Holder pc pc' c c')
    (hp : c' = .user (.fSnd0 p)) :
    (ev = .acq ∧ td = .forced p :: td') ∨ (c = .user (.fSnd0 p) ∧ ev ≠ .cls) := by
  rcases hh with ⟨rfl, rfl⟩ | ⟨h1, h2, rfl⟩
  · cases h <;> simp_all [Pc.atLock, Pc.crit, UPc.crit, NPc.crit]
  · exact Or.inr ⟨hp, (h.out h1 h2).2.2.1⟩

theorem doomed_step (cfg : Cfg) (s s' : Sys) (t : Tid) (hl : LockInv s) (hw : WireInv s)
    (hf : FreshInv s) (hs : step cfg s t = some s') (p : Pkt) (hd : Doomed s' p) :
    Doomed s p ∨ (s.sockOpen = false ∧ p ∉ s.issued) := by
  obtain ⟨ev, pc, pc', td, td', f⟩ := step_facts cfg s s' t hl hs
  have hcl : ev ≠ .cls → s'.sockOpen = false → s.sockOpen = false := fun h1 h2 => by
    rw [← (sockOpen_step f.flags.sockOpen).2.1 h1]; exact h2
  unfold Doomed at hd ⊢
  rcases hd with hd | ⟨hd1, hd2⟩
  · rw [f.lists.failed] at hd
    by_cases hev : ev = .fail
    · subst hev
      rw [if_pos rfl] at hd
      rcases List.mem_append.mp hd with hd | hd
      · exact Or.inl (Or.inl hd)
      · obtain ⟨q, rfl, hcq, hi, hcl⟩ := f.trans.fail f.holder hw.needs_open
        rw [hi, List.mem_singleton] at hd
        exact Or.inl (Or.inr ⟨hd ▸ hcq, hcl⟩)
    · rw [if_neg hev, List.append_nil] at hd; exact Or.inl (Or.inl hd)
  · rcases f.trans.to_fSnd0 f.holder hd1 with ⟨rfl, e2⟩ | ⟨e1, e2⟩
    · refine Or.inr ⟨hcl (by simp) hd2, hf.fresh t p ?_⟩
      rw [f.thr]; simp [e2, pktsOf, Op.pkts]
    · exact Or.inl (Or.inr ⟨e1, hcl e2 hd2⟩)

theorem doomed_late (cfg : Cfg) (progs : List (List Op)) (hnd : (progs.flatMap pktsOf).Nodup)
    (sched : List Tid) (p : Pkt) :
    ∀ n, Doomed (run cfg (init progs) (sched.take n)) p →
      ∃ k, k ≤ n ∧ (run cfg (init progs) (sched.take k)).sockOpen = false ∧
        p ∉ (run cfg (init progs) (sched.take k)).issued := by
  intro n
  induction n with
  | zero =>
    intro hd
    rcases hd with hd | ⟨hd, -⟩
    · simp [run, init] at hd
    · have : cur (init progs) = .user .idle := rfl
      rw [List.take_zero, run, this] at hd; cases hd
  | succ n ih =>
    intro hd
    have up : ∀ k, k ≤ n → k ≤ n + 1 := fun k hk => by omega
    rw [List.take_add_one, run_append] at hd
    cases hget : sched[n]? with
    | none =>
      rw [hget] at hd
      obtain ⟨k, hk, h1, h2⟩ := ih hd
      exact ⟨k, up k hk, h1, h2⟩
    | some t =>
      rw [hget] at hd
      simp only [Option.toList, run] at hd
      have hinv := reach_inv cfg progs hnd (sched.take n)
      split at hd
      · next s' hs =>
        rcases doomed_step cfg _ s' t hinv.lock hinv.wire hinv.fresh hs p hd with h1 | ⟨h1, h2⟩
        · obtain ⟨k, hk, h1, h2⟩ := ih h1
          exact ⟨k, up k hk, h1, h2⟩
        · exact ⟨n, by omega, h1, h2⟩
      · obtain ⟨k, hk, h1, h2⟩ := ih hd
        exact ⟨k, up k hk, h1, h2⟩

/-- A failed packet was never appended, popped or (even partly) sent. -/
theorem failed_untouched {s : Sys} (hw : WireInv s) (h : HistInv s) (p : Pkt) (hp : p ∈ s.failed) :
    p ∉ appsOf s.log ∧ p ∉ popsOf s.log ∧ ∀ c, (p, c) ∉ s.wire := by
  obtain ⟨-, d1, d2, d3⟩ := hw.disj
  have hpop : p ∉ popsOf s.log := by
    intro hc
    rcases h.pops_sent p hc with h1 | h1
    · exact (d1 p h1).2.2 hp
    · exact (d2 p (popped_infl _ _ h1)).2 hp
  refine ⟨?_, hpop, ?_⟩
  · rw [h.queue_log]
    intro hc
    rcases List.mem_append.mp hc with h1 | h1
    · exact hpop h1
    · exact d3 p h1 hp
  · intro c hc
    rw [hw.wire_eq] at hc
    rcases List.mem_append.mp hc with h1 | h1
    · exact (d1 p (mem_frames _ _ h1)).2.2 hp
    · exact (d2 p (half_infl _ _ h1).1).2 hp

/-! ### Whole frames on a closed wire; final states -/

theorem frames_split (ps : List Pkt) (p : Pkt) (hp : p ∈ ps) :
    ∃ w₁ w₂, frames ps = w₁ ++ [(p, 0), (p, 1)] ++ w₂ := by
  obtain ⟨a, b, rfl⟩ := List.append_of_mem hp
  exact ⟨frames a, frames b, by simp [frames]⟩

/-- With the socket closed the wire consists of whole frames. -/
theorem closed_wire_frames {s : Sys} (hw : WireInv s) (hc : s.sockOpen = false) :
    s.wire = frames (sentPkts s.wire) := by
  have h := hw.wire_eq
  cases hh : (cur s).half with
  | nil => rw [hh, List.append_nil] at h; exact h
  | cons a l =>
    have := hw.needs_open (half_needsOpen _ (by rw [hh]; simp))
    rw [hc] at this; cases this

/-- A run in which threads `0..n` are at `end` is final, when no other thread is scheduled and
there are at most `n` programs: all other threads are finished from the start. -/
theorem final_of_allDoneUpTo (cfg : Cfg) (progs : List (List Op)) (sched : List Tid) (n : Nat)
    (hn : progs.length ≤ n) (hs : ∀ v ∈ sched, v ≤ n)
    (h : allDoneUpTo (run cfg (init progs) sched) n = true) :
    ∀ u, ((run cfg (init progs) sched).thr u).pc.isDone = true := by
  intro (u : Nat)
  by_cases hu : u ≤ n
  · simp only [allDoneUpTo, List.all_eq_true, List.mem_range] at h
    exact h u (by omega)
  · rw [run_thr_other cfg sched u (fun hm => hu (hs u hm))]
    have h0 : u ≠ 0 := by omega
    have h1 : ¬ u ≤ progs.length := by omega
    simp [init, h0, h1, Pc.isDone]

end PyCraft.Writers
