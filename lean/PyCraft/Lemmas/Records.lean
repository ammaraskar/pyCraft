import PyCraft.Model.Records
import PyCraft.Lemmas.Assoc
/-! Helper lemmas for `MutableRecord`, `Vector` and the attribute aliases (property C20). -/
namespace PyCraft.Records

variable {Val : Type}

/-! ### lookups -/

theorem lookup_cons_ne {n m : String} {x : β} {l : List (String × β)} (h : n ≠ m) :
    List.lookup n ((m, x) :: l) = List.lookup n l := by
  have : (n == m) = false := by simpa using h
  simp [List.lookup_cons, this]

/-- A present key is found (with the value of its first occurrence). -/
theorem lookup_isSome_of_mem (n : String) (l : List (String × β)) (h : n ∈ l.map Prod.fst) :
    ∃ x, List.lookup n l = some x ∧ (n, x) ∈ l := by
  obtain ⟨x, hx⟩ := Option.isSome_iff_exists.mp ((Assoc.lookup_isSome l n).mpr h)
  exact ⟨x, hx, Assoc.mem_of_lookup hx⟩

/-! ### MutableRecord.__eq__ -/

theorem getSlot_ok_iff (r : Rec Val) (n : String) (v : Val) :
    getSlot r n = .ok v ↔ List.lookup n r.slots = some (some v) := by
  unfold getSlot
  split
  · rename_i w hw
    rw [hw]
    simp
  · rename_i hne
    constructor
    · intro h; cases h
    · intro h; exact absurd h (hne v)


/-- On a fully assigned record every named slot can be read. -/
theorem getSlot_of_complete (r : Rec Val) (hr : r.complete = true) (n : String) (hn : n ∈ r.names) :
    ∃ v, getSlot r n = .ok v := by
  obtain ⟨x, hx, hmem⟩ := lookup_isSome_of_mem n r.slots hn
  have : x.isSome = true := by
    simp only [Rec.complete, List.all_eq_true] at hr
    exact hr _ hmem
  obtain ⟨v, rfl⟩ := Option.isSome_iff_exists.1 this
  exact ⟨v, (getSlot_ok_iff r n v).2 hx⟩

section eq
variable [DecidableEq Val]

/-- The `all(...)` loop returns `True` exactly when every listed slot is set on both sides to the
same value. -/
theorem allSlotsEq_true_iff (a b : Rec Val) (sl : List (String × Option Val)) :
    allSlotsEq a b sl = .ok true ↔
      ∀ n ∈ sl.map Prod.fst, ∃ v, getSlot a n = .ok v ∧ getSlot b n = .ok v := by
  induction sl with
  | nil => simp [allSlotsEq]
  | cons s rest ih =>
    obtain ⟨n, o⟩ := s
    simp only [List.map_cons, List.forall_mem_cons]
    unfold allSlotsEq
    rw [← ih]
    cases ha : getSlot a n with
    | error e => simp
    | ok x =>
      cases hb : getSlot b n with
      | error e => simp
      | ok y =>
        by_cases hxy : x = y
        · subst hxy; simp
        · simp only [hxy, if_false]
          constructor
          · intro h; cases h
          · rintro ⟨⟨v, h1, h2⟩, _⟩
            cases h1
            cases h2
            exact absurd rfl hxy

/-- The loop does not raise when every listed slot is set on both sides. -/
theorem allSlotsEq_ok (a b : Rec Val) (sl : List (String × Option Val))
    (h : ∀ n ∈ sl.map Prod.fst, (∃ x, getSlot a n = .ok x) ∧ (∃ y, getSlot b n = .ok y)) :
    ∃ c, allSlotsEq a b sl = .ok c := by
  induction sl with
  | nil => exact ⟨true, rfl⟩
  | cons s rest ih =>
    obtain ⟨n, o⟩ := s
    simp only [List.map_cons, List.forall_mem_cons] at h
    obtain ⟨⟨⟨x, hx⟩, ⟨y, hy⟩⟩, hrest⟩ := h
    unfold allSlotsEq
    simp only [hx, hy]
    split
    · exact ih hrest
    · exact ⟨false, rfl⟩

omit [DecidableEq Val] in
/-- With distinct slot names, slot lists over the same names whose named lookups all agree on a
set value are equal, and every slot is set. -/
theorem slots_eq_of_lookups (sa sb : List (String × Option Val))
    (hn : sa.map Prod.fst = sb.map Prod.fst) (hnd : (sa.map Prod.fst).Nodup)
    (h : ∀ n ∈ sa.map Prod.fst, ∃ v, List.lookup n sa = some (some v) ∧
      List.lookup n sb = some (some v)) :
    sa = sb ∧ sa.all (fun s => s.2.isSome) = true := by
  induction sa generalizing sb with
  | nil =>
    cases sb with
    | nil => simp
    | cons _ _ => simp at hn
  | cons p ps ih =>
    cases sb with
    | nil => simp at hn
    | cons q qs =>
      obtain ⟨n, x⟩ := p
      obtain ⟨m, y⟩ := q
      simp only [List.map_cons, List.cons.injEq] at hn
      obtain ⟨hnm, hn'⟩ := hn
      subst hnm
      simp only [List.map_cons, List.nodup_cons] at hnd
      obtain ⟨v, h1, h2⟩ := h n (by simp)
      rw [List.lookup_cons_self] at h1 h2
      cases h1; cases h2
      have := ih qs hn' hnd.2 (by
        intro k hk
        have hne : k ≠ n := fun e => hnd.1 (e ▸ hk)
        obtain ⟨w, w1, w2⟩ := h k (by simp [hk])
        rw [lookup_cons_ne hne] at w1 w2
        exact ⟨w, w1, w2⟩)
      obtain ⟨e, hall⟩ := this
      subst e
      exact ⟨rfl, by rw [List.all_cons, hall]; rfl⟩

/-- `==` returns `True` exactly for identical, fully assigned records. -/
theorem recEq_true_iff (a b : Rec Val) (hcls : a.tag = b.tag → a.names = b.names)
    (hnd : a.names.Nodup) : recEq a b = .ok true ↔ a = b ∧ a.complete = true := by
  unfold recEq
  by_cases ht : a.tag = b.tag
  · simp only [ht, ne_eq, not_true_eq_false, if_false]
    rw [allSlotsEq_true_iff]
    constructor
    · intro h
      obtain ⟨hs, hc⟩ := slots_eq_of_lookups a.slots b.slots (hcls ht) hnd (by
        intro n hn
        obtain ⟨v, h1, h2⟩ := h n hn
        exact ⟨v, (getSlot_ok_iff a n v).1 h1, (getSlot_ok_iff b n v).1 h2⟩)
      cases a; cases b; cases ht; cases hs
      exact ⟨rfl, hc⟩
    · rintro ⟨rfl, hc⟩ n hn
      obtain ⟨v, hv⟩ := getSlot_of_complete a hc n hn
      exact ⟨v, hv, hv⟩
  · simp only [ht, ne_eq, not_false_eq_true, if_true, Except.ok.injEq, Bool.false_eq_true, false_iff]
    exact fun h => ht (h.1 ▸ rfl)

end eq

/-! ### Attribute maps -/

/-- `setattr` is the assignment of `Lemmas/Assoc.lean`. -/
theorem setAttr_eq (o : Obj Val) (n : String) (v : Val) : setAttr o n v = Assoc.set o n v := by
  induction o with
  | nil => rfl
  | cons e r ih => simp only [setAttr, Assoc.set, ih]

theorem lookup_setAttr (o : Obj Val) (n m : String) (v : Val) :
    (setAttr o n v).lookup m = if n = m then some v else o.lookup m := by
  rw [setAttr_eq, Assoc.lookup_set]

theorem getAttr_setAttr_self (o : Obj Val) (n : String) (v : Val) :
    getAttr (setAttr o n v) n = .ok v := by
  rw [getAttr, lookup_setAttr, if_pos rfl]

theorem getAttr_setAttr_ne (o : Obj Val) (n m : String) (v : Val) (h : m ≠ n) :
    getAttr (setAttr o n v) m = getAttr o m := by
  rw [getAttr, lookup_setAttr, if_neg (Ne.symm h), getAttr]

theorem getAttr_multiSet_not_mem (ns : List String) (o : Obj Val) (vs : List Val) (m : String)
    (h : m ∉ ns) : getAttr (multiSet ns o vs) m = getAttr o m := by
  induction ns generalizing o vs with
  | nil => simp [multiSet]
  | cons n ns ih =>
    cases vs with
    | nil => simp [multiSet]
    | cons v vs =>
      simp only [List.mem_cons, not_or] at h
      simp only [multiSet]
      rw [ih _ _ h.2, getAttr_setAttr_ne _ _ _ _ h.1]

theorem multiGet_multiSet (ns : List String) (hnd : ns.Nodup) (o : Obj Val) (vs : List Val)
    (hlen : vs.length = ns.length) : multiGet ns (multiSet ns o vs) = .ok vs := by
  induction ns generalizing o vs with
  | nil =>
    cases vs with
    | nil => rfl
    | cons _ _ => simp at hlen
  | cons n ns ih =>
    cases vs with
    | nil => simp at hlen
    | cons v vs =>
      simp only [List.nodup_cons] at hnd
      simp only [multiSet, multiGet]
      rw [getAttr_multiSet_not_mem ns _ vs n hnd.1, getAttr_setAttr_self]
      simp only
      rw [ih hnd.2 _ vs (by simpa using hlen)]

theorem getAttr_multiSet_zip (ns : List String) (hnd : ns.Nodup) (o : Obj Val) (vs : List Val)
    (n : String) (v : Val) (h : (n, v) ∈ ns.zip vs) : getAttr (multiSet ns o vs) n = .ok v := by
  induction ns generalizing o vs with
  | nil => simp at h
  | cons m ms ih =>
    cases vs with
    | nil => simp at h
    | cons w ws =>
      simp only [List.nodup_cons] at hnd
      simp only [List.zip_cons_cons, List.mem_cons, Prod.mk.injEq] at h
      simp only [multiSet]
      rcases h with ⟨rfl, rfl⟩ | h
      · rw [getAttr_multiSet_not_mem ms _ ws n hnd.1, getAttr_setAttr_self]
      · exact ih hnd.2 _ ws h

end PyCraft.Records
