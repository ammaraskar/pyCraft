import PyCraft.Lemmas.LifecycleInv
/-!
Termination of an interrupted networking thread in `Model/Lifecycle.lean`: `interrupt` is never
reset, every own step of an interrupted thread decreases `NPc.rank`, other threads do not move it,
it is never blocked for good, and running it alone kills it.
-/
namespace PyCraft.Life

/-- Rank of `callRel site _`: one more than the largest rank among the program counters at which
`afterCall` continues after a call at `site`. -/
def Site.rank : Site → Nat
  | .handler => 7
  | .listen => 13
  | .react => 15

/-- An upper bound on the number of actions an INTERRUPTED thread still performs. -/
def NPc.rank : NPc → Nat
  | .dead => 0
  | .fin => 1
  | .epRel => 2
  | .epilogue => 3
  | .callRel site _ => site.rank
  | .call site => site.rank + 1
  | .hRel => 4
  | .hChk => 6
  | .hRun => 9
  | .exc => 10
  | .exit => 4
  | .loopChk => 11
  | .rChk => 12
  | .rRead => 17
  | .wRel => 18
  | .wFailRel => 18
  | .wBody => 19
  | .tkRel => 20
  | .takeOver => 21
  | .waitPrev => 22
  | .unborn => 23

theorem rank_le (pc : NPc) : pc.rank ≤ 23 := by
  cases pc
  case call site => cases site <;> simp [NPc.rank, Site.rank]
  case callRel site out => cases site <;> simp [NPc.rank, Site.rank]
  all_goals simp [NPc.rank]

theorem rank_zero (pc : NPc) : pc.rank = 0 ↔ pc = .dead := by
  cases pc
  case call site => cases site <;> simp [NPc.rank, Site.rank]
  case callRel site out => cases site <;> simp [NPc.rank, Site.rank]
  all_goals simp [NPc.rank]

theorem afterCall_rank (s : Sys) (site : Site) (out : Outcome) :
    (afterCall s site out).rank < site.rank := by
  cases site <;> simp only [afterCall] <;> repeat' split
  all_goals simp [NPc.rank, Site.rank]

/-- `interrupt` is never reset (on an existing thread object). -/
theorem intr_sticky (env : List Beh) (s s' : Sys) (t : Tid) (h : LInv s)
    (hs : step env s t = some s') (j : Nat) (hb : (s.net j).pc ≠ .unborn)
    (hj : (s.net j).intr = true) : (s'.net j).intr = true :=
  (((step_Step env s s' t hs).threads h j).2 hb).2 hj

/-- A step of another thread does not move an existing thread. -/
theorem pc_other (env : List Beh) (s s' : Sys) (t : Tid) (h : LInv s)
    (hs : step env s t = some s') (j : Nat) (hb : (s.net j).pc ≠ .unborn) (ht : t ≠ .net j) :
    (s'.net j).pc = (s.net j).pc :=
  (((step_Step env s s' t hs).threads h j).1 ht).resolve_right fun hc => hb hc.1

/-- `previous_thread` of an existing thread object never changes. -/
theorem prev_stable (env : List Beh) (s s' : Sys) (t : Tid) (h : LInv s)
    (hs : step env s t = some s') (j : Nat) (hb : (s.net j).pc ≠ .unborn) :
    (s'.net j).prev = (s.net j).prev :=
  (((step_Step env s s' t hs).threads h j).2 hb).1

theorem Quiet.rank {env : List Beh} {s : Sys} {x x' : NetThr} {rh' : Nat} {e : Ev}
    (hq : Quiet env s x x' rh' e) (hi : x.intr = true) : x'.pc.rank < x.pc.rank := by
  obtain ⟨b, pv, pc⟩ := x
  cases hi
  cases hq
  all_goals
    cases ‹NetThr.pc _ = _›
    simp only [↓reduceIte]
    decide

theorem Locked.rank {env : List Beh} {s c : Sys} {i : Nat} {pc' : NPc} {e : Ev}
    (hl : Locked env s i c pc' e) : pc'.rank < (s.net i).pc.rank := by
  cases hl
  case call site out hpc hb => rw [hpc]; exact Nat.lt_succ_self _
  all_goals
    rw [‹(s.net i).pc = _›]
    decide

theorem Release.rank {s : Sys} {pc pc' : NPc} {rl' : Nat} {e : Ev} (hr : Release s pc pc' rl' e) :
    pc'.rank < pc.rank := by
  cases hr
  case callRel site out => exact afterCall_rank s site out
  all_goals decide

/-- Every own step of an interrupted thread decreases its rank. -/
theorem rank_own (env : List Beh) (s s' : Sys) (i : Nat)
    (hs : step env s (.net i) = some s') (hi : (s.net i).intr = true) :
    (s'.net i).pc.rank < (s.net i).pc.rank := by
  cases step_Step env s s' _ hs with
  | quiet i x' rh' e hq => simpa [updN] using hq.rank hi
  | take i hpc hl => simp [updN, hpc, NPc.rank]
  | epi i hpc hl => simp [updN, hpc, NPc.rank]
  | locked i c pc' e hl hk => simpa [updN] using hk.rank
  | release i pc' rl' e hr => simpa [updN] using hr.rank

/-- The actions that begin a `with self._write_lock:` block. -/
def NPc.needsLock : NPc → Bool
  | .takeOver | .wBody | .call _ | .hChk | .epilogue => true
  | .unborn | .waitPrev | .tkRel | .loopChk | .wRel | .wFailRel | .rChk | .rRead | .callRel _ _
  | .exit | .exc | .hRun | .hRel | .epRel | .fin | .dead => false

/-- The only reasons for a networking thread not to be enabled: it does not exist (any
more), waits for a live predecessor, or is at the beginning of a locked block and cannot acquire
the lock. -/
theorem step_none_lock (env : List Beh) (s : Sys) (i : Nat) (h : step env s (.net i) = none) :
    (s.net i).pc = .unborn ∨ (s.net i).pc = .dead ∨
    ((s.net i).pc = .waitPrev ∧ ∃ p, (s.net i).prev = some p ∧ (s.net p).pc ≠ .dead) ∨
    ((s.net i).pc.needsLock = true ∧ canAcq s (.net i) = false) := by
  unfold step at h
  simp only [stepNet] at h
  repeat' split at h
  all_goals simp_all [NPc.needsLock]

/-- The step of the lock holder frees the lock. -/
theorem owner_step (env : List Beh) (s s' : Sys) (t : Tid) (h : LInv s) (ho : s.owner = some t)
    (hs : step env s t = some s') : s'.owner = none := by
  have hr := (h.own_iff t).mpr ho
  have hd : s.depth = 1 := by simpa [ho] using h.depth_ok
  rcases (step_Step env s s' t hs).lock with ⟨hf, -⟩ | ⟨hf, -⟩ | ⟨-, ho', -⟩
  · rw [hr] at hf; cases hf
  · rw [hr] at hf; cases hf
  · simp [ho', ownerAfterRel, hd]

/-- The lock holder is always enabled. -/
theorem owner_enabled (env : List Beh) (s : Sys) (h : LInv s) (t : Tid) (ho : s.owner = some t) :
    ∃ s', step env s t = some s' ∧ s'.owner = none := by
  have h1 := (h.own_iff t).mpr ho
  cases hst : step env s t with
  | some s' => exact ⟨s', rfl, owner_step env s s' t h ho hst⟩
  | none =>
    exfalso
    rcases t with u | i
    · simp only [atRel] at h1
      unfold step stepUser at hst
      cases hpc : (s.usr u).pc with
      | idle => simp [hpc, UPc.isRel] at h1
      | rel out => simp [hpc] at hst
    · simp only [atRel] at h1
      rcases step_none_lock env s i hst with hp | hp | ⟨hp, -⟩ | ⟨-, hp⟩
      · simp [hp, NPc.isRel] at h1
      · simp [hp, NPc.isRel] at h1
      · simp [hp, NPc.isRel] at h1
      · simp [canAcq, ho] at hp

/-- An existing, live networking thread that is not enabled is blocked by the lock holder (who is
enabled) or is waiting for its predecessor (who is interrupted, exists and is not dead). -/
theorem blocked_cases (env : List Beh) (s : Sys) (h : LInv s) (i : Nat)
    (hb : (s.net i).pc ≠ .unborn) (hd : (s.net i).pc ≠ .dead)
    (hst : step env s (.net i) = none) :
    (∃ t, s.owner = some t ∧ t ≠ .net i) ∨
    ((s.net i).pc = .waitPrev ∧ ∃ p, (s.net i).prev = some p ∧ p ≠ i ∧ (s.net p).pc ≠ .dead ∧
      (s.net p).pc ≠ .unborn ∧ (s.net p).intr = true) := by
  rcases step_none_lock env s i hst with hp | hp | ⟨hp, p, hp1, hp2⟩ | ⟨-, hp⟩
  · exact absurd hp hb
  · exact absurd hp hd
  · right
    obtain ⟨q, hq1, hq2, hq3, hq4, -⟩ := h.prev_ok i (by rw [hp]; rfl)
    rw [hp1] at hq1; cases hq1
    exact ⟨hp, p, hp1, hq3, hp2, hq4, hq2⟩
  · left
    cases ho : s.owner with
    | none => simp [canAcq, ho] at hp
    | some t => exact ⟨t, rfl, by intro ht; simp [canAcq, ho, ht] at hp⟩

/-! ### Counting own steps -/

/-- Number of schedule entries of thread `t` that were executed. -/
def stepsOf (env : List Beh) (s : Sys) (t : Tid) : List Tid → Nat
  | [] => 0
  | u :: us =>
    match step env s u with
    | some s' => (if u = t then 1 else 0) + stepsOf env s' t us
    | none => stepsOf env s t us

/-- Every own step of a thread that is interrupted, or at the `except` clause (whose action sets
the flag), decreases its rank and leaves it interrupted. -/
theorem rank_own_exc (env : List Beh) (s s' : Sys) (i : Nat) (h : LInv s)
    (hs : step env s (.net i) = some s')
    (hi : (s.net i).intr = true ∨ (s.net i).pc = .exc) :
    (s'.net i).pc.rank < (s.net i).pc.rank ∧ (s'.net i).intr = true := by
  rcases hi with hi | hi
  · have hb : (s.net i).pc ≠ .unborn := by
      intro hc
      simp [step, stepNet, hc] at hs
    exact ⟨rank_own env s s' i hs hi, intr_sticky env s s' _ h hs i hb hi⟩
  · simp only [step, stepNet, hi, Option.some.injEq] at hs
    subst hs
    simp [updN, hi, NPc.rank]

/-- Under ANY schedule a thread that is interrupted, or at the `except` clause, stays so and
executes at most `rank` (≤ 23) more actions; a set flag stays set and the thread object stays. -/
theorem rank_run_exc (env : List Beh) (sched : List Tid) (i : Nat) :
    ∀ s, LInv s → (s.net i).pc ≠ .unborn → ((s.net i).intr = true ∨ (s.net i).pc = .exc) →
      ((s.net i).intr = true → ((run env s sched).net i).intr = true) ∧
      (((run env s sched).net i).intr = true ∨ ((run env s sched).net i).pc = .exc) ∧
      ((run env s sched).net i).pc ≠ .unborn ∧
      ((run env s sched).net i).pc.rank + stepsOf env s (.net i) sched ≤ (s.net i).pc.rank := by
  induction sched with
  | nil => intro s _ hb hi; exact ⟨id, hi, hb, by simp [run, stepsOf]⟩
  | cons u us ih =>
    intro s h hb hi
    simp only [run, stepsOf]
    cases hst : step env s u with
    | none => exact ih s h hb hi
    | some s' =>
      have h' := step_inv env s s' u h hst
      by_cases hu : u = .net i
      · subst hu
        obtain ⟨hr, hi'⟩ := rank_own_exc env s s' i h hst hi
        have hb' := (step_Step env s s' _ hst).own_pc.1
        obtain ⟨a, b, c, d⟩ := ih s' h' hb' (.inl hi')
        refine ⟨fun _ => a hi', b, c, ?_⟩
        simp only [if_true]; omega
      · have hpc := pc_other env s s' u h hst i hb hu
        obtain ⟨a, b, c, d⟩ := ih s' h' (by rw [hpc]; exact hb)
          (hi.imp (intr_sticky env s s' u h hst i hb) (fun hx => by rw [hpc]; exact hx))
        refine ⟨fun hi0 => a (intr_sticky env s s' u h hst i hb hi0), b, c, ?_⟩
        simp only [hu, if_false]; rw [hpc] at d; omega

/-- Under ANY schedule an interrupted thread stays interrupted and executes at most
`rank` (≤ 23) more actions; its rank never increases. -/
theorem rank_run (env : List Beh) (sched : List Tid) (i : Nat) :
    ∀ s, LInv s → (s.net i).pc ≠ .unborn → (s.net i).intr = true →
      ((run env s sched).net i).intr = true ∧ ((run env s sched).net i).pc ≠ .unborn ∧
      ((run env s sched).net i).pc.rank + stepsOf env s (.net i) sched ≤ (s.net i).pc.rank :=
  fun s h hb hi =>
    let ⟨a, _, c, d⟩ := rank_run_exc env sched i s h hb (.inl hi)
    ⟨a hi, c, d⟩

/-! ### Running a thread alone -/

theorem owner_own_step (env : List Beh) (s s' : Sys) (i : Nat)
    (hs : step env s (.net i) = some s') (ho : s.owner = none ∨ s.owner = some (.net i)) :
    s'.owner = none ∨ s'.owner = some (.net i) := by
  rcases (step_Step env s s' _ hs).lock with ⟨-, ho', -⟩ | ⟨-, -, ho', -⟩ | ⟨-, ho', -⟩
  · rw [ho']; exact ho
  · exact .inr ho'
  · rw [ho', ownerAfterRel]; split
    · exact .inl rfl
    · exact ho

theorem run_replicate_succ (env : List Beh) (s : Sys) (t : Tid) (n : Nat) :
    run env s (List.replicate (n + 1) t) =
      match step env s t with
      | some s' => run env s' (List.replicate n t)
      | none => run env s (List.replicate n t) := by
  rw [List.replicate_succ]; rfl

/-- Scheduling only an interrupted thread whose predecessor (if it waits for one) is dead, with
the lock free, kills it within `rank` steps; it ends with the lock free and does not move any
other existing thread. -/
theorem solo (env : List Beh) (i : Nat) : ∀ n s, LInv s → (s.net i).pc ≠ .unborn →
    (s.net i).intr = true → (s.owner = none ∨ s.owner = some (.net i)) →
    ((s.net i).pc = .waitPrev → ∀ p, (s.net i).prev = some p → (s.net p).pc = .dead) →
    (s.net i).pc.rank ≤ n →
    ((run env s (List.replicate n (.net i))).net i).pc = .dead ∧
    (run env s (List.replicate n (.net i))).owner = none ∧
    LInv (run env s (List.replicate n (.net i))) ∧
    ∀ j, j ≠ i → (s.net j).pc ≠ .unborn →
      ((run env s (List.replicate n (.net i))).net j).pc = (s.net j).pc ∧
      ((run env s (List.replicate n (.net i))).net j).prev = (s.net j).prev ∧
      ((s.net j).intr = true → ((run env s (List.replicate n (.net i))).net j).intr = true) := by
  intro n
  induction n with
  | zero =>
    intro s h _ _ ho _ hr
    have hd : (s.net i).pc = .dead := (rank_zero _).mp (by omega)
    refine ⟨hd, ?_, h, fun j _ _ => ⟨rfl, rfl, id⟩⟩
    rcases ho with ho | ho
    · exact ho
    · have := (h.own_iff (.net i)).mpr ho
      simp [atRel, hd, NPc.isRel] at this
  | succ n ih =>
    intro s h hb hi ho hw hr
    rw [run_replicate_succ]
    cases hst : step env s (.net i) with
    | none =>
      have hd : (s.net i).pc = .dead := by
        apply Classical.byContradiction
        intro hd
        rcases blocked_cases env s h i hb hd hst with ⟨t, h1, h2⟩ | ⟨h1, p, h2, -, h3, -⟩
        · rcases ho with ho | ho
          · rw [ho] at h1; cases h1
          · rw [ho] at h1; cases h1; exact h2 rfl
        · exact h3 (hw h1 p h2)
      exact ih s h hb hi ho hw (by rw [hd]; simp [NPc.rank])
    | some s1 =>
      have h1 := step_inv env s s1 _ h hst
      have hr1 := rank_own env s s1 i hst hi
      obtain ⟨hb1, hw1⟩ := (step_Step env s s1 _ hst).own_pc
      obtain ⟨a, b, c, d⟩ := ih s1 h1 hb1 (intr_sticky env s s1 _ h hst i hb hi)
        (owner_own_step env s s1 i hst ho) (fun hc => absurd hc hw1) (by omega)
      refine ⟨a, b, c, fun j hj hbj => ?_⟩
      have e1 := pc_other env s s1 _ h hst j hbj (by simpa using fun hc => hj hc.symm)
      have e2 := prev_stable env s s1 _ h hst j hbj
      obtain ⟨d1, d2, d3⟩ := d j hj (by rw [e1]; exact hbj)
      exact ⟨by rw [d1, e1], by rw [d2, e2],
        fun hij => d3 (intr_sticky env s s1 _ h hst j hbj hij)⟩

/-- With the lock free (or held by `i`), an interrupted thread can be driven to its death: first
its predecessor (if it is still waiting for one), then itself. -/
theorem can_terminate_free (env : List Beh) (s : Sys) (h : LInv s) (i : Nat)
    (hb : (s.net i).pc ≠ .unborn) (hi : (s.net i).intr = true)
    (ho : s.owner = none ∨ s.owner = some (.net i)) :
    ∃ sched, sched.length ≤ 46 ∧ ((run env s sched).net i).pc = .dead := by
  by_cases hw : (s.net i).pc = .waitPrev
  · obtain ⟨p, hp1, hp2, hp3, hp4, -⟩ := h.prev_ok i (by rw [hw]; rfl)
    have ho' : s.owner = none := by
      rcases ho with ho | ho
      · exact ho
      · have := (h.own_iff (.net i)).mpr ho
        simp [atRel, hw, NPc.isRel] at this
    have hpw : (s.net p).pc ≠ .waitPrev := by
      intro hc
      have h1 := (h.new_iff p).mpr (by rw [hc]; rfl)
      have h2 := (h.new_iff i).mpr (by rw [hw]; rfl)
      rw [h1] at h2; cases h2; exact hp3 rfl
    obtain ⟨a, b, c, d⟩ := solo env p 23 s h hp4 hp2 (Or.inl ho') (fun hc => absurd hc hpw)
      (rank_le _)
    obtain ⟨d1, d2, d3⟩ := d i (fun hc => hp3 hc.symm) hb
    obtain ⟨e, -, -, -⟩ := solo env i 23 _ c (by rw [d1]; exact hb) (d3 hi) (Or.inl b)
      (fun _ q hq => by rw [d2, hp1] at hq; cases hq; exact a) (rank_le _)
    refine ⟨List.replicate 23 (.net p) ++ List.replicate 23 (.net i), by simp, ?_⟩
    rw [run_append]; exact e
  · obtain ⟨e, -, -, -⟩ := solo env i 23 s h hb hi ho (fun hc => absurd hc hw) (rank_le _)
    exact ⟨List.replicate 23 (.net i), by simp, e⟩

/-- From every state satisfying the invariant there is a schedule of at most 47 entries after
which a given interrupted thread is dead. -/
theorem can_terminate (env : List Beh) (s : Sys) (h : LInv s) (i : Nat)
    (hb : (s.net i).pc ≠ .unborn) (hi : (s.net i).intr = true) :
    ∃ sched, sched.length ≤ 47 ∧ ((run env s sched).net i).pc = .dead := by
  cases ho : s.owner with
  | none =>
    obtain ⟨sched, h1, h2⟩ := can_terminate_free env s h i hb hi (Or.inl ho)
    exact ⟨sched, by omega, h2⟩
  | some t =>
    by_cases ht : t = .net i
    · obtain ⟨sched, h1, h2⟩ := can_terminate_free env s h i hb hi (Or.inr (by rw [ho, ht]))
      exact ⟨sched, by omega, h2⟩
    · obtain ⟨s1, hs1, ho1⟩ := owner_enabled env s h t ho
      have h1 := step_inv env s s1 t h hs1
      have hpc := pc_other env s s1 t h hs1 i hb ht
      obtain ⟨sched, hl, hd⟩ := can_terminate_free env s1 h1 i (by rw [hpc]; exact hb)
        (intr_sticky env s s1 t h hs1 i hb hi) (Or.inl ho1)
      refine ⟨t :: sched, by simp; omega, ?_⟩
      simp only [run, hs1]; exact hd

end PyCraft.Life
