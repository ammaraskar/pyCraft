import PyCraft.Model.Writers
/-!
Vocabulary for the proofs about `Model/Writers.lean`: views of a program counter, the holder's
program counter `cur`, whole-frame lists, and the lock invariant `LockInv`.

The invariants never unfold the model's `step`.  It is analysed once (`step_char`, by the
case-analysis tactic `step_cases`): a step is a transition `Trans` of the control skeleton (program
counter, remaining program, event, guards) followed by the effect `commit` of its event on the
shared state.  `step_facts` puts the two together with `LockInv` into the normal form of a step
that every other invariant consumes; facts about particular program points are lemmas about `Trans`
alone (`Trans.crit`, `Trans.net`, …), each a case analysis in a context that holds nothing but the
transition.  Only statements about one given program point (`drel_step`, `C12.disconnect_ctx_set`,
the enabledness lemmas of `C12Progress`) evaluate `step` there directly.
-/
namespace PyCraft.Writers

/-! ### Views of a program counter -/

/-- Inside a `with self._write_lock:` block. -/
def UPc.crit : UPc → Bool
  | .idle | .done => false
  | _ => true

def NPc.crit : NPc → Bool
  | .wRdi | .wChk | .wPop | .wSnd0 _ | .wSnd1 _ | .wChk2 | .wRel | .xRel | .zRel => true
  | _ => false

def Pc.crit : Pc → Bool
  | .user pc => pc.crit
  | .net pc _ => pc.crit

/-- The networking thread has left the loop of `_run`. -/
def NPc.exited : NPc → Bool
  | .zAcq | .zRel | .zEnd | .done => true
  | _ => false

/-- The packet this thread has taken responsibility for (forced: since `acq`; popped: since `pop`)
and not yet completely sent. -/
def Pc.infl : Pc → List Pkt
  | .user (.fSnd0 p) | .user (.fSnd1 p) => [p]
  | .user (.dSnd0 _ q) | .user (.dSnd1 _ q) => [q]
  | .net (.wSnd0 q) _ | .net (.wSnd1 q) _ => [q]
  | _ => []

/-- The in-flight packet, when it came from the queue. -/
def Pc.popped : Pc → List Pkt
  | .user (.dSnd0 _ q) | .user (.dSnd1 _ q) => [q]
  | .net (.wSnd0 q) _ | .net (.wSnd1 q) _ => [q]
  | _ => []

/-- The open length prefix: between `snd p 0` and `snd p 1`. -/
def Pc.half : Pc → List Chunk
  | .user (.fSnd1 p) => [(p, 0)]
  | .user (.dSnd1 _ q) => [(q, 0)]
  | .net (.wSnd1 q) _ => [(q, 0)]
  | _ => []

/-- Program points that are only reached while the socket is open. -/
def Pc.needsOpen : Pc → Bool
  | .user (.fSnd1 _) | .user (.dChk _) | .user (.dPop _) | .user (.dSnd0 _ _) | .user (.dSnd1 _ _)
  | .user (.dShut _) | .user (.dCls _) => true
  | .net .wChk _ | .net .wPop _ | .net (.wSnd0 _) _ | .net (.wSnd1 _) _ => true
  | _ => false

/-- About to `popleft`. -/
def Pc.atPop : Pc → Bool
  | .user (.dPop _) | .net .wPop _ => true
  | _ => false

/-- `disconnect` between the interrupt and the close. -/
def Pc.pastSti : Pc → Bool
  | .user (.dShut _) | .user (.dCls _) => true
  | _ => false

/-- Inside the flush loop of `disconnect`. -/
def Pc.flushing : Pc → Bool
  | .user (.dChk _) | .user (.dPop _) | .user (.dSnd0 _ _) | .user (.dSnd1 _ _) => true
  | _ => false

/-- The ghost context of a running `disconnect`. -/
def Pc.dctx : Pc → Option DCtx
  | .user (.dChk c) | .user (.dPop c) | .user (.dSnd0 c _) | .user (.dSnd1 c _)
  | .user (.dSti c) | .user (.dShut c) | .user (.dCls c) | .user (.dRel c) => some c
  | _ => none

/-! ### How the views hang together -/

theorem popped_needsOpen (pc : Pc) (h : pc.popped ≠ []) : pc.needsOpen = true := by
  unfold Pc.popped at h; unfold Pc.needsOpen; split at h <;> simp_all

theorem half_crit (pc : Pc) (h : pc.half ≠ []) : pc.crit = true := by
  unfold Pc.half at h; split at h <;> simp_all [Pc.crit, UPc.crit, NPc.crit]

theorem half_needsOpen (pc : Pc) (h : pc.half ≠ []) : pc.needsOpen = true := by
  unfold Pc.half at h; split at h <;> simp_all [Pc.needsOpen]

theorem half_infl (pc : Pc) (c : Chunk) (h : c ∈ pc.half) : c.1 ∈ pc.infl ∧ c.2 = 0 := by
  unfold Pc.half at h; split at h <;> simp_all [Pc.infl]

theorem half_shape (pc : Pc) : pc.half = [] ∨ ∃ p, pc.half = [(p, 0)] ∧ pc.infl = [p] := by
  unfold Pc.half; split <;> simp [Pc.infl]

theorem popped_infl (pc : Pc) (p : Pkt) (h : p ∈ pc.popped) : p ∈ pc.infl := by
  unfold Pc.popped at h; split at h <;> simp_all [Pc.infl]

theorem dctx_crit (pc : Pc) (c : DCtx) (h : pc.dctx = some c) : pc.crit = true := by
  unfold Pc.dctx at h; split at h <;> simp_all [Pc.crit, UPc.crit]

theorem flushing_needsOpen (pc : Pc) (h : pc.flushing = true) : pc.needsOpen = true := by
  unfold Pc.flushing at h; split at h <;> simp_all [Pc.needsOpen]

/-! ### The lock holder -/

/-- The lock holder's program counter (`idle` when the lock is free). -/
def cur (s : Sys) : Pc :=
  match s.owner with
  | some t => (s.thr t).pc
  | none => .user .idle

/-- The program counter as the lock sees it: outside a critical section a thread is as good as
idle. -/
def Pc.atLock (pc : Pc) : Pc := if pc.crit then pc else .user .idle

/-! ### Frames -/

/-- The wire image of a sequence of whole frames. -/
def frames (ps : List Pkt) : List Chunk := ps.flatMap fun p => [(p, 0), (p, 1)]

/-- The packets whose body chunk is on the wire, in order. -/
def sentPkts (w : List Chunk) : List Pkt := w.filterMap fun c => if c.2 = 1 then some c.1 else none

@[simp] theorem frames_nil : frames [] = [] := rfl

theorem frames_append (a b : List Pkt) : frames (a ++ b) = frames a ++ frames b := by
  simp [frames]

theorem frames_snoc (a : List Pkt) (p : Pkt) : frames (a ++ [p]) = frames a ++ [(p, 0), (p, 1)] := by
  simp [frames]

@[simp] theorem sentPkts_nil : sentPkts [] = [] := rfl

theorem sentPkts_append (a b : List Chunk) : sentPkts (a ++ b) = sentPkts a ++ sentPkts b := by
  simp [sentPkts]

theorem sentPkts_snoc0 (a : List Chunk) (p : Pkt) : sentPkts (a ++ [(p, 0)]) = sentPkts a := by
  simp [sentPkts]

theorem sentPkts_snoc1 (a : List Chunk) (p : Pkt) : sentPkts (a ++ [(p, 1)]) = sentPkts a ++ [p] := by
  simp [sentPkts]

theorem sentPkts_frames (ps : List Pkt) : sentPkts (frames ps) = ps := by
  induction ps with
  | nil => rfl
  | cons p ps ih =>
    have : frames (p :: ps) = [(p, 0), (p, 1)] ++ frames ps := by simp [frames]
    rw [this, sentPkts_append, ih]; simp [sentPkts]

theorem sentPkts_half (pc : Pc) : sentPkts pc.half = [] := by
  unfold Pc.half; split <;> rfl

theorem mem_frames (ps : List Pkt) (c : Chunk) (h : c ∈ frames ps) : c.1 ∈ ps := by
  simp only [frames, List.mem_flatMap] at h
  obtain ⟨p, hp, hc⟩ := h
  simp at hc; rcases hc with rfl | rfl <;> exact hp

/-! ### Case analysis of a step -/

/-- Case analysis of `hs : step cfg s t = some s'`: one goal per branch of the model with `s'`
replaced by the explicit successor state; `hpc`/`htd` name the facts about the stepping thread's
program counter and remaining program. -/
macro "step_cases" hs:ident hpc:ident htd:ident : tactic => `(tactic| (
  unfold step at $hs:ident
  generalize $htd:ident : (Sys.thr _ _).todo = todo at $hs:ident
  generalize $hpc:ident : (Sys.thr _ _).pc = pc at $hs:ident
  rcases pc with pc | ⟨pc, n⟩ <;> cases pc
  case' user.idle => rcases todo with _ | ⟨(p | p | imm), rest⟩
  all_goals dsimp only [stepUser, stepNet, afterFlush, afterSti] at $hs:ident
  all_goals repeat' split at $hs:ident
  all_goals first
    | (cases $hs:ident; done)
    | (simp only [Option.some.injEq] at $hs:ident; subst $hs:ident)))

/-! ### The shape of a step -/

/-- The control skeleton of `step`: at program counter `pc` with remaining program `td`, in global
state `s`, thread `t` performs `ev` and continues at `pc'` with `td'`. -/
inductive Trans (cfg : Cfg) (s : Sys) (t : Tid) : Pc → List Op → Ev → Pc → List Op → Prop
  | fin : Trans cfg s t (.user .idle) [] .fin (.user .done) []
  | app p rest : Trans cfg s t (.user .idle) (.queued p :: rest) (.app p) (.user .idle) rest
  | acqF p rest : canAcq s t = true →
      Trans cfg s t (.user .idle) (.forced p :: rest) .acq (.user (.fSnd0 p)) rest
  | acqFlush imm rest : canAcq s t = true → imm = false → s.sockOpen = true →
      Trans cfg s t (.user .idle) (.disconnect imm :: rest) .acq
        (.user (.dChk ⟨imm, s.queue, s.wire, s.sockOpen⟩)) rest
  | acqSti imm rest : canAcq s t = true → (imm = false → s.sockOpen = false) → s.ntSlot = true →
      Trans cfg s t (.user .idle) (.disconnect imm :: rest) .acq
        (.user (.dSti ⟨imm, s.queue, s.wire, s.sockOpen⟩)) rest
  | acqShut imm rest : canAcq s t = true → imm = true → s.ntSlot = false → s.sockOpen = true →
      Trans cfg s t (.user .idle) (.disconnect imm :: rest) .acq
        (.user (.dShut ⟨imm, s.queue, s.wire, s.sockOpen⟩)) rest
  | acqRel imm rest : canAcq s t = true → s.ntSlot = false → s.sockOpen = false →
      Trans cfg s t (.user .idle) (.disconnect imm :: rest) .acq
        (.user (.dRel ⟨imm, s.queue, s.wire, s.sockOpen⟩)) rest
  | sndF0 p td : s.sockOpen = true →
      Trans cfg s t (.user (.fSnd0 p)) td (.snd p 0) (.user (.fSnd1 p)) td
  | failF p td : s.sockOpen = false → Trans cfg s t (.user (.fSnd0 p)) td .fail (.user .fRel) td
  | sndF1 p td : Trans cfg s t (.user (.fSnd1 p)) td (.snd p 1) (.user .fRel) td
  | relF td : Trans cfg s t (.user .fRel) td .rel (.user .idle) td
  | chkSti c td : s.queue = [] → s.ntSlot = true →
      Trans cfg s t (.user (.dChk c)) td (.chk s.queue.length) (.user (.dSti c)) td
  | chkShut c td : s.queue = [] → s.ntSlot = false → s.sockOpen = true →
      Trans cfg s t (.user (.dChk c)) td (.chk s.queue.length) (.user (.dShut c)) td
  | chkRel c td : s.queue = [] → s.ntSlot = false → s.sockOpen = false →
      Trans cfg s t (.user (.dChk c)) td (.chk s.queue.length) (.user (.dRel c)) td
  | chkMore c td : s.queue ≠ [] →
      Trans cfg s t (.user (.dChk c)) td (.chk s.queue.length) (.user (.dPop c)) td
  | popD c q rest td : s.queue = q :: rest →
      Trans cfg s t (.user (.dPop c)) td (.pop q) (.user (.dSnd0 c q)) td
  | sndD0 c q td : s.sockOpen = true →
      Trans cfg s t (.user (.dSnd0 c q)) td (.snd q 0) (.user (.dSnd1 c q)) td
  | failD c q td : s.sockOpen = false →
      Trans cfg s t (.user (.dSnd0 c q)) td .fail (.user (.dRel c)) td
  | sndD1 c q td : Trans cfg s t (.user (.dSnd1 c q)) td (.snd q 1) (.user (.dChk c)) td
  | stiShut c td : s.sockOpen = true →
      Trans cfg s t (.user (.dSti c)) td .sti (.user (.dShut c)) td
  | stiRel c td : s.sockOpen = false →
      Trans cfg s t (.user (.dSti c)) td .sti (.user (.dRel c)) td
  | shut c td : Trans cfg s t (.user (.dShut c)) td .shut (.user (.dCls c)) td
  | cls c td : Trans cfg s t (.user (.dCls c)) td .cls (.user (.dRel c)) td
  | relD c td : Trans cfg s t (.user (.dRel c)) td .rel (.user .idle) td
  | rdiExit n td : s.interrupt = true →
      Trans cfg s t (.net .oRdi n) td (.rdi s.interrupt) (.net .zAcq n) td
  | rdiLoop n td : s.interrupt = false →
      Trans cfg s t (.net .oRdi n) td (.rdi s.interrupt) (.net .wAcq 0) td
  | acqW n td : canAcq s t = true → Trans cfg s t (.net .wAcq n) td .acq (.net .wRdi n) td
  | rdiWStop n td : s.interrupt = true →
      Trans cfg s t (.net .wRdi n) td (.rdi s.interrupt) (.net .wChk2 n) td
  | rdiW n td : s.interrupt = false →
      Trans cfg s t (.net .wRdi n) td (.rdi s.interrupt) (.net .wChk n) td
  | chkWEmpty n td : s.queue = [] →
      Trans cfg s t (.net .wChk n) td (.chk s.queue.length) (.net .wChk2 n) td
  | chkWMore n td : s.queue ≠ [] →
      Trans cfg s t (.net .wChk n) td (.chk s.queue.length) (.net .wPop n) td
  | popW n q rest td : s.queue = q :: rest →
      Trans cfg s t (.net .wPop n) td (.pop q) (.net (.wSnd0 q) n) td
  | sndW0 n q td : s.sockOpen = true →
      Trans cfg s t (.net (.wSnd0 q) n) td (.snd q 0) (.net (.wSnd1 q) n) td
  | failW n q td : s.sockOpen = false →
      Trans cfg s t (.net (.wSnd0 q) n) td .fail (.net .xRel n) td
  | sndW1Cap n q td : n + 1 ≥ cfg.capW →
      Trans cfg s t (.net (.wSnd1 q) n) td (.snd q 1) (.net .wChk2 (n + 1)) td
  | sndW1 n q td : ¬ n + 1 ≥ cfg.capW →
      Trans cfg s t (.net (.wSnd1 q) n) td (.snd q 1) (.net .wRdi (n + 1)) td
  | chk2 n td : Trans cfg s t (.net .wChk2 n) td (.chk s.queue.length) (.net .wRel n) td
  | relWRead n td : n < cfg.capR → Trans cfg s t (.net .wRel n) td .rel (.net .rRdi n) td
  | relW n td : ¬ n < cfg.capR → Trans cfg s t (.net .wRel n) td .rel (.net .oRdi n) td
  | rdiRStop n td : s.interrupt = true →
      Trans cfg s t (.net .rRdi n) td (.rdi s.interrupt) (.net .oRdi n) td
  | rdiR n td : s.interrupt = false →
      Trans cfg s t (.net .rRdi n) td (.rdi s.interrupt) (.net .rSel n) td
  | sel n td : Trans cfg s t (.net .rSel n) td .sel (.net .oRdi n) td
  | relX n td : Trans cfg s t (.net .xRel n) td .rel (.net .zAcq n) td
  | acqZ n td : canAcq s t = true → Trans cfg s t (.net .zAcq n) td .acq (.net .zRel n) td
  | relZ n td : Trans cfg s t (.net .zRel n) td .rel (.net .zEnd n) td
  | finN n td : Trans cfg s t (.net .zEnd n) td .fin (.net .done n) td

/-- `acq` / `rel`. -/
def Ev.isLock : Ev → Bool
  | .acq | .rel => true
  | _ => false

/-- `pop` / `snd`: a packet leaves the queue, or a chunk reaches the wire. -/
def Ev.isMove : Ev → Bool
  | .pop _ | .snd _ _ => true
  | _ => false

/-- `chk n`: somebody (holding the lock) looked at the length of the queue. -/
def Ev.isChk : Ev → Bool
  | .chk _ => true
  | _ => false

/-- The packets `ev` appends to the queue, pops from it, and the chunk it sends. -/
def Ev.apps : Ev → List Pkt
  | .app p => [p]
  | _ => []

def Ev.pops : Ev → List Pkt
  | .pop p => [p]
  | _ => []

def Ev.snds : Ev → List Chunk
  | .snd p c => [(p, c)]
  | _ => []

/-- The packet issued by an `acq` that leads to this program point: a forced write counts as issued
from the moment it takes the lock. -/
def Pc.issues : Pc → List Pkt
  | .user (.fSnd0 p) => [p]
  | _ => []

/-- The effect of event `ev` on the shared state, when thread `t` moves from `pc` to `pc'`. -/
def commit (s : Sys) (t : Tid) (pc : Pc) (ev : Ev) (pc' : Pc) (td' : List Op) : Sys :=
  let s₁ := { s with log := s.log ++ [(t, ev)], thr := upd s t pc' td' }
  match ev with
  | .acq => { s₁ with owner := some t, depth := s.depth + 1,
                      issued := s.issued ++ pc'.issues }
  | .rel => { s₁ with owner := ownerAfterRel s, depth := s.depth - 1,
                      interrupt := match pc with
                        | .net .xRel _ => true
                        | _ => s.interrupt,
                      ntSlot := match pc with
                        | .net .zRel _ => false
                        | _ => s.ntSlot }
  | .app p => { s₁ with queue := s.queue ++ [p], issued := s.issued ++ [p] }
  | .pop _ => { s₁ with queue := s.queue.tail }
  | .snd p c => { s₁ with wire := s.wire ++ [(p, c)] }
  | .fail => { s₁ with failed := s.failed ++ pc.infl }
  | .sti => { s₁ with interrupt := true }
  | .cls => { s₁ with sockOpen := false }
  | _ => s₁

/-- Every step is a transition of the control skeleton followed by the effect of its event.  (The
log and the thread table of the explicit successor state fix `ev`, `pc'`, `td'` by unification
before the matching constructor of `Trans` is looked for.) -/
theorem step_char (cfg : Cfg) (s s' : Sys) (t : Tid) (hs : step cfg s t = some s') :
    ∃ ev pc' td', Trans cfg s t (s.thr t).pc (s.thr t).todo ev pc' td' ∧
      s' = commit s t (s.thr t).pc ev pc' td' := by
  suffices h : ∃ ev pc' td', s'.log = s.log ++ [(t, ev)] ∧ s'.thr = upd s t pc' td' ∧
      Trans cfg s t (s.thr t).pc (s.thr t).todo ev pc' td' ∧
      s' = commit s t (s.thr t).pc ev pc' td' by
    obtain ⟨ev, pc', td', -, -, h⟩ := h
    exact ⟨ev, pc', td', h⟩
  step_cases hs hpc htd
  all_goals first
    | (refine ⟨_, _, _, rfl, rfl, ?_, rfl⟩; constructor <;> assumption)
    | (refine ⟨_, _, _, rfl, rfl, ?_, rfl⟩; constructor <;> simp_all)
    -- `pop`: the model names the tail of the queue, `commit` computes it
    | (refine ⟨_, _, _, rfl, rfl, ?_, ?_⟩
       · constructor <;> assumption
       · next h => obtain rfl := congrArg List.tail h; rfl)
    -- an `acq` that issues nothing
    | (refine ⟨_, _, _, rfl, rfl, ?_, ?_⟩
       · constructor <;> simp_all
       · simp [commit, Pc.issues])

/-! ### What `commit` does to the lock, the log and the threads -/

theorem commit_log (s : Sys) (t : Tid) (pc : Pc) (ev : Ev) (pc' : Pc) (td' : List Op) :
    (commit s t pc ev pc' td').log = s.log ++ [(t, ev)] := by
  cases ev <;> rfl

theorem commit_thr (s : Sys) (t : Tid) (pc : Pc) (ev : Ev) (pc' : Pc) (td' : List Op) :
    (commit s t pc ev pc' td').thr = upd s t pc' td' := by
  cases ev <;> rfl

theorem commit_thr_self (s : Sys) (t : Tid) (pc : Pc) (ev : Ev) (pc' : Pc) (td' : List Op) :
    (commit s t pc ev pc' td').thr t = ⟨pc', td'⟩ := by
  simp [commit_thr, upd]

theorem commit_thr_other (s : Sys) (t : Tid) (pc : Pc) (ev : Ev) (pc' : Pc) (td' : List Op)
    (u : Tid) (hu : u ≠ t) : (commit s t pc ev pc' td').thr u = s.thr u := by
  simp [commit_thr, upd, hu]

theorem step_log (cfg : Cfg) (s s' : Sys) (t : Tid) (hs : step cfg s t = some s') :
    ∃ ev, s'.log = s.log ++ [(t, ev)] := by
  obtain ⟨ev, pc', td', -, rfl⟩ := step_char cfg s s' t hs
  exact ⟨ev, commit_log ..⟩

theorem step_thr_other (cfg : Cfg) (s s' : Sys) (t : Tid) (hs : step cfg s t = some s') :
    ∀ u, u ≠ t → s'.thr u = s.thr u := by
  obtain ⟨ev, pc', td', -, rfl⟩ := step_char cfg s s' t hs
  exact fun u hu => commit_thr_other _ _ _ _ _ _ u hu


/-- Only `acq` and `rel` touch the lock. -/
theorem commit_owner (s : Sys) (t : Tid) (pc : Pc) (ev : Ev) (pc' : Pc) (td' : List Op) :
    (commit s t pc ev pc' td').owner =
        (if ev = .acq then some t else if ev = .rel then ownerAfterRel s else s.owner) ∧
      (commit s t pc ev pc' td').depth =
        (if ev = .acq then s.depth + 1 else if ev = .rel then s.depth - 1 else s.depth) := by
  cases ev <;> exact ⟨rfl, rfl⟩

/-- The lists: what `ev` appends to the wire, the queue, the failed and the issued packets. -/
structure Lists (s s' : Sys) (pc pc' : Pc) (ev : Ev) : Prop where
  wire : s'.wire = s.wire ++ ev.snds
  queue : s'.queue = (if ev.pops = [] then s.queue ++ ev.apps else s.queue.tail)
  failed : s'.failed = s.failed ++ (if ev = .fail then pc.infl else [])
  issued : s'.issued = s.issued ++ (if ev = .acq then pc'.issues else ev.apps)

theorem commit_lists (s : Sys) (t : Tid) (pc : Pc) (ev : Ev) (pc' : Pc) (td' : List Op) :
    Lists s (commit s t pc ev pc' td') pc pc' ev := by
  cases ev <;> constructor <;> simp [commit, Ev.snds, Ev.pops, Ev.apps]

/-! ### The lock invariant -/

structure LockInv (s : Sys) : Prop where
  /-- exactly the lock owner is inside a `with lock:` block -/
  crit_owner : ∀ t, (s.thr t).pc.crit = true ↔ s.owner = some t
  /-- user programs and the networking thread never nest acquisitions -/
  depth_ok : s.depth = if s.owner = none then 0 else 1
  /-- only thread 0 runs the networking-thread program -/
  net_zero : ∀ t pc n, (s.thr t).pc = .net pc n → t = 0
  /-- once `networking_thread` is cleared, the networking thread is past its last `rel` (which is
  what clears it) -/
  nt_slot : s.ntSlot = false → ∀ pc n, (s.thr 0).pc = .net pc n → pc = .zEnd ∨ pc = .done
  /-- thread 0 does run the networking-thread program -/
  nt_net : ∃ pc n, (s.thr 0).pc = .net pc n
  /-- the networking thread leaves its loop only after seeing (or setting) `interrupt` -/
  nt_exit : ∀ pc n, (s.thr 0).pc = .net pc n → pc.exited = true → s.interrupt = true

/-- The lock discipline of the control skeleton: `acq` (possible when the lock can be taken) enters
a critical section, `rel` leaves it, every other action stays where it is. -/
theorem Trans.crit {cfg : Cfg} {s : Sys} {t : Tid} {pc pc' : Pc} {td td' : List Op} {ev : Ev}
    (h : Trans cfg s t pc td ev pc' td') :
    (ev = .acq → pc.crit = false ∧ pc'.crit = true ∧ canAcq s t = true) ∧
    (ev = .rel → pc.crit = true ∧ pc'.crit = false) ∧
    (ev ≠ .acq → ev ≠ .rel → pc'.crit = pc.crit) := by
  cases h <;> simp [Pc.crit, UPc.crit, NPc.crit, *]

/-- A step and the lock: thread `t` takes the free lock, or gives it back, or leaves it alone — and
then holds it exactly if it is inside a critical section. -/
def LockStep (s s' : Sys) (t : Tid) (pc pc' : Pc) (ev : Ev) : Prop :=
  (ev = .acq ∧ s.owner = none ∧ s'.owner = some t ∧ s'.depth = 1 ∧ pc'.crit = true) ∨
  (ev = .rel ∧ s.owner = some t ∧ s'.owner = none ∧ s'.depth = 0 ∧ pc'.crit = false) ∨
  (ev ≠ .acq ∧ ev ≠ .rel ∧ s'.owner = s.owner ∧ s'.depth = s.depth ∧ pc'.crit = pc.crit)

theorem step_lock {cfg : Cfg} {s : Sys} {t : Tid} {td td' : List Op} {ev : Ev} {pc' : Pc}
    (h : LockInv s) (htr : Trans cfg s t (s.thr t).pc td ev pc' td') :
    LockStep s (commit s t (s.thr t).pc ev pc' td') t (s.thr t).pc pc' ev := by
  obtain ⟨ho, hd⟩ := commit_owner s t (s.thr t).pc ev pc' td'
  obtain ⟨ha, hr, hn⟩ := htr.crit
  have h1 := h.crit_owner t
  have h2 := h.depth_ok
  by_cases hea : ev = .acq
  · obtain ⟨c1, c2, c3⟩ := ha hea
    have hfree : s.owner = none := by
      rw [c1] at h1; simp [canAcq] at c3; rcases c3 with c3 | c3
      · exact c3
      · exact absurd (h1.mpr c3) (by simp)
    refine Or.inl ⟨hea, hfree, by rw [ho, if_pos hea], ?_, c2⟩
    rw [hd, if_pos hea, h2, if_pos hfree]
  · by_cases her : ev = .rel
    · obtain ⟨c1, c2⟩ := hr her
      have hown := h1.mp c1
      have hd1 : s.depth = 1 := by rw [h2, hown]; rfl
      refine Or.inr (Or.inl ⟨her, hown, ?_, by rw [hd, if_neg hea, if_pos her, hd1], c2⟩)
      rw [ho, if_neg hea, if_pos her]; simp [ownerAfterRel, hd1]
    · exact Or.inr (Or.inr ⟨hea, her, by rw [ho, if_neg hea, if_neg her],
        by rw [hd, if_neg hea, if_neg her], hn hea her⟩)


/-- The flags: `interrupt` is set by `sti` and by the networking thread's exceptional `rel`,
`networking_thread` is cleared by its last `rel`, the socket is closed by `cls`. -/
structure Flags (s s' : Sys) (pc : Pc) (ev : Ev) : Prop where
  interrupt : s'.interrupt = true ↔
    s.interrupt = true ∨ ev = .sti ∨ (ev = .rel ∧ ∃ n, pc = .net .xRel n)
  ntSlot : s'.ntSlot = false ↔ s.ntSlot = false ∨ (ev = .rel ∧ ∃ n, pc = .net .zRel n)
  sockOpen : s'.sockOpen = true ↔ s.sockOpen = true ∧ ev ≠ .cls

theorem commit_flags (s : Sys) (t : Tid) (pc : Pc) (ev : Ev) (pc' : Pc) (td' : List Op) :
    Flags s (commit s t pc ev pc' td') pc ev := by
  cases ev <;> constructor <;> simp [commit]
  all_goals (split <;> simp_all)

/-- The socket, once closed, stays closed; only `cls` closes it. -/
theorem sockOpen_step {s s' : Sys} {ev : Ev} (h : s'.sockOpen = true ↔ s.sockOpen = true ∧ ev ≠ .cls) :
    (s.sockOpen = false → s'.sockOpen = false) ∧ (ev ≠ .cls → s'.sockOpen = s.sockOpen) ∧
      (ev = .cls → s'.sockOpen = false) := by
  cases h1 : s.sockOpen <;> cases h2 : s'.sockOpen <;> simp_all

theorem Trans.user {cfg : Cfg} {s : Sys} {t : Tid} {u : UPc} {pc' : Pc} {td td' : List Op} {ev : Ev}
    (h : Trans cfg s t (.user u) td ev pc' td') : ∃ u', pc' = .user u' := by
  cases h <;> exact ⟨_, rfl⟩

/-- The networking thread leaves its loop only on seeing `interrupt` or by the exceptional `rel`,
and its last `rel` leads to the end. -/
theorem Trans.net {cfg : Cfg} {s : Sys} {t : Tid} {a : NPc} {n : Nat} {pc' : Pc} {td td' : List Op}
    {ev : Ev} (h : Trans cfg s t (.net a n) td ev pc' td') :
    ∃ a' n', pc' = .net a' n' ∧
      (a'.exited = true → a.exited = true ∨ s.interrupt = true ∨ (a = .xRel ∧ ev = .rel)) ∧
      (a = .zEnd ∨ a = .done → a' = .zEnd ∨ a' = .done) ∧ (a = .zRel → a' = .zEnd) := by
  cases h <;> refine ⟨_, _, rfl, ?_⟩ <;> simp [NPc.exited, *]

theorem lock_step (cfg : Cfg) (s s' : Sys) (t : Tid) (h : LockInv s)
    (hs : step cfg s t = some s') : LockInv s' := by
  obtain ⟨ev, pc', td', htr, rfl⟩ := step_char cfg s s' t hs
  have hself := commit_thr_self s t (s.thr t).pc ev pc' td'
  have hoth := commit_thr_other s t (s.thr t).pc ev pc' td'
  obtain ⟨fi, fn, -⟩ := commit_flags s t (s.thr t).pc ev pc' td'
  have h1 := h.crit_owner
  -- the lock: taken (it was free), given back (the stepping thread held it), or left alone
  have c12 : (∀ u, ((commit s t (s.thr t).pc ev pc' td').thr u).pc.crit = true ↔
        (commit s t (s.thr t).pc ev pc' td').owner = some u) ∧
      (commit s t (s.thr t).pc ev pc' td').depth =
        if (commit s t (s.thr t).pc ev pc' td').owner = none then 0 else 1 := by
    have thr_of : ∀ u, ((commit s t (s.thr t).pc ev pc' td').thr u).pc =
        if u = t then pc' else (s.thr u).pc := fun u => by
      by_cases hu : u = t
      · rw [if_pos hu, hu, hself]
      · rw [if_neg hu, hoth u hu]
    rcases step_lock h htr with ⟨-, k1, k2, k3, k4⟩ | ⟨-, k1, k2, k3, k4⟩ | ⟨-, -, k2, k3, k4⟩
    · refine ⟨fun u => ?_, by rw [k3, k2]; rfl⟩
      rw [thr_of, k2]
      by_cases hu : u = t
      · rw [if_pos hu, k4, hu]; simp
      · rw [if_neg hu, h1 u, k1]; simp [Ne.symm hu]
    · refine ⟨fun u => ?_, by rw [k3, k2]; rfl⟩
      rw [thr_of, k2]
      by_cases hu : u = t
      · rw [if_pos hu, k4]; simp
      · rw [if_neg hu, h1 u, k1]; simp [Ne.symm hu]
    · refine ⟨fun u => ?_, by rw [k3, k2]; exact h.depth_ok⟩
      rw [thr_of, k2]
      by_cases hu : u = t
      · rw [if_pos hu, k4, hu]; exact h1 t
      · rw [if_neg hu]; exact h1 u
  obtain ⟨c1, c2⟩ := c12
  -- the networking thread
  have hz := h.net_zero
  obtain ⟨a0, n0, h5⟩ := h.nt_net
  have h4 := h.nt_slot
  have h6 := h.nt_exit a0 n0 h5
  generalize hpc : (s.thr t).pc = pc at *
  cases pc with
  | user u =>
    obtain ⟨u', rfl⟩ := htr.user
    have ht : t ≠ 0 := fun e => by rw [e, h5] at hpc; cases hpc
    have h0 := hoth 0 (Ne.symm ht)
    refine ⟨c1, c2, fun v a n hv => ?_, fun hs a n hv => ?_, ⟨a0, n0, by rw [h0]; exact h5⟩,
      fun a n hv hex => ?_⟩
    · by_cases hvt : v = t
      · subst hvt; rw [hself] at hv; cases hv
      · rw [hoth v hvt] at hv; exact hz v a n hv
    · rw [h0] at hv; exact h4 (by simpa using fn.mp hs) a n hv
    · rw [h0] at hv; rw [h5] at hv; cases hv; exact fi.mpr (Or.inl (h6 hex))
  | net a n =>
    have ht : t = 0 := hz t a n hpc
    subst ht
    rw [h5] at hpc; cases hpc
    obtain ⟨a', n', rfl, e1, e2, e3⟩ := htr.net
    refine ⟨c1, c2, fun v b m hv => ?_, fun hs b m hv => ?_, ⟨a', n', by rw [hself]⟩,
      fun b m hv hex => ?_⟩
    · by_cases hvt : v = 0
      · exact hvt
      · rw [hoth v hvt] at hv; exact hz v b m hv
    · rw [hself] at hv; cases hv
      rcases fn.mp hs with hs | ⟨-, m, hm⟩
      · exact e2 (h4 hs a0 n0 h5)
      · cases hm; exact Or.inl (e3 rfl)
    · rw [hself] at hv; cases hv
      rcases e1 hex with e | e | ⟨rfl, rfl⟩
      · exact fi.mpr (Or.inl (h6 e))
      · exact fi.mpr (Or.inl e)
      · exact fi.mpr (Or.inr (Or.inr ⟨rfl, _, rfl⟩))

theorem cur_of_owner {s : Sys} {t : Tid} (h : s.owner = some t) : cur s = (s.thr t).pc := by
  simp [cur, h]

theorem cur_of_crit {s : Sys} (hl : LockInv s) (t : Tid) (h : (s.thr t).pc.crit = true) :
    cur s = (s.thr t).pc := cur_of_owner ((hl.crit_owner t).mp h)

theorem cur_of_free {s : Sys} (h : s.owner = none) : cur s = .user .idle := by
  simp [cur, h]

/-- A step and the holder's program counter `c → c'`: a thread that is inside a critical section
before or after its step acts at the lock; any other step the lock does not notice. -/
def Holder (pc pc' c c' : Pc) : Prop :=
  (c = pc.atLock ∧ c' = pc'.atLock) ∨ (pc.crit = false ∧ pc'.crit = false ∧ c' = c)

theorem Holder.at_lock {pc pc' c c' : Pc} (h : Holder pc pc' c c')
    (hk : pc.crit = true ∨ pc'.crit = true) : c = pc.atLock ∧ c' = pc'.atLock := by
  rcases h with h | ⟨k1, k2, -⟩
  · exact h
  · rw [k1, k2] at hk; simp at hk

theorem Holder.outside {pc pc' c c' : Pc} (h : Holder pc pc' c c') (k1 : pc.crit = false)
    (k2 : pc'.crit = false) : c' = c := by
  rcases h with ⟨rfl, rfl⟩ | ⟨-, -, h⟩
  · rw [Pc.atLock, Pc.atLock, k1, k2]; rfl
  · exact h

theorem step_cur {cfg : Cfg} {s : Sys} {t : Tid} {td td' : List Op} {ev : Ev} {pc' : Pc}
    (h : LockInv s) (htr : Trans cfg s t (s.thr t).pc td ev pc' td') :
    Holder (s.thr t).pc pc' (cur s) (cur (commit s t (s.thr t).pc ev pc' td')) := by
  have hself : ((commit s t (s.thr t).pc ev pc' td').thr t).pc = pc' := by rw [commit_thr_self]
  have h1 := h.crit_owner t
  obtain ⟨ha, hr, hn⟩ := htr.crit
  rcases step_lock h htr with ⟨rfl, c1, c2, -, c3⟩ | ⟨rfl, c1, c2, -, c3⟩ | ⟨c1, c2, c3, -, c4⟩
  · left
    rw [cur_of_free c1, cur_of_owner c2, hself, Pc.atLock, Pc.atLock, (ha rfl).1, c3]; exact ⟨rfl, rfl⟩
  · left
    rw [cur_of_owner c1, cur_of_free c2, Pc.atLock, Pc.atLock, (hr rfl).1, c3]; exact ⟨rfl, rfl⟩
  · cases hc : (s.thr t).pc.crit with
    | true =>
      left
      have hown := h1.mp hc
      rw [cur_of_owner hown, cur_of_owner (c3.trans hown), hself, Pc.atLock, Pc.atLock, c4, hc]
      exact ⟨rfl, rfl⟩
    | false =>
      have hown : s.owner ≠ some t := fun e => by rw [h1.mpr e] at hc; cases hc
      refine Or.inr ⟨hc, c4.trans hc, ?_⟩
      simp only [cur]; rw [c3]
      cases ho : s.owner with
      | none => rfl
      | some u =>
        have : u ≠ t := fun e => hown (by rw [ho, e])
        simp only [commit_thr_other _ _ _ _ _ _ u this]

/-- ONE STEP, in normal form.  The stepping thread goes from `pc`, `td` to `pc'`, `td'` along a
transition of the control skeleton labelled `ev`, the lock holder's program counter goes from
`cur s` to `cur s'`, nobody else moves, and the shared state changes as `ev` says. -/
structure StepFacts (cfg : Cfg) (s s' : Sys) (t : Tid) (ev : Ev) (pc pc' : Pc) (td td' : List Op) :
    Prop where
  trans : Trans cfg s t pc td ev pc' td'
  thr : s.thr t = ⟨pc, td⟩
  thr' : s'.thr t = ⟨pc', td'⟩
  others : ∀ u, u ≠ t → s'.thr u = s.thr u
  log : s'.log = s.log ++ [(t, ev)]
  lists : Lists s s' pc pc' ev
  flags : Flags s s' pc ev
  lock : LockStep s s' t pc pc' ev
  holder : Holder pc pc' (cur s) (cur s')

theorem step_facts (cfg : Cfg) (s s' : Sys) (t : Tid) (hl : LockInv s)
    (hs : step cfg s t = some s') :
    ∃ ev pc pc' td td', StepFacts cfg s s' t ev pc pc' td td' := by
  obtain ⟨ev, pc', td', htr, rfl⟩ := step_char cfg s s' t hs
  exact ⟨ev, _, pc', _, td', htr,
    rfl, commit_thr_self .., fun u hu => commit_thr_other _ _ _ _ _ _ u hu,
    commit_log .., commit_lists .., commit_flags .., step_lock hl htr, step_cur hl htr⟩

theorem lock_init (progs : List (List Op)) : LockInv (init progs) := by
  refine ⟨?_, rfl, ?_, ?_, ?_, ?_⟩
  · intro t; simp only [init]; split
    · simp [Pc.crit, NPc.crit]
    · split <;> simp [Pc.crit, UPc.crit]
  · intro t pc n; simp only [init]; split
    · intro _; assumption
    · split <;> simp
  · simp [init]
  · exact ⟨.oRdi, 0, by simp [init]⟩
  · intro pc n h; simp [init] at h; rw [← h.1]; simp [NPc.exited]

/-! ### Computing the holder's program counter after a step -/

theorem cur_mk_self (s : Sys) (t : Tid) (q d w so i n pc td l is f) :
    cur ⟨q, some t, d, w, so, i, n, upd s t pc td, l, is, f⟩ = pc := by
  simp [cur, upd]

theorem cur_mk_free (q d w so i n thr l is f) :
    cur ⟨q, none, d, w, so, i, n, thr, l, is, f⟩ = .user .idle := rfl

theorem cur_mk_other (s : Sys) (t : Tid) (hno : s.owner ≠ some t) (q d w so i n pc td l is f) :
    cur ⟨q, s.owner, d, w, so, i, n, upd s t pc td, l, is, f⟩ = cur s := by
  simp only [cur]
  cases ho : s.owner with
  | none => rfl
  | some u =>
    have : u ≠ t := fun h => hno (by rw [ho, h])
    simp [upd, this]

theorem ownerAfterRel_holder (s : Sys) (hd : s.depth = if s.owner = none then 0 else 1) (t : Tid)
    (hown : s.owner = some t) : ownerAfterRel s = none := by
  simp [ownerAfterRel, hd, hown]

theorem free_of_canAcq (s : Sys) (t : Tid) (h : canAcq s t = true) (hno : s.owner ≠ some t) :
    s.owner = none := by
  simp [canAcq] at h; rcases h with h | h
  · exact h
  · exact absurd h hno

/-- After `step_cases`: rewrite `cur s'` in the goal to a concrete program counter (holder or
acquiring thread), to `idle` (release) or to `cur s` (steps of other threads), and record what
`cur s` is.  `h1t : (s.thr t).pc.crit = true ↔ s.owner = some t`, `hd` = `LockInv.depth_ok`. -/
macro "cur_simp" s:ident t:ident h1t:ident hd:ident hpc:ident : tactic => `(tactic| (
  first
  | (have hown : Sys.owner $s = some $t := ($h1t).mp (by rw [$hpc:ident]; rfl)
     have hrel := ownerAfterRel_holder $s $hd $t hown
     have hcur : cur $s = _ := (cur_of_owner hown).trans $hpc
     simp only [hown, hrel, cur_mk_self, cur_mk_free])
  | (have hno : Sys.owner $s ≠ some $t := fun h => by
       have := ($h1t).mpr h; rw [$hpc:ident] at this; cases this
     first
     | (have hfree := free_of_canAcq $s $t (by assumption) hno
        have hcur : cur $s = _ := cur_of_free hfree
        simp only [cur_mk_self])
     | simp only [cur_mk_other $s $t hno])))

end PyCraft.Writers
