import PyCraft.Model.Lifecycle
/-!
Vocabulary for the proofs about `Model/Lifecycle.lean`: views of a program counter, the results of
the API bodies as explicit states (`body_cases`), and the actions of a thread by kind (`Step`,
with the tables `Quiet`, `Locked`, `Release` of a networking thread's lock-free actions, locked
blocks and releases; `step_Step` is the one case analysis of `step`).
-/
namespace PyCraft.Life

/-! ### Views of a program counter -/

/-- At the end of a `with self._write_lock:` block (the lock is held).  (The views enumerate all
constructors: no wildcard, so that every equation lemma is unconditional.) -/
def NPc.isRel : NPc → Bool
  | .tkRel | .wRel | .wFailRel | .callRel _ _ | .hRel | .epRel => true
  | .unborn | .waitPrev | .takeOver | .loopChk | .wBody | .rChk | .rRead | .call _ | .exit | .exc
  | .hRun | .hChk | .epilogue | .fin | .dead => false

/-- Between the take-over (or the direct creation) and the `networking_thread = None` of the
epilogue: this thread is `connection.networking_thread`. -/
def NPc.holds : NPc → Bool
  | .tkRel | .loopChk | .wBody | .wRel | .wFailRel | .rChk | .rRead | .call _ | .callRel _ _
  | .exit | .exc | .hRun | .hChk | .hRel | .epilogue => true
  | .unborn | .waitPrev | .takeOver | .epRel | .fin | .dead => false

/-- Created as a successor and not yet in possession of the slot. -/
def NPc.waiting : NPc → Bool
  | .waitPrev | .takeOver => true
  | .unborn | .tkRel | .loopChk | .wBody | .wRel | .wFailRel | .rChk | .rRead | .call _
  | .callRel _ _ | .exit | .exc | .hRun | .hChk | .hRel | .epilogue | .epRel | .fin | .dead => false

/-- A user thread at the end of its `with self._write_lock:` block. -/
def UPc.isRel : UPc → Bool
  | .rel _ => true
  | .idle => false

/-- Thread `t` is at the end of a locked block. -/
def atRel (s : Sys) : Tid → Bool
  | .user u => (s.usr u).pc.isRel
  | .net i => (s.net i).pc.isRel

/-- `socket` and `file_object` belong to the same open connection. -/
def linked : Sock → FileSt → Bool
  | .open c, .open d => c == d
  | _, _ => false

def Op.isConn : Op → Bool
  | .connect | .status => true
  | .disconnect _ => false

/-- `afterCall` yields one of four program counters; what holds of the four holds of it. -/
theorem afterCall_forall (P : NPc → Prop) (h1 : P .rChk) (h2 : P (.call .listen)) (h3 : P .exc)
    (h4 : P .hChk) (s : Sys) (site : Site) (out : Outcome) : P (afterCall s site out) := by
  cases site <;> simp only [afterCall] <;> repeat' split
  all_goals assumption

theorem afterCall_isRel (s : Sys) (site : Site) (out : Outcome) :
    (afterCall s site out).isRel = false :=
  afterCall_forall (·.isRel = false) rfl rfl rfl rfl s site out

theorem afterCall_holds (s : Sys) (site : Site) (out : Outcome) :
    (afterCall s site out).holds = true :=
  afterCall_forall (·.holds = true) rfl rfl rfl rfl s site out

theorem afterCall_waiting (s : Sys) (site : Site) (out : Outcome) :
    (afterCall s site out).waiting = false :=
  afterCall_forall (·.waiting = false) rfl rfl rfl rfl s site out

theorem afterCall_ne_unborn (s : Sys) (site : Site) (out : Outcome) :
    afterCall s site out ≠ .unborn :=
  afterCall_forall (· ≠ .unborn) nofun nofun nofun nofun s site out

theorem afterCall_ne_takeOver (s : Sys) (site : Site) (out : Outcome) :
    afterCall s site out ≠ .takeOver :=
  afterCall_forall (· ≠ .takeOver) nofun nofun nofun nofun s site out

theorem afterCall_ne_epRel (s : Sys) (site : Site) (out : Outcome) :
    afterCall s site out ≠ .epRel :=
  afterCall_forall (· ≠ .epRel) nofun nofun nofun nofun s site out

/-! ### The API bodies as explicit states -/

/-- The thread objects after `disconnect()`: the flag of the selected thread is set. -/
def dnet (s : Sys) : Nat → NetThr :=
  fun k => if target s = some k then { s.net k with intr := true } else s.net k

/-- `file_object` after `disconnect()`: closed if there was a socket. -/
def dfile (s : Sys) : FileSt := if s.socket = .none then s.file else s.file.close

/-- State after a refused `connect()`. -/
def refusedSt (s : Sys) : Sys := { s with socket := .unconnected, conns := s.conns + 1 }

/-- State after a successful `connect()` that found the slot empty. -/
def directSt (s : Sys) : Sys :=
  { s with socket := .open s.conns, file := .open s.conns, connected := true,
           conns := s.conns + 1, nt := some s.nthreads, nthreads := s.nthreads + 1,
           net := updN s s.nthreads ⟨false, none, .loopChk⟩ }

/-- State after a successful `connect()` that found the slot held by the interrupted thread `p`. -/
def succSt (s : Sys) (p : Nat) : Sys :=
  { s with socket := .open s.conns, file := .open s.conns, connected := true,
           conns := s.conns + 1, newNt := some s.nthreads, nthreads := s.nthreads + 1,
           net := updN s s.nthreads ⟨false, some p, .waitPrev⟩ }

/-- State after `disconnect()`. -/
def discSt (s : Sys) : Sys :=
  { s with connected := false, net := dnet s, socket := .none, file := dfile s }

theorem doDisconnect_discSt (s : Sys) : doDisconnect s = discSt s := by
  have hn : (match target s with | some j => setIntr s j | none => s.net) = dnet s := by
    funext k
    unfold dnet
    cases ht : target s with
    | none => simp
    | some j => by_cases hk : k = j <;> simp [setIntr, hk, eq_comm]
  unfold doDisconnect discSt dfile
  rcases s with ⟨nt, newNt, socket, file, connected, conns, nthreads, rl, rh, owner, depth, net, usr, log⟩
  cases socket <;> simp <;> exact hn

theorem busy_congr (s : Sys) (so : Sock) (f : FileSt) (b : Bool) (n : Nat) :
    busy { s with socket := so, file := f, connected := b, conns := n } = busy s := rfl

theorem connect_cases (env : List Beh) (s : Sys) :
    (busy s = true ∧ doConnect env s = (s, .invalidState)) ∨
    (busy s = false ∧ env.getD s.conns .accept = .refuse ∧
      doConnect env s = (refusedSt s, .refused)) ∨
    (busy s = false ∧ env.getD s.conns .accept ≠ .refuse ∧ s.nt = none ∧
      doConnect env s = (directSt s, .ok)) ∨
    (∃ p, busy s = false ∧ env.getD s.conns .accept ≠ .refuse ∧ s.nt = some p ∧
      doConnect env s = (succSt s p, .ok)) := by
  unfold doConnect
  by_cases hb : busy s = true
  · left; simp [hb]
  · right
    have hb' : busy s = false := by simpa using hb
    simp only [hb', Bool.false_eq_true, if_false]
    cases he : env.getD s.conns .accept
    case refuse => left; simp [refusedSt]
    all_goals
      right
      unfold startThread
      rw [busy_congr, hb']
      cases hn : s.nt with
      | none => left; simp [directSt]; rfl
      | some p => right; exact ⟨p, by simp [succSt, hn]; rfl⟩

/-- Every possible result of an API body, as an explicit state. -/
theorem body_cases (env : List Beh) (s : Sys) (op : Op) (s1 : Sys) (out : Outcome)
    (hr : body env s op = (s1, out)) :
    (op.isConn = true ∧ busy s = true ∧ s1 = s ∧ out = .invalidState) ∨
    (op.isConn = true ∧ busy s = false ∧ env.getD s.conns .accept = .refuse ∧
      s1 = refusedSt s ∧ out = .refused) ∨
    (op.isConn = true ∧ busy s = false ∧ env.getD s.conns .accept ≠ .refuse ∧ s.nt = none ∧
      s1 = directSt s ∧ out = .ok) ∨
    (∃ p, op.isConn = true ∧ busy s = false ∧ env.getD s.conns .accept ≠ .refuse ∧
      s.nt = some p ∧ s1 = succSt s p ∧ out = .ok) ∨
    (op.isConn = false ∧ s1 = discSt s ∧ out = .ok) := by
  have hc := connect_cases env s
  cases op with
  | disconnect imm =>
    right; right; right; right
    simp only [body, doDisconnect_discSt, Prod.mk.injEq] at hr
    exact ⟨rfl, hr.1.symm, hr.2.symm⟩
  | connect | status =>
    simp only [body] at hr
    simp only [Op.isConn, true_and]
    rw [hr] at hc
    simp only [Prod.mk.injEq] at hc
    rcases hc with h | h | h | ⟨p, h⟩
    · left; exact h
    · right; left; exact h
    · right; right; left; exact h
    · right; right; right; left; exact ⟨p, h⟩

/-! ### A step, by kind of action -/

/-- The actions of a networking thread that involve neither the lock nor the `Connection` object:
from thread record `x` to `x'`, leaving `rh'` reconnects to the exception handler, logging `e`. -/
inductive Quiet (env : List Beh) (s : Sys) (x : NetThr) : NetThr → Nat → Ev → Prop
  | joined (h : x.pc = .waitPrev) (hp : ∀ p, x.prev = some p → (s.net p).pc = .dead) :
      Quiet env s x { x with pc := .takeOver } s.rh .joined
  | loopChk (h : x.pc = .loopChk) :
      Quiet env s x { x with pc := if x.intr then .exit else .wBody } s.rh (.chk x.intr)
  | rChk (h : x.pc = .rChk) :
      Quiet env s x { x with pc := if x.intr then .loopChk else .rRead } s.rh (.chk x.intr)
  | packet (c : Nat) (h : x.pc = .rRead) (hf : s.file = .open c)
      (he : env.getD c .accept = .disconnects) :
      Quiet env s x { x with pc := .call .react } s.rh (.rd (some c) .packet)
  | readFails (c : Nat) (h : x.pc = .rRead) (hf : s.file = .open c)
      (he : env.getD c .accept = .fails) :
      Quiet env s x { x with pc := .exc } s.rh (.rd (some c) .error)
  | silent (c : Nat) (h : x.pc = .rRead) (hf : s.file = .open c)
      (he : env.getD c .accept ≠ .disconnects) (he' : env.getD c .accept ≠ .fails) :
      Quiet env s x { x with pc := .loopChk } s.rh (.rd (some c) .silent)
  | noStream (h : x.pc = .rRead) (hf : ∀ c, s.file ≠ .open c) :
      Quiet env s x { x with pc := .exc } s.rh (.rd none .error)
  | exit (h : x.pc = .exit) : Quiet env s x { x with pc := .epilogue } s.rh .exit
  | exc (h : x.pc = .exc) : Quiet env s x { x with intr := true, pc := .hRun } s.rh .exc
  | handled (h : x.pc = .hRun) (h0 : s.rh = 0) :
      Quiet env s x { x with pc := .hChk } s.rh (.hrun false)
  | reconnects (h : x.pc = .hRun) (h0 : s.rh ≠ 0) :
      Quiet env s x { x with pc := .call .handler } (s.rh - 1) (.hrun true)
  | die (h : x.pc = .fin) : Quiet env s x { x with pc := .dead } s.rh .die

/-- The locked blocks of networking thread `i` other than the take-over and the epilogue: what the
block makes of the `Connection` object (`c`), where the thread stands afterwards, the event. -/
inductive Locked (env : List Beh) (s : Sys) (i : Nat) : Sys → NPc → Ev → Prop
  | idleWrite (h : (s.net i).pc = .wBody) (hi : (s.net i).intr = true) :
      Locked env s i s .wRel (.wr none)
  | send (c : Nat) (h : (s.net i).pc = .wBody) (hi : (s.net i).intr = false)
      (hso : s.socket = .open c) : Locked env s i s .wRel (.wr (some c))
  | sendFails (h : (s.net i).pc = .wBody) (hi : (s.net i).intr = false)
      (hso : ∀ c, s.socket ≠ .open c) : Locked env s i s .wFailRel .wrFail
  | call (site : Site) (c : Sys) (out : Outcome) (h : (s.net i).pc = .call site)
      (hb : body env s site.op = (c, out)) :
      Locked env s i c (.callRel site out) (.call site.op out)
  | cleanup (j : Nat) (h : (s.net i).pc = .hChk) (ht : target s = some j)
      (hj : (s.net j).intr = true) : Locked env s i (discSt s) .hRel (.hchk (some true))
  | noCleanup (j : Nat) (h : (s.net i).pc = .hChk) (ht : target s = some j)
      (hj : (s.net j).intr = false) : Locked env s i s .hRel (.hchk (some false))
  | noTarget (h : (s.net i).pc = .hChk) (ht : target s = none) :
      Locked env s i s .hRel (.hchk none)

/-- Leaving a locked block: where the thread continues, how many listener reconnects are left,
the event.  (The release at `epRel` is what leaves the `finally` block, so it logs `fin`; the
action at `fin` logs `die`.) -/
inductive Release (s : Sys) : NPc → NPc → Nat → Ev → Prop
  | tkRel : Release s .tkRel .loopChk s.rl .rel
  | wRel : Release s .wRel .rChk s.rl .rel
  | wFailRel : Release s .wFailRel .exc s.rl .rel
  | callRel (site : Site) (out : Outcome) :
      Release s (.callRel site out) (afterCall s site out)
        (if site = .react then s.rl - 1 else s.rl) .rel
  | hRel : Release s .hRel .epilogue s.rl .rel
  | epRel : Release s .epRel .fin s.rl .fin

/-- One atomic action of thread `t`, by kind. -/
inductive Step (env : List Beh) (s : Sys) : Tid → Sys → Prop
  | ucall (u : Nat) (op : Op) (rest : List Op) (c : Sys) (out : Outcome)
      (hpc : (s.usr u).pc = .idle) (htd : (s.usr u).todo = op :: rest)
      (hl : canAcq s (.user u) = true) (hb : body env s op = (c, out)) :
      Step env s (.user u)
        { c with owner := some (.user u), depth := s.depth + 1,
                 usr := updU s u ⟨.rel out, rest, (s.usr u).outs⟩,
                 log := s.log ++ [(.user u, .call op out)] }
  | urel (u : Nat) (out : Outcome) (hpc : (s.usr u).pc = .rel out) :
      Step env s (.user u)
        { s with owner := ownerAfterRel s, depth := s.depth - 1,
                 usr := updU s u ⟨.idle, (s.usr u).todo, (s.usr u).outs ++ [out]⟩,
                 log := s.log ++ [(.user u, .rel)] }
  | quiet (i : Nat) (x' : NetThr) (rh' : Nat) (e : Ev) (h : Quiet env s (s.net i) x' rh' e) :
      Step env s (.net i) { s with rh := rh', net := updN s i x', log := s.log ++ [(.net i, e)] }
  | take (i : Nat) (hpc : (s.net i).pc = .takeOver) (hl : canAcq s (.net i) = true) :
      Step env s (.net i)
        { s with owner := some (.net i), depth := s.depth + 1, nt := some i, newNt := none,
                 net := updN s i { s.net i with pc := .tkRel }, log := s.log ++ [(.net i, .take)] }
  | epi (i : Nat) (hpc : (s.net i).pc = .epilogue) (hl : canAcq s (.net i) = true) :
      Step env s (.net i)
        { s with owner := some (.net i), depth := s.depth + 1, nt := none,
                 net := updN s i { s.net i with pc := .epRel }, log := s.log ++ [(.net i, .epi)] }
  | locked (i : Nat) (c : Sys) (pc' : NPc) (e : Ev) (hl : canAcq s (.net i) = true)
      (h : Locked env s i c pc' e) :
      Step env s (.net i)
        { c with owner := some (.net i), depth := s.depth + 1,
                 net := updN c i { c.net i with pc := pc' }, log := s.log ++ [(.net i, e)] }
  | release (i : Nat) (pc' : NPc) (rl' : Nat) (e : Ev) (h : Release s (s.net i).pc pc' rl' e) :
      Step env s (.net i)
        { s with owner := ownerAfterRel s, depth := s.depth - 1, rl := rl',
                 net := updN s i { s.net i with pc := pc' }, log := s.log ++ [(.net i, e)] }

theorem step_Step (env : List Beh) (s s' : Sys) (t : Tid) (hs : step env s t = some s') :
    Step env s t s' := by
  unfold step at hs
  split at hs
  · unfold stepUser at hs
    split at hs
    · next hpc =>
      split at hs
      · cases hs
      · next op rest htd =>
        split at hs
        · next hl =>
          cases hs
          exact .ucall _ op rest _ _ hpc htd hl rfl
        · cases hs
    · next out hpc => cases hs; exact .urel _ out hpc
  · next i =>
    unfold stepNet at hs
    cases hpc : (s.net i).pc <;> simp only [hpc] at hs
    case unborn => cases hs
    case dead => cases hs
    case waitPrev =>
      split at hs
      · next hp => cases hs; exact .quiet i _ _ _ (.joined hpc (by simp [hp]))
      · next p hp =>
        split at hs
        · next hd => cases hs; exact .quiet i _ _ _ (.joined hpc (by simp [hp, hd]))
        · cases hs
    case takeOver =>
      split at hs
      · next hl => cases hs; exact .take i hpc hl
      · cases hs
    case tkRel => cases hs; exact .release i _ _ _ (hpc ▸ .tkRel)
    case loopChk => cases hs; exact .quiet i _ _ _ (.loopChk hpc)
    case wBody =>
      split at hs
      · next hl =>
        split at hs
        · next hi => cases hs; exact .locked i _ _ _ hl (.idleWrite hpc hi)
        · next hi =>
          split at hs
          · next c hso => cases hs; exact .locked i _ _ _ hl (.send c hpc (by simpa using hi) hso)
          · next hso => cases hs; exact .locked i _ _ _ hl (.sendFails hpc (by simpa using hi) hso)
      · cases hs
    case wRel => cases hs; exact .release i _ _ _ (hpc ▸ .wRel)
    case wFailRel => cases hs; exact .release i _ _ _ (hpc ▸ .wFailRel)
    case rChk => cases hs; exact .quiet i _ _ _ (.rChk hpc)
    case rRead =>
      split at hs
      · next c hf =>
        split at hs
        · next he => cases hs; exact .quiet i _ _ _ (.packet c hpc hf he)
        · next he => cases hs; exact .quiet i _ _ _ (.readFails c hpc hf he)
        · next he he' => cases hs; exact .quiet i _ _ _ (.silent c hpc hf he he')
      · next hf => cases hs; exact .quiet i _ _ _ (.noStream hpc hf)
    case call site =>
      split at hs
      · next hl => cases hs; exact .locked i _ _ _ hl (.call site _ _ hpc rfl)
      · cases hs
    case callRel site out => cases hs; exact .release i _ _ _ (hpc ▸ .callRel site out)
    case exit => cases hs; exact .quiet i _ _ _ (.exit hpc)
    case exc => cases hs; exact .quiet i _ _ _ (.exc hpc)
    case hRun =>
      split at hs
      · next h0 => cases hs; exact .quiet i _ _ _ (.handled hpc h0)
      · next h0 => cases hs; exact .quiet i _ _ _ (.reconnects hpc h0)
    case hChk =>
      split at hs
      · next hl =>
        split at hs
        · next j ht =>
          split at hs
          · next hj =>
            cases hs
            exact doDisconnect_discSt s ▸ .locked i _ _ _ hl (.cleanup j hpc ht hj)
          · next hj => cases hs; exact .locked i _ _ _ hl (.noCleanup j hpc ht (by simpa using hj))
        · next ht => cases hs; exact .locked i _ _ _ hl (.noTarget hpc ht)
      · cases hs
    case hRel => cases hs; exact .release i _ _ _ (hpc ▸ .hRel)
    case epilogue =>
      split at hs
      · next hl => cases hs; exact .epi i hpc hl
      · cases hs
    case epRel => cases hs; exact .release i _ _ _ (hpc ▸ .epRel)
    case fin => cases hs; exact .quiet i _ _ _ (.die hpc)

/-- A Boolean condition on (program counter and flag before, program counter after, event) that
holds on every row of the tables holds of every action of a networking thread. -/
theorem Step.rows {env : List Beh} {s s' : Sys} {i : Nat} (f : NPc → Bool → NPc → Ev → Bool)
    (hq : ∀ {x x' rh' e}, Quiet env s x x' rh' e → f x.pc x.intr x'.pc e = true)
    (hl : ∀ {c pc' e} b, Locked env s i c pc' e → f (s.net i).pc b pc' e = true)
    (hr : ∀ {pc pc' rl' e} b, Release s pc pc' rl' e → f pc b pc' e = true)
    (ht : ∀ b, f .takeOver b .tkRel .take = true) (he : ∀ b, f .epilogue b .epRel .epi = true)
    (hs : Step env s (.net i) s') :
    ∃ e, s'.log = s.log ++ [(.net i, e)] ∧
      f (s.net i).pc (s.net i).intr (s'.net i).pc e = true := by
  cases hs with
  | quiet i x' rh' e h => exact ⟨e, rfl, by simpa [updN] using hq h⟩
  | take i hpc _ => exact ⟨_, rfl, by simpa [updN, hpc] using ht _⟩
  | epi i hpc _ => exact ⟨_, rfl, by simpa [updN, hpc] using he _⟩
  | locked i c pc' e _ h => exact ⟨e, rfl, by simpa [updN] using hl _ h⟩
  | release i pc' rl' e h => exact ⟨e, rfl, by simpa [updN] using hr _ h⟩

/-! ### Case analysis of a step as a tactic -/

/-- An alias of `body` that the case-analysis tactic uses to find the API body in a goal. -/
def bodyR (env : List Beh) (s : Sys) (op : Op) : Sys × Outcome := body env s op

theorem body_alias (env : List Beh) (s : Sys) (op : Op) : body env s op = bodyR env s op := rfl

/-- Case analysis of `hs : step env s t = some s'`: one goal per branch of the model (and per
possible result of an API body) with `s'` replaced by the explicit successor state. -/
macro "step_cases" hs:ident : tactic => `(tactic| (
  unfold step at $hs:ident
  split at $hs:ident
  all_goals first | unfold stepUser at $hs:ident | unfold stepNet at $hs:ident
  all_goals (try dsimp only [] at $hs:ident)
  all_goals repeat' split at $hs:ident
  all_goals try (cases $hs:ident; done)
  all_goals try (simp only [doDisconnect_discSt] at $hs:ident)
  all_goals try (
    rw [body_alias] at $hs:ident
    generalize hr : bodyR _ _ _ = r at $hs:ident
    obtain ⟨s1, out⟩ := r
    rcases body_cases _ _ _ _ _ hr with ⟨hop, hbusy, e1, e2⟩ |
      ⟨hop, hbusy, henv, e1, e2⟩ | ⟨hop, hbusy, henv, hnt, e1, e2⟩ |
      ⟨p, hop, hbusy, henv, hnt, e1, e2⟩ | ⟨hop, e1, e2⟩
    all_goals subst e1 e2
    all_goals clear hr
    all_goals dsimp only [] at $hs:ident)
  all_goals (simp only [Option.some.injEq] at $hs:ident; subst $hs:ident)))

end PyCraft.Life
