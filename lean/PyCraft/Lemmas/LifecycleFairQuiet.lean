import PyCraft.Lemmas.LifecycleFairLive
/-!
Quiescence over `Model/Lifecycle.lean`: once no `connect()` / `status()` can happen any more and
every thread occupying a slot is interrupted (`Closing`), EVERY step of EVERY thread decreases the
variant `vari`, so on a weakly fair schedule the system reaches a state in which no thread is
enabled: all networking threads dead, both slots empty, all user programs finished, lock free.
-/
namespace PyCraft.Life

/-- No `connect()` / `status()` will ever be executed again, and the connection is shutting down:
the user programs have only `disconnect()` calls left, the reconnect budgets of the listener and of
the exception handler are exhausted and no such reconnect is pending, and every thread occupying a
slot is interrupted. -/
structure Closing (s : Sys) : Prop where
  todo_disc : ∀ u op, op ∈ (s.usr u).todo → op.isConn = false
  rl0 : s.rl = 0
  rh0 : s.rh = 0
  no_call : ∀ i site, (s.net i).pc = .call site → site = .react
  slots_intr : ∀ j, (s.nt = some j ∨ s.newNt = some j) → (s.net j).intr = true

theorem Closing.head {s : Sys} (hc : Closing s) (u : Nat) (op : Op) (rest : List Op)
    (h : (s.usr u).todo = op :: rest) : op.isConn = false :=
  hc.todo_disc u op (by rw [h]; simp)

theorem Closing.site {s : Sys} (hc : Closing s) (i : Nat) (site : Site)
    (h : (s.net i).pc = .call site) : site.op.isConn = false := by
  rw [hc.no_call i site h]; rfl

/-- The only API body left is that of `disconnect()`. -/
theorem disc_body {env : List Beh} {s c : Sys} {op : Op} {out : Outcome}
    (hb : body env s op = (c, out)) (hop : op.isConn = false) : c = discSt s := by
  rcases body_cases env s op c out hb with ⟨h, -⟩ | ⟨h, -⟩ | ⟨h, -⟩ | ⟨p, h, -⟩ | ⟨-, h, -⟩
  · exact nomatch hop.symm.trans h
  · exact nomatch hop.symm.trans h
  · exact nomatch hop.symm.trans h
  · exact nomatch hop.symm.trans h
  · exact h

theorem closing_nthreads (env : List Beh) (s s' : Sys) (t : Tid) (hc : Closing s)
    (hs : step env s t = some s') : s'.nthreads = s.nthreads := by
  cases step_Step env s s' t hs with
  | ucall u op rest c out hpc htd hl hb => rw [disc_body hb (hc.head u op rest htd)]; rfl
  | locked i c pc' e hl hk =>
    cases hk
    case call site out hpc hb => rw [disc_body hb (hc.site i site hpc)]; rfl
    all_goals rfl
  | _ => rfl

theorem closing_todo (env : List Beh) (s s' : Sys) (t : Tid) (hc : Closing s)
    (hs : step env s t = some s') : ∀ u op, op ∈ (s'.usr u).todo → op.isConn = false := by
  rcases t with v | k
  · intro u op hm
    by_cases huv : u = v
    · subst huv
      apply hc.todo_disc u op
      simp only [step, stepUser] at hs
      split at hs
      · split at hs
        · cases hs
        · next op' rest htd =>
          split at hs
          · simp only [Option.some.injEq] at hs; subst hs
            simp only [updU, if_true] at hm
            rw [htd]; exact List.mem_cons_of_mem _ hm
          · cases hs
      · simp only [Option.some.injEq] at hs; subst hs
        simpa [updU] using hm
    · rw [(usr_step_user env s s' v hs).2.1 u huv] at hm
      exact hc.todo_disc u op hm
  · rw [usr_step_net env s s' k hs]; exact hc.todo_disc

theorem closing_budget (env : List Beh) (s s' : Sys) (t : Tid) (hc : Closing s)
    (hs : step env s t = some s') : s'.rl = 0 ∧ s'.rh = 0 := by
  obtain ⟨h1, h2, -⟩ := (step_Step env s s' t hs).frame
  rw [hc.rl0] at h1; rw [hc.rh0] at h2
  exact ⟨Nat.le_zero.mp h1, Nat.le_zero.mp h2⟩

theorem afterCall_ne_call (s : Sys) (site : Site) (out : Outcome) (st : Site) (h : s.rl = 0) :
    afterCall s site out ≠ .call st := by
  cases site <;> simp only [afterCall, h] <;> repeat' split
  all_goals simp_all

/-- With the reconnect budgets used up, a networking thread arrives at an API call only by reading
a disconnect packet. -/
theorem Step.call_react {env : List Beh} {s s' : Sys} {i : Nat} (hs : Step env s (.net i) s')
    (hl : s.rl = 0) (hh : s.rh = 0) (site : Site) (hpc : (s'.net i).pc = .call site) :
    site = .react := by
  cases hs with
  | quiet i x' rh' e hq =>
    simp only [updN, if_true] at hpc
    cases hq
    case packet => cases hpc; rfl
    case reconnects h0 => exact absurd hh h0
    case loopChk | rChk => revert hpc; dsimp only; split <;> nofun
    all_goals cases hpc
  | take i _ _ => simp [updN] at hpc
  | epi i _ _ => simp [updN] at hpc
  | locked i c pc' e _ hk =>
    simp only [updN, if_true] at hpc
    cases hk <;> cases hpc
  | release i pc' rl' e hr =>
    simp only [updN, if_true] at hpc
    generalize (s.net i).pc = pc at hr
    cases hr
    case callRel st out => exact absurd hpc (afterCall_ne_call s st out site hl)
    all_goals cases hpc

theorem closing_nocall (env : List Beh) (s s' : Sys) (t : Tid) (h : LInv s) (hc : Closing s)
    (hs : step env s t = some s') : ∀ i site, (s'.net i).pc = .call site → site = .react := by
  have hS := step_Step env s s' t hs
  intro j site hpc
  by_cases ht : t = .net j
  · subst ht; exact hS.call_react hc.rl0 hc.rh0 site hpc
  · rcases (hS.threads h j).1 ht with hj | ⟨-, hj | hj⟩
    · exact hc.no_call j site (hj ▸ hpc)
    · rw [hj] at hpc; cases hpc
    · rw [hj] at hpc; cases hpc

theorem closing_slots (env : List Beh) (s s' : Sys) (t : Tid) (h : LInv s) (hc : Closing s)
    (hs : step env s t = some s') :
    ∀ j, (s'.nt = some j ∨ s'.newNt = some j) → (s'.net j).intr = true := by
  obtain ⟨c, he, ha⟩ := (step_Step env s s' t hs).effect
  have hn : c.nthreads = s.nthreads := by rw [← ha.nthreads]; exact closing_nthreads env s s' t hc hs
  intro j hj
  rw [ha.nt, ha.newNt] at hj
  exact ha.intr j ((he.slots h hn hc.slots_intr).1 j hj)

theorem closing_step (env : List Beh) (s s' : Sys) (t : Tid) (h : LInv s) (hc : Closing s)
    (hs : step env s t = some s') : Closing s' :=
  ⟨closing_todo env s s' t hc hs, (closing_budget env s s' t hc hs).1,
   (closing_budget env s s' t hc hs).2, closing_nocall env s s' t h hc hs,
   closing_slots env s s' t h hc hs⟩

/-- In a closing state EVERY step decreases the variant. -/
theorem closing_vari (env : List Beh) (U : Nat) (s s' : Sys) (t : Tid) (h : LInv s)
    (hub : UB U s) (hc : Closing s) (hs : step env s t = some s') : vari U s' < vari U s := by
  rcases t with u | k
  · exact user_step_vari env U s s' u h hub hs
  · refine net_step_vari env U s s' k h hs (closing_nthreads env s s' _ hc hs) ?_
    cases hi : (s.net k).intr with
    | true => exact rank_own env s s' k hs hi
    | false =>
      rcases pc_class (s.net k).pc with hp | hp | hp | hp | hp | hp
      · have := hc.slots_intr k (Or.inl ((h.nt_iff k).mpr hp)); rw [hi] at this; cases this
      · have := hc.slots_intr k (Or.inr ((h.new_iff k).mpr hp)); rw [hi] at this; cases this
      · simp only [step, stepNet, hp, Option.some.injEq] at hs; subst hs
        simp [updN, NPc.rank, hp]
      · simp only [step, stepNet, hp, Option.some.injEq] at hs; subst hs
        simp [updN, NPc.rank, hp]
      · simp [step, stepNet, hp] at hs
      · simp [step, stepNet, hp] at hs

theorem closing_runN (env : List Beh) (U : Nat) (s : Sys) (σ : Nat → Tid) (h : LInv s)
    (hub : UB U s) (hc : Closing s) (n : Nat) :
    Closing (runN env s σ n) ∧ vari U (runN env s σ n) ≤ vari U s ∧
    (runN env s σ n).nthreads = s.nthreads := by
  refine (runN_induct_inv env (fun x => UB U x ∧ Closing x ∧ vari U x ≤ vari U s ∧
    x.nthreads = s.nthreads) ?_ s h ⟨hub, hc, Nat.le_refl _, rfl⟩ σ n).2
  intro x x' t hx ⟨a, b, c, d⟩ hst
  have := closing_vari env U x x' t hx a b hst
  exact ⟨UB_step env U x x' t a hst, closing_step env x x' t hx b hst, by omega,
    by rw [closing_nthreads env x x' t b hst]; exact d⟩

/-- QUIESCENCE: from a closing state a weakly fair schedule reaches a state in which no thread is
enabled (every step decreases `vari`). -/
theorem eventually_quiet (env : List Beh) (U : Nat) (s : Sys) (σ : Nat → Tid) (h : LInv s)
    (hub : UB U s) (hc : Closing s) (hf : WeakFair env s σ) :
    ∃ n, ∀ t, step env (runN env s σ n) t = none :=
  fair_decreasing env (fun s => LInv s ∧ UB U s ∧ Closing s) (fun s => ∀ t, step env s t = none)
    (vari U) (fun _ _ hg => Classical.not_forall.mp hg)
    (fun s s' u ⟨a, b, c⟩ _ hs => .inr ⟨⟨step_inv env s s' u a hs, UB_step env U s s' u b hs,
      closing_step env s s' u a c hs⟩, closing_vari env U s s' u a b c hs⟩)
    s σ ⟨h, hub, hc⟩ hf

/-- What a state without enabled threads looks like. -/
theorem quiet_facts (env : List Beh) (s : Sys) (h : LInv s) (hq : ∀ t, step env s t = none) :
    s.owner = none ∧ (∀ i, i < s.nthreads → (s.net i).pc = .dead) ∧
    s.nt = none ∧ s.newNt = none ∧ (∀ u, (s.usr u).pc = .idle ∧ (s.usr u).todo = []) := by
  have ho : s.owner = none := by
    cases ho : s.owner with
    | none => rfl
    | some t =>
      obtain ⟨s', hs', -⟩ := owner_enabled env s h t ho
      rw [hq t] at hs'; cases hs'
  have hblk : ∀ i, (s.net i).pc ≠ .unborn → (s.net i).pc ≠ .dead →
      (s.net i).pc = .waitPrev ∧ ∃ p, (s.net i).prev = some p ∧ p ≠ i ∧
        (s.net p).pc ≠ .dead ∧ (s.net p).pc ≠ .unborn := by
    intro i hb hd
    rcases blocked_cases env s h i hb hd (hq _) with ⟨t, h1, -⟩ | ⟨h1, p, h2, h3, h4, h5, -⟩
    · rw [ho] at h1; cases h1
    · exact ⟨h1, p, h2, h3, h4, h5⟩
  have hdead : ∀ i, (s.net i).pc ≠ .unborn → (s.net i).pc = .dead := by
    intro i hb
    apply Classical.byContradiction
    intro hd
    obtain ⟨hw, p, -, hpi, hpd, hpb⟩ := hblk i hb hd
    obtain ⟨hwp, -⟩ := hblk p hpb hpd
    have e1 := (h.new_iff p).mpr (by rw [hwp]; rfl)
    have e2 := (h.new_iff i).mpr (by rw [hw]; rfl)
    rw [e1] at e2; cases e2; exact hpi rfl
  refine ⟨ho, fun i hi => hdead i (fun hc => by have := (h.born i).mp hc; omega), ?_, ?_, ?_⟩
  · cases hn : s.nt with
    | none => rfl
    | some i =>
      have hh := (h.nt_iff i).mp hn
      have := hdead i (by intro hc; rw [hc] at hh; cases hh)
      rw [this] at hh; cases hh
  · cases hn : s.newNt with
    | none => rfl
    | some i =>
      have hh := (h.new_iff i).mp hn
      have := hdead i (by intro hc; rw [hc] at hh; cases hh)
      rw [this] at hh; cases hh
  · intro u
    have hu := hq (.user u)
    simp only [step, stepUser] at hu
    split at hu
    · next hpc =>
      split at hu
      · next htd => exact ⟨hpc, htd⟩
      · simp [canAcq, ho] at hu
    · cases hu

/-! ### Deciding `Closing` on a concrete state -/

/-- Bounded (hence decidable) form of `Closing`. -/
def closingB (U : Nat) (s : Sys) : Bool :=
  decide (∀ u, u < U → ∀ op, op ∈ (s.usr u).todo → op.isConn = false) &&
  decide (s.rl = 0) && decide (s.rh = 0) &&
  decide (∀ i, i < s.nthreads → (s.net i).pc ≠ .call .listen ∧ (s.net i).pc ≠ .call .handler) &&
  (match s.nt with
   | some j => (s.net j).intr
   | none => true) &&
  (match s.newNt with
   | some j => (s.net j).intr
   | none => true)

theorem closing_of_closingB (U : Nat) (s : Sys) (h : LInv s) (hub : UB U s)
    (hc : closingB U s = true) : Closing s := by
  simp only [closingB, Bool.and_eq_true, decide_eq_true_eq] at hc
  obtain ⟨⟨⟨⟨⟨c1, c2⟩, c3⟩, c4⟩, c5⟩, c6⟩ := hc
  refine ⟨?_, c2, c3, ?_, ?_⟩
  · intro u op hm
    by_cases hu : u < U
    · exact c1 u hu op hm
    · rw [(hub u (by omega)).2] at hm; cases hm
  · intro i site hpc
    have hi : i < s.nthreads := by
      apply Classical.byContradiction
      intro hc
      have := (h.born i).mpr (by omega)
      rw [this] at hpc; cases hpc
    have := c4 i hi
    rw [hpc] at this
    cases site <;> simp_all
  · intro j hj
    rcases hj with hj | hj
    · rw [hj] at c5; exact c5
    · rw [hj] at c6; exact c6

end PyCraft.Life
