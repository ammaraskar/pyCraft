import PyCraft.Model.C02Exact
import PyCraft.Lemmas.Wire
import PyCraft.Lemmas.BitField
/-!
Helper lemmas for the float part of `Props/C02Exact.lean`.  Rounding to nearest, ties to even, is
developed once for a binary format with `p` fraction bits (`fmtMag`, `fmtRound`, `fmtRound_nearest`);
binary32 (`roundMagF32`, here) and binary64 (`roundQuotF64`, in `Lemmas/C02ExactDiv.lean`) are its two
instances.  Then: the overflow threshold of `roundMagF32`; the widening `widenF32` is exact;
`castF32 ∘ widenF32` is the identity; last, the byte layer under `Float` / `Double` (`pack_nat` …
`floatSend_ok`).  All magnitudes are naturals in units of `2^-1074`; a binary32 magnitude, in
units of `2^-149`, is therefore multiplied by `2^925` (`1074 - 149`).
-/
/- powers such as `2^925` (the binary32 subnormal spacing in units of `2^-1074`) occur as literals -/
set_option exponentiation.threshold 2200

namespace PyCraft.C02X
open PyCraft

/-! ## rounding to a multiple of `G` -/

/-- the rounded multiplier is the quotient or its successor, as the remainder decides -/
theorem rneNat_spec (M G : Nat) :
    (rneNat M G = M / G ∧ (2 * (M % G) < G ∨ (2 * (M % G) = G ∧ M / G % 2 = 0))) ∨
    (rneNat M G = M / G + 1 ∧ (G < 2 * (M % G) ∨ (2 * (M % G) = G ∧ M / G % 2 = 1))) := by
  unfold rneNat
  simp only
  split
  · exact .inl ⟨rfl, .inl ‹_›⟩
  · split
    · exact .inr ⟨rfl, .inl ‹_›⟩
    · split
      · exact .inl ⟨rfl, .inr ⟨by omega, ‹_›⟩⟩
      · exact .inr ⟨rfl, .inr ⟨by omega, by omega⟩⟩

/-- `K·G` is within `G/2` of `M` -/
theorem rneNat_near (M G : Nat) (hG : 0 < G) :
    2 * (rneNat M G * G) ≤ 2 * M + G ∧ 2 * M ≤ 2 * (rneNat M G * G) + G := by
  have hdm := Nat.div_add_mod M G
  have hr := Nat.mod_lt M hG
  rcases rneNat_spec M G with ⟨e, h⟩ | ⟨e, h⟩
  · rw [e, Nat.mul_comm (M / G)]; omega
  · rw [e, Nat.add_mul, Nat.mul_comm (M / G), Nat.one_mul]; omega

/-- a multiple of `G` is its own rounding -/
theorem rneNat_of_dvd (M G : Nat) (hG : 0 < G) (h : M % G = 0) : rneNat M G * G = M := by
  rcases rneNat_spec M G with ⟨e, _⟩ | ⟨_, h'⟩
  · rw [e]; exact Nat.div_mul_cancel (Nat.dvd_of_mod_eq_zero h)
  · omega

theorem rneNat_mul (K G : Nat) (hG : 0 < G) : rneNat (K * G) G = K :=
  Nat.eq_of_mul_eq_mul_right hG (rneNat_of_dvd _ _ hG (Nat.mul_mod_left _ _))

/-- `a·G ≤ M → a ≤ K` -/
theorem rneNat_ge (M G a : Nat) (hG : 0 < G) (h : a * G ≤ M) : a ≤ rneNat M G := by
  have : a ≤ M / G := (Nat.le_div_iff_mul_le hG).mpr h
  rcases rneNat_spec M G with ⟨e, _⟩ | ⟨e, _⟩ <;> omega

/-- `M ≤ a·G → K ≤ a` -/
theorem rneNat_le (M G a : Nat) (hG : 0 < G) (h : M ≤ a * G) : rneNat M G ≤ a := by
  have hdm := Nat.div_add_mod M G
  have hq : M / G ≤ a := by
    have : M / G ≤ a * G / G := Nat.div_le_div_right h
    rwa [Nat.mul_div_cancel _ hG] at this
  rcases Nat.lt_or_ge (M / G) a with hlt | hge
  · rcases rneNat_spec M G with ⟨e, _⟩ | ⟨e, _⟩ <;> omega
  · -- `M / G = a` leaves no remainder, so nothing is rounded up
    have hr : M % G = 0 := by
      rw [show M / G = a by omega, Nat.mul_comm] at hdm; omega
    rcases rneNat_spec M G with ⟨e, _⟩ | ⟨_, h'⟩ <;> omega

theorem absDiff_of_le {a b : Nat} (h : a ≤ b) : absDiff a b = b - a := by
  rw [absDiff, Nat.sub_eq_zero_of_le h, Nat.zero_add]

theorem absDiff_of_ge {a b : Nat} (h : b ≤ a) : absDiff a b = a - b := by
  rw [absDiff, Nat.sub_eq_zero_of_le h, Nat.add_zero]

/-- `a` within `G/2` of `M`, `b` at least `G` away from `a`: `b` is no closer to `M` than `a`, and
equally close only if `a` is exactly `G/2` away -/
theorem absDiff_le_of_gap (M G a b : Nat) (n1 : 2 * a ≤ 2 * M + G) (n2 : 2 * M ≤ 2 * a + G)
    (hgap : b + G ≤ a ∨ a + G ≤ b) :
    absDiff a M ≤ absDiff b M ∧ (absDiff a M = absDiff b M → 2 * absDiff a M = G) := by
  rcases hgap with h | h
  · rw [absDiff_of_le (by omega : b ≤ M)]
    rcases Nat.le_total a M with h' | h'
    · rw [absDiff_of_le h']; omega
    · rw [absDiff_of_ge h']; omega
  · rw [absDiff_of_ge (by omega : M ≤ b)]
    rcases Nat.le_total a M with h' | h'
    · rw [absDiff_of_le h']; omega
    · rw [absDiff_of_ge h']; omega

/-- any multiple of `G` is at least as far from `M` as the rounded one; at equal distance and
different, the rounded multiplier is even -/
theorem rneNat_best (M G K' : Nat) (hG : 0 < G) :
    absDiff (rneNat M G * G) M ≤ absDiff (K' * G) M ∧
    (absDiff (rneNat M G * G) M = absDiff (K' * G) M → K' ≠ rneNat M G → rneNat M G % 2 = 0) := by
  by_cases hk : K' = rneNat M G
  · subst hk; exact ⟨Nat.le_refl _, fun _ h => absurd rfl h⟩
  obtain ⟨n1, n2⟩ := rneNat_near M G hG
  have hgap : K' * G + G ≤ rneNat M G * G ∨ rneNat M G * G + G ≤ K' * G := by
    rw [← Nat.succ_mul, ← Nat.succ_mul]
    rcases Nat.lt_or_gt_of_ne hk with h | h
    · exact .inl (Nat.mul_le_mul_right _ h)
    · exact .inr (Nat.mul_le_mul_right _ h)
  obtain ⟨b1, b2⟩ := absDiff_le_of_gap M G _ _ n1 n2 hgap
  refine ⟨b1, fun heq _ => ?_⟩
  -- equal distance means the rounded multiple is exactly `G/2` away: a tie, and ties go to even
  have hd := b2 heq
  have hdm := Nat.div_add_mod M G
  have hr := Nat.mod_lt M hG
  rcases rneNat_spec M G with ⟨e, h⟩ | ⟨e, h⟩
  · have e0 : rneNat M G * G = G * (M / G) := by rw [e, Nat.mul_comm]
    rw [e0, absDiff_of_le (by omega)] at hd
    omega
  · have e1 : rneNat M G * G = G * (M / G) + G := by rw [e, Nat.add_mul, Nat.mul_comm, Nat.one_mul]
    rw [e1, absDiff_of_ge (by omega)] at hd
    omega

/-- a value below a grid point `T·G ≤ N` is farther from `N` than the rounded grid point -/
theorem rneNat_lt_of_below (N G T V : Nat) (hG : 0 < G) (h1 : V < T * G) (h2 : T * G ≤ N) :
    absDiff (rneNat N G * G) N < absDiff V N := by
  obtain ⟨b1, _⟩ := rneNat_best N G T hG
  rw [absDiff_of_le h2] at b1
  rw [absDiff_of_le (by omega : V ≤ N)]
  omega

/-! ## a binary format with `p` fraction bits

Binary32 and binary64 differ only in the number `p` of fraction bits and in the unit: values are
counted in units of `2^-1074`, of which the subnormal spacing of the format is `2^base`
(`p = 23`, `base = 925` and `p = 52`, `base = 0`). -/

/-- magnitude, in units of the subnormal spacing, of the sign-less pattern `m` of a binary format
with `p` fraction bits -/
def fmtMag (p m : Nat) : Nat :=
  if m / 2 ^ p = 0 then m % 2 ^ p else (2 ^ p + m % 2 ^ p) * 2 ^ (m / 2 ^ p - 1)

theorem f64Mag_eq (m : Nat) : f64Mag m = fmtMag 52 m := rfl
theorem f32Mag_eq (r : Nat) : f32Mag r = fmtMag 23 r := rfl

/-- the pattern `e·2^p + K` (`K ≤ 2^(p+1)`; `K ≥ 2^p` unless `e = 0`) denotes `K·2^e` — the carry of
`K = 2^(p+1)` into the exponent field included -/
theorem fmtMag_compose (p e K : Nat) (hK : K ≤ 2 * 2 ^ p) (he : e = 0 ∨ 2 ^ p ≤ K) :
    fmtMag p (e * 2 ^ p + K) = K * 2 ^ e := by
  have hP : 0 < 2 ^ p := Nat.two_pow_pos p
  unfold fmtMag
  generalize 2 ^ p = P at *
  rcases Nat.lt_or_ge K P with h1 | h1
  · have he0 : e = 0 := by omega
    subst he0
    rw [Nat.zero_mul, Nat.zero_add, Nat.div_eq_of_lt h1, if_pos rfl, Nat.mod_eq_of_lt h1,
      Nat.pow_zero, Nat.mul_one]
  · -- `e·P + K = (K − P) + P·(e + 1)` with `K − P ≤ P`
    have hs : e * P + K = (K - P) + P * (e + 1) := by rw [Nat.mul_succ, Nat.mul_comm]; omega
    rw [hs, Nat.add_mul_div_left _ _ hP, Nat.add_mul_mod_self_left]
    rcases Nat.lt_or_ge (K - P) P with h2 | h2
    · rw [Nat.div_eq_of_lt h2, Nat.mod_eq_of_lt h2, Nat.zero_add, if_neg (Nat.succ_ne_zero e),
        Nat.add_sub_cancel, Nat.add_sub_cancel' h1]
    · have hK' : K - P = P := by omega
      have hK2 : K = 2 * P := by omega
      rw [hK', Nat.div_self hP, Nat.mod_self, if_neg (by omega), Nat.add_zero, hK2,
        show 1 + (e + 1) - 1 = e + 1 by omega, Nat.pow_succ]
      ac_rfl

/-- exponent of the spacing of the format at a magnitude of `t` units (`t` the integer part), the
unit being `2^-base` subnormal spacings: `2^(⌊log2 t⌋ - p)`, never below the subnormal spacing -/
def fmtQuantum (p base t : Nat) : Nat := max (t.log2 - p) base

/-- roundTiesToEven of `N / d` units to the format, as a sign-less pattern -/
def fmtRound (p base N d : Nat) : Nat :=
  (fmtQuantum p base (N / d) - base) * 2 ^ p + rneNat N (d * 2 ^ fmtQuantum p base (N / d))

theorem fmtQuantum_ge (p base t : Nat) : base ≤ fmtQuantum p base t := Nat.le_max_right _ _

/-- `t = N / d` brackets `N`: `t·d ≤ N < (t+1)·d` -/
theorem quot_bracket (N d : Nat) (hd : 0 < d) : N / d * d ≤ N ∧ N < (N / d + 1) * d := by
  have hdm := Nat.div_add_mod N d
  have hr := Nat.mod_lt N hd
  rw [Nat.add_mul, Nat.mul_comm (N / d) d]
  omega

/-- the rounded significand lies in `[2^p, 2^(p+1)]` above the subnormal range and in
`[0, 2^(p+1)]` in it -/
theorem fmt_sig (p base N d : Nat) (hd : 0 < d) :
    rneNat N (d * 2 ^ fmtQuantum p base (N / d)) ≤ 2 * 2 ^ p ∧
    (fmtQuantum p base (N / d) - base = 0 ∨
      2 ^ p ≤ rneNat N (d * 2 ^ fmtQuantum p base (N / d))) := by
  obtain ⟨b1, b2⟩ := quot_bracket N d hd
  have hhi := @Nat.lt_log2_self (N / d)
  have hG : 0 < d * 2 ^ fmtQuantum p base (N / d) := Nat.mul_pos hd (Nat.two_pow_pos _)
  have hq : (N / d).log2 - p ≤ fmtQuantum p base (N / d) := Nat.le_max_left _ _
  constructor
  · -- `N < (t+1)·d ≤ 2^(L+1)·d ≤ 2^(p+1)·(d·2^qe)` because `L ≤ p + qe`
    apply rneNat_le _ _ _ hG
    have h1 : 2 ^ ((N / d).log2 + 1) ≤ 2 ^ (fmtQuantum p base (N / d) + (p + 1)) :=
      Nat.pow_le_pow_right (by omega) (by omega)
    have h2 : (N / d + 1) * d ≤ 2 ^ (fmtQuantum p base (N / d) + (p + 1)) * d :=
      Nat.mul_le_mul_right d (Nat.le_trans hhi h1)
    have e : 2 ^ (fmtQuantum p base (N / d) + (p + 1)) * d
        = 2 * 2 ^ p * (d * 2 ^ fmtQuantum p base (N / d)) := by
      rw [Nat.pow_add, Nat.pow_succ]; ac_rfl
    rw [e] at h2
    exact Nat.le_trans (Nat.le_of_lt b2) h2
  · rcases Nat.lt_or_ge base ((N / d).log2 - p) with h | h
    · right
      have hqe : fmtQuantum p base (N / d) = (N / d).log2 - p := Nat.max_eq_left (Nat.le_of_lt h)
      have ht : N / d ≠ 0 := by
        intro h0; rw [h0] at h; simp [Nat.log2_zero] at h
      apply rneNat_ge _ _ _ hG
      -- `2^p·(d·2^qe) = 2^L·d ≤ t·d ≤ N`
      have h2 := Nat.mul_le_mul_right d (Nat.log2_self_le ht)
      have e : 2 ^ p * (d * 2 ^ fmtQuantum p base (N / d)) = 2 ^ (N / d).log2 * d := by
        rw [hqe, Nat.mul_left_comm, ← Nat.pow_add, Nat.mul_comm]
        congr 2; omega
      omega
    · exact .inl (by rw [fmtQuantum, Nat.max_eq_right h, Nat.sub_self])

/-- the value denoted by the rounded pattern is `K·2^qe` units -/
theorem fmtRound_value (p base N d : Nat) (hd : 0 < d) :
    fmtMag p (fmtRound p base N d) * 2 ^ base
      = rneNat N (d * 2 ^ fmtQuantum p base (N / d)) * 2 ^ fmtQuantum p base (N / d) := by
  obtain ⟨h1, h2⟩ := fmt_sig p base N d hd
  rw [fmtRound, fmtMag_compose _ _ _ h1 h2, Nat.mul_assoc, ← Nat.pow_add,
    Nat.sub_add_cancel (fmtQuantum_ge p base _)]

/-- … so, cross-multiplied by `d`, it is `K` times the grid step `d·2^qe` -/
theorem fmtRound_value_mul (p base N d : Nat) (hd : 0 < d) :
    fmtMag p (fmtRound p base N d) * 2 ^ base * d
      = rneNat N (d * 2 ^ fmtQuantum p base (N / d)) * (d * 2 ^ fmtQuantum p base (N / d)) := by
  rw [fmtRound_value p base N d hd, Nat.mul_assoc, Nat.mul_comm (2 ^ _) d]


/-- every value of the format is `mant·2^x` units with `mant < 2^(p+1)` -/
theorem fmtMag_form (p m' : Nat) : ∃ mant x, mant < 2 * 2 ^ p ∧ fmtMag p m' = mant * 2 ^ x := by
  have hF : m' % 2 ^ p < 2 ^ p := Nat.mod_lt _ (Nat.two_pow_pos _)
  unfold fmtMag
  split
  · exact ⟨m' % 2 ^ p, 0, by omega, by rw [Nat.pow_zero, Nat.mul_one]⟩
  · exact ⟨2 ^ p + m' % 2 ^ p, m' / 2 ^ p - 1, by omega, rfl⟩

/-- every value of the format is either a multiple of the spacing at `t` or lies below `2^⌊log2 t⌋`
(and then `t` is above the subnormal range) -/
theorem fmtMag_grid (p base t m' : Nat) :
    (∃ K', fmtMag p m' * 2 ^ base = K' * 2 ^ fmtQuantum p base t) ∨
    (fmtMag p m' * 2 ^ base < 2 ^ t.log2 ∧ fmtQuantum p base t = t.log2 - p ∧ p < t.log2) := by
  obtain ⟨mant, x, hm, hv⟩ := fmtMag_form p m'
  rw [hv, Nat.mul_assoc, ← Nat.pow_add]
  rcases Nat.lt_or_ge (x + base) (fmtQuantum p base t) with hx | hx
  · right
    have hq : fmtQuantum p base t = t.log2 - p := by
      unfold fmtQuantum at hx ⊢
      exact Nat.max_eq_left (by omega)
    refine ⟨?_, hq, by omega⟩
    have h1 : mant * 2 ^ (x + base) < 2 * 2 ^ p * 2 ^ (x + base) :=
      Nat.mul_lt_mul_of_lt_of_le hm (Nat.le_refl _) (Nat.two_pow_pos _)
    have h2 : 2 * 2 ^ p * 2 ^ (x + base) ≤ 2 ^ t.log2 := by
      rw [Nat.mul_comm 2, ← Nat.pow_succ, ← Nat.pow_add]
      exact Nat.pow_le_pow_right (by omega) (by omega)
    exact Nat.lt_of_lt_of_le h1 h2
  · left
    refine ⟨mant * 2 ^ (x + base - fmtQuantum p base t), ?_⟩
    rw [Nat.mul_assoc, ← Nat.pow_add, Nat.sub_add_cancel hx]

theorem fmtRound_parity (p base N d : Nat) (hp : 0 < p) :
    fmtRound p base N d % 2 = rneNat N (d * 2 ^ fmtQuantum p base (N / d)) % 2 := by
  obtain ⟨k, rfl⟩ : ∃ k, p = k + 1 := ⟨p - 1, by omega⟩
  rw [fmtRound, Nat.pow_succ, ← Nat.mul_assoc, Nat.add_comm, Nat.add_mul_mod_self_right]

/-- **nearest, ties to even**: no value of the format is closer to `N / d` than the rounded one; one
that is equally close and different exists only when the rounded pattern is even -/
theorem fmtRound_nearest (p base N d : Nat) (hp : 0 < p) (hd : 0 < d) (m' : Nat) :
    absDiff (fmtMag p (fmtRound p base N d) * 2 ^ base * d) N
      ≤ absDiff (fmtMag p m' * 2 ^ base * d) N ∧
    (absDiff (fmtMag p (fmtRound p base N d) * 2 ^ base * d) N
        = absDiff (fmtMag p m' * 2 ^ base * d) N →
      fmtMag p m' * 2 ^ base ≠ fmtMag p (fmtRound p base N d) * 2 ^ base →
      fmtRound p base N d % 2 = 0) := by
  have hG : 0 < d * 2 ^ fmtQuantum p base (N / d) := Nat.mul_pos hd (Nat.two_pow_pos _)
  rw [fmtRound_value_mul p base N d hd, fmtRound_parity p base N d hp]
  rcases fmtMag_grid p base (N / d) m' with ⟨K', hK'⟩ | ⟨hlt, hq, hb⟩
  · have e : fmtMag p m' * 2 ^ base * d = K' * (d * 2 ^ fmtQuantum p base (N / d)) := by
      rw [hK', Nat.mul_assoc, Nat.mul_comm (2 ^ _) d]
    rw [e]
    obtain ⟨b1, b2⟩ := rneNat_best N (d * 2 ^ fmtQuantum p base (N / d)) K' hG
    refine ⟨b1, fun h hne => b2 h (fun e' => hne ?_)⟩
    rw [fmtRound_value p base N d hd, hK', e']
  · -- a value below `2^⌊log2 t⌋ = 2^p` grid steps is farther from `N` than that grid point, which
    -- is no closer than the rounded one
    obtain ⟨q1, _⟩ := quot_bracket N d hd
    have ht : N / d ≠ 0 := by
      intro h0; rw [h0] at hb; simp [Nat.log2_zero] at hb
    have hlo := Nat.log2_self_le ht
    have e1 : 2 ^ (N / d).log2 * d = 2 ^ p * (d * 2 ^ fmtQuantum p base (N / d)) := by
      rw [hq, Nat.mul_left_comm, ← Nat.pow_add, Nat.mul_comm]
      congr 2; omega
    have h3 : fmtMag p m' * 2 ^ base * d < 2 ^ (N / d).log2 * d := Nat.mul_lt_mul_of_pos_right hlt hd
    have h4 : 2 ^ (N / d).log2 * d ≤ N / d * d := Nat.mul_le_mul_right _ hlo
    have hstrict := rneNat_lt_of_below N _ _ _ hG (e1 ▸ h3) (e1 ▸ Nat.le_trans h4 q1)
    exact ⟨Nat.le_of_lt hstrict, fun h _ => absurd h (Nat.ne_of_lt hstrict)⟩

/-! ## binary32: `roundMagF32` is `fmtRound 23 925 · 1`

`f32Quantum M` unfolds to `fmtQuantum 23 925 M`, so the format lemmas apply to it as they stand. -/

theorem two_pow_23 : (2 : Nat) ^ 23 = 8388608 := by decide
theorem two_pow_24 : (2 : Nat) ^ 24 = 16777216 := by decide

theorem f32Quantum_cases (M : Nat) :
    (M.log2 - 23 < 925 ∧ f32Quantum M = 925) ∨ (925 ≤ M.log2 - 23 ∧ f32Quantum M = M.log2 - 23) := by
  unfold f32Quantum
  rcases Nat.lt_or_ge (M.log2 - 23) 925 with h | h
  · exact .inl ⟨h, Nat.max_eq_right (by omega)⟩
  · exact .inr ⟨h, Nat.max_eq_left h⟩

theorem roundMagF32_eq (M : Nat) : roundMagF32 M = fmtRound 23 925 M 1 := by
  unfold roundMagF32 fmtRound
  rw [Nat.div_one, Nat.one_mul]
  split
  · subst M; rfl
  · rfl

/-- the rounded significand lies in `[2^23, 2^24]` above the subnormal range and in `[0, 2^24]` in it -/
theorem quantum_sig (M : Nat) :
    rneNat M (2 ^ f32Quantum M) ≤ 2 ^ 24 ∧
    (f32Quantum M - 925 = 0 ∨ 2 ^ 23 ≤ rneNat M (2 ^ f32Quantum M)) := by
  have h := fmt_sig 23 925 M 1 (by omega)
  rwa [Nat.div_one, Nat.one_mul] at h

/-- the rounded pattern denotes a nearest binary32 value, ties to even -/
theorem roundMagF32_nearest (M r' : Nat) :
    absDiff (f32Mag (roundMagF32 M) * 2 ^ 925) M ≤ absDiff (f32Mag r' * 2 ^ 925) M ∧
    (absDiff (f32Mag (roundMagF32 M) * 2 ^ 925) M = absDiff (f32Mag r' * 2 ^ 925) M →
      f32Mag r' * 2 ^ 925 ≠ f32Mag (roundMagF32 M) * 2 ^ 925 → roundMagF32 M % 2 = 0) := by
  have h := fmtRound_nearest 23 925 M 1 (by omega) (by omega) r'
  rwa [Nat.mul_one, Nat.mul_one, ← roundMagF32_eq, ← f32Mag_eq, ← f32Mag_eq] at h

/-! ## overflow threshold -/

/-- Rounding reaches the pattern of infinity exactly from `(2^128 - 2^103) · 2^1074` on: the largest
binary32 plus half its last place.  In the top binade `⌊log2 M⌋ = 1201` (`127 + 1074`) the spacing
is `2^1178`, so `f32Quantum M - 925 = 253`, and infinity is reached when the significand rounds up
to `2^24`; from 254 on it is reached whatever the significand. -/
theorem roundMagF32_overflow_iff (M : Nat) :
    f32InfPat ≤ roundMagF32 M ↔ 2 ^ 1202 - 2 ^ 1177 ≤ M := by
  by_cases hM : M = 0
  · subst hM
    simp [roundMagF32, f32InfPat]
  have hlo := Nat.log2_self_le hM
  have hhi := @Nat.lt_log2_self M
  obtain ⟨k1, k2⟩ := quantum_sig M
  have hnear := rneNat_near M (2 ^ f32Quantum M) (Nat.two_pow_pos _)
  unfold roundMagF32
  rw [if_neg hM]
  simp only [f32InfPat, two_pow_23, two_pow_24] at *
  constructor
  · intro h
    have hcase : 254 ≤ f32Quantum M - 925 ∨
        (f32Quantum M - 925 = 253 ∧ rneNat M (2 ^ f32Quantum M) = 16777216) := by omega
    rcases hcase with h254 | ⟨h253, hK⟩
    · rcases f32Quantum_cases M with ⟨_, hq⟩ | ⟨_, hq⟩
      · omega
      · have : 2 ^ 1202 ≤ 2 ^ M.log2 := Nat.pow_le_pow_right (by omega) (by omega)
        omega
    · have hq : f32Quantum M = 1178 := by omega
      rw [hq] at hK
      rw [hq, hK] at hnear
      omega
  · intro h
    have hb : 1201 ≤ M.log2 := by
      rw [Nat.le_log2 hM]; omega
    rcases f32Quantum_cases M with ⟨_, hq⟩ | ⟨_, hq⟩
    · omega
    · rcases Nat.lt_or_ge M.log2 1202 with hb' | hb'
      · have hb1 : M.log2 = 1201 := by omega
        have hq' : f32Quantum M = 1178 := by omega
        rw [hb1] at hhi
        rw [hq'] at k1 k2 ⊢
        have hK : 16777216 ≤ rneNat M (2 ^ 1178) := by
          rcases rneNat_spec M (2 ^ 1178) with ⟨e, h'⟩ | ⟨e, h'⟩ <;> omega
        omega
      · omega

/-! ## widening is exact, and narrowing undoes it -/

theorem log2_mul_two_pow (a k : Nat) (ha : a ≠ 0) : (a * 2 ^ k).log2 = a.log2 + k := by
  have hp : 0 < 2 ^ k := Nat.two_pow_pos _
  have hne : a * 2 ^ k ≠ 0 := Nat.mul_ne_zero ha (by omega)
  rw [Nat.log2_eq_iff hne]
  constructor
  · rw [Nat.pow_add]; exact Nat.mul_le_mul_right _ (Nat.log2_self_le ha)
  · have : 2 ^ (a.log2 + k + 1) = 2 ^ (a.log2 + 1) * 2 ^ k := by
      rw [← Nat.pow_add]; congr 1; omega
    rw [this]
    exact Nat.mul_lt_mul_of_lt_of_le (@Nat.lt_log2_self a) (Nat.le_refl _) hp

/-- a significand `K` at exponent `x ≥ base` (`K ≥ 2^p` unless `x = base`) rounds to its own pattern -/
theorem fmtRound_sig (p base K x : Nat) (hx : base ≤ x) (hK : K < 2 * 2 ^ p)
    (hn : 2 ^ p ≤ K ∨ x = base) : fmtRound p base (K * 2 ^ x) 1 = (x - base) * 2 ^ p + K := by
  have hq : fmtQuantum p base (K * 2 ^ x) = x := by
    unfold fmtQuantum
    by_cases hK0 : K = 0
    · have hxb : x = base := by
        have := Nat.two_pow_pos p
        omega
      rw [hK0, Nat.zero_mul, Nat.log2_zero, Nat.zero_sub, hxb]
      exact Nat.max_eq_right (Nat.zero_le _)
    · rw [log2_mul_two_pow _ _ hK0]
      have hl : K.log2 < p + 1 := (Nat.log2_lt hK0).mpr (by rw [Nat.pow_succ]; omega)
      rcases hn with h | h
      · have hp : p ≤ K.log2 := (Nat.le_log2 hK0).mpr h
        rw [show K.log2 + x - p = x by omega]
        exact Nat.max_eq_left hx
      · exact h ▸ Nat.max_eq_right (by omega)
  rw [fmtRound, Nat.div_one, Nat.one_mul, hq, rneNat_mul _ _ (Nat.two_pow_pos x)]

/-- rounding a value that already is a binary32 gives that binary32 back -/
theorem roundMagF32_exact (m : Nat) : roundMagF32 (f32Mag m * 2 ^ 925) = m := by
  have hdm := Nat.div_add_mod m (2 ^ 23)
  have hF : m % 2 ^ 23 < 2 ^ 23 := Nat.mod_lt _ (Nat.two_pow_pos _)
  rw [roundMagF32_eq]
  unfold f32Mag
  simp only
  by_cases hE : m / 2 ^ 23 = 0
  · rw [if_pos hE, fmtRound_sig 23 925 _ 925 (Nat.le_refl _) (by omega) (.inr rfl)]
    rw [Nat.sub_self, Nat.zero_mul, Nat.zero_add]
    omega
  · rw [if_neg hE, Nat.mul_assoc, ← Nat.pow_add,
      fmtRound_sig 23 925 _ _ (by omega) (by omega) (.inl (by omega))]
    omega

/-- the widened pattern of a subnormal binary32 (the `E = 0`, `F ≠ 0` branch of `widenF32`, named
`x`): the significand `F` is normalised to `l = ⌊log2 F⌋` and the exponent field becomes
`l - 149 + 1023 = l + 874`; `fmtMag` counts the field from 1, hence `873` below -/
theorem widen_sub (s F x : Nat) (hs : s ≤ 1) (hF0 : F ≠ 0) (hF : F < 2 ^ 23)
    (hx : x = s * 2 ^ 63 + (F.log2 + 874) * 2 ^ 52 + (F * 2 ^ (52 - F.log2) - 2 ^ 52)) :
    x / 2 ^ 63 = s ∧ x < 2 ^ 64 ∧ x % 2 ^ 63 / 2 ^ 52 ≠ 2047 ∧ f64Mag (x % 2 ^ 63) = F * 2 ^ 925 := by
  have hl : F.log2 < 23 := (Nat.log2_lt hF0).mpr hF
  -- the normalised significand `F·2^(52-l)` lies in `[2^52, 2^53)`
  have a1 : 2 ^ 52 ≤ F * 2 ^ (52 - F.log2) := by
    have := Nat.mul_le_mul_right (2 ^ (52 - F.log2)) (Nat.log2_self_le hF0)
    rwa [← Nat.pow_add, show F.log2 + (52 - F.log2) = 52 by omega] at this
  have a2 : F * 2 ^ (52 - F.log2) < 2 ^ 53 := by
    have := Nat.mul_lt_mul_of_lt_of_le (@Nat.lt_log2_self F) (Nat.le_refl (2 ^ (52 - F.log2)))
      (Nat.two_pow_pos _)
    rwa [← Nat.pow_add, show F.log2 + 1 + (52 - F.log2) = 53 by omega] at this
  have hv : F * 2 ^ (52 - F.log2) * 2 ^ (F.log2 + 873) = F * 2 ^ 925 := by
    rw [Nat.mul_assoc, ← Nat.pow_add, show 52 - F.log2 + (F.log2 + 873) = 925 by omega]
  generalize F * 2 ^ (52 - F.log2) = sig at *
  generalize F.log2 = l at *
  have m1 : x % 2 ^ 63 = (l + 873) * 2 ^ 52 + sig := by omega
  refine ⟨by omega, by omega, by omega, ?_⟩
  rw [m1, f64Mag_eq, fmtMag_compose 52 (l + 873) sig (by omega) (.inr a1), hv]

/-- the widened pattern of a normal binary32 (the last branch of `widenF32`, named `x`): the exponent
field is rebiased by `1023 - 127 = 896`, the fraction moves up `52 - 23 = 29` bits -/
theorem widen_norm (s E F x : Nat) (hs : s ≤ 1) (hE0 : E ≠ 0) (hE : E < 255) (hF : F < 2 ^ 23)
    (hx : x = s * 2 ^ 63 + (E + 896) * 2 ^ 52 + F * 2 ^ 29) :
    x / 2 ^ 63 = s ∧ x < 2 ^ 64 ∧ x % 2 ^ 63 / 2 ^ 52 ≠ 2047 ∧
      f64Mag (x % 2 ^ 63) = (2 ^ 23 + F) * 2 ^ (E - 1) * 2 ^ 925 := by
  have hv : (2 ^ 23 + F) * 2 ^ 29 * 2 ^ (E + 895) = (2 ^ 23 + F) * 2 ^ (E - 1) * 2 ^ 925 := by
    rw [Nat.mul_assoc, Nat.mul_assoc, ← Nat.pow_add, ← Nat.pow_add,
      show 29 + (E + 895) = E - 1 + 925 by omega]
  have m1 : x % 2 ^ 63 = (E + 895) * 2 ^ 52 + (2 ^ 23 + F) * 2 ^ 29 := by omega
  refine ⟨by omega, by omega, by omega, ?_⟩
  rw [m1, f64Mag_eq,
    fmtMag_compose 52 (E + 895) ((2 ^ 23 + F) * 2 ^ 29) (by omega) (.inr (by omega)), hv]

/-- the widened pattern of a finite binary32: same sign, finite, same value -/
theorem widenF32_finite (r : Nat) (hr : r < 2 ^ 32) (hf : r % 2 ^ 31 / 2 ^ 23 ≠ 255) :
    widenF32 r / 2 ^ 63 = r / 2 ^ 31 ∧ widenF32 r < 2 ^ 64 ∧
    widenF32 r % 2 ^ 63 / 2 ^ 52 ≠ 2047 ∧
    f64Mag (widenF32 r % 2 ^ 63) = f32Mag (r % 2 ^ 31) * 2 ^ 925 := by
  have hs : r / 2 ^ 31 ≤ 1 := by omega
  have hE : r % 2 ^ 31 / 2 ^ 23 < 255 := by omega
  have hF : r % 2 ^ 31 % 2 ^ 23 < 2 ^ 23 := Nat.mod_lt _ (Nat.two_pow_pos _)
  unfold widenF32 f32Mag
  simp only
  generalize r / 2 ^ 31 = s at *
  generalize r % 2 ^ 31 / 2 ^ 23 = E at *
  generalize r % 2 ^ 31 % 2 ^ 23 = F at *
  rw [if_neg hf]
  by_cases hE0 : E = 0
  · simp only [if_pos hE0]
    by_cases hF0 : F = 0
    · rw [if_pos hF0]
      subst hF0
      have h1 : s * 2 ^ 63 % 2 ^ 63 = 0 := by omega
      refine ⟨by omega, by omega, by omega, ?_⟩
      rw [h1]; simp [f64Mag]
    · rw [if_neg hF0]
      exact widen_sub s F _ hs hF0 hF rfl
  · simp only [if_neg hE0]
    exact widen_norm s E F _ hs hE0 hE hF rfl

/-- the cast of a pattern whose exponent field is all ones: an infinity stays one; a NaN is quieted
and keeps its sign and its top 22 payload bits -/
theorem castF32_special (s frac : Nat) (hfrac : frac < 2 ^ 52) :
    castF32 (s * 2 ^ 63 + f64InfPat + frac)
      = if frac = 0 then s * 2 ^ 31 + f32InfPat
        else s * 2 ^ 31 + 0x7FC00000 + frac / 2 ^ 29 % 2 ^ 22 := by
  -- the pattern is sign | exponent field 2047 | fraction
  have h : Bits.cat 52 2047 frac < 2 ^ 63 := Bits.cat_lt (j := 11) (by decide) hfrac
  have e : s * 2 ^ 63 + f64InfPat + frac = Bits.cat 63 s (Bits.cat 52 2047 frac) := Nat.add_assoc _ _ _
  unfold castF32
  simp only [e, Bits.cat_mod h, Bits.cat_div h, Bits.cat_div hfrac, Bits.cat_mod hfrac, if_true]

/-- narrowing after widening is the identity on every binary32 pattern that is not a signalling NaN -/
theorem castF32_widenF32 (r : Nat) (hr : r < 2 ^ 32)
    (hq : r % 2 ^ 31 / 2 ^ 23 = 255 → r % 2 ^ 23 = 0 ∨ 2 ^ 22 ≤ r % 2 ^ 23) :
    castF32 (widenF32 r) = r := by
  by_cases hf : r % 2 ^ 31 / 2 ^ 23 = 255
  · have hq' := hq hf
    have hmm : r % 2 ^ 31 % 2 ^ 23 = r % 2 ^ 23 := by omega
    have hF : r % 2 ^ 23 < 2 ^ 23 := Nat.mod_lt _ (Nat.two_pow_pos _)
    have hr' : r = r / 2 ^ 31 * 2 ^ 31 + 255 * 2 ^ 23 + r % 2 ^ 23 := by omega
    unfold widenF32
    simp only [hf, if_true, hmm]
    generalize r % 2 ^ 23 = F at hq' hF hr' ⊢
    generalize r / 2 ^ 31 = s at hr' ⊢
    rw [castF32_special _ _ (by split <;> omega), hr']
    unfold f32InfPat
    by_cases hF0 : F = 0
    · simp only [hF0, if_true]
    · simp only [hF0, if_false]
      rw [if_neg (by omega)]
      omega
  · obtain ⟨w1, w2, w3, w4⟩ := widenF32_finite r hr hf
    have hE : r % 2 ^ 31 / 2 ^ 23 < 255 := by omega
    unfold castF32
    simp only
    rw [if_neg w3, w1, w4, roundMagF32_exact]
    have : min (r % 2 ^ 31) f32InfPat = r % 2 ^ 31 := by
      apply Nat.min_eq_left
      unfold f32InfPat; omega
    rw [this]; omega

/-! ## the byte layer under `Float` / `Double` -/

theorem pack_nat (cc : CustomCodec) (t : IntT) (ht : t.signed = false) (y : Nat)
    (hy : y < 256 ^ t.width) (rest : Bytes) :
    ∃ bs, encode cc (.int t) (.int (y : Int)) = .ok bs ∧ bs.length = t.width ∧ beValue bs = y ∧
      decode cc (.int t) (bs ++ rest) = .ok (.int (y : Int), rest) := by
  have hd : t.inDom (y : Int) := by
    unfold IntT.inDom
    rw [if_neg (by simp [ht])]
    refine ⟨Int.natCast_nonneg _, ?_⟩
    rw [← pow256_cast]; exact Int.ofNat_lt.mpr hy
  obtain ⟨bs, h1, h2, h3⟩ := t.pack_natCast y hd
  obtain ⟨bs', h1', _, h4⟩ := t.unpack_pack _ hd
  rw [h1] at h1'; cases h1'
  exact ⟨bs, h1, h2, h3, by rw [decode, h4]; rfl⟩

theorem pack_f32 (cc : CustomCodec) (y : Nat) (hy : y < 2 ^ 32) (rest : Bytes) :
    ∃ bs, encode cc (.int .f32) (.int (y : Int)) = .ok bs ∧ bs.length = 4 ∧ beValue bs = y ∧
      decode cc (.int .f32) (bs ++ rest) = .ok (.int (y : Int), rest) :=
  pack_nat cc .f32 rfl y (by simpa [IntT.width] using hy) rest

theorem pack_f64 (cc : CustomCodec) (x : Nat) (hx : x < 2 ^ 64) (rest : Bytes) :
    ∃ bs, encode cc (.int .f64) (.int (x : Int)) = .ok bs ∧ bs.length = 8 ∧ beValue bs = x ∧
      decode cc (.int .f64) (bs ++ rest) = .ok (.int (x : Int), rest) :=
  pack_nat cc .f64 rfl x (by simpa [IntT.width] using hx) rest

/-- decoding any `width` bytes of an unsigned code yields their big-endian value -/
theorem unpack_nat (cc : CustomCodec) (t : IntT) (ht : t.signed = false) (bs rest : Bytes)
    (hb : bs.length = t.width) :
    decode cc (.int t) (bs ++ rest) = .ok (.int (beValue bs : Int), rest) := by
  simp only [decode, IntT.unpack, ht, Bool.false_eq_true, if_false, unpackU, takeN_append' _ bs rest hb]
  rfl

theorem castF32_finite (x : Nat) (hf : x % 2 ^ 63 / 2 ^ 52 ≠ 2047) :
    castF32 x = x / 2 ^ 63 * 2 ^ 31 + min (roundMagF32 (f64Mag (x % 2 ^ 63))) f32InfPat := by
  unfold castF32
  simp only [if_neg hf]

theorem castF32_lt (x : Nat) (hx : x < 2 ^ 64) : castF32 x < 2 ^ 32 := by
  have hs : x / 2 ^ 63 ≤ 1 := by omega
  unfold castF32
  simp only [f32InfPat]
  split
  · split
    · omega
    · have : x % 2 ^ 63 % 2 ^ 52 / 2 ^ 29 % 2 ^ 22 < 2 ^ 22 := Nat.mod_lt _ (Nat.two_pow_pos _)
      omega
  · have := Nat.min_le_right (roundMagF32 (f64Mag (x % 2 ^ 63))) 2139095040
    omega

/-- `Float.send` when the cast `y` is not an infinity made from a finite value: the 4 bytes of `y` -/
theorem floatSend_ok (cc : CustomCodec) (x y : Nat) (hy : castF32 x = y) (h32 : y < 2 ^ 32)
    (hno : y % 2 ^ 31 = f32InfPat → x % 2 ^ 63 = f64InfPat) (rest : Bytes) :
    ∃ bs, floatSend cc x = .ok bs ∧ bs.length = 4 ∧ beValue bs = y ∧
      decode cc (.int .f32) (bs ++ rest) = .ok (.int (y : Int), rest) := by
  obtain ⟨bs, h1, h⟩ := pack_f32 cc y h32 rest
  refine ⟨bs, ?_, h⟩
  unfold floatSend
  simp only [hy]
  rw [if_neg (fun c => c.2 (hno c.1)), h1]

end PyCraft.C02X
