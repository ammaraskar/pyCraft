/-!
Bit fields.  A packed word (`Position`, `ChunkSectionPos`, the multi-block-change record, an IEEE
pattern) is a concatenation of fields: `cat k hi lo` puts `hi` above the `k`-bit field `lo`.  The
lemmas are for any widths; a literal width such as `2 ^ 38` meets `2 ^ (26 + 12)` by evaluation.
-/
namespace PyCraft.Bits

def cat (k hi lo : Nat) : Nat := hi * 2 ^ k + lo

theorem cat_div {k hi lo : Nat} (h : lo < 2 ^ k) : cat k hi lo / 2 ^ k = hi := by
  rw [cat, Nat.mul_comm, Nat.mul_add_div (Nat.two_pow_pos k), Nat.div_eq_of_lt h, Nat.add_zero]

theorem cat_mod {k hi lo : Nat} (h : lo < 2 ^ k) : cat k hi lo % 2 ^ k = lo := by
  rw [cat, Nat.mul_comm, Nat.mul_add_mod, Nat.mod_eq_of_lt h]

theorem cat_div_mod (k n : Nat) : cat k (n / 2 ^ k) (n % 2 ^ k) = n := by
  rw [cat, Nat.mul_comm]; exact Nat.div_add_mod n _

theorem cat_lt {j k hi lo : Nat} (hh : hi < 2 ^ j) (hl : lo < 2 ^ k) : cat k hi lo < 2 ^ (j + k) := by
  rw [cat, Nat.pow_add]
  have := Nat.mul_le_mul_right (2 ^ k) (Nat.succ_le_of_lt hh)
  rw [Nat.succ_mul] at this
  omega

/-- A word determines its fields. -/
theorem cat_inj {k a b a' b' : Nat} (hb : b < 2 ^ k) (hb' : b' < 2 ^ k)
    (h : cat k a b = cat k a' b') : a = a' ∧ b = b' :=
  ⟨(cat_div hb).symm.trans ((congrArg (· / 2 ^ k) h).trans (cat_div hb')),
    (cat_mod hb).symm.trans ((congrArg (· % 2 ^ k) h).trans (cat_mod hb'))⟩

/-- Python's `hi << k | lo` for a `lo` that fits. -/
theorem shl_or_cat {k hi lo : Nat} (h : lo < 2 ^ k) : hi <<< k ||| lo = cat k hi lo :=
  (Nat.shiftLeft_add_eq_or_of_lt h hi).symm.trans (by rw [Nat.shiftLeft_eq, cat])

theorem div_pow_add (n j k : Nat) : n / 2 ^ (j + k) = n / 2 ^ k / 2 ^ j := by
  rw [Nat.pow_add, Nat.mul_comm, Nat.div_div_eq_div_mul]

/-! ### three fields -/

/-- `a << (j + k) | b << k | c`. -/
theorem pack3_cat (a b c j k : Nat) (hb : b < 2 ^ j) (hc : c < 2 ^ k) :
    (a <<< (j + k)) ||| (b <<< k) ||| c = cat k (cat j a b) c := by
  rw [Nat.shiftLeft_add, ← Nat.shiftLeft_or_distrib, shl_or_cat hb, shl_or_cat hc]

theorem cat3_lt {a b c i j k : Nat} (ha : a < 2 ^ i) (hb : b < 2 ^ j) (hc : c < 2 ^ k) :
    cat k (cat j a b) c < 2 ^ (i + j + k) := cat_lt (cat_lt ha hb) hc

/-- The positional sum, over `Int` (where the layouts of C04 are stated). -/
theorem cat3_int (a b c j k : Nat) :
    (cat k (cat j a b) c : Int) = a * 2 ^ (j + k) + b * 2 ^ k + c := by
  rw [cat, cat, Nat.add_mul, Nat.mul_assoc, ← Nat.pow_add]; push_cast; rfl

end PyCraft.Bits
