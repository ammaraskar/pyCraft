import PyCraft.Model.C02Exact
import PyCraft.Lemmas.Wire
import PyCraft.Lemmas.Basic
set_option exponentiation.threshold 2200
/-!
Helper lemmas for `Props/C02Exact.lean`: `FixedPoint` (same `bits` on both sides) and the UUID
text ↔ bytes mapping. Lower-case hex strings are handled as `ds.map hexDigit` for digit lists
`ds` (all `< 16`), so that every fact about a character is a `decide` over sixteen cases.
-/
namespace PyCraft.C02X
open PyCraft

/-! ## FixedPoint -/

theorem init_denominator (base : IntT) (bits : Nat) :
    (((FixedPointT.init base bits).denominator : Nat) : Int) = (2 : Int) ^ bits := by
  simp [FixedPointT.init]

theorem fixed_send_eq (cc : CustomCodec) (base : IntT) (bits : Nat) (p q : Int)
    (h : ¬ ((2 : Int) ^ 1024 * q ≤ p * 2 ^ bits ∨ (2 : Int) ^ 1024 * q ≤ -(p * 2 ^ bits))) :
    (FixedPointT.init base bits).send cc p q
      = encode cc (.fixed base bits) (.int (fixedWire bits p q)) := by
  unfold FixedPointT.send
  simp only [init_denominator]
  rw [if_neg h]
  rfl

theorem fixed_send_overflow (cc : CustomCodec) (base : IntT) (bits : Nat) (p q : Int)
    (h : (2 : Int) ^ 1024 * q ≤ p * 2 ^ bits ∨ (2 : Int) ^ 1024 * q ≤ -(p * 2 ^ bits)) :
    (FixedPointT.init base bits).send cc p q = .error .other := by
  unfold FixedPointT.send
  simp only [init_denominator]
  rw [if_pos h]

/-- a wire integer that fits its base type is far from the float overflow: `|w·q| ≤ 2^64·q`, and
`w·q` is within `q` of `p·2^bits` -/
theorem fixed_fits_no_overflow (base : IntT) (bits : Nat) (p q : Int) (hq : 0 < q)
    (hd : base.inDom (fixedWire bits p q)) :
    ¬ ((2 : Int) ^ 1024 * q ≤ p * 2 ^ bits ∨ (2 : Int) ^ 1024 * q ≤ -(p * 2 ^ bits)) := by
  obtain ⟨t1, _⟩ := fixed_trunc bits p q hq
  have hb := IntT.inDom_natAbs_lt base _ 8 base.width_le hd
  unfold fixedWire at hb
  generalize (p * 2 ^ bits).tdiv q = w at t1 hb
  have m1 : w * q ≤ 2 ^ 64 * q := Int.mul_le_mul_of_nonneg_right (by omega) (by omega)
  have m2 : -(2 : Int) ^ 64 * q ≤ w * q := Int.mul_le_mul_of_nonneg_right (by omega) (by omega)
  omega

theorem fixed_read_eq (cc : CustomCodec) (base : IntT) (bits : Nat) (bs : Bytes) :
    (FixedPointT.init base bits).read cc bs
      = (do let (v, r) ← base.unpack bs; let x ← intTrueDiv v (2 ^ bits); pure (x, r)) := by
  simp only [FixedPointT.read, FixedPointT.init, decode]
  show (do let __x ← (do let __x ← base.unpack bs; pure (Value.int __x.fst, __x.snd)); _) = _
  cases base.unpack bs <;> rfl

/-! ## digits -/

/-- value of a digit list, most significant first -/
def digitsValue : List Nat → Nat
  | [] => 0
  | d :: r => d * 16 ^ r.length + digitsValue r

/-- the `n` base-16 digits of `v mod 16^n` -/
def digitsOf : Nat → Nat → List Nat
  | 0, _ => []
  | n + 1, v => (v / 16 ^ n % 16) :: digitsOf n (v % 16 ^ n)

def AllDigits (ds : List Nat) : Prop := ∀ d ∈ ds, d < 16

theorem digitsOf_length (n v : Nat) : (digitsOf n v).length = n := by
  induction n generalizing v with
  | zero => rfl
  | succ n ih => simp [digitsOf, ih]

theorem digitsOf_all (n v : Nat) : AllDigits (digitsOf n v) := by
  induction n generalizing v with
  | zero => intro d hd; simp [digitsOf] at hd
  | succ n ih =>
    intro d hd
    simp only [digitsOf, List.mem_cons] at hd
    rcases hd with rfl | hd
    · exact Nat.mod_lt _ (by omega)
    · exact ih _ d hd

theorem digitsValue_lt (ds : List Nat) (h : AllDigits ds) : digitsValue ds < 16 ^ ds.length := by
  induction ds with
  | nil => simp [digitsValue]
  | cons d r ih =>
    have hd : d < 16 := h d (by simp)
    have hr := ih (fun x hx => h x (by simp [hx]))
    simp only [digitsValue, List.length_cons, Nat.pow_succ]
    have : d * 16 ^ r.length ≤ 15 * 16 ^ r.length := Nat.mul_le_mul_right _ (by omega)
    omega

theorem digitsValue_digitsOf (n v : Nat) : digitsValue (digitsOf n v) = v % 16 ^ n := by
  induction n generalizing v with
  | zero => simp [digitsOf, digitsValue, Nat.mod_one]
  | succ n ih =>
    simp only [digitsOf, digitsValue, digitsOf_length, ih, Nat.pow_succ]
    have hp : 0 < 16 ^ n := Nat.pow_pos (by omega)
    rw [Nat.mod_mod_of_dvd _ (Nat.dvd_refl _), Nat.mod_mul, Nat.mul_comm (16 ^ n)]
    omega

theorem digitsOf_digitsValue (ds : List Nat) (h : AllDigits ds) :
    digitsOf ds.length (digitsValue ds) = ds := by
  induction ds with
  | nil => rfl
  | cons d r ih =>
    have hd : d < 16 := h d (by simp)
    have hr : AllDigits r := fun x hx => h x (by simp [hx])
    have hlt := digitsValue_lt r hr
    have hp : 0 < 16 ^ r.length := Nat.pow_pos (by omega)
    simp only [List.length_cons, digitsOf, digitsValue]
    have h1 : (d * 16 ^ r.length + digitsValue r) / 16 ^ r.length = d := by
      rw [Nat.mul_comm, Nat.mul_add_div hp, Nat.div_eq_of_lt hlt]; omega
    have h2 : (d * 16 ^ r.length + digitsValue r) % 16 ^ r.length = digitsValue r := by
      rw [Nat.mul_comm, Nat.mul_add_mod, Nat.mod_eq_of_lt hlt]
    rw [h1, h2, ih hr, Nat.mod_eq_of_lt hd]

/-! ## characters of lower-case hex strings -/

theorem hexDigit_lower : ∀ n < 16, lowerHexChars.contains (hexDigit n) = true := by decide +kernel
theorem hexDigit_plain : ∀ n < 16, hexDigit n ≠ '-' ∧ hexDigit n ≠ '_' ∧ hexDigit n ≠ '+' ∧
    hexDigit n ≠ 'u' ∧ hexDigit n ≠ 'x' ∧ hexDigit n ≠ 'X' ∧ hexDigit n ≠ '{' ∧ hexDigit n ≠ '}' ∧
    isPySpace (hexDigit n) = false := by decide +kernel

theorem lower_is_hexDigit_all : ∀ c ∈ lowerHexChars, ∃ n, n < 16 ∧ c = hexDigit n := by
  decide +kernel

theorem lower_is_hexDigit (c : Char) (h : lowerHexChars.contains c = true) :
    ∃ n, n < 16 ∧ c = hexDigit n := lower_is_hexDigit_all c (by simpa using h)

/-- every lower-case hex string is `ds.map hexDigit` -/
theorem lower_is_digits (h : List Char) (hh : h.all (fun c => lowerHexChars.contains c) = true) :
    ∃ ds, AllDigits ds ∧ h = ds.map hexDigit := by
  induction h with
  | nil => exact ⟨[], fun _ hd => by simp at hd, rfl⟩
  | cons c r ih =>
    simp only [List.all_cons, Bool.and_eq_true] at hh
    obtain ⟨n, hn, rfl⟩ := lower_is_hexDigit c hh.1
    obtain ⟨ds, hds, rfl⟩ := ih hh.2
    refine ⟨n :: ds, ?_, rfl⟩
    intro d hd
    simp only [List.mem_cons] at hd
    rcases hd with rfl | hd
    · exact hn
    · exact hds d hd

theorem hexValue_digits (ds : List Nat) (h : AllDigits ds) :
    hexValue (ds.map hexDigit) = digitsValue ds := by
  induction ds with
  | nil => rfl
  | cons d r ih =>
    have hd : d < 16 := h d (by simp)
    simp only [List.map_cons, hexValue, digitsValue, List.length_map, hexVal_hexDigit d hd,
      Option.getD_some, ih (fun x hx => h x (by simp [hx]))]

theorem hexDigitsN_eq (n v : Nat) : hexDigitsN n v = (digitsOf n v).map hexDigit := by
  induction n generalizing v with
  | zero => rfl
  | succ n ih => simp [hexDigitsN, digitsOf, ih]

/-! ## the string operations on dash / digit strings -/

theorem removeSubGo_noHead (p : Char) (ps : List Char) :
    ∀ l : List Char, p ∉ l → removeSubGo (p :: ps) 0 l = l := by
  intro l
  induction l with
  | nil => intro _; rfl
  | cons c cs ih =>
    intro h
    simp only [List.mem_cons, not_or] at h
    have hne : (p == c) = false := by simpa using h.1
    simp only [removeSubGo, List.isPrefixOf, hne, Bool.false_and, Bool.false_eq_true, if_false,
      ih h.2]

theorem dropWhile_none {p : Char → Bool} : ∀ l : List Char, (∀ c ∈ l, p c = false) →
    l.dropWhile p = l := by
  intro l h
  cases l with
  | nil => rfl
  | cons c cs => simp [h c (by simp)]

theorem stripChars_none (set l : List Char) (h : ∀ c ∈ l, set.contains c = false) :
    stripChars set l = l := by
  unfold stripChars
  rw [dropWhile_none l h, dropWhile_none l.reverse (fun c hc => h c (by simpa using hc)),
    List.reverse_reverse]

theorem mem_dashed {h : List Char} {c : Char} (hc : c ∈ dashed h) : c = '-' ∨ c ∈ h := by
  simp only [dashed, List.mem_append, List.mem_cons, or_assoc] at hc
  rcases hc with hc | hc | hc | hc | hc | hc | hc | hc | hc
  · exact .inr (List.mem_of_mem_take hc)
  · exact .inl hc
  · exact .inr (List.mem_of_mem_drop (List.mem_of_mem_take hc))
  · exact .inl hc
  · exact .inr (List.mem_of_mem_drop (List.mem_of_mem_take hc))
  · exact .inl hc
  · exact .inr (List.mem_of_mem_drop (List.mem_of_mem_take hc))
  · exact .inl hc
  · exact .inr (List.mem_of_mem_drop hc)

theorem undash_parts (h : List Char) :
    h.take 8 ++ ((h.drop 8).take 4 ++ ((h.drop 12).take 4 ++ ((h.drop 16).take 4 ++ h.drop 20))) = h := by
  have e1 : h.drop 20 = (h.drop 16).drop 4 := by rw [List.drop_drop]
  have e2 : h.drop 16 = (h.drop 12).drop 4 := by rw [List.drop_drop]
  have e3 : h.drop 12 = (h.drop 8).drop 4 := by rw [List.drop_drop]
  rw [e1, List.take_append_drop, e2, List.take_append_drop, e3, List.take_append_drop,
    List.take_append_drop]

theorem filter_dashed (h : List Char) (hd : '-' ∉ h) :
    (dashed h).filter (fun c => c != '-') = h := by
  have keep : ∀ l : List Char, (∀ c ∈ l, c ∈ h) → l.filter (fun c => c != '-') = l := by
    intro l hl
    rw [List.filter_eq_self]
    intro c hc
    have : c ≠ '-' := fun e => hd (e ▸ hl c hc)
    simpa using this
  have k1 := keep (h.take 8) (fun c hc => List.mem_of_mem_take hc)
  have k2 := keep ((h.drop 8).take 4) (fun c hc => List.mem_of_mem_drop (List.mem_of_mem_take hc))
  have k3 := keep ((h.drop 12).take 4) (fun c hc => List.mem_of_mem_drop (List.mem_of_mem_take hc))
  have k4 := keep ((h.drop 16).take 4) (fun c hc => List.mem_of_mem_drop (List.mem_of_mem_take hc))
  have k5 := keep (h.drop 20) (fun c hc => List.mem_of_mem_drop hc)
  have hm : (('-' : Char) != '-') = false := by decide
  simp only [dashed, List.filter_append, List.filter_cons, hm, Bool.false_eq_true, if_false,
    k1, k2, k3, k4, k5, List.append_assoc]
  exact undash_parts h

/-- the dashes are the only characters of a dashed digit string that are not digits -/
theorem filter_dashed_digits (ds : List Nat) (h : AllDigits ds) :
    (dashed (ds.map hexDigit)).filter (fun c => c != '-') = ds.map hexDigit := by
  apply filter_dashed
  intro hc
  obtain ⟨n, hn, e⟩ := List.mem_map.mp hc
  exact (hexDigit_plain n (h n hn)).1 e

theorem dashed_length (h : List Char) (hl : h.length = 32) : (dashed h).length = 36 := by
  simp only [dashed, List.length_append, List.length_cons, List.length_take, List.length_drop, hl]
  omega

/-- where the dashes are: the four separators sit at positions 8, 13, 18 and 23 -/
theorem dashed_positions (h : List Char) (hl : h.length = 32) :
    (dashed h)[8]? = some '-' ∧ (dashed h)[13]? = some '-' ∧ (dashed h)[18]? = some '-' ∧
    (dashed h)[23]? = some '-' := by
  refine ⟨?_, ?_, ?_, ?_⟩ <;>
    simp [dashed, List.length_take, List.length_drop, hl]

/-! ## `int(hex, 16)` on a plain digit string -/

theorem scanHex_digits : ∀ (ds : List Nat), AllDigits ds → ∀ acc nd,
    scanHex false acc nd (ds.map hexDigit)
      = some (acc * 16 ^ ds.length + digitsValue ds, nd + ds.length, []) := by
  intro ds
  induction ds with
  | nil => intro _ acc nd; simp [scanHex, digitsValue]
  | cons d r ih =>
    intro h acc nd
    have hd : d < 16 := h d (by simp)
    have hr : AllDigits r := fun x hx => h x (by simp [hx])
    have hu := (hexDigit_plain d hd).2.1
    simp only [List.map_cons, scanHex, hu, if_false, hexVal_hexDigit d hd, ih hr, List.length_cons,
      digitsValue, Nat.pow_succ]
    congr 2
    · rw [Nat.add_mul, Nat.mul_comm 16 acc, Nat.mul_assoc, Nat.mul_comm 16 (16 ^ r.length)]
      omega
    · congr 1; omega

theorem pyIntHex_digits (d0 d1 : Nat) (ds : List Nat) (h : AllDigits (d0 :: d1 :: ds)) :
    pyIntHex ((d0 :: d1 :: ds).map hexDigit) = some (digitsValue (d0 :: d1 :: ds) : Int) := by
  have h0 : d0 < 16 := h d0 (by simp)
  have h1 : d1 < 16 := h d1 (by simp)
  obtain ⟨a1, a2, a3, _, _, _, _, _, a9⟩ := hexDigit_plain d0 h0
  obtain ⟨_, _, _, _, b5, b6, _, _, _⟩ := hexDigit_plain d1 h1
  have hs : ((d0 :: d1 :: ds).map hexDigit).dropWhile isPySpace = (d0 :: d1 :: ds).map hexDigit := by
    simp [a9]
  have hsign : pySign ((d0 :: d1 :: ds).map hexDigit) = (false, (d0 :: d1 :: ds).map hexDigit) := by
    simp only [List.map_cons]
    unfold pySign
    split
    · next heq => exact absurd (List.cons.inj heq).1 a3
    · next heq => exact absurd (List.cons.inj heq).1 a1
    · rfl
  have hpre : pyHexPrefix ((d0 :: d1 :: ds).map hexDigit) = (d0 :: d1 :: ds).map hexDigit := by
    simp only [List.map_cons]
    unfold pyHexPrefix
    split
    · next heq => exact absurd (List.cons.inj (List.cons.inj heq).2).1 b5
    · next heq => exact absurd (List.cons.inj (List.cons.inj heq).2).1 b5
    · next heq => exact absurd (List.cons.inj (List.cons.inj heq).2).1 b6
    · next heq => exact absurd (List.cons.inj (List.cons.inj heq).2).1 b6
    · rfl
  have hbody : pyHexBody ((d0 :: d1 :: ds).map hexDigit) = some (digitsValue (d0 :: d1 :: ds)) := by
    have hsc := scanHex_digits (d0 :: d1 :: ds) h 0 0
    unfold pyHexBody
    split
    · next heq => simp only [List.map_cons] at heq; exact absurd (List.cons.inj heq).1 a2
    · rw [hsc]; simp
  simp only [pyIntHex, hs, hsign, hpre, hbody]
  rfl

/-! ## parsing a dashed lower-case text -/

theorem uuidParseChars_dashed (ds : List Nat) (h : AllDigits ds) (hl : ds.length = 32) :
    uuidParseChars (dashed (ds.map hexDigit)) = .ok (beBytes 16 (digitsValue ds)) := by
  have hmem : ∀ c ∈ dashed (ds.map hexDigit), c = '-' ∨ ∃ n, n < 16 ∧ c = hexDigit n := by
    intro c hc
    rcases mem_dashed hc with hc | hc
    · exact .inl hc
    · obtain ⟨n, hn, rfl⟩ := List.mem_map.mp hc
      exact .inr ⟨n, h n hn, rfl⟩
  have hnu : 'u' ∉ dashed (ds.map hexDigit) := by
    intro hc
    rcases hmem _ hc with e | ⟨n, hn, e⟩
    · exact absurd e (by decide)
    · exact (hexDigit_plain n hn).2.2.2.1 e.symm
  have r1 : strRemove "urn:".toList (dashed (ds.map hexDigit)) = dashed (ds.map hexDigit) :=
    removeSubGo_noHead 'u' _ _ hnu
  have r2 : strRemove "uuid:".toList (dashed (ds.map hexDigit)) = dashed (ds.map hexDigit) :=
    removeSubGo_noHead 'u' _ _ hnu
  have r3 : stripChars ['{', '}'] (dashed (ds.map hexDigit)) = dashed (ds.map hexDigit) := by
    apply stripChars_none
    intro c hc
    rcases hmem _ hc with e | ⟨n, hn, e⟩
    · subst e; decide
    · obtain ⟨_, _, _, _, _, _, b7, b8, _⟩ := hexDigit_plain n hn
      subst e
      simp only [List.contains_cons, List.contains_nil, Bool.or_false, Bool.or_eq_false_iff]
      exact ⟨by simpa using b7, by simpa using b8⟩
  have r4 := filter_dashed_digits ds h
  obtain ⟨d0, d1, r, rfl⟩ : ∃ d0 d1 r, ds = d0 :: d1 :: r := by
    rcases ds with _ | ⟨d0, _ | ⟨d1, r⟩⟩
    · simp at hl
    · simp at hl
    · exact ⟨d0, d1, r, rfl⟩
  have hv := digitsValue_lt _ h
  rw [hl] at hv
  have h128 : (16 : Nat) ^ 32 = 2 ^ 128 := by decide
  have hlen : ((d0 :: d1 :: r).map hexDigit).length = 32 := by simpa using hl
  simp only [uuidParseChars, r1, r2, r3, r4, hlen, ne_eq, not_true_eq_false, if_false,
    pyIntHex_digits d0 d1 r h]
  have hc : (0 : Int) ≤ (digitsValue (d0 :: d1 :: r) : Int) ∧
      (digitsValue (d0 :: d1 :: r) : Int) < 2 ^ 128 := by
    refine ⟨Int.natCast_nonneg _, ?_⟩
    have : ((digitsValue (d0 :: d1 :: r) : Nat) : Int) < ((2 ^ 128 : Nat) : Int) :=
      Int.ofNat_lt.mpr (by omega)
    simpa using this
  rw [if_pos hc]
  rfl

theorem uuidParseChars_kinds (s : List Char) :
    (∃ n, uuidParseChars s = .ok (beBytes 16 n)) ∨ uuidParseChars s = .error .value := by
  unfold uuidParseChars
  simp only
  split
  · exact .inr rfl
  · split
    · exact .inr rfl
    · split
      · exact .inl ⟨_, rfl⟩
      · exact .inr rfl

theorem uuidTextChars_eq (b : Bytes) :
    uuidTextChars b = dashed ((digitsOf 32 (beValue b)).map hexDigit) := by
  simp [uuidTextChars, hexDigitsN_eq]

theorem pow_256_16 : (256 : Nat) ^ 16 = 16 ^ 32 := by decide

theorem uuidParseChars_text (b : Bytes) (hb : b.length = 16) :
    uuidParseChars (uuidTextChars b) = .ok b := by
  rw [uuidTextChars_eq, uuidParseChars_dashed _ (digitsOf_all _ _) (digitsOf_length _ _),
    digitsValue_digitsOf]
  have hlt := beValue_lt b
  rw [hb, pow_256_16] at hlt
  rw [Nat.mod_eq_of_lt hlt]
  have := beBytes_beValue b
  rw [hb] at this
  rw [this]

theorem uuidParse_text (b : Bytes) (hb : b.length = 16) : uuidParse (uuidText b) = .ok b := by
  simp only [uuidParse, uuidText, String.toList_ofList]
  exact uuidParseChars_text b hb

theorem all_lower_digits (ds : List Nat) (h : AllDigits ds) :
    (ds.map hexDigit).all (fun c => lowerHexChars.contains c) = true := by
  rw [List.all_eq_true]
  intro c hc
  obtain ⟨n, hn, rfl⟩ := List.mem_map.mp hc
  exact hexDigit_lower n (h n hn)

/-- decomposition of a canonical text -/
theorem canonical_digits (s : String) (hc : isCanonicalUuid s = true) :
    ∃ ds, AllDigits ds ∧ ds.length = 32 ∧ s.toList = dashed (ds.map hexDigit) := by
  simp only [isCanonicalUuid, Bool.and_eq_true, beq_iff_eq] at hc
  obtain ⟨⟨h1, h2⟩, h3⟩ := hc
  obtain ⟨ds, hds, he⟩ := lower_is_digits _ h2
  refine ⟨ds, hds, ?_, ?_⟩
  · rw [he] at h1; simpa using h1
  · rw [← he]; exact h3

end PyCraft.C02X
