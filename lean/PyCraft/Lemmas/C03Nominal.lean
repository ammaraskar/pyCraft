import PyCraft.Model.C03Nominal
import PyCraft.Lemmas.VarIntDec
/-!
Helper lemmas for `Props/C03Nominal.lean`: the decoder-independent reader specification, the
instrumented reader's projections, and the input that attains the read bound.  (The outcomes of
`VarInt.read` by shape of the input are in `Lemmas/VarIntDec.lean`.)
-/
namespace PyCraft

/-- every byte of `l` carries the continuation bit 0x80 -/
def AllCont (l : Bytes) : Prop := ∀ b ∈ l, 128 ≤ b.toNat

instance (l : Bytes) : Decidable (AllCont l) := by unfold AllCont; infer_instance

/-- Specification of a VarInt reader with nominal maximum `mx`, as a predicate on an ARBITRARY
decoder `D` (it does not mention `decVarInt`): which inputs are over-long, which hit end of stream,
and that EVERY terminated run of at most `mx` continuation bytes is accepted (canonical or not) with
the base-128 value of the consumed bytes and the cursor right after the terminator. -/
structure ReaderSpec (mx : Nat) (D : Bytes → Except Err (Nat × Bytes)) : Prop where
  tooLong_iff : ∀ bs, D bs = .error .tooLong ↔ mx + 1 ≤ bs.length ∧ AllCont (bs.take (mx + 1))
  eof_iff : ∀ bs, D bs = .error .eof ↔ bs.length ≤ mx ∧ AllCont bs
  accepts : ∀ pre last rest, pre.length ≤ mx → AllCont pre → last.toNat < 128 →
    D (pre ++ last :: rest) = .ok (leValue (pre ++ [last]), rest)

/-- the instrumented reader IS the pair (decoder, read counter), on every input and in every loop
state — failures included -/
theorem readInstr_eq (mx : Nat) : ∀ (bs : Bytes) (be acc : Nat),
    readInstr mx be acc bs = (decVarIntAux mx be acc bs, decVarIntReads mx be bs) := by
  intro bs
  induction bs with
  | nil => intro be acc; rfl
  | cons b rest ih =>
    intro be acc
    simp only [readInstr, decVarIntAux, decVarIntReads]
    split
    · rfl
    · split
      · rfl
      · rw [ih]; simp only [Prod.mk.injEq, true_and]; omega

/-- a run of `n` bytes `0xff` -/
def contRun (n : Nat) : Bytes := List.replicate n 0xff

theorem contRun_allCont (n : Nat) : AllCont (contRun n) := by
  intro x hx
  have := List.eq_of_mem_replicate hx
  subst this; decide

/-- on `mx + 1` bytes `0xff` the reader issues exactly `mx + 1` reads: the read bound is attained -/
theorem contRun_reads (mx : Nat) : decVarIntReads mx 0 (contRun (mx + 1)) = mx + 1 :=
  (aux_tooLong mx (contRun (mx + 1)) 0 0 (Nat.two_pow_pos _) (Nat.zero_le _) (by simp [contRun])
    (fun x hx => contRun_allCont (mx + 1) x (List.mem_of_mem_take hx))).2

/-- does the model's observation of `cls.read` on the row's input equal what the live code did?
row = (class name, input bytes, outcome tag, value, `tell()` afterwards, `read(1)` calls) -/
def probeAgrees (row : String × List Nat × String × Nat × Nat × Nat) : Bool :=
  match VarKind.ofName row.1 with
  | none => false
  | some k =>
    k.observe (row.2.1.map UInt8.ofNat) == (row.2.2.1, row.2.2.2.1, row.2.2.2.2.1, row.2.2.2.2.2)

end PyCraft
