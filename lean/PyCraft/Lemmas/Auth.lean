import PyCraft.Model.Auth
/-!
Helper lemmas for C19: the request component of each operation (it never depends on the reply), the
shape of `raiseFromResponse`, what `storeReply` stores and when it reaches `return True`, and
`finishStore`, the part `authenticate` and `refresh` have in common once the reply is there.
-/
namespace PyCraft.Auth

theorem raise_200 (b : Body) : raiseFromResponse ⟨200, b⟩ = none := by
  simp [raiseFromResponse]

theorem raise_ne_200 (st : Nat) (b : Body) (h : st ≠ 200) :
    raiseFromResponse ⟨st, b⟩ = some (match b with
      | .errorObj e m c => .yggdrasil st (some e) (some m) c false
      | _ => .yggdrasil st none none none true) := by
  cases b <;> simp [raiseFromResponse, h]

theorem raise_ne_retFalse (r : Reply) (e : Outcome) (h : raiseFromResponse r = some e) :
    e ≠ .ret false := by
  obtain ⟨st, b⟩ := r
  by_cases hst : st = 200
  · subst hst; simp [raise_200] at h
  · rw [raise_ne_200 st b hst] at h
    cases b <;> simp at h <;> simp [← h]

theorem orElse_eq (x : Option String) (d : String) :
    orElse x d = (if truthy x = true then x.getD "" else d) := by
  cases x with
  | none => simp [orElse, truthy]
  | some c => by_cases hc : c = "" <;> simp [orElse, truthy, hc]

theorem authenticate_req (fresh : String) (t : Token) (user pass : String) (inv : Bool) (r : Reply) :
    (authenticate fresh t user pass inv r).2.2 = some ⟨.auth, "authenticate",
      if !inv then
        [("agent", .obj [("name", .str "Minecraft"), ("version", .num 1)]),
         ("username", .atom (.str user)), ("password", .atom (.str pass))] ++
        [("clientToken", .atom (.str (orElse t.clientToken fresh)))]
      else
        [("agent", .obj [("name", .str "Minecraft"), ("version", .num 1)]),
         ("username", .atom (.str user)), ("password", .atom (.str pass))]⟩ := by
  cases h1 : raiseFromResponse r <;> cases h2 : r.body.parses <;> simp [authenticate, h1, h2]

theorem refresh_req (t : Token) (a c : String) (r : Reply) (ha : t.accessToken = some a)
    (hc : t.clientToken = some c) :
    (refresh t r).2.2 = some ⟨.auth, "refresh",
      [("accessToken", .atom (.str a)), ("clientToken", .atom (.str c))]⟩ := by
  cases h1 : raiseFromResponse r <;> cases h2 : r.body.parses <;> simp [refresh, ha, hc, h1, h2]

theorem validate_req (t : Token) (a : String) (r : Reply) (ha : t.accessToken = some a) :
    (validate t r).2.2 = some ⟨.auth, "validate", [("accessToken", .atom (.str a))]⟩ := by
  by_cases h : r.status = 204 <;> simp [validate, ha, h]

theorem invalidate_req (t : Token) (r : Reply) :
    (invalidate t r).2.2 = some ⟨.auth, "invalidate",
      [("accessToken", .atom (.ofOpt t.accessToken)),
       ("clientToken", .atom (.ofOpt t.clientToken))]⟩ := by
  by_cases h : r.status = 204 <;> cases h1 : raiseFromResponse r <;> simp [invalidate, h, h1]

theorem invalidate_tok (t : Token) (r : Reply) : (invalidate t r).1 = t := by
  by_cases h : r.status = 204 <;> cases h1 : raiseFromResponse r <;> simp [invalidate, h, h1]

theorem signOut_req (user pass : String) (r : Reply) :
    (signOut user pass r).2 = ⟨.auth, "signout",
      [("username", .atom (.str user)), ("password", .atom (.str pass))]⟩ := by
  cases h1 : raiseFromResponse r <;> simp [signOut, h1]

theorem join_req (t : Token) (sid : String) (r : Reply) (hau : authenticated t = true) :
    (join t sid r).2.2 = some ⟨.session, "join",
      [("accessToken", .atom (.ofOpt t.accessToken)),
       ("selectedProfile", .obj [("id", .ofOpt t.profileId), ("name", .ofOpt t.profileName)]),
       ("serverId", .atom (.str sid))]⟩ := by
  by_cases h : r.status = 204 <;> cases h1 : raiseFromResponse r <;> simp [join, hau, h, h1]

theorem join_tok (t : Token) (sid : String) (r : Reply) : (join t sid r).1 = t := by
  cases hau : authenticated t <;> by_cases h : r.status = 204 <;>
    cases h1 : raiseFromResponse r <;> simp [join, hau, h, h1]

/-- `storeReply` reaches `return True` exactly on a body with all four keys. -/
theorem storeReply_true_iff (t : Token) (b : Body) :
    (storeReply t b).2 = .ret true ↔
      ∃ a c i n, b = .result (some a) (some c) (some ⟨some i, some n⟩) := by
  cases b with
  | result a c sp =>
    cases a <;> cases c <;> try simp [storeReply]
    cases sp with
    | none => simp
    | some p => obtain ⟨i, n⟩ := p; cases i <;> cases n <;> simp
  | _ => simp [storeReply]

theorem storeReply_ne_false (t : Token) (b : Body) : (storeReply t b).2 ≠ .ret false := by
  cases b with
  | result a c sp =>
    cases a <;> cases c <;> try simp [storeReply]
    cases sp with
    | none => simp
    | some p => obtain ⟨i, n⟩ := p; cases i <;> cases n <;> simp
  | _ => simp [storeReply]

theorem truthy_iff (x : Option String) : truthy x = true ↔ ∃ s, x = some s ∧ s ≠ "" := by
  cases x <;> simp [truthy]

/-- What `authenticate` and `refresh` do with the reply: `_raise_from_response(res)`,
`json_resp = res.json()`, the assignments.  `t0` is the token as it is when the request is made, `t1`
what the assignments start from. -/
def finishStore (t0 t1 : Token) (r : Reply) : Token × Outcome :=
  match raiseFromResponse r with
  | some e => (t0, e)
  | none => if !r.body.parses then (t0, .valueError) else storeReply t1 r.body

theorem authenticate_fst_snd (fresh : String) (t : Token) (user pass : String) (inv : Bool) (r : Reply) :
    (authenticate fresh t user pass inv r).1 = (finishStore t { t with username := some user } r).1 ∧
    (authenticate fresh t user pass inv r).2.1 =
      (finishStore t { t with username := some user } r).2 := by
  cases h1 : raiseFromResponse r <;> cases h2 : r.body.parses <;>
    simp [authenticate, finishStore, h1, h2]

theorem refresh_fst_snd (t : Token) (r : Reply) (ha : t.accessToken ≠ none)
    (hc : t.clientToken ≠ none) :
    (refresh t r).1 = (finishStore t t r).1 ∧ (refresh t r).2.1 = (finishStore t t r).2 := by
  cases ha' : t.accessToken with
  | none => exact absurd ha' ha
  | some a =>
    cases hc' : t.clientToken with
    | none => exact absurd hc' hc
    | some c =>
      cases h1 : raiseFromResponse r <;> cases h2 : r.body.parses <;>
        simp [refresh, finishStore, ha', hc', h1, h2]

theorem finishStore_raise (t0 t1 : Token) (r : Reply) (e : Outcome)
    (h : raiseFromResponse r = some e) : finishStore t0 t1 r = (t0, e) := by
  simp only [finishStore, h]

theorem finishStore_200 (t0 t1 : Token) (b : Body) :
    finishStore t0 t1 ⟨200, b⟩ = if b.parses = true then storeReply t1 b else (t0, .valueError) := by
  rw [finishStore, raise_200]; cases b.parses <;> rfl

/-- The assignments made before the first missing member persist. -/
theorem storeReply_partial (t : Token) (a c : Option String) (sp : Option ProfileObj)
    (hinc : ¬ ∃ a' c' i n, a = some a' ∧ c = some c' ∧ sp = some ⟨some i, some n⟩) :
    (storeReply t (.result a c sp)).2 = .keyError ∧
    (storeReply t (.result a c sp)).1.username = t.username ∧
    (storeReply t (.result a c sp)).1.accessToken = (if a.isSome then a else t.accessToken) ∧
    (storeReply t (.result a c sp)).1.clientToken =
      (if a.isSome ∧ c.isSome then c else t.clientToken) ∧
    (storeReply t (.result a c sp)).1.profileId =
      (if a.isSome ∧ c.isSome ∧ (sp.bind (·.id)).isSome then sp.bind (·.id) else t.profileId) ∧
    (storeReply t (.result a c sp)).1.profileName = t.profileName := by
  cases a <;> cases c <;> try simp [storeReply]
  cases sp with
  | none => simp
  | some p =>
    obtain ⟨i, n⟩ := p
    cases i <;> cases n <;> simp_all

theorem finishStore_ne_false (t0 t1 : Token) (r : Reply) : (finishStore t0 t1 r).2 ≠ .ret false := by
  unfold finishStore
  cases h1 : raiseFromResponse r with
  | some e => exact raise_ne_retFalse r e h1
  | none =>
    cases h2 : r.body.parses with
    | false => simp
    | true => exact storeReply_ne_false t1 r.body

/-- The token changes only on a `200` reply whose body is JSON. -/
theorem finishStore_fst_ne (t0 t1 : Token) (r : Reply) (h : (finishStore t0 t1 r).1 ≠ t0) :
    r.status = 200 ∧ r.body.parses = true := by
  obtain ⟨st, b⟩ := r
  by_cases hst : st = 200
  · subst hst
    rw [finishStore_200] at h
    cases hp : b.parses with
    | true => exact ⟨rfl, rfl⟩
    | false => rw [hp] at h; exact absurd rfl h
  · rw [finishStore_raise t0 t1 _ _ (raise_ne_200 st b hst)] at h; exact absurd rfl h

theorem refresh_missing (t : Token) (r : Reply) (h : t.accessToken = none ∨ t.clientToken = none) :
    refresh t r = (t, .valueError, none) := by
  cases ha : t.accessToken with
  | none => simp [refresh, ha]
  | some a =>
    cases hc : t.clientToken with
    | none => simp [refresh, ha, hc]
    | some c => simp [ha, hc] at h

/-- `authenticate` / `refresh` reach `return True` exactly on a `200` reply with all four keys. -/
theorem finishStore_true_iff (t0 t1 : Token) (r : Reply) :
    (finishStore t0 t1 r).2 = .ret true ↔
      r.status = 200 ∧ ∃ a c i n, r.body = .result (some a) (some c) (some ⟨some i, some n⟩) := by
  obtain ⟨st, b⟩ := r
  by_cases hst : st = 200
  · subst hst
    rw [finishStore_200]
    cases hp : b.parses with
    | true => simp [storeReply_true_iff]
    | false => cases b <;> simp [Body.parses] at hp ⊢
  · rw [finishStore_raise t0 t1 _ _ (raise_ne_200 st b hst)]
    cases b <;> simp [hst]

end PyCraft.Auth
