import PyCraft.Lemmas.LifecycleBase
import PyCraft.Lemmas.Sched
/-!
The lifecycle invariant `LInv` of `Model/Lifecycle.lean`, its preservation by every step
(`step_inv`), what every step does to the lock, the `Connection` object and the threads
(`Step.lock`, `Step.effect` with `Effect` and `Agrees`, `Step.threads`, `Step.frame`,
`Effect.slots`) — the facts the later files live on —, induction along runs (`run_induct`,
`run_induct_inv`), and the first consequence `io_unique`.

`step_inv` follows the kinds of action of `Step`: an API body maps states satisfying the invariant
to such states (`Effect.inv`); a thread's own action keeps its role with respect to the two slots
(`SameRole`) and obeys the lock discipline (`LockOp`), which preserves the invariant
(`LInv.netMove`, `LInv.usrMove`); the take-over and the epilogue are the two actions that change a
thread's role (`LInv.take`, `LInv.epi`).
-/
namespace PyCraft.Life

/-- The lifecycle invariant. -/
structure LInv (s : Sys) : Prop where
  /-- exactly the lock owner is at the end of a `with lock:` block -/
  own_iff : ∀ t, atRel s t = true ↔ s.owner = some t
  /-- acquisitions are never nested across actions -/
  depth_ok : s.depth = if s.owner = none then 0 else 1
  /-- thread objects `0 … nthreads-1` exist -/
  born : ∀ i, (s.net i).pc = .unborn ↔ s.nthreads ≤ i
  /-- `networking_thread` is the thread between take-over/creation and its epilogue -/
  nt_iff : ∀ i, s.nt = some i ↔ (s.net i).pc.holds = true
  /-- `new_networking_thread` is the successor that has not taken over yet -/
  new_iff : ∀ i, s.newNt = some i ↔ (s.net i).pc.waiting = true
  /-- a waiting successor has a predecessor, which is interrupted, and is the slot holder unless
  the slot is already empty -/
  prev_ok : ∀ i, (s.net i).pc.waiting = true → ∃ p, (s.net i).prev = some p ∧
    (s.net p).intr = true ∧ p ≠ i ∧ (s.net p).pc ≠ .unborn ∧ (s.nt = some p ∨ s.nt = none)
  /-- the take-over happens only after the predecessor has died -/
  tk_dead : ∀ i p, (s.net i).pc = .takeOver → (s.net i).prev = some p → (s.net p).pc = .dead
  /-- the epilogue has emptied the slot -/
  ep_nt : ∀ i, (s.net i).pc = .epRel → s.nt = none
  /-- an uninterrupted slot holder or successor owns an open socket and its stream -/
  live_open : ∀ i, ((s.net i).pc.holds = true ∨ (s.net i).pc.waiting = true) →
    (s.net i).intr = false → linked s.socket s.file = true

/-! ### The API bodies -/

/-- The connection has ended: every thread occupying a slot is interrupted. -/
def _root_.PyCraft.Ends.Ended (s : Sys) : Prop :=
  ∀ j, (s.nt = some j ∨ s.newNt = some j) → (s.net j).intr = true

/-- `_check_connection` passes iff the connection has ended and no successor waits. -/
theorem not_busy (s : Sys) : busy s = false ↔ Ends.Ended s ∧ s.newNt = none := by
  unfold busy Ends.Ended
  cases s.nt <;> cases s.newNt <;> simp

/-- In an ended connection no uninterrupted thread occupies a slot. -/
theorem LInv.idle {s : Sys} (h : LInv s) (he : Ends.Ended s) (i : Nat)
    (hi : (s.net i).pc.holds = true ∨ (s.net i).pc.waiting = true) : (s.net i).intr = true :=
  he i (hi.imp (h.nt_iff i).mpr (h.new_iff i).mpr)

/-- A thread occupying a slot exists. -/
theorem LInv.slot_born {s : Sys} (h : LInv s) {j : Nat} (hj : s.nt = some j ∨ s.newNt = some j) :
    (s.net j).pc ≠ .unborn := by
  intro hc
  rcases hj with hj | hj
  · have := (h.nt_iff j).mp hj; rw [hc] at this; cases this
  · have := (h.new_iff j).mp hj; rw [hc] at this; cases this

theorem LInv.refused {s : Sys} (h : LInv s) (hb : busy s = false) : LInv (refusedSt s) :=
  { h with live_open := fun i hi hn =>
      nomatch (h.idle ((not_busy s).mp hb).1 i hi).symm.trans hn }

/-- With the lock free no thread is at the end of a locked block. -/
theorem LInv.free {s : Sys} (h : LInv s) (ho : s.owner = none) (t : Tid) : atRel s t = false := by
  cases hr : atRel s t with
  | false => rfl
  | true => rw [(h.own_iff t).mp hr] at ho; cases ho

theorem LInv.direct {s : Sys} (h : LInv s) (ho : s.owner = none) (hb : busy s = false)
    (hn : s.nt = none) : LInv (directSt s) := by
  have hnew := ((not_busy s).mp hb).2
  have hu := (h.born s.nthreads).mpr (Nat.le_refl _)
  constructor
  all_goals simp only [directSt]
  case own_iff =>
    intro t
    have := h.own_iff t
    rcases t with u | j
    · exact this
    · grind [atRel, updN, NPc.isRel]
  case depth_ok => exact h.depth_ok
  case born =>
    intro i
    have := h.born i
    grind [updN]
  case nt_iff =>
    intro i
    have := h.nt_iff i
    grind [updN, NPc.holds]
  case new_iff | prev_ok | tk_dead =>
    intro i
    have := h.new_iff i
    grind [updN, NPc.waiting]
  case ep_nt =>
    intro i
    have := h.free ho (.net i)
    grind [updN, atRel, NPc.isRel]
  case live_open => grind [linked]

theorem LInv.succ {s : Sys} (h : LInv s) (ho : s.owner = none) (hb : busy s = false) (p : Nat)
    (hn : s.nt = some p) : LInv (succSt s p) := by
  have hnew := ((not_busy s).mp hb).2
  have hp := ((not_busy s).mp hb).1 p (.inl hn)
  have hu := (h.born s.nthreads).mpr (Nat.le_refl _)
  have hpb := (h.nt_iff p).mp hn
  constructor
  all_goals simp only [succSt]
  case own_iff =>
    intro t
    have := h.own_iff t
    rcases t with u | j
    · exact this
    · grind [atRel, updN, NPc.isRel]
  case depth_ok => exact h.depth_ok
  case born =>
    intro i
    have := h.born i
    grind [updN]
  case nt_iff =>
    intro i
    have := h.nt_iff i
    grind [updN, NPc.holds]
  case new_iff | prev_ok | tk_dead =>
    intro i
    have := h.new_iff i
    grind [updN, NPc.waiting, NPc.holds]
  case ep_nt =>
    intro i
    have := h.ep_nt i
    grind [updN]
  case live_open => grind [linked]

@[simp] theorem dnet_pc (s : Sys) (k : Nat) : (dnet s k).pc = (s.net k).pc := by
  unfold dnet; split <;> rfl

@[simp] theorem dnet_prev (s : Sys) (k : Nat) : (dnet s k).prev = (s.net k).prev := by
  unfold dnet; split <;> rfl

theorem dnet_intr (s : Sys) (k : Nat) :
    (dnet s k).intr = true ↔ (s.net k).intr = true ∨ target s = some k := by
  unfold dnet; split <;> simp [*]

/-- `disconnect()` interrupts every thread that occupies a slot: the one it selects, and if that
is the waiting successor, the slot holder is its predecessor and interrupted already. -/
theorem LInv.disc_intr {s : Sys} (h : LInv s) (i : Nat)
    (hi : (s.net i).pc.holds = true ∨ (s.net i).pc.waiting = true) : (dnet s i).intr = true := by
  rw [dnet_intr]
  rcases hi with hi | hi
  · have hnt := (h.nt_iff i).mpr hi
    cases hnew : s.newNt with
    | none => exact .inr (by simp [target, hnew, hnt])
    | some j =>
      obtain ⟨p, -, hp, -, -, hp'⟩ := h.prev_ok j ((h.new_iff j).mp hnew)
      rw [hnt] at hp'
      rcases hp' with hp' | hp'
      · cases hp'; exact .inl hp
      · cases hp'
  · exact .inr (by simp [target, (h.new_iff i).mpr hi])

theorem LInv.disc {s : Sys} (h : LInv s) : LInv (discSt s) := by
  have hr : ∀ t, atRel (discSt s) t = atRel s t := fun t => by cases t <;> simp [atRel, discSt]
  constructor
  case own_iff =>
    intro t
    rw [hr]
    exact h.own_iff t
  all_goals simp only [discSt, dnet_pc, dnet_prev]
  · exact h.depth_ok
  · exact h.born
  · exact h.nt_iff
  · exact h.new_iff
  · intro i hi
    obtain ⟨p, h1, h2, h3⟩ := h.prev_ok i hi
    exact ⟨p, h1, (dnet_intr s p).mpr (.inl h2), h3⟩
  · exact h.tk_dead
  · exact h.ep_nt
  · intro i hi hn
    rw [h.disc_intr i hi] at hn; cases hn

/-- What one step can make of the attributes of the `Connection` object and of the thread
objects, the acting thread's own program counter aside: nothing, one of the results of an API
body, the take-over, or the epilogue. -/
inductive Effect (env : List Beh) (s : Sys) (t : Tid) : Sys → Prop
  | same : Effect env s t s
  | refused (hb : busy s = false) (he : env.getD s.conns .accept = .refuse) :
      Effect env s t (refusedSt s)
  | direct (hb : busy s = false) (hn : s.nt = none) : Effect env s t (directSt s)
  | succ (p : Nat) (hb : busy s = false) (hn : s.nt = some p) : Effect env s t (succSt s p)
  | disc : Effect env s t (discSt s)
  | take (i : Nat) (ht : t = .net i) (hpc : (s.net i).pc = .takeOver) :
      Effect env s t { s with nt := some i, newNt := none }
  | epi (i : Nat) (ht : t = .net i) (hpc : (s.net i).pc = .epilogue) :
      Effect env s t { s with nt := none }

theorem body_effect {env : List Beh} {s c : Sys} {op : Op} {out : Outcome} (t : Tid)
    (hb : body env s op = (c, out)) : Effect env s t c := by
  rcases body_cases env s op c out hb with ⟨-, -, rfl, -⟩ | ⟨-, hf, he, rfl, -⟩ |
    ⟨-, hf, -, hn, rfl, -⟩ | ⟨p, -, hf, -, hn, rfl, -⟩ | ⟨-, rfl, -⟩
  · exact .same
  · exact .refused hf he
  · exact .direct hf hn
  · exact .succ p hf hn
  · exact .disc

/-- With the lock free, every effect other than the take-over and the epilogue leads to a state
satisfying the invariant again. -/
theorem Effect.inv {env : List Beh} {s c : Sys} {t : Tid} (he : Effect env s t c) (h : LInv s)
    (ho : s.owner = none)
    (hpc : ∀ i, t = .net i → (s.net i).pc ≠ .takeOver ∧ (s.net i).pc ≠ .epilogue) : LInv c := by
  cases he
  case same => exact h
  case refused hb _ => exact h.refused hb
  case direct hb hn => exact h.direct ho hb hn
  case succ p hb hn => exact h.succ ho hb p hn
  case disc => exact h.disc
  case take i ht hi => exact absurd hi (hpc i ht).1
  case epi i ht hi => exact absurd hi (hpc i ht).2

/-- None of these touches the lock, the user threads, the reconnect budgets or the log. -/
theorem Effect.frame {env : List Beh} {s c : Sys} {t : Tid} (he : Effect env s t c) :
    c.owner = s.owner ∧ c.depth = s.depth ∧ c.usr = s.usr ∧ c.rl = s.rl ∧ c.rh = s.rh ∧
    c.log = s.log := by
  cases he <;> exact ⟨rfl, rfl, rfl, rfl, rfl, rfl⟩

/-- Every thread object stays where it is, unless it is the one a `connect()` creates (as slot
holder or as successor); an existing thread keeps its predecessor and a set flag. -/
theorem Effect.threads {env : List Beh} {s c : Sys} {t : Tid} (he : Effect env s t c)
    (h : LInv s) (j : Nat) :
    ((c.net j).pc = (s.net j).pc ∨
      ((s.net j).pc = .unborn ∧ ((c.net j).pc = .loopChk ∨ (c.net j).pc = .waitPrev))) ∧
    ((s.net j).pc ≠ .unborn → (c.net j).prev = (s.net j).prev ∧
      ((s.net j).intr = true → (c.net j).intr = true)) := by
  have hu := (h.born s.nthreads).mpr (Nat.le_refl _)
  cases he
  case direct =>
    by_cases hj : j = s.nthreads
    · subst hj; exact ⟨.inr ⟨hu, .inl (by simp [directSt, updN])⟩, fun hne => absurd hu hne⟩
    · simp [directSt, updN, hj]
  case succ =>
    by_cases hj : j = s.nthreads
    · subst hj; exact ⟨.inr ⟨hu, .inr (by simp [succSt, updN])⟩, fun hne => absurd hu hne⟩
    · simp [succSt, updN, hj]
  case disc =>
    exact ⟨.inl (dnet_pc s j), fun _ => ⟨dnet_prev s j, fun hi => (dnet_intr s j).mpr (.inl hi)⟩⟩
  all_goals exact ⟨.inl rfl, fun _ => ⟨rfl, id⟩⟩

/-! ### The lock discipline -/

/-- What an action does with the lock: whether the thread is at the end of a locked block before
and after, the new owner and depth. -/
inductive LockOp (c : Sys) (t : Tid) : Bool → Bool → Option Tid → Nat → Prop
  | skip : LockOp c t false false c.owner c.depth
  | acquire (hl : canAcq c t = true) : LockOp c t false true (some t) (c.depth + 1)
  | release : LockOp c t true false (ownerAfterRel c) (c.depth - 1)

/-- A thread that can enter a locked block of its own finds the lock free. -/
theorem LInv.canAcq_free {s : Sys} (h : LInv s) {t : Tid} (hl : canAcq s t = true)
    (hr : atRel s t = false) : s.owner = none := by
  cases ho : s.owner with
  | none => rfl
  | some v =>
    have hv : v = t := by simpa [canAcq, ho] using hl
    rw [(h.own_iff t).mpr (by rw [ho, hv])] at hr; cases hr

theorem LInv.lock {c : Sys} (h : LInv c) {t : Tid} {b b' : Bool} {o' : Option Tid} {d' : Nat}
    (hb : atRel c t = b) (hk : LockOp c t b b' o' d') :
    (∀ u, (if u = t then b' else atRel c u) = true ↔ o' = some u) ∧
    d' = if o' = none then 0 else 1 := by
  have hd := h.depth_ok
  cases hk with
  | skip =>
    refine ⟨fun u => ?_, hd⟩
    by_cases hu : u = t
    · rw [if_pos hu, ← hb, hu]; exact h.own_iff t
    · rw [if_neg hu]; exact h.own_iff u
  | acquire hl =>
    have ho := h.canAcq_free hl hb
    refine ⟨fun u => ?_, by simp [hd, ho]⟩
    by_cases hu : u = t
    · simp [hu]
    · simp [hu, h.free ho u, Ne.symm hu]
  | release =>
    have ho := (h.own_iff t).mp hb
    have hd1 : c.depth = 1 := by simpa [ho] using hd
    have ho' : ownerAfterRel c = none := by simp [ownerAfterRel, hd1]
    refine ⟨fun u => ?_, by simp [ho', hd1]⟩
    by_cases hu : u = t
    · simp [hu, ho']
    · have : atRel c u = false := by
        cases hr : atRel c u with
        | false => rfl
        | true => rw [(h.own_iff u).mp hr] at ho; cases ho; exact absurd rfl hu
      simp [hu, this, ho']

/-! ### A thread's own action -/

/-- Thread record `x'` continues `x` in the same role: same predecessor, flag not cleared, same
relation to the two slots, alive before, born and past `waitPrev` after, not at the end of the
epilogue, and at the take-over only with its predecessor dead. -/
structure SameRole (c : Sys) (x x' : NetThr) : Prop where
  prev : x'.prev = x.prev
  intr : x.intr = true → x'.intr = true
  holds : x'.pc.holds = x.pc.holds
  waiting : x'.pc.waiting = x.pc.waiting
  alive : x.pc ≠ .unborn ∧ x.pc ≠ .dead
  born : x'.pc ≠ .unborn ∧ x'.pc ≠ .waitPrev
  noEp : x'.pc ≠ .epRel
  tk : x'.pc = .takeOver → ∀ p, x.prev = some p → (c.net p).pc = .dead

theorem LInv.netMove {c : Sys} (h : LInv c) (i : Nat) (x' : NetThr) (o' : Option Tid)
    (d' rl' rh' : Nat) (l' : List (Tid × Ev)) (hr : SameRole c (c.net i) x')
    (hk : LockOp c (.net i) (c.net i).pc.isRel x'.pc.isRel o' d') :
    LInv { c with owner := o', depth := d', rl := rl', rh := rh', net := updN c i x', log := l' } := by
  obtain ⟨r1, r2, r3, r4, ⟨r5, r6⟩, ⟨r7, -⟩, r8, r9⟩ := hr
  obtain ⟨k1, k2⟩ := h.lock rfl hk
  constructor
  all_goals dsimp only
  case own_iff =>
    intro u
    rw [← k1 u]
    rcases u with v | j
    · simp [atRel]
    · by_cases hj : j = i <;> simp [atRel, updN, hj]
  case depth_ok => exact k2
  case born =>
    intro j
    have := h.born j
    have := h.born i
    grind [updN]
  case nt_iff =>
    intro j
    have := h.nt_iff j
    have := h.nt_iff i
    grind [updN]
  case new_iff =>
    intro j
    have := h.new_iff j
    have := h.new_iff i
    grind [updN]
  case prev_ok =>
    intro j
    have := h.prev_ok j
    have := h.prev_ok i
    grind [updN]
  case tk_dead =>
    intro j p
    have := h.tk_dead j p
    have := h.tk_dead j i
    grind [updN]
  case ep_nt =>
    intro j
    have := h.ep_nt j
    grind [updN]
  case live_open =>
    intro j
    have := h.live_open j
    have := h.live_open i
    grind [updN]

theorem LInv.usrMove {c : Sys} (h : LInv c) (u : Nat) (y' : UsrThr) (o' : Option Tid) (d' : Nat)
    (l' : List (Tid × Ev)) (hk : LockOp c (.user u) (c.usr u).pc.isRel y'.pc.isRel o' d') :
    LInv { c with owner := o', depth := d', usr := updU c u y', log := l' } := by
  obtain ⟨k1, k2⟩ := h.lock rfl hk
  refine { h with own_iff := fun t => ?_, depth_ok := k2 }
  rw [← k1 t]
  rcases t with v | j
  · by_cases hv : v = u <;> simp [atRel, updU, hv]
  · simp [atRel]

theorem Quiet.sameRole {env : List Beh} {s : Sys} {x x' : NetThr} {rh' : Nat} {e : Ev}
    (hq : Quiet env s x x' rh' e) :
    SameRole s x x' ∧ x.pc.isRel = false ∧ x'.pc.isRel = false := by
  obtain ⟨b, pv, pc⟩ := x
  cases hq
  case joined h hp =>
    cases h
    exact ⟨⟨rfl, id, rfl, rfl, ⟨nofun, nofun⟩, ⟨nofun, nofun⟩, nofun, fun _ => hp⟩, rfl, rfl⟩
  all_goals
    cases ‹NetThr.pc _ = _›
    cases b
    all_goals exact ⟨⟨rfl, fun hb => by first | exact hb | rfl, rfl, rfl, ⟨nofun, nofun⟩,
      ⟨nofun, nofun⟩, nofun, nofun⟩, rfl, rfl⟩

theorem Release.sameRole {s : Sys} {pc pc' : NPc} {rl' : Nat} {e : Ev} (hr : Release s pc pc' rl' e)
    (b : Bool) (pv : Option Nat) :
    SameRole s ⟨b, pv, pc⟩ ⟨b, pv, pc'⟩ ∧ pc.isRel = true ∧ pc'.isRel = false := by
  cases hr
  case callRel site out =>
    exact ⟨⟨rfl, id, afterCall_holds s site out, afterCall_waiting s site out, ⟨nofun, nofun⟩,
      ⟨afterCall_ne_unborn s site out, afterCall_forall (· ≠ .waitPrev) nofun nofun nofun nofun s site out⟩,
      afterCall_ne_epRel s site out,
      fun h => absurd h (afterCall_ne_takeOver s site out)⟩, rfl, afterCall_isRel s site out⟩
  all_goals exact ⟨⟨rfl, id, rfl, rfl, ⟨nofun, nofun⟩, ⟨nofun, nofun⟩, nofun, nofun⟩, rfl, rfl⟩

theorem Locked.sameRole {env : List Beh} {s c : Sys} {i : Nat} {pc' : NPc} {e : Ev}
    (hl : Locked env s i c pc' e) (b : Bool) (pv : Option Nat) :
    SameRole c ⟨b, pv, (s.net i).pc⟩ ⟨b, pv, pc'⟩ ∧ (s.net i).pc.isRel = false ∧
    pc'.isRel = true := by
  cases hl
  all_goals
    rw [‹(s.net i).pc = _›]
    exact ⟨⟨rfl, id, rfl, rfl, ⟨nofun, nofun⟩, ⟨nofun, nofun⟩, nofun, nofun⟩, rfl, rfl⟩

theorem updU_congr {c s : Sys} (h : c.usr = s.usr) (u : Nat) (y : UsrThr) :
    updU c u y = updU s u y := by
  unfold updU; rw [h]

theorem Locked.effect {env : List Beh} {s c : Sys} {i : Nat} {pc' : NPc} {e : Ev}
    (hk : Locked env s i c pc' e) :
    Effect env s (.net i) c ∧ (s.net i).pc ≠ .takeOver ∧ (s.net i).pc ≠ .epilogue := by
  cases hk
  case call site out hpc hb => exact ⟨body_effect _ hb, by rw [hpc]; exact ⟨nofun, nofun⟩⟩
  case cleanup j hpc _ _ => exact ⟨.disc, by rw [hpc]; exact ⟨nofun, nofun⟩⟩
  all_goals exact ⟨.same, by rw [‹(s.net i).pc = _›]; exact ⟨nofun, nofun⟩⟩

/-- What a locked block (other than take-over and epilogue) makes of the `Connection` object
satisfies the invariant again, with the lock and the acting thread where they were. -/
theorem Locked.conn {env : List Beh} {s c : Sys} {i : Nat} {pc' : NPc} {e : Ev}
    (hk : Locked env s i c pc' e) (h : LInv s) (ho : s.owner = none) :
    LInv c ∧ c.owner = s.owner ∧ c.depth = s.depth ∧ (c.net i).pc = (s.net i).pc := by
  obtain ⟨he, hpc⟩ := hk.effect
  have hb : (s.net i).pc ≠ .unborn := (hk.sameRole false none).1.alive.1
  exact ⟨he.inv h ho (fun j hj => by cases hj; exact hpc), he.frame.1, he.frame.2.1,
    ((he.threads h i).1).resolve_right fun hc => hb hc.1⟩

/-- The take-over: the predecessor is dead, so the slot is empty; the successor moves from
`new_networking_thread` into it. -/
theorem LInv.take {s : Sys} (h : LInv s) (i : Nat) (hpc : (s.net i).pc = .takeOver)
    (hl : canAcq s (.net i) = true) (l' : List (Tid × Ev)) :
    LInv { s with owner := some (.net i), depth := s.depth + 1, nt := some i, newNt := none,
                  net := updN s i { s.net i with pc := .tkRel }, log := l' } := by
  obtain ⟨k1, k2⟩ := h.lock (b' := true) (by simp [atRel, hpc, NPc.isRel]) (.acquire hl)
  have hnew := (h.new_iff i).mpr (by rw [hpc]; rfl)
  obtain ⟨p, hp, -, -, -, hnt⟩ := h.prev_ok i (by rw [hpc]; rfl)
  have hnt : s.nt = none := by
    rcases hnt with hnt | hnt
    · have := (h.nt_iff p).mp hnt; rw [h.tk_dead i p hpc hp] at this; cases this
    · exact hnt
  constructor
  all_goals dsimp only
  case own_iff =>
    intro u
    rw [← k1 u]
    rcases u with v | j
    · simp [atRel]
    · by_cases hj : j = i <;> simp [atRel, updN, hj, NPc.isRel]
  case depth_ok => exact k2
  case born =>
    intro j
    have := h.born j
    grind [updN]
  case nt_iff =>
    intro j
    have := h.nt_iff j
    grind [updN, NPc.holds]
  case new_iff | prev_ok | tk_dead =>
    intro j
    have := h.new_iff j
    grind [updN, NPc.waiting]
  case ep_nt =>
    intro j
    have := h.free (h.canAcq_free hl (by simp [atRel, hpc, NPc.isRel])) (.net j)
    grind [updN, atRel, NPc.isRel]
  case live_open =>
    intro j
    have := h.live_open j
    grind [updN, NPc.holds, NPc.waiting]

/-- The epilogue empties the slot. -/
theorem LInv.epi {s : Sys} (h : LInv s) (i : Nat) (hpc : (s.net i).pc = .epilogue)
    (hl : canAcq s (.net i) = true) (l' : List (Tid × Ev)) :
    LInv { s with owner := some (.net i), depth := s.depth + 1, nt := none,
                  net := updN s i { s.net i with pc := .epRel }, log := l' } := by
  obtain ⟨k1, k2⟩ := h.lock (b' := true) (by simp [atRel, hpc, NPc.isRel]) (.acquire hl)
  have hnt := (h.nt_iff i).mpr (by rw [hpc]; rfl)
  constructor
  all_goals dsimp only
  case own_iff =>
    intro u
    rw [← k1 u]
    rcases u with v | j
    · simp [atRel]
    · by_cases hj : j = i <;> simp [atRel, updN, hj, NPc.isRel]
  case depth_ok => exact k2
  case born =>
    intro j
    have := h.born j
    grind [updN]
  case nt_iff =>
    intro j
    have := h.nt_iff j
    grind [updN, NPc.holds]
  case new_iff =>
    intro j
    have := h.new_iff j
    grind [updN, NPc.waiting]
  case prev_ok =>
    intro j
    have := h.prev_ok j
    grind [updN, NPc.waiting]
  case tk_dead =>
    intro j q
    have := h.tk_dead j q
    grind [updN]
  case ep_nt =>
    intro _ _
    rfl
  case live_open =>
    intro j
    have := h.live_open j
    have := h.nt_iff j
    grind [updN, NPc.holds, NPc.waiting]

theorem step_inv (env : List Beh) (s s' : Sys) (t : Tid) (h : LInv s)
    (hs : step env s t = some s') : LInv s' := by
  cases step_Step env s s' t hs with
  | ucall u op rest c out hpc htd hl hb =>
    have ho := h.canAcq_free hl (by simp [atRel, hpc, UPc.isRel])
    obtain ⟨f1, f2, f3, -⟩ := (body_effect (.user u) hb).frame
    rw [← f2, ← updU_congr f3]
    refine ((body_effect (.user u) hb).inv h ho nofun).usrMove u _ _ _ _ ?_
    rw [f3, hpc]
    exact .acquire (by rw [canAcq, f1]; exact hl)
  | urel u out hpc =>
    refine h.usrMove u _ _ _ _ ?_
    rw [hpc]; exact .release
  | quiet i x' rh' e hq =>
    obtain ⟨r, k1, k2⟩ := hq.sameRole
    refine h.netMove i x' _ _ _ _ _ r ?_
    rw [k1, k2]; exact .skip
  | take i hpc hl => exact h.take i hpc hl _
  | epi i hpc hl => exact h.epi i hpc hl _
  | locked i c pc' e hl hk =>
    obtain ⟨r, k1, k2⟩ := hk.sameRole (c.net i).intr (c.net i).prev
    have ho := h.canAcq_free hl (by simp [atRel, k1])
    obtain ⟨hc, f1, f2, f3⟩ := hk.conn h ho
    rw [← f2]
    rw [← f3] at r
    refine hc.netMove i _ _ _ _ _ _ r ?_
    rw [f3, k1, k2]; exact .acquire (by rw [canAcq, f1]; exact hl)
  | release i pc' rl' e hr =>
    obtain ⟨r, k1, k2⟩ := hr.sameRole (s.net i).intr (s.net i).prev
    refine h.netMove i _ _ _ _ _ _ r ?_
    rw [k1, k2]; exact .release

/-! ### What a step does to the lock, to the `Connection` object and to the threads -/

/-- No action of a thread leads it (back) to `unborn` or `waitPrev`. -/
theorem Step.own_pc {env : List Beh} {s s' : Sys} {i : Nat} (hs : Step env s (.net i) s') :
    (s'.net i).pc ≠ .unborn ∧ (s'.net i).pc ≠ .waitPrev := by
  cases hs with
  | quiet i x' rh' e hq => simpa [updN] using hq.sameRole.1.born
  | take i hpc hl => simp [updN]
  | epi i hpc hl => simp [updN]
  | locked i c pc' e hl hk => simpa [updN] using (hk.sameRole false none).1.born
  | release i pc' rl' e hr => simpa [updN] using (hr.sameRole false none).1.born

/-- What a step does with the lock: nothing; or the thread, not inside a locked block, acquires
it; or the thread, at the end of its locked block, releases it. -/
theorem Step.lock {env : List Beh} {s s' : Sys} {t : Tid} (hs : Step env s t s') :
    (atRel s t = false ∧ s'.owner = s.owner ∧ s'.depth = s.depth) ∨
    (atRel s t = false ∧ canAcq s t = true ∧ s'.owner = some t ∧ s'.depth = s.depth + 1) ∨
    (atRel s t = true ∧ s'.owner = ownerAfterRel s ∧ s'.depth = s.depth - 1) := by
  cases hs with
  | ucall u op rest c out hpc htd hl hb =>
    exact .inr (.inl ⟨by simp [atRel, hpc, UPc.isRel], hl, rfl, rfl⟩)
  | urel u out hpc => exact .inr (.inr ⟨by simp [atRel, hpc, UPc.isRel], rfl, rfl⟩)
  | quiet i x' rh' e hq => exact .inl ⟨hq.sameRole.2.1, rfl, rfl⟩
  | take i hpc hl => exact .inr (.inl ⟨by simp [atRel, hpc, NPc.isRel], hl, rfl, rfl⟩)
  | epi i hpc hl => exact .inr (.inl ⟨by simp [atRel, hpc, NPc.isRel], hl, rfl, rfl⟩)
  | locked i c pc' e hl hk => exact .inr (.inl ⟨(hk.sameRole false none).2.1, hl, rfl, rfl⟩)
  | release i pc' rl' e hr =>
    exact .inr (.inr ⟨(hr.sameRole (s.net i).intr (s.net i).prev).2.1, rfl, rfl⟩)

/-- `s'` has the `Connection` attributes of `c` and its thread objects, with the flags that are
set (the `except` clause sets the acting thread's own), except that thread `t` has moved. -/
structure Agrees (c s' : Sys) (t : Tid) : Prop where
  nt : s'.nt = c.nt
  newNt : s'.newNt = c.newNt
  socket : s'.socket = c.socket
  file : s'.file = c.file
  connected : s'.connected = c.connected
  conns : s'.conns = c.conns
  nthreads : s'.nthreads = c.nthreads
  intr : ∀ j, (c.net j).intr = true → (s'.net j).intr = true
  prev : ∀ j, (s'.net j).prev = (c.net j).prev
  pc : ∀ j, t ≠ .net j → (s'.net j).pc = (c.net j).pc

/-- Thread `i` moves on, keeping a set flag and its predecessor, and something is done to the
lock, the budgets and the log. -/
theorem Agrees.move (c : Sys) (i : Nat) (x' : NetThr) (o' : Option Tid) (d' rl' rh' : Nat)
    (l' : List (Tid × Ev)) (h1 : (c.net i).intr = true → x'.intr = true)
    (h2 : x'.prev = (c.net i).prev) :
    Agrees c { c with owner := o', depth := d', rl := rl', rh := rh', net := updN c i x',
                      log := l' } (.net i) := by
  refine ⟨rfl, rfl, rfl, rfl, rfl, rfl, rfl, fun j hi => ?_, fun j => ?_, fun j hj => ?_⟩
  · show (updN c i x' j).intr = _; unfold updN; split
    · next hji => exact h1 (hji ▸ hi)
    · exact hi
  · show (updN c i x' j).prev = _; unfold updN; split <;> simp [*]
  · show (updN c i x' j).pc = _; unfold updN; rw [if_neg (fun hc : j = i => hj (by rw [hc]))]

theorem Step.effect {env : List Beh} {s s' : Sys} {t : Tid} (hs : Step env s t s') :
    ∃ c, Effect env s t c ∧ Agrees c s' t := by
  cases hs with
  | ucall u op rest c out hpc htd hl hb =>
    exact ⟨c, body_effect _ hb, ⟨rfl, rfl, rfl, rfl, rfl, rfl, rfl, fun _ => id, fun _ => rfl,
      fun _ _ => rfl⟩⟩
  | urel u out hpc =>
    exact ⟨s, .same, ⟨rfl, rfl, rfl, rfl, rfl, rfl, rfl, fun _ => id, fun _ => rfl,
      fun _ _ => rfl⟩⟩
  | quiet i x' rh' e hq =>
    obtain ⟨r, -⟩ := hq.sameRole
    exact ⟨s, .same, .move s i x' _ _ _ _ _ r.intr r.prev⟩
  | take i hpc hl =>
    exact ⟨_, .take i rfl hpc, .move { s with nt := some i, newNt := none } i _ _ _ _ _ _ id rfl⟩
  | epi i hpc hl => exact ⟨_, .epi i rfl hpc, .move { s with nt := none } i _ _ _ _ _ _ id rfl⟩
  | locked i c pc' e hl hk => exact ⟨c, hk.effect.1, .move c i _ _ _ _ _ _ id rfl⟩
  | release i pc' rl' e hr => exact ⟨s, .same, .move s i _ _ _ _ _ _ id rfl⟩

/-- What a step does to the thread objects: a thread other than the acting one stays where it is,
unless it is the object the step creates; an existing thread keeps its predecessor and a set
flag. -/
theorem Step.threads {env : List Beh} {s s' : Sys} {t : Tid} (h : LInv s) (hs : Step env s t s')
    (j : Nat) :
    (t ≠ .net j → (s'.net j).pc = (s.net j).pc ∨
      ((s.net j).pc = .unborn ∧ ((s'.net j).pc = .loopChk ∨ (s'.net j).pc = .waitPrev))) ∧
    ((s.net j).pc ≠ .unborn → (s'.net j).prev = (s.net j).prev ∧
      ((s.net j).intr = true → (s'.net j).intr = true)) := by
  obtain ⟨c, he, ha⟩ := hs.effect
  obtain ⟨e1, e2⟩ := he.threads h j
  exact ⟨fun ht => by rw [ha.pc j ht]; exact e1,
    fun hb => ⟨(ha.prev j).trans (e2 hb).1, fun hi => ha.intr j ((e2 hb).2 hi)⟩⟩

theorem Release.budget {s : Sys} {pc pc' : NPc} {rl' : Nat} {e : Ev}
    (hr : Release s pc pc' rl' e) : rl' ≤ s.rl := by
  cases hr
  case callRel site out => split <;> omega
  all_goals exact Nat.le_refl _

/-- A step uses up reconnect budget at most, leaves the user threads alone unless a user thread
acts, and logs one event. -/
theorem Step.frame {env : List Beh} {s s' : Sys} {t : Tid} (hs : Step env s t s') :
    s'.rl ≤ s.rl ∧ s'.rh ≤ s.rh ∧ (∀ k, t = .net k → s'.usr = s.usr) ∧
    ∃ e, s'.log = s.log ++ [(t, e)] := by
  cases hs with
  | ucall u op rest c out hpc htd hl hb =>
    obtain ⟨-, -, -, f4, f5, -⟩ := (body_effect (.user u) hb).frame
    exact ⟨Nat.le_of_eq f4, Nat.le_of_eq f5, nofun, _, rfl⟩
  | urel u out hpc => exact ⟨Nat.le_refl _, Nat.le_refl _, nofun, _, rfl⟩
  | quiet i x' rh' e hq =>
    refine ⟨Nat.le_refl _, ?_, fun _ _ => rfl, _, rfl⟩
    cases hq
    case reconnects => exact Nat.sub_le _ _
    all_goals exact Nat.le_refl _
  | take i hpc hl => exact ⟨Nat.le_refl _, Nat.le_refl _, fun _ _ => rfl, _, rfl⟩
  | epi i hpc hl => exact ⟨Nat.le_refl _, Nat.le_refl _, fun _ _ => rfl, _, rfl⟩
  | locked i c pc' e hl hk =>
    obtain ⟨-, -, f3, f4, f5, -⟩ := hk.effect.1.frame
    exact ⟨Nat.le_of_eq f4, Nat.le_of_eq f5, fun _ _ => f3, _, rfl⟩
  | release i pc' rl' e hr =>
    exact ⟨hr.budget, Nat.le_refl _, fun _ _ => rfl, _, rfl⟩

/-- Unless it creates a thread object, a step leaves an ended connection ended; the successor
slot keeps its thread or is emptied. -/
theorem Effect.slots {env : List Beh} {s c : Sys} {t : Tid} (he : Effect env s t c) (h : LInv s)
    (hn : c.nthreads = s.nthreads) (hs : Ends.Ended s) :
    Ends.Ended c ∧ (c.newNt = s.newNt ∨ c.newNt = none) := by
  cases he
  case direct | succ => exact absurd hn (Nat.succ_ne_self _)
  case disc => exact ⟨fun j hj => (dnet_intr s j).mpr (.inl (hs j hj)), .inl rfl⟩
  case take k _ hpc =>
    have hk := (h.new_iff k).mpr (by rw [hpc]; rfl)
    exact ⟨fun j hj => hs j (.inr (by simpa [hk] using hj)), .inr rfl⟩
  case epi => exact ⟨fun j hj => hs j (.inr (by simpa using hj)), .inl rfl⟩
  all_goals exact ⟨hs, .inl rfl⟩

theorem init_inv (progs : List (List Op)) (rl rh : Nat) : LInv (init progs rl rh) := by
  refine ⟨?_, rfl, ?_, ?_, ?_, ?_, ?_, ?_, ?_⟩
  · intro t; cases t <;> simp [init, atRel, NPc.isRel, UPc.isRel]
  all_goals simp [init, NPc.holds, NPc.waiting]

/-- `run` is the generic run of `Lemmas/Sched.lean` over `step env`. -/
theorem run_eq (env : List Beh) (sched : List Tid) :
    ∀ s, run env s sched = Sched.run (step env) s sched := by
  induction sched with
  | nil => intro _; rfl
  | cons t ts ih => intro s; cases h : step env s t <;> simp only [run, Sched.run, h, ih]

theorem run_append (env : List Beh) (s : Sys) (a b : List Tid) :
    run env s (a ++ b) = run env (run env s a) b := by
  simp only [run_eq]; exact Sched.run_append _ a b s

/-- What every step preserves holds after every schedule. -/
theorem run_induct (env : List Beh) (P : Sys → Prop)
    (hP : ∀ s s' t, P s → step env s t = some s' → P s') (sched : List Tid) (s : Sys)
    (hp : P s) : P (run env s sched) := by
  rw [run_eq]; exact Sched.run_induct _ P sched (fun s s' t _ => hP s s' t) s hp

theorem run_inv (env : List Beh) (s : Sys) (h : LInv s) (sched : List Tid) :
    LInv (run env s sched) :=
  run_induct env LInv (step_inv env) sched s h

/-- … and so does what every step preserves in states satisfying the invariant. -/
theorem run_induct_inv (env : List Beh) (Q : Sys → Prop)
    (hQ : ∀ s s' t, LInv s → Q s → step env s t = some s' → Q s') (sched : List Tid) (s : Sys)
    (h : LInv s) (hq : Q s) : Q (run env s sched) :=
  (run_induct env (fun s => LInv s ∧ Q s)
    (fun s s' t hp hs => ⟨step_inv env s s' t hp.1 hs, hQ s s' t hp.1 hp.2 hs⟩) sched s ⟨h, hq⟩).2

theorem reach_inv (env : List Beh) (progs : List (List Op)) (rl rh : Nat) (sched : List Tid) :
    LInv (run env (init progs rl rh) sched) :=
  run_inv env _ (init_inv progs rl rh) sched

/-! ### Consequences -/

theorem ioPhase_cases (pc : NPc) (h : pc.ioPhase = true) : pc.holds = true ∨ pc = .epRel := by
  cases pc <;> simp_all [NPc.ioPhase, NPc.phase, NPc.holds]
  all_goals (rename_i site; cases site <;> simp_all [NPc.phase])

/-- At most one networking thread is in an I/O-performing phase. -/
theorem io_unique (s : Sys) (h : LInv s) (i j : Nat)
    (hi : (s.net i).pc.ioPhase = true) (hj : (s.net j).pc.ioPhase = true) : i = j := by
  rcases ioPhase_cases _ hi with hi | hi <;> rcases ioPhase_cases _ hj with hj | hj
  · have := (h.nt_iff i).mpr hi; have := (h.nt_iff j).mpr hj; simp_all
  · have := (h.nt_iff i).mpr hi; have := h.ep_nt j hj; simp_all
  · have := (h.nt_iff j).mpr hj; have := h.ep_nt i hi; simp_all
  · have h1 := (h.own_iff (.net i)).mp (by simp [atRel, hi, NPc.isRel])
    have h2 := (h.own_iff (.net j)).mp (by simp [atRel, hj, NPc.isRel])
    rw [h1] at h2; simpa using h2

end PyCraft.Life
