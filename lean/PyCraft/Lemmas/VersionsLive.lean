import PyCraft.Lemmas.VersionsCheck
import PyCraft.Generated.Versions
/-!
The kernel runs `checkTables` on the shipped version records once; `C08.model_eq_live` and
`C08Live.live_ids_functional` are its two halves.  Facts about `initKnown` carried over to
`liveTables`; the order lemmas of `Tables.Indexed` apply to them through `indexed_live`.
-/
namespace PyCraft

theorem liveTables_checked : checkTables liveRecords liveTables = true := by decide +kernel

theorem initKnown_live : initKnown liveRecords = liveTables :=
  (checkTables_sound _ _ liveTables_checked).1

theorem indexed_live : liveTables.Indexed := initKnown_live ▸ indexed_initKnown liveRecords

theorem live_knownProtocols_nodup : liveTables.knownProtocols.Nodup := indexed_live.nodup

theorem live_supportedProtocols_known {p : Nat} (hp : p ∈ liveTables.supportedProtocols) :
    p ∈ liveTables.knownProtocols := by
  have := supportedProtocols_known liveRecords p
  rw [initKnown_live] at this
  exact this hp

theorem live_releaseProtocols_supported {p : Nat} (hp : p ∈ liveTables.releaseProtocols) :
    p ∈ liveTables.supportedProtocols := by
  have := releaseProtocols_supported liveRecords p
  rw [initKnown_live] at this
  exact this hp

/-- The supported protocol list is in chronological order: its ranks are strictly increasing. -/
theorem live_supported_sorted :
    (liveTables.supportedProtocols.map fun v => liveTables.knownProtocols.idxOf v).Pairwise (· < ·) :=
  pairwise_idxOf_of_sublist
    (by decide +kernel : liveTables.supportedProtocols.Sublist liveTables.knownProtocols)
    live_knownProtocols_nodup

end PyCraft
