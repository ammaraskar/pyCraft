import PyCraft.Model.Layout
import PyCraft.Lemmas.Wire
/-!
Helper lemmas for C05 (generic packet bodies): the field-list induction over `item_main` of C02,
exact consumption with a trailing last field, totality of writing, and the attribute level
(`getattr` / `setattr`).
-/
namespace PyCraft

section
variable {cc : CustomCodec} {cw : CustomT → Value → Prop}

theorem wtf_nil {vals : List Value} (h : WellTypedFields cw [] vals) : vals = [] := by
  cases vals with
  | nil => rfl
  | cons v vs => exact h.elim

theorem wtf_cons {n : String} {t : WType} {L : Layout} {vals : List Value}
    (h : WellTypedFields cw ((n, t) :: L) vals) :
    ∃ v vs, vals = v :: vs ∧ WellTyped cw t v ∧ WellTypedFields cw L vs := by
  cases vals with
  | nil => exact h.elim
  | cons v vs => exact ⟨v, vs, rfl, h.1, h.2⟩

theorem wtf_length : ∀ (L : Layout) (vals : List Value), WellTypedFields cw L vals →
    vals.length = L.length := by
  intro L
  induction L with
  | nil => intro vals h; rw [wtf_nil h]; rfl
  | cons f L ih =>
    intro vals h
    obtain ⟨n, t⟩ := f
    obtain ⟨v, vs, rfl, _, h2⟩ := wtf_cons h
    simp [ih vs h2]

theorem encodeFields_cons (n : String) (t : WType) (L : Layout) (v : Value) (vs : List Value)
    (a b : Bytes) (ha : encode cc t v = .ok a) (hb : encodeFields cc L vs = .ok b) :
    encodeFields cc ((n, t) :: L) (v :: vs) = .ok (a ++ b) := by
  simp only [encodeFields, ha, hb, bind, Except.bind, pure, Except.pure]

theorem decodeFields_cons (n : String) (t : WType) (L : Layout) (bs r r' : Bytes) (v : Value)
    (vs : List Value) (ha : decode cc t bs = .ok (v, r)) (hb : decodeFields cc L r = .ok (vs, r')) :
    decodeFields cc ((n, t) :: L) bs = .ok (v :: vs, r') := by
  simp only [decodeFields, ha, hb, bind, Except.bind, pure, Except.pure]

theorem decodeFields_cons_err1 (n : String) (t : WType) (L : Layout) (bs : Bytes) (e : Err)
    (ha : decode cc t bs = .error e) : decodeFields cc ((n, t) :: L) bs = .error e := by
  simp only [decodeFields, ha, bind, Except.bind]

theorem decodeFields_cons_err2 (n : String) (t : WType) (L : Layout) (bs r : Bytes) (v : Value)
    (e : Err) (ha : decode cc t bs = .ok (v, r)) (hb : decodeFields cc L r = .error e) :
    decodeFields cc ((n, t) :: L) bs = .error e := by
  simp only [decodeFields, ha, hb, bind, Except.bind]

/-- all fields self-delimiting: the body is read back exactly whatever follows, and every strict
prefix of it is rejected -/
theorem fields_item (law : CustomLaw cc cw) : ∀ (L : Layout) (vals : List Value),
    L.allSD = true → WellTypedFields cw L vals →
    ∃ bs, encodeFields cc L vals = .ok bs ∧
      (∀ rest, decodeFields cc L (bs ++ rest) = .ok (vals, rest)) ∧
      ∀ p, p <+: bs → p ≠ bs → ∃ e, decodeFields cc L p = .error e := by
  intro L
  induction L with
  | nil =>
    intro vals _ hw
    rw [wtf_nil hw]
    exact ⟨[], rfl, fun rest => rfl, fun p hp hne => absurd (List.prefix_nil.mp hp) hne⟩
  | cons f L ih =>
    intro vals hs hw
    obtain ⟨n, t⟩ := f
    obtain ⟨v, vs, rfl, hv, hvs⟩ := wtf_cons hw
    simp only [Layout.allSD, List.all_cons, Bool.and_eq_true] at hs
    obtain ⟨a, ha, _, ha2, ha3⟩ := item_main law t hs.1 v hv
    obtain ⟨b, hb, hb2, hb3⟩ := ih vs hs.2 hvs
    refine ⟨a ++ b, encodeFields_cons n t L v vs a b ha hb, fun rest => ?_, fun p hp hne => ?_⟩
    · rw [List.append_assoc]
      exact decodeFields_cons n t L _ _ _ v vs (ha2 _) (hb2 rest)
    · rcases strict_prefix_append hp hne with ⟨hp', hne'⟩ | ⟨q, rfl, hq, hqne⟩
      · obtain ⟨e, he⟩ := ha3 p hp' hne'
        exact ⟨e, decodeFields_cons_err1 n t L p e he⟩
      · obtain ⟨e, he⟩ := hb3 q hq hqne
        exact ⟨e, decodeFields_cons_err2 n t L _ _ v e (ha2 q) he⟩

/-- a type admissible in last position is read back exactly from its own encoding -/
theorem decode_last (law : CustomLaw cc cw) (t : WType) (ht : t.lastOk = true) (v : Value)
    (hv : WellTyped cw t v) : ∃ bs, encode cc t v = .ok bs ∧ decode cc t bs = .ok (v, []) := by
  by_cases h : t = .trailing
  · subst h
    cases v <;> simp [WellTyped] at hv
    exact ⟨_, rfl, rfl⟩
  · have hs : t.selfDelimiting = true := by
      cases t <;> first | exact absurd rfl h | exact ht
    obtain ⟨a, ha, _, ha2, _⟩ := item_main law t hs v hv
    exact ⟨a, ha, by simpa using ha2 []⟩

/-- an admissible layout is read back exactly from its own body -/
theorem fields_exact (law : CustomLaw cc cw) : ∀ (L : Layout) (vals : List Value),
    L.ok = true → WellTypedFields cw L vals →
    ∃ bs, encodeFields cc L vals = .ok bs ∧ decodeFields cc L bs = .ok (vals, []) := by
  intro L
  induction L with
  | nil =>
    intro vals _ hw
    rw [wtf_nil hw]
    exact ⟨[], rfl, rfl⟩
  | cons f L ih =>
    intro vals hs hw
    obtain ⟨n, t⟩ := f
    obtain ⟨v, vs, rfl, hv, hvs⟩ := wtf_cons hw
    simp only [Layout.ok, Bool.and_eq_true] at hs
    obtain ⟨b, hb, hb2⟩ := ih vs hs.2 hvs
    cases L with
    | nil =>
      rw [wtf_nil hvs] at hb hb2 ⊢
      cases hb
      obtain ⟨a, ha, ha2⟩ := decode_last law t (by simpa using hs.1) v hv
      refine ⟨a ++ [], encodeFields_cons n t [] v [] a [] ha rfl, ?_⟩
      rw [List.append_nil]
      exact decodeFields_cons n t [] a [] [] v [] ha2 rfl
    | cons g L' =>
      have hsd : t.selfDelimiting = true := by simpa using hs.1
      obtain ⟨a, ha, _, ha2, _⟩ := item_main law t hsd v hv
      exact ⟨a ++ b, encodeFields_cons n t _ v vs a b ha hb,
        decodeFields_cons n t _ _ _ _ v vs (ha2 b) hb2⟩

/-- the round trip of a packet body: exact on its own bytes, and with anything appended when every
field is self-delimiting -/
theorem fields_rt (law : CustomLaw cc cw) (L : Layout) (vals : List Value)
    (hok : L.ok = true) (hw : WellTypedFields cw L vals) :
    ∃ bs, encodeFields cc L vals = .ok bs ∧
      (L.allSD = true → ∀ rest, decodeFields cc L (bs ++ rest) = .ok (vals, rest)) ∧
      decodeFields cc L bs = .ok (vals, []) := by
  obtain ⟨bs, h1, h2⟩ := fields_exact law L vals hok hw
  refine ⟨bs, h1, fun hs rest => ?_, h2⟩
  obtain ⟨bs', e1, e2, _⟩ := fields_item law L vals hs hw
  rw [h1] at e1; cases e1
  exact e2 rest

end

/-! ### the attribute level -/

/-- the values `getattr` finds for the fields, in field order -/
def fieldValues (attrs : Attrs) (L : Layout) : List Value :=
  L.filterMap fun f => attrs.lookup f.1

theorem writeFields_eq (cc : CustomCodec) (attrs : Attrs) : ∀ (L : Layout),
    (∀ f ∈ L, (attrs.lookup f.1).isSome = true) →
    writeFields cc attrs L = encodeFields cc L (fieldValues attrs L) := by
  intro L
  induction L with
  | nil => intro _; rfl
  | cons f L ih =>
    intro h
    obtain ⟨n, t⟩ := f
    have h1 := h (n, t) List.mem_cons_self
    cases hl : attrs.lookup n with
    | none => simp [hl] at h1
    | some v =>
      have ih' := ih (fun g hg => h g (List.mem_cons_of_mem _ hg))
      simp only [writeFields, hl, fieldValues, List.filterMap_cons, encodeFields, ih']

/-- `setattr` of every field in order -/
def setAll (attrs : Attrs) : List (String × Value) → Attrs
  | [] => attrs
  | (n, v) :: ps => setAll (setAttr attrs n v) ps

theorem lookup_setAttr (attrs : Attrs) (n k : String) (v : Value) :
    (setAttr attrs k v).lookup n = if n = k then some v else attrs.lookup n := by
  unfold setAttr
  by_cases h : n = k
  · subst h; simp [List.lookup]
  · have hb : (n == k) = false := by simpa using h
    simp only [List.lookup, hb, if_neg h]
    induction attrs with
    | nil => rfl
    | cons kv attrs ih =>
      obtain ⟨k', v'⟩ := kv
      by_cases h2 : k' = k
      · subst h2
        simp [List.filter, List.lookup, hb, ih]
      · have : (k' != k) = true := by simpa using h2
        simp only [List.filter, this, List.lookup]
        split <;> simp_all

theorem readFields_eq (cc : CustomCodec) : ∀ (L : Layout) (attrs : Attrs) (bs : Bytes)
    (vals : List Value) (r : Bytes), decodeFields cc L bs = .ok (vals, r) →
    readFields cc L attrs bs = .ok (setAll attrs ((L.map (·.1)).zip vals), r) := by
  intro L
  induction L with
  | nil =>
    intro attrs bs vals r h
    simp only [decodeFields, Except.ok.injEq, Prod.mk.injEq] at h
    obtain ⟨rfl, rfl⟩ := h
    rfl
  | cons f L ih =>
    intro attrs bs vals r h
    obtain ⟨n, t⟩ := f
    simp only [decodeFields, bind, Except.bind] at h
    split at h
    · simp at h
    · next p hp =>
      obtain ⟨v, r1⟩ := p
      split at h
      · simp at h
      · next q hq =>
        obtain ⟨vs, r2⟩ := q
        simp only [pure, Except.pure, Except.ok.injEq, Prod.mk.injEq] at h
        obtain ⟨rfl, rfl⟩ := h
        simp only [readFields, hp, bind, Except.bind, List.map_cons, List.zip_cons_cons, setAll]
        exact ih _ _ vs _ hq

/-- after `setattr`-ing pairs all of which agree with `src`, an attribute that was set reads as in
`src` (whichever of several writes came last) and the others are untouched -/
theorem lookup_setAll (src : Attrs) : ∀ (ps : List (String × Value)) (attrs : Attrs),
    (∀ p ∈ ps, src.lookup p.1 = some p.2) → ∀ n,
    (setAll attrs ps).lookup n = if n ∈ ps.map (·.1) then src.lookup n else attrs.lookup n := by
  intro ps
  induction ps with
  | nil => intro attrs _ n; simp [setAll]
  | cons p ps ih =>
    intro attrs h n
    obtain ⟨k, v⟩ := p
    rw [setAll, ih _ (fun q hq => h q (List.mem_cons_of_mem _ hq)) n, lookup_setAttr]
    have hk := h (k, v) List.mem_cons_self
    by_cases h1 : n ∈ ps.map (·.1)
    · simp [h1]
    · by_cases h2 : n = k
      · subst h2; simp [hk]
      · simp [h1, h2]

theorem zip_fieldValues (attrs : Attrs) : ∀ (L : Layout),
    (∀ f ∈ L, (attrs.lookup f.1).isSome = true) →
    (∀ p ∈ (L.map (·.1)).zip (fieldValues attrs L), attrs.lookup p.1 = some p.2) ∧
    ((L.map (·.1)).zip (fieldValues attrs L)).map (·.1) = L.map (·.1) := by
  intro L
  induction L with
  | nil => intro _; simp [fieldValues]
  | cons f L ih =>
    intro h
    obtain ⟨n, t⟩ := f
    have h1 := h (n, t) List.mem_cons_self
    obtain ⟨ih1, ih2⟩ := ih (fun g hg => h g (List.mem_cons_of_mem _ hg))
    cases hl : attrs.lookup n with
    | none => simp [hl] at h1
    | some v =>
      simp only [fieldValues, List.filterMap_cons, hl, List.map_cons, List.zip_cons_cons,
        List.mem_cons, List.cons.injEq, true_and]
      refine ⟨fun p hp => ?_, ih2⟩
      rcases hp with rfl | hp
      · exact hl
      · exact ih1 p hp

theorem wtf_fieldValues {cw : CustomT → Value → Prop} (attrs : Attrs) : ∀ (L : Layout),
    (∀ f ∈ L, ∃ v, attrs.lookup f.1 = some v ∧ WellTyped cw f.2 v) →
    WellTypedFields cw L (fieldValues attrs L) := by
  intro L
  induction L with
  | nil => intro _; exact True.intro
  | cons f L ih =>
    intro h
    obtain ⟨n, t⟩ := f
    obtain ⟨v, hv, hw⟩ := h (n, t) List.mem_cons_self
    simp only [fieldValues, List.filterMap_cons, hv]
    exact ⟨hw, ih (fun g hg => h g (List.mem_cons_of_mem _ hg))⟩

end PyCraft
