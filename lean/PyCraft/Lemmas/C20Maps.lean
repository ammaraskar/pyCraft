import PyCraft.Model.C20Maps
import PyCraft.Lemmas.Trackers
/-! Helper lemmas for `Props/C20Maps.lean`: the effectful map model against the `Except` model, one
in-range packet against the reference `MapPacket.cell`, and the induction over a history.
Everything here continues `namespace PyCraft.Trackers` of `Lemmas/Trackers.lean`, whose models and
dict lemmas it builds on. -/
namespace PyCraft.Trackers

/-! ### More ordered-dict facts -/

section dict
variable {β : Type}

theorem dictSet_dictSet (k : Int) (v w : β) (l : List (Int × β)) :
    dictSet k v (dictSet k w l) = dictSet k v l := by
  induction l with
  | nil => simp [dictSet]
  | cons q qs ih =>
    obtain ⟨k₀, v₀⟩ := q
    by_cases h : k₀ = k
    · simp [dictSet, h]
    · simp [dictSet, h, ih]

theorem mem_dictSet {k : Int} {v : β} {l : List (Int × β)} {km : Int × β}
    (h : km ∈ dictSet k v l) : km = (k, v) ∨ km ∈ l :=
  (Assoc.mem_set (dictSet_eq k v l ▸ h)).symm

theorem dictGet_some_mem (k : Int) (v : β) (l : List (Int × β)) (h : dictGet k l = some v) :
    (k, v) ∈ l :=
  Assoc.mem_of_lookup (dictGet_eq k l ▸ h)

theorem dictGet_isSome_iff (k : Int) (l : List (Int × β)) :
    (dictGet k l).isSome ↔ k ∈ keys l := by
  rw [dictGet_eq]; exact Assoc.lookup_isSome l k

/-- A dict with distinct keys is determined by its key order and its lookups. -/
theorem dict_ext (l1 l2 : List (Int × β)) (hnd : (keys l1).Nodup)
    (hk : keys l1 = keys l2) (hg : ∀ k, dictGet k l1 = dictGet k l2) : l1 = l2 := by
  rw [← items_of_keys l1 hnd, ← items_of_keys l2 (hk ▸ hnd), hk]
  simp only [hg]

end dict

/-! ### The effectful model and the `Except` model are the same code -/

theorem pySetItem_length {bs bs' : Bytes} {idx : Int} {v : UInt8}
    (h : pySetItem bs idx v = .ok bs') : bs'.length = bs.length := by
  simp only [pySetItem] at h
  generalize (if idx < 0 then idx + (bs.length : Int) else idx) = j at h
  split at h
  · cases h; exact List.length_set
  · cases h

theorem patchLoopFx_length (mapW width : Nat) (off : Int × Int) (px : Bytes) :
    ∀ (i : Nat) (cur : Bytes),
      (patchLoopFx mapW width off i px cur).1.length = cur.length := by
  induction px with
  | nil => intro i cur; rfl
  | cons b bs ih =>
    intro i cur
    simp only [patchLoopFx]
    split
    · rfl
    · split
      · rfl
      · rename_i cur' hs
        rw [ih]
        exact pySetItem_length hs

theorem patchLoop_eq_fx (mapW width : Nat) (off : Int × Int) (px : Bytes) :
    ∀ (i : Nat) (cur : Bytes),
      patchLoop mapW width off i px cur =
        (match patchLoopFx mapW width off i px cur with
         | (r, none) => .ok r
         | (_, some e) => .error e) := by
  induction px with
  | nil => intro i cur; rfl
  | cons b bs ih =>
    intro i cur
    simp only [patchLoop, patchLoopFx]
    split
    · rfl
    · split
      · rename_i h; rw [h]
      · rename_i h; rw [h]; exact ih _ _

theorem applyToMap_eq_fx (pkt : MapPacket) (m : MapState) :
    applyToMap pkt m =
      (match applyToMapFx pkt m with
       | (m', none) => .ok m'
       | (_, some e) => .error e) := by
  unfold applyToMap applyPatch applyToMapFx
  cases pkt.pixels with
  | none => rfl
  | some px =>
    simp only
    rw [patchLoop_eq_fx]
    rcases patchLoopFx m.width pkt.width pkt.offset 0 px m.pixels with ⟨cur, _ | e⟩ <;> rfl

theorem applyToMapSetFx_eq (p : MapPacket) (s : MapSet) :
    applyToMapSetFx p s =
      (dictSet p.mapId
        (applyToMapFx p ((dictGet p.mapId s).getD (MapState.new (some p.mapId)))).1 s,
       (applyToMapFx p ((dictGet p.mapId s).getD (MapState.new (some p.mapId)))).2) := by
  unfold applyToMapSetFx
  cases dictGet p.mapId s with
  | some m => rfl
  | none => simp only [dictSet_dictSet, Option.getD_none]

theorem applyToMapSet_eq_fx (pkt : MapPacket) (s : MapSet) :
    applyToMapSet pkt s =
      (match applyToMapSetFx pkt s with
       | (s', none) => .ok s'
       | (_, some e) => .error e) := by
  rw [applyToMapSet_eq, applyToMapSetFx_eq, applyToMap_eq_fx]
  rcases applyToMapFx pkt ((dictGet pkt.mapId s).getD (MapState.new (some pkt.mapId))) with
    ⟨m', _ | e⟩ <;> rfl

theorem replayMaps_eq_fx (hist : List MapPacket) (s : MapSet) :
    replayMaps hist s =
      (match replayMapsFx hist s with
       | (s', none) => .ok s'
       | (_, some e) => .error e) := by
  induction hist generalizing s with
  | nil => rfl
  | cons p ps ih =>
    unfold replayMaps replayMapsFx
    rw [applyToMapSet_eq_fx]
    rcases applyToMapSetFx p s with ⟨s', _ | e⟩
    · exact ih s'
    · rfl

/-- An interrupted loop has performed exactly the writes before the failing index `n`. -/
theorem patchLoopFx_err_prefix (mapW width : Nat) (off : Int × Int) (px : Bytes) :
    ∀ (i : Nat) (cur r : Bytes) (e : Err),
      patchLoopFx mapW width off i px cur = (r, some e) →
      ∃ n, n < px.length ∧ patchLoopFx mapW width off i (px.take n) cur = (r, none) ∧
        ∃ v, px[n]? = some v ∧ patchLoopFx mapW width off (i + n) [v] r = (r, some e) := by
  induction px with
  | nil => intro i cur r e h; cases h
  | cons b bs ih =>
    intro i cur r e h
    simp only [patchLoopFx] at h
    split at h
    · rename_i hw
      cases h
      exact ⟨0, by simp, rfl, b, rfl, by simp [patchLoopFx, hw]⟩
    · rename_i hw
      split at h
      · rename_i hs
        cases h
        exact ⟨0, by simp, rfl, b, rfl, by simp only [patchLoopFx, hw, if_false, Nat.add_zero, hs]⟩
      · rename_i cur' hs
        obtain ⟨n, hn, hpre, v, hv, hfail⟩ := ih (i + 1) cur' r e h
        refine ⟨n + 1, Nat.succ_lt_succ hn, ?_, v, hv, ?_⟩
        · simp only [List.take_succ_cons, patchLoopFx, hw, if_false, hs]
          exact hpre
        · rw [← Nat.add_assoc, Nat.add_right_comm]; exact hfail

/-! ### One in-range packet on a 128×128 map -/

theorem new_length (id : Option Int) : (MapState.new id).pixels.length = 16384 := by
  show (List.replicate (128 * 128) (0 : UInt8)).length = 16384
  rw [List.length_replicate]

theorem new_pixel (id : Option Int) (x z : Nat) (hx : x < 128) (hz : z < 128) :
    (MapState.new id).pixels[x + 128 * z]? = some 0 := by
  simp only [MapState.new, List.getElem?_replicate]
  have : x + 128 * z < 128 * 128 := by omega
  simp [this]

theorem nonzeroRuns_replicate_zero (n i : Nat) : nonzeroRuns i (List.replicate n 0) = [] := by
  induction n generalizing i with
  | zero => rfl
  | succ n ih => simp only [List.replicate_succ, nonzeroRuns, if_true, ih]

/-- What is observed of a fresh map. -/
theorem obs_new (id : Option Int) (k : Int) :
    (MapState.new id).obs k =
      { key := k, id := id, scale := none, icons := [], width := 128, height := 128, len := 16384,
        nonzero := [], tracking := true, locked := false } := by
  simp only [MapState.obs, MapState.new, nonzeroRuns_replicate_zero, List.length_replicate]

theorem offset_toNat (p : MapPacket) (h1 : 0 ≤ p.offset.1) (h2 : 0 ≤ p.offset.2) :
    p.offset = ((p.offset.1.toNat : Int), (p.offset.2.toNat : Int)) := by
  apply Prod.ext <;> simp <;> omega

/-- `MapPacket.cell` with natural-number offsets. -/
theorem cell_nat (p : MapPacket) (px : Bytes) (ox oz : Nat) (hpx : p.pixels = some px)
    (hoff : p.offset = ((ox : Int), (oz : Int))) (x z : Nat) :
    p.cell x z =
      if ox ≤ x ∧ x < ox + p.width ∧ oz ≤ z then px[(x - ox) + p.width * (z - oz)]? else none := by
  unfold MapPacket.cell
  simp only [hpx, hoff]
  have e1 : ((x : Int) - (ox : Int)).toNat = x - ox := by omega
  have e2 : ((z : Int) - (oz : Int)).toNat = z - oz := by omega
  rw [e1, e2]
  have e3 : (0 ≤ (x : Int) - (ox : Int) ∧ (x : Int) - (ox : Int) < (p.width : Int) ∧
      0 ≤ (z : Int) - (oz : Int)) ↔ (ox ≤ x ∧ x < ox + p.width ∧ oz ≤ z) := by omega
  simp only [e3]

/-- What `apply_to_map` of packet `p` leaves in the map `m'` it was applied to: the five fields of
the packet, and in every cell the packet's pixel for it, or else what the cell held (`old`). -/
structure Applied (p : MapPacket) (old : Nat → Nat → Option UInt8) (m' : MapState) : Prop where
  id : m'.id = some p.mapId
  scale : m'.scale = some p.scale
  icons : m'.icons = p.icons
  tracking : m'.isTrackingPosition = p.isTrackingPosition
  locked : m'.isLocked = p.isLocked
  cell : ∀ x z, x < 128 → z < 128 → m'.pixels[x + 128 * z]? = (p.cell x z).or (old x z)

/-- `apply_to_map` of an in-range packet on a 128×128 map: it does not raise, and the map keeps
its shape. -/
theorem applyToMap_in_range (p : MapPacket) (m : MapState) (hW : m.width = 128)
    (hH : m.height = 128) (hlen : m.pixels.length = 16384) (hin : p.InRange) :
    ∃ m', applyToMap p m = .ok m' ∧ Applied p (fun x z => m.pixels[x + 128 * z]?) m' ∧
      m'.width = 128 ∧ m'.height = 128 ∧ m'.pixels.length = 16384 := by
  cases hpx : p.pixels with
  | none =>
    refine ⟨{ m with id := some p.mapId, scale := some p.scale, icons := p.icons,
                     isTrackingPosition := p.isTrackingPosition, isLocked := p.isLocked },
      by simp only [applyToMap, applyPatch, hpx], ⟨rfl, rfl, rfl, rfl, rfl, ?_⟩, hW, hH, hlen⟩
    intro x z _ _
    simp [MapPacket.cell, hpx]
  | some px =>
    unfold MapPacket.InRange at hin
    simp only [hpx] at hin
    obtain ⟨h1, h2, h3, h4⟩ := hin
    have hoff := offset_toNat p h1 h2
    generalize hox : p.offset.1.toNat = ox at hoff h4
    generalize p.offset.2.toNat = oz at hoff h4
    obtain ⟨r, hr, hl, hcell⟩ :=
      patchLoop_cells 128 128 p.width ox oz px (by omega) m.pixels hlen h4
    refine ⟨{ m with id := some p.mapId, scale := some p.scale, icons := p.icons, pixels := r,
                     isTrackingPosition := p.isTrackingPosition, isLocked := p.isLocked },
      by simp only [applyToMap, applyPatch, hpx, hW, hoff, hr],
      ⟨rfl, rfl, rfl, rfl, rfl, fun x z hx hz => ?_⟩, hW, hH, hl⟩
    show r[x + 128 * z]? = _
    rw [cell_nat p px ox oz hpx hoff]
    exact hcell x z hx hz

/-- What one in-range packet does to a well-formed map set: the result is well-formed, the packet's
id is at its place (or appended), other maps are untouched, and the packet's map is as `Applied`
says, a map created for it counting as all zero. -/
structure StepSpec (p : MapPacket) (s s' : MapSet) : Prop where
  wf : MapSet.WF s'
  keyOrder : keys s' = if p.mapId ∈ keys s then keys s else keys s ++ [p.mapId]
  other : ∀ k, k ≠ p.mapId → dictGet k s' = dictGet k s
  here : ∃ m', dictGet p.mapId s' = some m' ∧
    Applied p (fun x z => (s.pixel p.mapId x z).or (some 0)) m'

theorem wf_entry {s : MapSet} (hs : MapSet.WF s) {k : Int} {m : MapState}
    (h : dictGet k s = some m) :
    m.id = some k ∧ m.width = 128 ∧ m.height = 128 ∧ m.pixels.length = 16384 :=
  hs.2 (k, m) (dictGet_some_mem k m s h)

theorem wf_pixel_some {s : MapSet} (hs : MapSet.WF s) {k : Int} (hk : k ∈ keys s) (x z : Nat)
    (hx : x < 128) (hz : z < 128) : ∃ v, s.pixel k x z = some v := by
  have := (dictGet_isSome_iff k s).2 hk
  cases h : dictGet k s with
  | none => simp [h] at this
  | some m =>
    obtain ⟨_, _, _, hl⟩ := wf_entry hs h
    have hi : x + 128 * z < m.pixels.length := by omega
    exact ⟨m.pixels[x + 128 * z], by simp [MapSet.pixel, h, List.getElem?_eq_getElem hi]⟩

theorem step_spec (p : MapPacket) (s : MapSet) (hs : MapSet.WF s) (hin : p.InRange) :
    ∃ s', applyToMapSet p s = .ok s' ∧ StepSpec p s s' := by
  -- the map the packet is applied to, and its shape
  have hbase : ∃ m0, (dictGet p.mapId s).getD (MapState.new (some p.mapId)) = m0 ∧
      m0.width = 128 ∧ m0.height = 128 ∧ m0.pixels.length = 16384 ∧
      ∀ x z, x < 128 → z < 128 →
        m0.pixels[x + 128 * z]? = (s.pixel p.mapId x z).or (some 0) := by
    cases h : dictGet p.mapId s with
    | some m =>
      obtain ⟨_, hw, hh, hl⟩ := wf_entry hs h
      refine ⟨m, rfl, hw, hh, hl, ?_⟩
      intro x z hx hz
      have hi : x + 128 * z < m.pixels.length := by omega
      simp [MapSet.pixel, h, List.getElem?_eq_getElem hi]
    | none =>
      refine ⟨_, rfl, rfl, rfl, new_length _, ?_⟩
      intro x z hx hz
      simp [MapSet.pixel, h, new_pixel _ x z hx hz]
  obtain ⟨m0, hm0, hw, hh, hl, hpix⟩ := hbase
  obtain ⟨m', hm', hap, hw', hh', hl'⟩ := applyToMap_in_range p m0 hw hh hl hin
  refine ⟨dictSet p.mapId m' s, by rw [applyToMapSet_eq, hm0, hm'],
    { wf := ⟨nodup_keys_dictSet p.mapId m' s hs.1, ?_⟩
      keyOrder := keys_dictSet p.mapId m' s
      other := fun k hk => by simp [dictGet_dictSet, hk]
      here := ⟨m', by simp [dictGet_dictSet], { hap with cell := ?_ }⟩ }⟩
  · intro km hkm
    rcases mem_dictSet hkm with h | h
    · subst h
      exact ⟨hap.id, hw', hh', hl'⟩
    · exact hs.2 km h
  · intro x z hx hz
    rw [hap.cell x z hx hz, hpix x z hx hz]

/-! ### Induction over a history -/

theorem lastWrite_cons (p : MapPacket) (ps : List MapPacket) (k : Int) (x z : Nat) :
    lastWrite (p :: ps) k x z =
      (lastWrite ps k x z).or (if p.mapId = k then p.cell x z else none) := by
  simp only [lastWrite]
  cases lastWrite ps k x z <;> rfl

/-- What replaying an in-range history `hist` from a well-formed `s` yields (`s'`): the four
clauses of `Props/C20Maps.lean`'s `map_replay_*`, cells in the form the induction carries
(`.or (some 0)`: an absent map counts as all zero). -/
structure ReplaySpec (hist : List MapPacket) (s s' : MapSet) : Prop where
  wf : MapSet.WF s'
  keyOrder : keys s' = refKeys hist (keys s)
  fields : ∀ k, FieldsSpec hist s s' k
  cells : ∀ k x z, x < 128 → z < 128 →
    (s'.pixel k x z).or (some 0) = (lastWrite hist k x z).or ((s.pixel k x z).or (some 0))

theorem replay_spec (hist : List MapPacket) :
    ∀ s : MapSet, MapSet.WF s → (∀ p ∈ hist, p.InRange) →
      ∃ s', replayMaps hist s = .ok s' ∧ ReplaySpec hist s s' := by
  induction hist with
  | nil =>
    intro s hs _
    exact ⟨s, rfl, hs, rfl, fun k => by simp [FieldsSpec, lastPacket],
      fun k x z _ _ => by simp [lastWrite]⟩
  | cons p ps ih =>
    intro s hs hin
    obtain ⟨s1, h1, st⟩ := step_spec p s hs (hin p List.mem_cons_self)
    obtain ⟨s', h2, sp⟩ := ih s1 st.wf (fun q hq => hin q (List.mem_cons_of_mem _ hq))
    obtain ⟨m', hm', hap⟩ := st.here
    refine ⟨s', by simp only [replayMaps, h1, h2], sp.wf, ?_, ?_, ?_⟩
    · rw [sp.keyOrder, st.keyOrder]; rfl
    · intro k
      have hk := sp.fields k
      unfold FieldsSpec at hk ⊢
      simp only [lastPacket]
      cases hl : lastPacket ps k with
      | some q => simpa [hl] using hk
      | none =>
        simp only [hl] at hk ⊢
        by_cases hkp : p.mapId = k
        · simp only [hkp, if_true]
          rw [hkp] at hm'
          exact ⟨m', by rw [hk, hm'], hkp ▸ hap.id, hap.scale, hap.icons, hap.tracking, hap.locked⟩
        · simp only [hkp, if_false]
          rw [hk]; exact st.other k (fun e => hkp e.symm)
    · intro k x z hx hz
      rw [sp.cells k x z hx hz, lastWrite_cons, Option.or_assoc]
      congr 1
      by_cases hkp : p.mapId = k
      · subst hkp
        simp only [if_true, MapSet.pixel, hm', Option.bind_some, hap.cell x z hx hz]
        cases p.cell x z <;> cases (dictGet p.mapId s).bind (fun m => m.pixels[x + 128 * z]?) <;> rfl
      · simp only [hkp, if_false, Option.none_or, MapSet.pixel,
          st.other k (fun e => hkp e.symm)]

/-- The same, about a run known to have succeeded. -/
theorem replay_spec_of_ok (hist : List MapPacket) (s s' : MapSet) (hs : MapSet.WF s)
    (hin : ∀ p ∈ hist, p.InRange) (h : replayMaps hist s = .ok s') : ReplaySpec hist s s' := by
  obtain ⟨s'', h', hspec⟩ := replay_spec hist s hs hin
  rw [h] at h'; cases h'
  exact hspec

theorem or_or_zero (a b : Option UInt8) :
    a.or (b.or (some 0)) = some (a.getD (b.getD 0)) := by
  cases a <;> cases b <;> rfl

/-! ### The exception path -/

theorem applyToMapFx_err (p : MapPacket) (m m' : MapState) (e : Err)
    (h : applyToMapFx p m = (m', some e)) :
    m'.id = some p.mapId ∧ m'.scale = some p.scale ∧ m'.icons = p.icons ∧
    m'.isTrackingPosition = m.isTrackingPosition ∧ m'.isLocked = m.isLocked ∧
    m'.width = m.width ∧ m'.height = m.height ∧ m'.pixels.length = m.pixels.length ∧
    ∃ px n v, p.pixels = some px ∧ px[n]? = some v ∧
      patchLoopFx m.width p.width p.offset 0 (px.take n) m.pixels = (m'.pixels, none) ∧
      patchLoopFx m.width p.width p.offset n [v] m'.pixels = (m'.pixels, some e) := by
  unfold applyToMapFx at h
  cases hpx : p.pixels with
  | none => simp [hpx] at h
  | some px =>
    simp only [hpx] at h
    have hlen := patchLoopFx_length m.width p.width p.offset px 0 m.pixels
    rcases hl : patchLoopFx m.width p.width p.offset 0 px m.pixels with ⟨cur, _ | e'⟩
    · simp [hl] at h
    · simp only [hl, Prod.mk.injEq, Option.some.injEq] at h
      obtain ⟨rfl, rfl⟩ := h
      rw [hl] at hlen
      obtain ⟨n, _, hpre, v, hv, hfail⟩ :=
        patchLoopFx_err_prefix m.width p.width p.offset px 0 m.pixels cur e' hl
      rw [Nat.zero_add] at hfail
      exact ⟨rfl, rfl, rfl, rfl, rfl, rfl, rfl, hlen, px, n, v, rfl, hv, hpre, hfail⟩

/-- A history that raises does so at its first raising packet. -/
theorem replayMapsFx_err (hist : List MapPacket) :
    ∀ (s s' : MapSet) (e : Err), replayMapsFx hist s = (s', some e) →
      ∃ pre p post s1, hist = pre ++ p :: post ∧ replayMapsFx pre s = (s1, none) ∧
        applyToMapSetFx p s1 = (s', some e) := by
  induction hist with
  | nil => intro s s' e h; simp [replayMapsFx] at h
  | cons q qs ih =>
    intro s s' e h
    unfold replayMapsFx at h
    rcases hq : applyToMapSetFx q s with ⟨t, _ | e'⟩
    · simp only [hq] at h
      obtain ⟨pre, p, post, s1, rfl, hpre, hp⟩ := ih t s' e h
      exact ⟨q :: pre, p, post, s1, rfl, by simp only [replayMapsFx, hq, hpre], hp⟩
    · simp only [hq, Prod.mk.injEq, Option.some.injEq] at h
      obtain ⟨rfl, rfl⟩ := h
      exact ⟨[], q, qs, s, rfl, rfl, hq⟩

/-! ### Keys and the last write -/

theorem mem_refKeys (hist : List MapPacket) :
    ∀ (ks : List Int) (k : Int), k ∈ refKeys hist ks ↔ k ∈ ks ∨ ∃ p ∈ hist, p.mapId = k := by
  induction hist with
  | nil => intro ks k; simp [refKeys]
  | cons p ps ih =>
    intro ks k
    have : refKeys (p :: ps) ks = refKeys ps (if p.mapId ∈ ks then ks else ks ++ [p.mapId]) := rfl
    rw [this, ih]
    by_cases hm : p.mapId ∈ ks
    · simp only [hm, if_true, List.mem_cons, exists_eq_or_imp]
      grind
    · simp only [hm, if_false, List.mem_append, List.mem_cons, List.not_mem_nil, or_false,
        exists_eq_or_imp]
      grind

theorem lastWrite_concat (pre : List MapPacket) (p : MapPacket) (k : Int) (x z : Nat) :
    lastWrite (pre ++ [p]) k x z =
      (if p.mapId = k then p.cell x z else none).or (lastWrite pre k x z) := by
  induction pre with
  | nil =>
    simp only [List.nil_append, lastWrite_cons, lastWrite, Option.none_or, Option.or_none]
  | cons q qs ih =>
    rw [List.cons_append, lastWrite_cons, ih, lastWrite_cons, Option.or_assoc]

theorem replayMapsWith_new :
    replayMapsWith (fun p => MapState.new (some p.mapId)) = replayMaps := by
  funext hist
  induction hist with
  | nil => rfl
  | cons p ps ih =>
    funext s
    show (match applyToMapSet p s with
      | Except.error e => Except.error e
      | Except.ok s' => replayMapsWith (fun p => MapState.new (some p.mapId)) ps s') = _
    rw [ih]; rfl

end PyCraft.Trackers
