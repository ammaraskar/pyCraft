import PyCraft.Model.C11Errors
import PyCraft.Lemmas.Play
/-!
Lemmas for `Props/C11Errors.lean`: the networking loop with failing writes.  Conservation (`Cons`:
the replies due to the delivered packets are the popped ones, sifted into wire and lost, followed by
the queue) is an invariant of every step.  The read phase and one iteration have closed forms
according to whether a disconnect packet is within reach.  `Runs` is the loop without its fuel (a
big-step relation, deterministic, every `loopG` result is one): invariants of an iteration and
`Reach` are carried along it, and the fuel is reasoned about in one place, `loop_spec`, which gives
termination and the three outcomes with the variant `2·|inbox| + |queue|`.
-/
namespace PyCraft.PlayErr
open PyCraft PyCraft.Play

/-! ### `sift` -/

theorem sift_length {α : Type} (f : Nat → Bool) (i : Nat) (P : List α) :
    (sift f i P).1.length + (sift f i P).2.length = P.length := by
  fun_induction sift f i P <;> simp_all <;> omega

theorem sift_append {α : Type} (f : Nat → Bool) (i : Nat) (P Q : List α) :
    sift f i (P ++ Q) =
      ((sift f i P).1 ++ (sift f (i + P.length) Q).1,
       (sift f i P).2 ++ (sift f (i + P.length) Q).2) := by
  fun_induction sift f i P <;> simp_all [sift, Nat.add_assoc, Nat.add_comm 1]

theorem sift_lost_nil_iff {α : Type} (f : Nat → Bool) (i : Nat) (P : List α) :
    (sift f i P).2 = [] ↔ ∀ k, k < P.length → f (i + k) = false := by
  fun_induction sift f i P with
  | case1 => simp
  | case2 i p ps hf ih =>
    simp only [reduceCtorEq, false_iff]
    intro h
    have := h 0 (by simp)
    simp [hf] at this
  | case3 i p ps hf ih =>
    simp only [ih, List.length_cons]
    constructor
    · intro h' k hk
      cases k with
      | zero => simpa using hf
      | succ k => have := h' k (by omega); rwa [show i + 1 + k = i + (k + 1) by omega] at this
    · intro h' k hk
      have := h' (k + 1) (by omega)
      rwa [show i + (k + 1) = i + 1 + k by omega] at this

theorem sift_wire_of_lost_nil {α : Type} (f : Nat → Bool) (i : Nat) (P : List α)
    (h : (sift f i P).2 = []) : (sift f i P).1 = P := by
  fun_induction sift f i P <;> simp_all

/-! ### `_run` as a relation -/

/-- How the loop of `_run` over the iteration function `it`, started in `c` with `inbox` unread,
ends: the big-step reading of `loopG`, without the fuel. -/
inductive Runs (it : Conn → List PlayEv → RRes) : Conn → List PlayEv → Conn × Bool → Prop
  | stop {c inbox} : (c.interrupt = true ∨ (inbox = [] ∧ c.out.queue = [])) →
      Runs it c inbox (c, false)
  | raise {c inbox} : c.interrupt = false → ¬(inbox = [] ∧ c.out.queue = []) →
      (it c inbox).exc = true → Runs it c inbox ((it c inbox).conn, true)
  | step {c inbox x} : c.interrupt = false → ¬(inbox = [] ∧ c.out.queue = []) →
      (it c inbox).exc = false → Runs it (it c inbox).conn (it c inbox).rest x → Runs it c inbox x

theorem runs_of_loopG {it : Conn → List PlayEv → RRes} : ∀ {fuel : Nat} {c : Conn}
    {inbox : List PlayEv} {x : Conn × Bool}, loopG it fuel c inbox = some x → Runs it c inbox x
  | 0, _, _, _, h => by cases h
  | fuel + 1, c, inbox, x, h => by
    rw [loopG] at h
    by_cases hi : c.interrupt = true
    · rw [if_pos hi] at h; cases h; exact .stop (.inl hi)
    · rw [if_neg hi] at h
      by_cases hq : inbox = [] ∧ c.out.queue = []
      · rw [if_pos hq] at h; cases h; exact .stop (.inr hq)
      · rw [if_neg hq] at h
        by_cases he : (it c inbox).exc = true
        · rw [if_pos he] at h; cases h; exact .raise (by simpa using hi) hq he
        · rw [if_neg he] at h
          exact .step (by simpa using hi) hq (by simpa using he) (runs_of_loopG h)

theorem Runs.det {it : Conn → List PlayEv → RRes} {c : Conn} {inbox : List PlayEv}
    {x y : Conn × Bool} (hx : Runs it c inbox x) (hy : Runs it c inbox y) : x = y := by
  induction hx with
  | stop h =>
    cases hy with
    | stop => rfl
    | raise hi hq => rcases h with h | h <;> simp_all
    | step hi hq => rcases h with h | h <;> simp_all
  | raise hi hq he =>
    cases hy with
    | stop h => rcases h with h | h <;> simp_all
    | raise => rfl
    | step _ _ he' => simp_all
  | step hi hq he _ ih =>
    cases hy with
    | stop h => rcases h with h | h <;> simp_all
    | raise _ _ he' => simp_all
    | step _ _ _ hr => exact ih hr

/-- What every iteration preserves, the run preserves. -/
theorem Runs.inv {it : Conn → List PlayEv → RRes} {Q : Conn → Prop}
    (hQ : ∀ c inbox, Q c → Q (it c inbox).conn) {c : Conn} {inbox : List PlayEv}
    {x : Conn × Bool} (h : Runs it c inbox x) (hc : Q c) : Q x.1 := by
  induction h with
  | stop => exact hc
  | raise => exact hQ _ _ hc
  | step _ _ _ _ ih => exact ih (hQ _ _ hc)

/-! ### Conservation -/

/-- `P` is the sequence of packets popped so far: `wire` holds those whose write succeeded,
`lost` the others. -/
def Popped (fails : Nat → Bool) (wire lost P : List Reply) : Prop :=
  wire = (sift fails 0 P).1 ∧ lost = (sift fails 0 P).2

theorem Popped.index {fails : Nat → Bool} {wire lost P : List Reply}
    (h : Popped fails wire lost P) : wire.length + lost.length = P.length := by
  rw [h.1, h.2]; exact sift_length fails 0 P

theorem Popped.snoc_ok {fails : Nat → Bool} {wire lost P : List Reply} (p : Reply)
    (h : Popped fails wire lost P) (hf : fails (wire.length + lost.length) = false) :
    Popped fails (wire ++ [p]) lost (P ++ [p]) := by
  have hi := h.index
  rw [hi] at hf
  obtain ⟨h1, h2⟩ := h
  constructor <;> rw [sift_append] <;> simp [sift, hf, h1, h2]

theorem Popped.snoc_fail {fails : Nat → Bool} {wire lost P : List Reply} (p : Reply)
    (h : Popped fails wire lost P) (hf : fails (wire.length + lost.length) = true) :
    Popped fails wire (lost ++ [p]) (P ++ [p]) := by
  have hi := h.index
  rw [hi] at hf
  obtain ⟨h1, h2⟩ := h
  constructor <;> rw [sift_append] <;> simp [sift, hf, h1, h2]

section
variable (newer : Bool) (fails : Nat → Bool) (capW capR : Nat)

theorem flushQ_popped (queue wire lost P : List Reply)
    (h : Popped fails wire lost P) :
    ∃ P', P' ++ (flushQ fails queue wire lost).queue = P ++ queue ∧
      Popped fails (flushQ fails queue wire lost).wire (flushQ fails queue wire lost).lost P' := by
  fun_induction flushQ fails queue wire lost generalizing P with
  | case1 => exact ⟨P, by simp, h⟩
  | case2 p q wire lost hf => exact ⟨P ++ [p], by simp, h.snoc_fail p hf⟩
  | case3 p q wire lost hf ih =>
    obtain ⟨P', a, b⟩ := ih (P ++ [p]) (h.snoc_ok p (by simpa using hf))
    exact ⟨P', by rw [a]; simp, b⟩

theorem writeLoop_popped (num : Nat) (queue wire lost P : List Reply)
    (h : Popped fails wire lost P) :
    ∃ P', P' ++ (writeLoop fails capW num queue wire lost).out.queue = P ++ queue ∧
      Popped fails (writeLoop fails capW num queue wire lost).out.wire
        (writeLoop fails capW num queue wire lost).out.lost P' := by
  fun_induction writeLoop fails capW num queue wire lost generalizing P with
  | case1 => exact ⟨P, by simp, h⟩
  | case2 num p q wire lost hf => exact ⟨P ++ [p], by simp, h.snoc_fail p hf⟩
  | case3 num p q wire lost hf hc => exact ⟨P ++ [p], by simp, h.snoc_ok p (by simpa using hf)⟩
  | case4 num p q wire lost hf hc ih =>
    obtain ⟨P', a, b⟩ := ih (P ++ [p]) (h.snoc_ok p (by simpa using hf))
    exact ⟨P', by rw [a]; simp, b⟩

/-- Conservation as a state invariant: the replies to the packets delivered so far are, in order,
the popped ones followed by the queue. -/
def Cons (c : Conn) : Prop :=
  ∃ P, P ++ c.out.queue = c.delivered.flatMap (replyTo newer) ∧
    Popped fails c.out.wire c.out.lost P

theorem cons_init : Cons newer fails Conn.init :=
  ⟨[], by simp [Conn.init], by simp [Popped, Conn.init, sift]⟩

theorem react_ne_disc (c : Conn) (e : PlayEv) (h : e ≠ .disconnect) :
    react newer fails c e =
      { c with out := { c.out with queue := c.out.queue ++ replyTo newer e },
               spawned := c.spawned || e.isPosLook } := by
  cases e with
  | disconnect => exact absurd rfl h
  | keepAlive id => simp [react, replyTo, PlayEv.isPosLook]
  | posLook x y z yaw pitch f tid => cases newer <;> simp [react, replyTo, PlayEv.isPosLook]
  | unknown p d => simp [react, replyTo, PlayEv.isPosLook]
  | other n => simp [react, replyTo, PlayEv.isPosLook]

theorem reactAll_cons (c : Conn) (e : PlayEv)
    (h : Cons newer fails c) : Cons newer fails (reactAll newer fails c e) := by
  obtain ⟨P, a, b⟩ := h
  by_cases he : e = .disconnect
  · subst he
    by_cases hcl : c.closed = true
    · refine ⟨P, ?_, ?_⟩
      · simp [reactAll, react, disconnect, hcl, a, PlayEv.asSeen, replyTo]
      · simpa [reactAll, react, disconnect, hcl] using b
    · have hcl' : c.closed = false := by simpa using hcl
      obtain ⟨P', a', b'⟩ := flushQ_popped fails c.out.queue c.out.wire c.out.lost P b
      refine ⟨P', ?_, ?_⟩
      · simp [reactAll, react, disconnect, hcl', a', a, PlayEv.asSeen, replyTo]
      · simpa [reactAll, react, disconnect, hcl'] using b'
  · refine ⟨P, ?_, ?_⟩
    · simp [reactAll, react_ne_disc newer fails c e he, ← a, replyTo_asSeen]
    · simpa [reactAll, react_ne_disc newer fails c e he] using b

/-- What `reactAll` preserves, the read phase preserves. -/
theorem readLoop_inv (Q : Conn → Prop)
    (hQ : ∀ c e, Q c → Q (reactAll newer fails c e)) {num : Nat} {c : Conn}
    {inbox : List PlayEv} {exc : Bool} (h : Q c) :
    Q (readLoop newer fails capR num c inbox exc).conn := by
  fun_induction readLoop newer fails capR num c inbox exc with
  | case1 => exact h
  | case2 _ _ _ _ _ _ ih => exact ih (hQ _ _ h)
  | case3 => exact h

theorem iter_cons (c : Conn) (inbox : List PlayEv) (h : Cons newer fails c) :
    Cons newer fails (iter newer fails capW capR c inbox).conn := by
  obtain ⟨P, a, b⟩ := h
  obtain ⟨P', a', b'⟩ := writeLoop_popped fails capW 0 c.out.queue c.out.wire c.out.lost P b
  apply readLoop_inv newer fails capR _ (reactAll_cons newer fails)
  exact ⟨P', by simpa [writePhase, a] using a', by simpa [writePhase] using b'⟩

end

/-! ### List facts about the first disconnect -/

theorem hasDisc_false_iff (l : List PlayEv) : hasDisc l = false ↔ PlayEv.disconnect ∉ l := by
  simp [hasDisc]

theorem hasDisc_true_iff (l : List PlayEv) : hasDisc l = true ↔ PlayEv.disconnect ∈ l := by
  simp [hasDisc]

theorem hasDisc_take_split (l : List PlayEv) (n : Nat) (h : hasDisc (l.take n) = true) :
    ∃ pre post, l = pre ++ PlayEv.disconnect :: post ∧ PlayEv.disconnect ∉ pre ∧
      pre.length < n := by
  induction l generalizing n with
  | nil => simp [hasDisc] at h
  | cons x xs ih =>
    cases n with
    | zero => simp [hasDisc] at h
    | succ n =>
      by_cases hx : x = .disconnect
      · subst hx
        exact ⟨[], xs, rfl, by simp, by simp⟩
      · rw [List.take_succ_cons, hasDisc_cons_ne _ _ hx] at h
        obtain ⟨pre, post, a, b, c⟩ := ih n h
        refine ⟨x :: pre, post, by rw [a]; rfl, ?_, by simp; omega⟩
        simp only [List.mem_cons, not_or]
        exact ⟨fun h' => hx h'.symm, b⟩

section
variable (newer : Bool) (fails : Nat → Bool) (capW capR : Nat)

/-! ### Closed forms of the read phase -/

/-- The effect of reading and reacting to `evs` (no disconnect among them). -/
def advance (c : Conn) (evs : List PlayEv) : Conn :=
  { c with out := { c.out with queue := c.out.queue ++ evs.flatMap (replyTo newer) },
           delivered := c.delivered ++ evs.map PlayEv.asSeen,
           spawned := c.spawned || evs.any PlayEv.isPosLook }

theorem advance_nil (c : Conn) : advance newer c [] = c := by
  cases c with
  | mk out delivered spawned connected interrupt closed =>
    cases out; simp [advance]

theorem advance_cons (c : Conn) (e : PlayEv) (evs : List PlayEv) :
    advance newer (advance newer c [e]) evs = advance newer c (e :: evs) := by
  simp [advance, List.append_assoc, Bool.or_assoc]

theorem reactAll_ne_disc (c : Conn) (e : PlayEv)
    (h : e ≠ .disconnect) : reactAll newer fails c e = advance newer c [e] := by
  simp [reactAll, react_ne_disc newer fails c e h, advance]

variable {newer fails capR} in
theorem readLoop_interrupted {num : Nat} {c : Conn} {inbox : List PlayEv} {exc : Bool}
    (h : c.interrupt = true) :
    readLoop newer fails capR num c inbox exc = ⟨c, inbox, exc⟩ := by
  cases inbox <;> simp [readLoop, h]

theorem reactAll_disc_facts (c : Conn) (hcl : c.closed = false) :
    (reactAll newer fails c .disconnect).interrupt = true ∧
    (reactAll newer fails c .disconnect).closed = true ∧
    (reactAll newer fails c .disconnect).connected = false ∧
    (reactAll newer fails c .disconnect).delivered = c.delivered ++ [.disconnect] ∧
    (reactAll newer fails c .disconnect).spawned = c.spawned ∧
    (reactAll newer fails c .disconnect).out = flushQ fails c.out.queue c.out.wire c.out.lost := by
  simp [reactAll, react, disconnect, hcl, PlayEv.asSeen]

theorem readLoop_cons (num : Nat) (c : Conn) (e : PlayEv) (rest : List PlayEv) (exc : Bool)
    (hlt : num < capR) (hi : c.interrupt = false) :
    readLoop newer fails capR num c (e :: rest) exc =
      readLoop newer fails capR (num + 1) (reactAll newer fails c e) rest
        (exc && (e != .disconnect)) := by
  simp [readLoop, hlt, hi]

/-- No disconnect packet among the packets the phase can read: all of them are processed, the
pending exception stays. -/
theorem readLoop_no_disc (num n : Nat) (c : Conn)
    (inbox : List PlayEv) (exc : Bool) (hn : n = capR - num) (hi : c.interrupt = false)
    (hd : hasDisc (inbox.take n) = false) :
    readLoop newer fails capR num c inbox exc =
      ⟨advance newer c (inbox.take n), inbox.drop n, exc⟩ := by
  induction inbox generalizing num n c with
  | nil => simp [readLoop, advance_nil]
  | cons e rest ih =>
    by_cases hlt : num < capR
    · obtain ⟨k, hk⟩ : ∃ k, n = k + 1 := ⟨n - 1, by omega⟩
      subst hk
      rw [List.take_succ_cons] at hd ⊢
      rw [List.drop_succ_cons]
      have he : e ≠ .disconnect := by
        intro h'; subst h'; simp [hasDisc] at hd
      rw [hasDisc_cons_ne _ _ he] at hd
      have hb : (e != PlayEv.disconnect) = true := by simpa using he
      rw [readLoop_cons newer fails capR num c e rest exc hlt hi, hb, Bool.and_true,
        reactAll_ne_disc newer fails c e he,
        ih (num + 1) k (advance newer c [e]) (by omega) (by simpa [advance] using hi) hd,
        advance_cons]
    · have : n = 0 := by omega
      subst this
      simp [readLoop, hlt, advance_nil]

/-- The first disconnect packet is within reach of the phase: everything up to and including it is
processed, the pending exception is forgotten, nothing after it is read. -/
theorem readLoop_disc (num : Nat) (c : Conn)
    (pre post : List PlayEv) (exc : Bool) (hi : c.interrupt = false) (hcl : c.closed = false)
    (hpre : PlayEv.disconnect ∉ pre) (hlen : num + pre.length < capR) :
    readLoop newer fails capR num c (pre ++ .disconnect :: post) exc =
      ⟨reactAll newer fails (advance newer c pre) .disconnect, post, false⟩ := by
  induction pre generalizing num c exc with
  | nil =>
    have hlt : num < capR := by simpa using hlen
    have h1 := (reactAll_disc_facts newer fails c hcl).1
    simp only [List.nil_append, advance_nil]
    rw [readLoop_cons newer fails capR num c _ post exc hlt hi,
      readLoop_interrupted h1]
    simp
  | cons e pre ih =>
    simp only [List.mem_cons, not_or] at hpre
    have he : e ≠ .disconnect := fun h' => hpre.1 h'.symm
    simp only [List.length_cons] at hlen
    have hlt : num < capR := by omega
    have hb : (e != PlayEv.disconnect) = true := by simpa using he
    rw [List.cons_append, readLoop_cons newer fails capR num c e _ exc hlt hi, hb, Bool.and_true,
      reactAll_ne_disc newer fails c e he,
      ih (num + 1) (advance newer c [e]) exc (by simpa [advance] using hi)
        (by simpa [advance] using hcl) hpre.2 (by omega), advance_cons]

/-! ### The write phase -/

/-- The write phase, about its result `r` (named so that the call is written once): either nothing
failed, nothing more is lost and the counter went up by what was written, or the first failing
write ended it and lost exactly that packet. -/
theorem writeLoop_spec (num : Nat) (queue wire lost : List Reply) :
    ∀ r, writeLoop fails capW num queue wire lost = r →
    (r.exc = false ∧ r.out.lost = lost ∧ r.out.queue.length + r.num = queue.length + num ∧
      (queue ≠ [] → num < r.num) ∧ (queue = [] → r.num = num)) ∨
    (r.exc = true ∧ queue ≠ [] ∧ ∃ x, r.out.lost = lost ++ [x]) := by
  intro r hr
  subst hr
  fun_induction writeLoop fails capW num queue wire lost with
  | case1 => simp
  | case2 => simp
  | case3 => simp; omega
  | case4 num p q wire lost hf hc ih =>
    rcases ih with ⟨a, b, c, d, e⟩ | ⟨a, _, x, hx⟩
    · refine .inl ⟨a, b, by simp only [List.length_cons]; omega, fun _ => ?_, by simp⟩
      cases q with
      | nil => have := e rfl; omega
      | cons y ys => have := d (by simp); omega
    · exact .inr ⟨a, by simp, x, hx⟩

/-! ### One iteration -/

theorem iter_no_disc (c : Conn) (inbox : List PlayEv) (hi : c.interrupt = false)
    (hd : hasDisc (inbox.take (capR - (writePhase fails capW c).num)) = false) :
    iter newer fails capW capR c inbox =
      ⟨advance newer { c with out := (writePhase fails capW c).out }
          (inbox.take (capR - (writePhase fails capW c).num)),
        inbox.drop (capR - (writePhase fails capW c).num), (writePhase fails capW c).exc⟩ := by
  unfold iter
  exact readLoop_no_disc newer fails capR _ _ _ inbox _ rfl hi hd

theorem iter_disc (c : Conn)
    (pre post : List PlayEv) (hi : c.interrupt = false) (hcl : c.closed = false)
    (hpre : PlayEv.disconnect ∉ pre) (hlen : (writePhase fails capW c).num + pre.length < capR) :
    iter newer fails capW capR c (pre ++ .disconnect :: post) =
      ⟨reactAll newer fails (advance newer { c with out := (writePhase fails capW c).out } pre)
        .disconnect, post, false⟩ := by
  unfold iter
  exact readLoop_disc newer fails capR _ _ pre post _ hi hcl hpre hlen

/-! ### The loop: termination and outcomes -/

/-- What a run of `_run` started in the live state `c` on `inbox` can end in. -/
def Outcome (c : Conn) (inbox : List PlayEv) (r : Conn) (raised : Bool) : Prop :=
  ∃ done rest, inbox = done ++ rest ∧
    r.delivered = c.delivered ++ done.map PlayEv.asSeen ∧
    r.spawned = (c.spawned || done.any PlayEv.isPosLook) ∧
    ((raised = false ∧ hasDisc inbox = true ∧ done = beforeDisc inbox ++ [.disconnect] ∧
        r.interrupt = true ∧ r.closed = true ∧ r.connected = false ∧
        (r.out.lost = [] → r.out.queue = [])) ∨
     (raised = false ∧ hasDisc inbox = false ∧ rest = [] ∧ Live r ∧ r.out.lost = [] ∧
        r.out.queue = []) ∨
     (raised = true ∧ PlayEv.disconnect ∉ done ∧ Live r ∧ r.out.lost ≠ []))

theorem Outcome.prepend {c c' : Conn} {seg ib : List PlayEv} {r : Conn} {raised : Bool}
    (hd : c'.delivered = c.delivered ++ seg.map PlayEv.asSeen)
    (hs : c'.spawned = (c.spawned || seg.any PlayEv.isPosLook))
    (hseg : PlayEv.disconnect ∉ seg) (h : Outcome c' ib r raised) :
    Outcome c (seg ++ ib) r raised := by
  obtain ⟨done, rest, h1, h2, h3, h4⟩ := h
  obtain ⟨hb, hh⟩ := beforeDisc_append_of_not_mem seg ib hseg
  refine ⟨seg ++ done, rest, by rw [h1]; simp, by rw [h2, hd]; simp,
    by rw [h3, hs]; simp [Bool.or_assoc], ?_⟩
  rcases h4 with ⟨hraised, hdisc, hdone, hflags⟩ | ⟨hraised, hnodisc, hopen⟩ |
    ⟨hraised, hnodone, herr⟩
  · left
    exact ⟨hraised, by rw [hh]; exact hdisc, by rw [hb, hdone]; simp, hflags⟩
  · right; left
    exact ⟨hraised, by rw [hh]; exact hnodisc, hopen⟩
  · right; right
    refine ⟨hraised, ?_, herr⟩
    simp only [List.mem_append, not_or]
    exact ⟨hseg, hnodone⟩

theorem flushQ_lost_nil (queue wire lost : List Reply)
    (h : (flushQ fails queue wire lost).lost = []) : (flushQ fails queue wire lost).queue = [] := by
  fun_induction flushQ fails queue wire lost <;> simp_all

theorem flushQ_lost_ne (queue wire lost : List Reply) (h : lost ≠ []) :
    (flushQ fails queue wire lost).lost ≠ [] := by
  fun_induction flushQ fails queue wire lost <;> simp_all

theorem loopG_interrupted {it : Conn → List PlayEv → RRes} {fuel : Nat} {c : Conn}
    {inbox : List PlayEv} (h : c.interrupt = true) :
    loopG it (fuel + 1) c inbox = some (c, false) := by
  simp [loopG, h]

theorem loop_step (fuel : Nat) (c : Conn)
    (inbox : List PlayEv) (hi : c.interrupt = false) (hq : ¬(inbox = [] ∧ c.out.queue = [])) :
    loop newer fails capW capR (fuel + 1) c inbox =
      if (iter newer fails capW capR c inbox).exc = true then
        some ((iter newer fails capW capR c inbox).conn, true)
      else loop newer fails capW capR fuel (iter newer fails capW capR c inbox).conn
        (iter newer fails capW capR c inbox).rest := by
  simp [loop, loopG, hi, hq]

theorem loop_spec (hR : 1 ≤ capR)
    (fuel : Nat) (c : Conn) (inbox : List PlayEv) (hl : Live c) (hlost : c.out.lost = [])
    (hf : 2 * inbox.length + c.out.queue.length < fuel) :
    ∃ r raised, loop newer fails capW capR fuel c inbox = some (r, raised) ∧
      Outcome c inbox r raised := by
  induction fuel generalizing c inbox with
  | zero => omega
  | succ fuel ih =>
    have hni : c.interrupt = false := hl.1
    by_cases hq : inbox = [] ∧ c.out.queue = []
    · refine ⟨c, false, by simp [loop, loopG, hni, hq], [], [], by simp [hq.1], by simp, by simp,
        ?_⟩
      right; left
      exact ⟨rfl, by rw [hq.1]; rfl, rfl, hl, hlost, hq.2⟩
    · rw [loop_step newer fails capW capR fuel c inbox hni hq]
      have hw := writeLoop_spec fails capW 0 c.out.queue c.out.wire c.out.lost
        (writePhase fails capW c) rfl
      cases hd : hasDisc (inbox.take (capR - (writePhase fails capW c).num)) with
      | false =>
        rw [iter_no_disc newer fails capW capR c inbox hni hd]
        generalize writePhase fails capW c = w at *
        have hseg : PlayEv.disconnect ∉ inbox.take (capR - w.num) := (hasDisc_false_iff _).1 hd
        have hsplit : inbox = inbox.take (capR - w.num) ++ inbox.drop (capR - w.num) :=
          (List.take_append_drop _ _).symm
        have hlive : Live (advance newer { c with out := w.out } (inbox.take (capR - w.num))) := hl
        rcases hw with ⟨a, b, m, ms, mz⟩ | ⟨a, _, x, hx⟩
        · simp only [a, Bool.false_eq_true, if_false]
          have hmeasure : 2 * (inbox.drop (capR - w.num)).length +
              (advance newer { c with out := w.out } (inbox.take (capR - w.num))).out.queue.length
                < fuel := by
            have hfl := Play.flatMap_replyTo_length newer (inbox.take (capR - w.num))
            simp only [advance, List.length_append, List.length_drop]
            rw [List.length_take] at hfl
            by_cases hcq : c.out.queue = []
            · have hw0 : w.num = 0 := mz hcq
              have hin : inbox ≠ [] := fun h => hq ⟨h, hcq⟩
              have hpos : 0 < inbox.length := List.length_pos_iff.2 hin
              simp only [hcq, List.length_nil] at m hf
              omega
            · have := ms hcq
              omega
          obtain ⟨r, raised, h1, h2⟩ := ih _ (inbox.drop (capR - w.num)) hlive
            (by simpa [advance, b] using hlost) hmeasure
          refine ⟨r, raised, h1, ?_⟩
          rw [hsplit]
          exact Outcome.prepend (by simp [advance]) (by simp [advance]) hseg h2
        · simp only [a, if_true]
          refine ⟨_, true, rfl, inbox.take (capR - w.num), inbox.drop (capR - w.num), hsplit,
            by simp [advance], by simp [advance], ?_⟩
          right; right
          exact ⟨rfl, hseg, hlive, by simp [advance, hx]⟩
      | true =>
        obtain ⟨pre, post, hin, hpre, hlen⟩ := hasDisc_take_split _ _ hd
        subst hin
        rw [iter_disc newer fails capW capR c pre post hni hl.2.2 hpre (by omega)]
        simp only [Bool.false_eq_true, if_false]
        generalize writePhase fails capW c = w at *
        obtain ⟨hint, hclosed, hconn, hdeliv, hspawn, hout⟩ :=
          reactAll_disc_facts newer fails (advance newer { c with out := w.out } pre)
            (by simpa [advance] using hl.2.2)
        obtain ⟨k, hk⟩ : ∃ k, fuel = k + 1 := ⟨fuel - 1, by simp at hf; omega⟩
        subst hk
        obtain ⟨hb, hh⟩ := Play.beforeDisc_append_disc pre post hpre
        refine ⟨_, false, loopG_interrupted hint, pre ++ [.disconnect], post, by simp,
          by rw [hdeliv]; simp [advance, PlayEv.asSeen],
          by rw [hspawn]; simp [advance, PlayEv.isPosLook], ?_⟩
        left
        refine ⟨rfl, hh, by rw [hb], hint, hclosed, hconn, fun h => ?_⟩
        rw [hout] at h ⊢
        exact flushQ_lost_nil _ _ _ _ h

/-! ### `run`: outcomes at the level of `Result` -/

theorem init_live : Live Conn.init := ⟨rfl, rfl, rfl⟩

/-- Termination, the three outcomes and conservation for a run on a fresh connection. -/
theorem runLoop_spec (hR : 1 ≤ capR) (inbox : List PlayEv) :
    ∃ r, runLoop newer fails capW capR inbox = some r ∧
      ∃ done rest, inbox = done ++ rest ∧
        r.delivered = done.map PlayEv.asSeen ∧
        r.spawned = done.any PlayEv.isPosLook ∧
        (∃ P, P ++ r.unsent = done.flatMap (replyTo newer) ∧
          r.wire = (sift fails 0 P).1 ∧ r.lost = (sift fails 0 P).2) ∧
        ((hasDisc inbox = true ∧ done = beforeDisc inbox ++ [.disconnect] ∧ r.closed = true ∧
            r.exitCalls = 1 ∧ r.errors = 0 ∧ (r.lost = [] → r.unsent = [])) ∨
         (hasDisc inbox = false ∧ done = inbox ∧ r.closed = false ∧ r.exitCalls = 0 ∧
            r.errors = 0 ∧ r.lost = [] ∧ r.unsent = []) ∨
         (PlayEv.disconnect ∉ done ∧ r.closed = true ∧ r.exitCalls = 0 ∧ r.errors = 1 ∧
            r.lost ≠ [])) := by
  obtain ⟨c, raised, hc, done, rest, h1, h2, h3, h4⟩ :=
    loop_spec newer fails capW capR hR (2 * inbox.length + 1) Conn.init inbox init_live rfl
      (by simp [Conn.init])
  obtain ⟨P, p1, p2, p3⟩ :=
    (runs_of_loopG hc).inv (iter_cons newer fails capW capR) (cons_init newer fails)
  have hflat : c.delivered.flatMap (replyTo newer) = done.flatMap (replyTo newer) := by
    rw [h2]
    simp only [Conn.init, List.nil_append, List.flatMap_map]
    congr 1; funext e; exact replyTo_asSeen newer e
  rw [hflat] at p1
  -- whether `_run` raised or not, `finish` keeps these five
  have hfin : (finish fails c raised).delivered = c.delivered ∧
      (finish fails c raised).spawned = c.spawned ∧ (finish fails c raised).wire = c.out.wire ∧
      (finish fails c raised).lost = c.out.lost ∧ (finish fails c raised).unsent = c.out.queue := by
    cases raised <;> simp [finish, disconnect]
  obtain ⟨g1, g2, g3, g4, g5⟩ := hfin
  refine ⟨finish fails c raised, by simp [runLoop, runFrom, hc], done, rest, h1,
    by simpa [g1, Conn.init] using h2, by simpa [g2, Conn.init] using h3,
    ⟨P, by rw [g5]; exact p1, by rw [g3]; exact p2, by rw [g4]; exact p3⟩, ?_⟩
  rw [g4, g5]
  rcases h4 with ⟨hraised, hdisc, hdone, -, hclosed, hconn, hunsent⟩ |
    ⟨hraised, hnodisc, hrest, hlive, hlost, hqueue⟩ | ⟨hraised, hnodone, -, hlost⟩
  · subst hraised
    exact .inl ⟨hdisc, hdone, by simpa [finish] using hclosed, by simp [finish, hconn],
      by simp [finish], hunsent⟩
  · subst hraised
    subst hrest
    exact .inr (.inl ⟨hnodisc, by rw [h1]; simp, by simpa [finish] using hlive.2.2,
      by simp [finish, hlive.2.1], by simp [finish], hlost, hqueue⟩)
  · subst hraised
    exact .inr (.inr ⟨hnodone, by simp [finish, disconnect], by simp [finish], by simp [finish],
      hlost⟩)

/-! ### Reachable iteration starts -/

/-- The run from a reachable iteration start ends as the run from the initial state does. -/
theorem reach_runs (inbox0 : List PlayEv) (c : Conn) (inbox : List PlayEv)
    (h : Reach newer fails capW capR inbox0 c inbox) {x : Conn × Bool}
    (hx : Runs (iter newer fails capW capR) c inbox x) :
    Runs (iter newer fails capW capR) Conn.init inbox0 x := by
  induction h with
  | start => exact hx
  | step _ hi hq he ih => exact ih (.step hi hq he hx)

/-- Synchrony of the three flags: they flip together, when a disconnect packet is processed. -/
def Sync (c : Conn) : Prop := c.connected = !c.interrupt ∧ c.closed = c.interrupt

theorem reactAll_sync (c : Conn) (e : PlayEv) (h : Sync c) :
    Sync (reactAll newer fails c e) := by
  by_cases he : e = .disconnect
  · subst he
    cases hc : c.closed <;> simp [Sync, reactAll, react, disconnect, hc]
  · rw [reactAll_ne_disc newer fails c e he]; exact h

theorem reach_sync (inbox0 : List PlayEv)
    (c : Conn) (inbox : List PlayEv) (h : Reach newer fails capW capR inbox0 c inbox) : Sync c := by
  induction h with
  | start => simp [Sync, Conn.init]
  | step _ _ _ _ ih => exact readLoop_inv newer fails capR Sync (reactAll_sync newer fails) ih

theorem reach_live (inbox0 : List PlayEv)
    (c : Conn) (inbox : List PlayEv) (h : Reach newer fails capW capR inbox0 c inbox)
    (hi : c.interrupt = false) : Live c := by
  obtain ⟨a, b⟩ := reach_sync newer fails capW capR inbox0 c inbox h
  exact ⟨hi, by simp [a, hi], by simp [b, hi]⟩

/-- If a run from a reachable iteration start raises, the raising iteration starts in a reachable
state. -/
theorem raised_reach (inbox0 : List PlayEv) {c : Conn} {inbox : List PlayEv} {r : Conn}
    (hreach : Reach newer fails capW capR inbox0 c inbox)
    (h : Runs (iter newer fails capW capR) c inbox (r, true)) :
    ∃ c' inbox', Reach newer fails capW capR inbox0 c' inbox' ∧ c'.interrupt = false ∧
      (iter newer fails capW capR c' inbox').exc = true := by
  generalize hx : (r, true) = x at h
  induction h with
  | stop => cases hx
  | raise hi _ he => exact ⟨_, _, hreach, hi, he⟩
  | step hi hq he _ ih => exact ih (Reach.step hreach hi hq he) hx

/-! ### Runs without a (relevant) failing write -/

theorem done_replies_le (inbox done rest : List PlayEv) (h : inbox = done ++ rest)
    (hd : PlayEv.disconnect ∉ done) :
    (done.flatMap (replyTo newer)).length ≤ (fullWire newer inbox).length := by
  rw [fullWire, h, (beforeDisc_append_of_not_mem done rest hd).1]
  simp

/-- If none of the writes that the replies to the packets before the first disconnect can need
fails, the run is the failure-free one: everything is answered, nothing lost, no error. -/
theorem runLoop_nofail (hR : 1 ≤ capR)
    (inbox : List PlayEv) (hno : ∀ k, k < (fullWire newer inbox).length → fails k = false) :
    ∃ r, runLoop newer fails capW capR inbox = some r ∧
      r.wire = fullWire newer inbox ∧ r.lost = [] ∧ r.unsent = [] ∧
      r.delivered =
        (beforeDisc inbox ++ if hasDisc inbox then [PlayEv.disconnect] else []).map PlayEv.asSeen ∧
      r.spawned = (beforeDisc inbox).any PlayEv.isPosLook ∧
      r.closed = hasDisc inbox ∧
      r.exitCalls = (if hasDisc inbox then 1 else 0) ∧
      r.errors = 0 := by
  obtain ⟨r, hr, done, rest, h1, hdel, hsp, ⟨P, p1, p2, p3⟩, hcases⟩ :=
    runLoop_spec newer fails capW capR hR inbox
  have hPlen : P.length ≤ (done.flatMap (replyTo newer)).length := by
    rw [← p1]; simp
  have hlost_of : (done.flatMap (replyTo newer)).length ≤ (fullWire newer inbox).length →
      r.lost = [] := by
    intro hle
    rw [p3, sift_lost_nil_iff]
    intro k hk
    rw [Nat.zero_add]
    exact hno k (by omega)
  refine ⟨r, hr, ?_⟩
  rcases hcases with ⟨hdisc, hdone, hclosed, hexit, herr, hunsent⟩ |
    ⟨hnodisc, hdone, hclosed, hexit, herr, hlost, hunsent⟩ | ⟨hnodone, -, -, -, hlost⟩
  · have hfl : done.flatMap (replyTo newer) = fullWire newer inbox := by
      rw [hdone, fullWire]; simp [replyTo]
    have hl : r.lost = [] := hlost_of (by rw [hfl]; exact Nat.le_refl _)
    have hu : r.unsent = [] := hunsent hl
    rw [hu, List.append_nil, hfl] at p1
    refine ⟨?_, hl, hu, by rw [hdel, hdone, hdisc]; simp, ?_, by rw [hclosed, hdisc],
      by rw [hexit, hdisc]; simp, herr⟩
    · rw [p2, sift_wire_of_lost_nil _ _ _ (p3 ▸ hl), p1]
    · rw [hsp, hdone]; simp [PlayEv.isPosLook]
  · have hnd : PlayEv.disconnect ∉ inbox := (hasDisc_false_iff _).1 hnodisc
    have hbd := (Play.beforeDisc_of_no_disc inbox hnd).1
    have hfl : done.flatMap (replyTo newer) = fullWire newer inbox := by
      rw [hdone, fullWire, hbd]
    rw [hunsent, List.append_nil, hfl] at p1
    refine ⟨?_, hlost, hunsent, by rw [hdel, hdone, hnodisc, hbd]; simp, by rw [hsp, hdone, hbd],
      by rw [hclosed, hnodisc], by rw [hexit, hnodisc]; simp, herr⟩
    rw [p2, sift_wire_of_lost_nil _ _ _ (p3 ▸ hlost), p1]
  · exact absurd (hlost_of (done_replies_le newer inbox done rest h1 hnodone)) hlost

/-! ### Runs through a reachable iteration start -/

theorem writePhase_exc_queue (c : Conn)
    (h : (writePhase fails capW c).exc = true) : c.out.queue ≠ [] := by
  intro hq
  simp [writePhase, hq, writeLoop] at h

/-- A run from a reachable iteration start that ends is the end of the whole run. -/
theorem reach_run (hR : 1 ≤ capR) (inbox0 : List PlayEv) (c : Conn) (inbox : List PlayEv)
    (hreach : Reach newer fails capW capR inbox0 c inbox) (x : Conn × Bool)
    (h : Runs (iter newer fails capW capR) c inbox x) :
    runLoop newer fails capW capR inbox0 = some (finish fails x.1 x.2) := by
  obtain ⟨r, raised, hr, -⟩ := loop_spec newer fails capW capR hR (2 * inbox0.length + 1)
    Conn.init inbox0 init_live rfl (by simp [Conn.init])
  rw [← (runs_of_loopG hr).det (reach_runs newer fails capW capR inbox0 c inbox hreach h)]
  simp [runLoop, runFrom, hr]

end

end PyCraft.PlayErr
