import PyCraft.Lemmas.WritersWire
import PyCraft.Lemmas.Sched
/-!
The invariants of `Model/Writers.lean` about the programs — freshness of the packets still to be
issued (`FreshInv`), per-thread progress and FIFO (`ProgInv`) — the combined invariant `WInv`, its
preservation (`step_inv`; along a schedule `run_inv`, `run_induct_inv`, by `Lemmas/Sched.lean`
through `run_eq`) and validity in the initial state, and the consequences used by `Props/C12.lean`.
-/
namespace PyCraft.Writers

/-- The order in which queued packets travel: sent frames, then the popped packet in flight,
then the queue. -/
def pipeline (s : Sys) : List Pkt := sentPkts s.wire ++ (cur s).popped ++ s.queue

/-- The packet ids still to be issued are new: not issued yet, without repetition within a program,
and different between programs; so no id is ever issued twice. -/
structure FreshInv (s : Sys) : Prop where
  fresh : ∀ t, ∀ p ∈ pktsOf (s.thr t).todo, p ∉ s.issued
  nodup : ∀ t, (pktsOf (s.thr t).todo).Nodup
  disj : ∀ t u, t ≠ u → ∀ p ∈ pktsOf (s.thr t).todo, p ∉ pktsOf (s.thr u).todo
  issued_nodup : s.issued.Nodup

theorem pktsOf_cons (op : Op) (l : List Op) : pktsOf (op :: l) = op.pkts ++ pktsOf l := by
  simp [pktsOf]

theorem fresh_step (cfg : Cfg) (s s' : Sys) (t : Tid) (hl : LockInv s) (hf : FreshInv s)
    (hs : step cfg s t = some s') : FreshInv s' := by
  obtain ⟨ops, h1, h2, hoth⟩ := step_issued cfg s s' t hl hs
  obtain ⟨f1, f2, f3, f4⟩ := hf
  -- the packets still to be issued by any thread shrink; those of `ops` were `t`'s
  have sub : ∀ u, ∀ p ∈ pktsOf (s'.thr u).todo, p ∈ pktsOf (s.thr u).todo := by
    intro u p hp
    by_cases hu : u = t
    · subst hu; rw [h1, pktsOf_append]; exact List.mem_append_right _ hp
    · rw [hoth u hu] at hp; exact hp
  have hx : ∀ p ∈ pktsOf ops, p ∈ pktsOf (s.thr t).todo := fun p hp => by
    rw [h1, pktsOf_append]; exact List.mem_append_left _ hp
  have f2t := f2 t
  rw [h1, pktsOf_append, List.nodup_append] at f2t
  refine ⟨fun u p hp => ?_, fun u => ?_, fun u v huv p hp hq => ?_, ?_⟩
  · rw [h2, List.mem_append]
    rintro (hi | hi)
    · exact f1 u p (sub u p hp) hi
    · by_cases hu : u = t
      · subst hu; exact f2t.2.2 p hi p hp rfl
      · rw [hoth u hu] at hp; exact f3 u t hu p hp (hx p hi)
  · by_cases hu : u = t
    · subst hu; exact f2t.2.1
    · rw [hoth u hu]; exact f2 u
  · exact f3 u v huv p (sub u p hp) (sub v p hq)
  · rw [h2, List.nodup_append]
    exact ⟨f4, f2t.1, fun p hp q hq e => f1 t q (hx q hq) (e ▸ hp)⟩

structure ProgInv (progs : List (List Op)) (s : Sys) : Prop where
  /-- every thread has executed a prefix `done` of its program; the queued packets of that prefix
  travel through the pipeline in program order, and all its packets have been issued -/
  prog : ∀ u, ∃ done, progOf progs u = done ++ (s.thr u).todo ∧
    (queuedPkts done).Sublist (pipeline s) ∧ ∀ p ∈ pktsOf done, p ∈ s.issued
  done_empty : ∀ u, (s.thr u).pc = .user .done → (s.thr u).todo = []
  /-- only packets of the programs are ever issued -/
  issued_prog : ∀ p ∈ s.issued, ∃ u, p ∈ pktsOf (progOf progs u)

theorem step_done_empty (cfg : Cfg) (s s' : Sys) (t : Tid)
    (h : ∀ u, (s.thr u).pc = .user .done → (s.thr u).todo = [])
    (hs : step cfg s t = some s') : ∀ u, (s'.thr u).pc = .user .done → (s'.thr u).todo = [] := by
  obtain ⟨ev, pc', td', htr, rfl⟩ := step_char cfg s s' t hs
  intro u
  by_cases hu : u = t
  · subst hu
    rw [commit_thr_self]
    rintro rfl
    generalize (s.thr u).pc = pc at htr
    generalize (s.thr u).todo = td at htr
    cases htr
    rfl
  · rw [commit_thr_other _ _ _ _ _ _ u hu]; exact h u

theorem queuedPkts_append (a b : List Op) : queuedPkts (a ++ b) = queuedPkts a ++ queuedPkts b := by
  simp [queuedPkts]

@[simp] theorem queuedPkts_disc (imm : Bool) : queuedPkts [.disconnect imm] = [] := rfl
@[simp] theorem queuedPkts_forced (p : Pkt) : queuedPkts [.forced p] = [] := rfl
@[simp] theorem queuedPkts_queued (p : Pkt) : queuedPkts [.queued p] = [p] := rfl

theorem prog_step (cfg : Cfg) (progs : List (List Op)) (s s' : Sys) (t : Tid) (hl : LockInv s)
    (hw : WireInv s) (hp : ProgInv progs s) (hs : step cfg s t = some s') : ProgInv progs s' := by
  obtain ⟨ev, pc, pc', td, td', f⟩ := step_facts cfg s s' t hl hs
  have hpc := f.thr
  have hpc' := f.thr'
  have hoth := f.others
  obtain ⟨ops, htd, hops, hq, -, -⟩ := f.trans.todo
  have d4 := f.lists.issued
  rw [hops.symm] at d4
  -- the pipeline only grows, and the step's `app` lands at its end
  have hpipe : (pipeline s).Sublist (pipeline s') ∧
      (queuedPkts ops ≠ [] → pipeline s' = pipeline s ++ queuedPkts ops) := by
    obtain ⟨k1, k2⟩ := f.trans.pipeline f.holder hw.needs_open
    simp only [pipeline, f.lists.wire, f.lists.queue, sentPkts_append, hq, List.append_assoc] at k1 k2 ⊢
    exact ⟨k1.append_left _, fun h => by rw [k2 h]⟩
  have hiss : ∀ p ∈ s.issued, p ∈ s'.issued := fun p h => by
    rw [d4]; exact List.mem_append_left _ h
  -- thread `t` has now also executed `ops`
  obtain ⟨done, hd1, hd2, hd3⟩ := hp.prog t
  rw [hpc] at hd1
  refine ⟨fun u => ?_, step_done_empty cfg s s' t hp.done_empty hs, fun p h => ?_⟩
  · by_cases hu : u = t
    · subst hu
      refine ⟨done ++ ops, by rw [hpc', hd1, htd, List.append_assoc], ?_, fun p h => ?_⟩
      · rw [queuedPkts_append]
        by_cases hq0 : queuedPkts ops = []
        · rw [hq0, List.append_nil]; exact hd2.trans hpipe.1
        · rw [hpipe.2 hq0]; exact hd2.append (List.Sublist.refl _)
      · rw [pktsOf_append] at h
        rcases List.mem_append.mp h with h | h
        · exact hiss p (hd3 p h)
        · rw [d4]; exact List.mem_append_right _ h
    · obtain ⟨done, e1, e2, e3⟩ := hp.prog u
      exact ⟨done, by rw [hoth u hu]; exact e1, e2.trans hpipe.1, fun p h => hiss p (e3 p h)⟩
  · rw [d4] at h
    rcases List.mem_append.mp h with h | h
    · exact hp.issued_prog p h
    · refine ⟨t, ?_⟩
      rw [hd1, htd, pktsOf_append, pktsOf_append]
      exact List.mem_append_right _ (List.mem_append_left _ h)

/-! ### The list of programs -/

theorem getD_big (progs : List (List Op)) (i : Nat) (h : progs.length ≤ i) :
    progs.getD i [] = [] := by
  rw [List.getD_eq_getElem?_getD, List.getElem?_eq_none h]; rfl

theorem init_todo (progs : List (List Op)) (t : Nat) :
    ((init progs).thr t).todo = progOf progs t := by
  simp only [init, progOf]
  by_cases h0 : t = 0
  · simp [h0]
  · by_cases h1 : t ≤ progs.length
    · simp [h0, h1]
    · have h2 : progs.length ≤ t - 1 := by omega
      rw [getD_big progs _ h2]
      simp [h0, h1]

/-! ### The combined invariant -/

/-- Everything we know about a reachable state of the system started on `progs`. -/
structure WInv (progs : List (List Op)) (s : Sys) : Prop where
  lock : LockInv s
  wire : WireInv s
  fresh : FreshInv s
  prog : ProgInv progs s

theorem step_inv (cfg : Cfg) (progs : List (List Op)) (s s' : Sys) (t : Tid)
    (h : WInv progs s) (hs : step cfg s t = some s') : WInv progs s' :=
  ⟨lock_step cfg s s' t h.lock hs,
   wire_step cfg s s' t h.lock h.wire (h.fresh.fresh t) hs,
   fresh_step cfg s s' t h.lock h.fresh hs,
   prog_step cfg progs s s' t h.lock h.wire h.prog hs⟩

/-- `run` is the run of `Lemmas/Sched.lean` over `step cfg`. -/
theorem run_eq (cfg : Cfg) (sched : List Tid) :
    ∀ s, run cfg s sched = Sched.run (step cfg) s sched := by
  induction sched with
  | nil => intro s; rfl
  | cons t ts ih =>
    intro s; simp only [run, Sched.run]
    cases step cfg s t <;> exact ih _

/-- What every step of a scheduled thread preserves holds after the schedule. -/
theorem run_induct (cfg : Cfg) (P : Sys → Prop) (sched : List Tid)
    (hP : ∀ s s' t, t ∈ sched → P s → step cfg s t = some s' → P s') (s : Sys) (hp : P s) :
    P (run cfg s sched) := by
  rw [run_eq]; exact Sched.run_induct (step cfg) P sched hP s hp

theorem run_inv (cfg : Cfg) (progs : List (List Op)) (sched : List Tid) :
    ∀ s, WInv progs s → WInv progs (run cfg s sched) :=
  run_induct cfg _ sched fun s s' t _ h hs => step_inv cfg progs s s' t h hs

/-- What every step preserves in states with the invariant holds, with the invariant, after the
schedule. -/
theorem run_induct_inv (cfg : Cfg) (progs : List (List Op)) (P : Sys → Prop) (sched : List Tid)
    (hP : ∀ s s' t, WInv progs s → P s → step cfg s t = some s' → P s') (s : Sys)
    (h : WInv progs s) (hp : P s) : P (run cfg s sched) :=
  (run_induct cfg (fun s => WInv progs s ∧ P s) sched
    (fun s s' t _ hq hs => ⟨step_inv cfg progs s s' t hq.1 hs, hP s s' t hq.1 hq.2 hs⟩) s ⟨h, hp⟩).2

theorem run_append (cfg : Cfg) (a b : List Tid) (s : Sys) :
    run cfg s (a ++ b) = run cfg (run cfg s a) b := by
  simp only [run_eq, Sched.run_append]

/-- The log only grows. -/
theorem run_log_prefix (cfg : Cfg) (sched : List Tid) (s : Sys) :
    s.log <+: (run cfg s sched).log := by
  refine run_induct cfg (s.log <+: ·.log) sched (fun x x' t _ hp hs => ?_) s (List.prefix_refl _)
  obtain ⟨ev, he⟩ := step_log cfg x x' t hs
  exact hp.trans (he ▸ List.prefix_append _ _)

theorem run_thr_other (cfg : Cfg) (sched : List Tid) (u : Tid) (hu : u ∉ sched) (s : Sys) :
    (run cfg s sched).thr u = s.thr u :=
  run_induct cfg (·.thr u = s.thr u) sched
    (fun x x' t ht hp hs => (step_thr_other cfg x x' t hs u fun e => hu (e ▸ ht)).trans hp) s rfl

/-! ### The initial state -/

/-- A thread with packets to issue runs one of the programs. -/
theorem progOf_get (progs : List (List Op)) (t : Nat) (h : pktsOf (progOf progs t) ≠ []) :
    ∃ ht : t - 1 < progs.length, t ≠ 0 ∧ progOf progs t = progs[t - 1] := by
  unfold progOf at h ⊢
  by_cases h0 : t = 0
  · rw [if_pos h0] at h; exact absurd rfl h
  · rw [if_neg h0] at h ⊢
    by_cases hi : t - 1 < progs.length
    · exact ⟨hi, h0, by simp [List.getD, hi]⟩
    · rw [getD_big progs _ (Nat.le_of_not_lt hi)] at h; exact absurd rfl h

theorem progOf_mem_flat (progs : List (List Op)) (t : Tid) (p : Pkt)
    (hp : p ∈ pktsOf (progOf progs t)) : p ∈ progs.flatMap pktsOf := by
  obtain ⟨ht, -, e⟩ := progOf_get progs t (List.ne_nil_of_mem hp)
  rw [e] at hp
  exact List.mem_flatMap.mpr ⟨_, List.getElem_mem ht, hp⟩

/-- Pairwise distinct packet ids: none twice in the program of a thread, none in the programs of
two threads. -/
theorem progOf_spec (progs : List (List Op)) (hnd : (progs.flatMap pktsOf).Nodup) (t : Nat) :
    (pktsOf (progOf progs t)).Nodup ∧
      ∀ u : Nat, t ≠ u → ∀ p ∈ pktsOf (progOf progs t), p ∉ pktsOf (progOf progs u) := by
  obtain ⟨h1, h2⟩ := List.pairwise_flatMap.mp hnd
  rw [List.pairwise_iff_getElem] at h2
  by_cases ht : pktsOf (progOf progs t) = []
  · rw [ht]; exact ⟨List.nodup_nil, fun _ _ _ hp => nomatch hp⟩
  · obtain ⟨hi, t0, ei⟩ := progOf_get progs t ht
    rw [ei]
    refine ⟨h1 _ (List.getElem_mem hi), fun u htu p hp hq => ?_⟩
    obtain ⟨hj, u0, ej⟩ := progOf_get progs u (List.ne_nil_of_mem hq)
    rw [ej] at hq
    rcases Nat.lt_or_gt_of_ne (show t - 1 ≠ u - 1 by omega) with h | h
    · exact h2 _ _ hi hj h p hp p hq rfl
    · exact h2 _ _ hj hi h p hq p hp rfl

theorem flat_mem_progOf (progs : List (List Op)) (p : Pkt) (hp : p ∈ progs.flatMap pktsOf) :
    ∃ t, p ∈ pktsOf (progOf progs t) := by
  obtain ⟨l, hl, hpl⟩ := List.mem_flatMap.mp hp
  obtain ⟨i, hi, rfl⟩ := List.getElem_of_mem hl
  refine ⟨i + 1, ?_⟩
  have : progs.getD i [] = progs[i] := by simp [List.getD, hi]
  unfold progOf
  have h0 : ¬ (i + 1 = 0) := by omega
  rw [if_neg h0, Nat.add_sub_cancel, this]; exact hpl

theorem init_inv (progs : List (List Op)) (hnd : (progs.flatMap pktsOf).Nodup) :
    WInv progs (init progs) := by
  refine ⟨lock_init progs, wire_init progs, ⟨?_, ?_, ?_, ?_⟩, ⟨?_, ?_, ?_⟩⟩
  · intro t p _; simp [init]
  · intro t; rw [init_todo]; exact (progOf_spec progs hnd t).1
  · intro t u htu p hp; rw [init_todo] at hp ⊢; exact (progOf_spec progs hnd t).2 u htu p hp
  · simp [init]
  · intro u; exact ⟨[], by rw [init_todo]; rfl, by simp [queuedPkts], by simp [pktsOf]⟩
  · intro u; simp only [init]; split
    · simp
    · split <;> simp
  · simp [init]

/-- Every state reached from the initial state by any schedule satisfies the invariant. -/
theorem reach_inv (cfg : Cfg) (progs : List (List Op)) (hnd : (progs.flatMap pktsOf).Nodup)
    (sched : List Tid) : WInv progs (run cfg (init progs) sched) :=
  run_inv cfg progs sched _ (init_inv progs hnd)

/-! ### Lists -/

theorem sublist_pair_left {α : Type} (a b : α) (A B : List α)
    (h : [a, b].Sublist (A ++ B)) (hb : b ∉ B) : [a, b].Sublist A := by
  obtain ⟨l1, l2, heq, h1, h2⟩ := List.sublist_append_iff.mp h
  match l1, heq with
  | [], heq =>
    simp at heq; subst heq
    exact absurd (h2.subset (by simp)) hb
  | [x], heq =>
    simp at heq; obtain ⟨rfl, rfl⟩ := heq
    exact absurd (h2.subset (by simp)) hb
  | [x, y], heq =>
    simp at heq; obtain ⟨rfl, rfl, rfl⟩ := heq
    exact h1
  | x :: y :: z :: r, heq => simp at heq

theorem pair_split {α : Type} (a b : α) (l : List α) (h : [a, b].Sublist l) :
    ∃ x y z, l = x ++ a :: y ++ b :: z := by
  induction l with
  | nil => cases h
  | cons c l ih =>
    cases h with
    | cons _ h => obtain ⟨x, y, z, rfl⟩ := ih h; exact ⟨c :: x, y, z, by simp⟩
    | cons_cons _ h =>
      have : b ∈ l := h.subset (by simp)
      obtain ⟨y, z, rfl⟩ := List.append_of_mem this
      exact ⟨[], y, z, by simp⟩

/-! ### FIFO -/

/-- Per-thread FIFO: if a program queues `p` before `q` and `q` has been sent, then `p` has been
sent before it. -/
theorem fifo_sent (progs : List (List Op)) (s : Sys) (h : WInv progs s) (t : Tid) (p q : Pkt)
    (hpq : [Op.queued p, Op.queued q].Sublist (progOf progs t))
    (hq : q ∈ sentPkts s.wire) : [p, q].Sublist (sentPkts s.wire) := by
  obtain ⟨done, hd1, hd2, -⟩ := h.prog.prog t
  have hqi : q ∈ s.issued := (h.wire.mem_issued q).mpr (Or.inl hq)
  have hfresh := h.fresh.fresh t
  rw [hd1] at hpq
  have hdone : [Op.queued p, Op.queued q].Sublist done := by
    apply sublist_pair_left _ _ _ _ hpq
    intro hmem
    exact hfresh q (by simp only [pktsOf, List.mem_flatMap]; exact ⟨_, hmem, by simp [Op.pkts]⟩) hqi
  have h2 : [p, q].Sublist (queuedPkts done) := by
    have := hdone.filterMap Op.queuedPkt
    simpa [queuedPkts, Op.queuedPkt] using this
  have h3 : [p, q].Sublist (sentPkts s.wire ++ ((cur s).popped ++ s.queue)) := by
    have := h2.trans hd2; simpa [pipeline] using this
  apply sublist_pair_left _ _ _ _ h3
  obtain ⟨-, hd, -, -⟩ := h.wire.disj
  intro hmem
  rcases List.mem_append.mp hmem with hm | hm
  · exact (hd q hq).1 (popped_infl _ _ hm)
  · exact (hd q hq).2.1 hm

/-! ### After the close -/

theorem closed_step (cfg : Cfg) (progs : List (List Op)) (s s' : Sys) (t : Tid)
    (h : WInv progs s) (hc : s.sockOpen = false) (hs : step cfg s t = some s') :
    s'.wire = s.wire ∧ s'.sockOpen = false := by
  obtain ⟨ev, pc, pc', td, td', f⟩ := step_facts cfg s s' t h.lock hs
  refine ⟨?_, (sockOpen_step f.flags.sockOpen).1 hc⟩
  rw [f.lists.wire, f.trans.closed_snds f.holder h.wire.needs_open hc, List.append_nil]

theorem closed_run (cfg : Cfg) (progs : List (List Op)) (sched : List Tid) (s : Sys)
    (h : WInv progs s) (hc : s.sockOpen = false) :
    (run cfg s sched).wire = s.wire ∧ (run cfg s sched).sockOpen = false :=
  run_induct_inv cfg progs (fun x => x.wire = s.wire ∧ x.sockOpen = false) sched
    (fun x x' t hi hp hs => by
      obtain ⟨h1, h2⟩ := closed_step cfg progs x x' t hi hp.2 hs
      exact ⟨h1.trans hp.1, h2⟩) s h ⟨rfl, hc⟩

/-- The last step of a `disconnect`. -/
theorem drel_step (cfg : Cfg) (s s' : Sys) (t : Tid) (c : DCtx)
    (hpc : (s.thr t).pc = .user (.dRel c)) (hs : step cfg s t = some s') :
    s'.wire = s.wire ∧ s'.sockOpen = s.sockOpen ∧ (s'.thr t).pc = .user .idle ∧
      s'.log = s.log ++ [(t, .rel)] := by
  unfold step at hs
  rw [hpc] at hs
  simp only [stepUser, Option.some.injEq] at hs
  subst hs
  simp [upd]

/-! ### `fail` is only ever raised to the caller of a forced write -/

theorem fail_only_forced (cfg : Cfg) (progs : List (List Op)) (s s' : Sys) (t : Tid)
    (h : WInv progs s) (hs : step cfg s t = some s') (hf : s'.log = s.log ++ [(t, .fail)]) :
    ∃ p, (s.thr t).pc = .user (.fSnd0 p) ∧ s.sockOpen = false ∧ s'.failed = s.failed ++ [p] := by
  obtain ⟨ev, pc, pc', td, td', f⟩ := step_facts cfg s s' t h.lock hs
  obtain rfl : ev = .fail := by rw [f.log] at hf; simpa using hf
  obtain ⟨p, rfl, -, hi, hcl⟩ := f.trans.fail f.holder h.wire.needs_open
  exact ⟨p, by rw [f.thr], hcl, by rw [f.lists.failed, if_pos rfl, hi]⟩

end PyCraft.Writers
