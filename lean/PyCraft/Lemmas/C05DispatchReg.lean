import PyCraft.Lemmas.C05Dispatch
/-!
Helper lemmas for `Props/C05Dispatch.lean`, second part: the registry `regTable` (alignment of the two
generated tables, every supported entry has a codec), the reactor's dict, and the framed stream of
registered packets.
-/
namespace PyCraft.Dsp
open PyCraft PyCraft.Pk PyCraft.Gen PyCraft.LayoutCheck

/-! ## the two generated tables list the same rows in the same order -/

/-- the classes of shape `j` of an index table, with their codec indices -/
abbrev shapeOf (x : C05D.IdxTable) (j : Nat) : List (String × Nat) := (x.shapes[j]?).getD []

def shapeHasCombat (s : List (String × Nat)) : Bool := s.any fun c => c.1 == "CombatEventPacket"

/-- An id row is `(version, supported, [(class name, id)])`, an index row `(version, shape number)`.
Same table name; one id row per known version, in publication order; one index row per id row, with
the same version and the same class names in the same order; and no row from `PRE | 15` (Python;
`PRE + 15` here) on, i.e. from index `Dsp.rank (PRE + 15)` on, has `CombatEventPacket` in its shape -/
def tableOK (t : String × List IdRow) (x : String × C05D.IdxTable) : Bool :=
  t.1 == x.1 && t.2.length == x.2.rows.length && t.2.map (·.1) == liveTables.knownProtocols &&
  (List.zipWith (fun (r : IdRow) (y : Nat × Nat) =>
      r.1 == y.1 && r.2.2.map (·.1) == (shapeOf x.2 y.2).map (·.1)) t.2 x.2.rows).all id &&
  (x.2.rows.drop (rank (PRE + 15))).all fun y => !shapeHasCombat (shapeOf x.2 y.2)

def alignOK : Bool :=
  idTables.length == C05D.codecIdx.length && (List.zipWith tableOK idTables C05D.codecIdx).all id

theorem alignOK_true : alignOK = true := by decide +kernel

theorem tables_length : idTables.length = C05D.codecIdx.length :=
  eq_of_beq ((Bool.and_eq_true _ _).mp alignOK_true).1

theorem tableOK_of_mem {t : String × List IdRow} {x : String × C05D.IdxTable}
    (hm : (t, x) ∈ idTables.zip C05D.codecIdx) :
    t.2.length = x.2.rows.length ∧ t.2.map (·.1) = liveTables.knownProtocols ∧
    (∀ r y, (r, y) ∈ t.2.zip x.2.rows → r.2.2.map (·.1) = (shapeOf x.2 y.2).map (·.1)) ∧
    ∀ y ∈ x.2.rows.drop (rank (PRE + 15)), shapeHasCombat (shapeOf x.2 y.2) = false := by
  have h := zipWith_all _ _ _ ((Bool.and_eq_true _ _).mp alignOK_true).2 t x hm
  simp only [tableOK, Bool.and_eq_true, beq_iff_eq, List.all_eq_true, Bool.not_eq_true'] at h
  obtain ⟨⟨⟨⟨_, hl⟩, hk⟩, hrows⟩, hc⟩ := h
  refine ⟨hl, hk, fun r y hry => ?_, hc⟩
  have := zipWith_all _ _ _ (List.all_eq_true.mpr hrows) r y hry
  simp only [Bool.and_eq_true, beq_iff_eq] at this
  exact this.2

theorem idRow_mkRow (tab : C05D.IdxTable) (r : IdRow) (y : Nat × Nat)
    (h : r.2.2.map (·.1) = (shapeOf tab y.2).map (·.1)) : (mkRow tab r y).idRow = r := by
  obtain ⟨v, s, ents⟩ := r
  have hl : ents.length = ((shapeOf tab y.2).map (·.2)).length := by
    have := congrArg List.length h
    simpa using this
  simp only [RegRow.idRow, mkRow]
  rw [map_zipWith_left (mkEnt v) (fun e => (e.cls, e.id)) ents _ hl (fun _ _ _ => rfl)]

/-- the id-table view of `regTable` IS `Gen.idTables` -/
theorem aligned : regTable.map (fun t => (t.1, t.2.map RegRow.idRow)) = idTables := by
  refine map_zipWith_left mkTable _ idTables C05D.codecIdx tables_length (fun t x hm => ?_)
  obtain ⟨hlen, _, hnames, _⟩ := tableOK_of_mem hm
  obtain ⟨tn, rows⟩ := t
  have key : (List.zipWith (mkRow x.2) rows x.2.rows).map RegRow.idRow = rows :=
    map_zipWith_left (mkRow x.2) RegRow.idRow rows x.2.rows hlen
      (fun r y hry => idRow_mkRow x.2 r y (hnames r y hry))
  show (tn, (List.zipWith (mkRow x.2) rows x.2.rows).map RegRow.idRow) = (tn, rows)
  rw [key]

theorem mem_idTables_of_mem {t : String × List RegRow} (ht : t ∈ regTable) :
    (t.1, t.2.map RegRow.idRow) ∈ idTables := by
  rw [← aligned]
  exact List.mem_map.mpr ⟨t, ht, rfl⟩

/-- every table lists every known protocol version, in publication order -/
theorem cols_known {t : String × List IdRow} (ht : t ∈ idTables) :
    t.2.map (·.1) = liveTables.knownProtocols := by
  obtain ⟨x, hx⟩ := mem_zip_of_mem_left _ _ tables_length t ht
  obtain ⟨_, hversions, _, _⟩ := tableOK_of_mem hx
  exact hversions

/-! ## every entry has a codec -/

/-- index 0 is "hand-written"; every other codec is an admissible field list -/
def codecsOK : Bool :=
  C05D.codecs[0]? == some none &&
  (C05D.codecs.drop 1).all fun c =>
    match c with
    | some L => Layout.ok L
    | none => false

/-- in every shape every codec index is in range, and a class with index 0 (hand-written) is one of the
six modelled ones -/
def shapesOK : Bool :=
  C05D.codecIdx.all fun x => x.2.shapes.all fun s => s.all fun c =>
    decide (c.2 < C05D.codecs.length) && (c.2 != 0 || handNames.contains c.1)

theorem codecsOK_true : codecsOK = true := by decide +kernel
theorem shapesOK_true : shapesOK = true := by decide +kernel

theorem codecs_zero : C05D.codecs[0]? = some none :=
  eq_of_beq ((Bool.and_eq_true _ _).mp codecsOK_true).1

theorem codecs_succ (m : Nat) (hm : m + 1 < C05D.codecs.length) :
    ∃ L, C05D.codecs[m + 1]? = some (some L) ∧ Layout.ok L = true := by
  have hc : (C05D.codecs.drop 1)[m]? = some C05D.codecs[m + 1] := by
    rw [List.getElem?_drop, Nat.add_comm, List.getElem?_eq_getElem hm]
  have := List.all_eq_true.mp ((Bool.and_eq_true _ _).mp codecsOK_true).2 _ (List.mem_of_getElem? hc)
  rw [List.getElem?_eq_getElem hm]
  cases h : C05D.codecs[m + 1] with
  | none => simp [h] at this
  | some L => exact ⟨L, rfl, by simpa [h] using this⟩

theorem codecOfIdx_known (cls : String) (v k : Nat) (hv : v ∈ liveTables.knownProtocols)
    (hk : k < C05D.codecs.length) (hh : k ≠ 0 ∨ cls ∈ handNames) :
    ∃ c, codecOfIdx cls v k = some c ∧ c.admissible = true := by
  cases k with
  | zero =>
    have hc : cls ∈ handNames := hh.resolve_left (by simp)
    obtain ⟨c, h1, h2⟩ := handCodec_known cls v hc hv
    exact ⟨c, by simp [codecOfIdx, codecs_zero, h1], h2⟩
  | succ m =>
    obtain ⟨L, hL, hok⟩ := codecs_succ m hk
    obtain ⟨L', h1, h2⟩ := layoutAt_known v hv L
    exact ⟨.fields L', by simp [codecOfIdx, hL, h1], by simp [Codec.admissible, h2, hok]⟩

/-- the class with a given position in an id row and the codec index at that position of a shape with
the same class names form an entry of the shape -/
theorem mem_shape_of_zip {ents : List (String × Option Int)} {s : List (String × Nat)}
    (hn : ents.map (·.1) = s.map (·.1)) {e : String × Option Int} {k : Nat}
    (hm : (e, k) ∈ ents.zip (s.map (·.2))) : (e.1, k) ∈ s := by
  obtain ⟨i, hi⟩ := List.getElem?_of_mem hm
  obtain ⟨h1, h2⟩ := List.getElem?_zip_eq_some.mp hi
  obtain ⟨c, hc, hck⟩ : ∃ c, s[i]? = some c ∧ c.2 = k := by
    simpa [List.getElem?_map, Option.map_eq_some_iff] using h2
  have h3 := congrArg (·[i]?) hn
  simp only [List.getElem?_map, h1, hc, Option.map_some, Option.some.injEq] at h3
  rw [h3, ← hck]
  exact List.mem_of_getElem? hc

/-- an entry of `regTable`, decomposed into its sources: the id row, the index row, and the entry of
the shape -/
theorem regEnt_sources {t : String × List RegRow} (ht : t ∈ regTable) {r : RegRow} (hr : r ∈ t.2)
    {e : RegEnt} (he : e ∈ r.ents) :
    ∃ (t0 : String × List IdRow) (x : String × C05D.IdxTable) (r0 : IdRow) (y : Nat × Nat)
      (e0 : String × Option Int) (k : Nat),
      (t0, x) ∈ idTables.zip C05D.codecIdx ∧ (r0, y) ∈ t0.2.zip x.2.rows ∧
      (e0.1, k) ∈ shapeOf x.2 y.2 ∧ e = mkEnt r0.1 e0 k := by
  obtain ⟨t0, x, hm, rfl⟩ := mem_zipWith_elim _ _ _ _ ht
  obtain ⟨r0, y, hm2, rfl⟩ := mem_zipWith_elim _ _ _ _ hr
  obtain ⟨e0, k, hm3, rfl⟩ := mem_zipWith_elim _ _ _ _ he
  obtain ⟨_, _, hnames, _⟩ := tableOK_of_mem hm
  exact ⟨t0, x, r0, y, e0, k, hm, hm2, mem_shape_of_zip (hnames r0 y hm2) hm3, rfl⟩

theorem shape_entry_ok {x : String × C05D.IdxTable} (hx : x ∈ C05D.codecIdx) {j : Nat}
    {c : String × Nat} (hc : c ∈ shapeOf x.2 j) :
    c.2 < C05D.codecs.length ∧ (c.2 ≠ 0 ∨ c.1 ∈ handNames) := by
  cases hs : x.2.shapes[j]? with
  | none => simp [shapeOf, hs] at hc
  | some s =>
    simp only [shapeOf, hs, Option.getD_some] at hc
    have := List.all_eq_true.mp (List.all_eq_true.mp (List.all_eq_true.mp shapesOK_true x hx) s
      (List.mem_of_getElem? hs)) c hc
    simpa using this

/-- For every table, every version and every class registered for it, the registry has a codec, and
it is an admissible one. -/
theorem entry_codec {t : String × List RegRow} (ht : t ∈ regTable) {r : RegRow}
    (hr : r ∈ t.2) {e : RegEnt} (he : e ∈ r.ents) :
    ∃ c, e.codec = some c ∧ c.admissible = true := by
  obtain ⟨t0, x, r0, y, e0, k, hm, hm2, hc, rfl⟩ := regEnt_sources ht hr he
  obtain ⟨_, hversions, _, _⟩ := tableOK_of_mem hm
  have hv : r0.1 ∈ liveTables.knownProtocols :=
    hversions ▸ List.mem_map.mpr ⟨r0, (List.of_mem_zip hm2).1, rfl⟩
  obtain ⟨hk, hh⟩ := shape_entry_ok (List.of_mem_zip hm).2 hc
  exact codecOfIdx_known e0.1 r0.1 k hv hk hh

/-! ## the dict of the reactor -/

/-- the dict holds, under each key, the LAST pair inserted with that key -/
theorem dictGetG_buildDictG {α : Type} (l : List (Int × α)) (i : Int) :
    dictGetG (buildDictG l) i = (l.reverse.find? (·.1 == i)).map (·.2) := by
  rw [dictGetG, buildDictG, find?_foldl_insert]
  simp

/-- whatever the dict returns was inserted under that key -/
theorem dict_sound {α : Type} (l : List (Int × α)) (i : Int) (a : α)
    (h : dictGetG (buildDictG l) i = some a) : (i, a) ∈ l := by
  rw [dictGetG_buildDictG] at h
  cases hf : l.reverse.find? (·.1 == i) with
  | none => simp [hf] at h
  | some e =>
    simp only [hf, Option.map_some, Option.some.injEq] at h
    have hm := List.mem_reverse.mp (List.mem_of_find?_eq_some hf)
    have hi : e.1 = i := by simpa using List.find?_some hf
    rw [← h, ← hi]
    exact hm

/-- a key inserted with a single value is found with that value, in whatever order -/
theorem dict_unique {α : Type} (l : List (Int × α)) (i : Int) (a : α) (hm : (i, a) ∈ l)
    (hu : ∀ p ∈ l, p.1 = i → p.2 = a) : dictGetG (buildDictG l) i = some a := by
  rw [dictGetG_buildDictG]
  cases hf : l.reverse.find? (·.1 == i) with
  | none =>
    have := List.find?_eq_none.mp hf (i, a) (List.mem_reverse.mpr hm)
    simp at this
  | some e =>
    have hm' := List.mem_reverse.mp (List.mem_of_find?_eq_some hf)
    have hi : e.1 = i := by simpa using List.find?_some hf
    simp [hu e hm' hi]

theorem keyed_ok : ∀ (l : List RegEnt), (∀ e ∈ l, ∃ i, e.id = some i) →
    ∃ ks, keyed l = .ok ks ∧ ks.map (·.2) = l ∧ ∀ p ∈ ks, p.2.id = some p.1
  | [], _ => ⟨[], rfl, rfl, by simp⟩
  | e :: l, h => by
    obtain ⟨i, hi⟩ := h e (by simp)
    obtain ⟨ks, h1, h2, h3⟩ := keyed_ok l (fun e' he' => h e' (by simp [he']))
    refine ⟨(i, e) :: ks, by simp [keyed, hi, h1, Except.map], by simp [h2], fun p hp => ?_⟩
    rcases List.mem_cons.mp hp with rfl | hp
    · exact hi
    · exact h3 p hp

/-- in a registry row, an id that is not a duplicate of the id row identifies ONE entry -/
theorem entry_unique : ∀ (ents : List RegEnt) (i : Int),
    some i ∉ dupIds (ents.map fun e => (e.cls, e.id)) →
    ∀ x ∈ ents, ∀ y ∈ ents, x.id = some i → y.id = some i → x = y
  | [], _, _, x, hx, _, _, _, _ => by simp at hx
  | e :: rest, i, hnd, x, hx, y, hy, hxi, hyi => by
    simp only [List.map_cons, dupIds, List.mem_append, not_or] at hnd
    -- the head and a later entry cannot both carry `i`: the head's id would be listed as a duplicate
    have clash : ∀ z ∈ rest, z.id = some i → e.id = some i → False := fun z hz hzi hei => by
      have : (rest.map fun e => (e.cls, e.id)).any (fun f => f.2 == e.id) = true :=
        List.any_eq_true.mpr ⟨(z.cls, z.id), List.mem_map.mpr ⟨z, hz, rfl⟩, by simp [hzi, hei]⟩
      exact hnd.1 (by rw [if_pos this, hei]; exact List.mem_singleton.mpr rfl)
    rcases List.mem_cons.mp hx with hx | hx <;> rcases List.mem_cons.mp hy with hy | hy
    · rw [hx, hy]
    · exact (clash y hy hyi (hx ▸ hxi)).elim
    · exact (clash x hx hxi (hy ▸ hyi)).elim
    · exact entry_unique rest i hnd.2 x hx y hy hxi hyi

/-! ## the framed stream of registered packets -/

/-- what `read_packet` should deliver for `p` before dispatch: the id and the body bytes -/
def rawOfReg (p : RPacket) : Nat × Bytes :=
  (match p.ent.id with
    | some i => i.toNat
    | none => 0,
   match p.ent.codec with
    | some k => (match k.write p.val with
      | .ok b => b
      | .error _ => [])
    | none => [])

/-- what `RegOK` gives for one packet whose class has id `i` and codec `k` -/
structure RegFacts (z : ZlibOps) (thr : Option Int) (p : RPacket) (i : Int) (k : Codec) : Prop where
  id : p.ent.id = some i
  nonneg : 0 ≤ i
  codec : p.ent.codec = some k
  wf : k.WF p.val
  write : k.write p.val = .ok (rawOfReg p).2
  rawId : (rawOfReg p).1 = i.toNat
  frame : FrameOK z thr (rawOfReg p)
  read : k.read (rawOfReg p).2 = .ok (k.norm p.val, [])

theorem regOK_facts (z : ZlibOps) (thr : Option Int) (p : RPacket) (h : RegOK z thr p) :
    ∃ i k, RegFacts z thr p i k := by
  unfold RegOK at h
  split at h
  · next i k hi hk =>
    obtain ⟨h0, hwf, hfr⟩ := h
    obtain ⟨bs, hw, hrd, _⟩ := codec_rt k p.val hwf
    rw [hw] at hfr
    have hraw : rawOfReg p = (i.toNat, bs) := by simp [rawOfReg, hi, hk, hw]
    refine ⟨i, k, hi, h0, hk, hwf, ?_, ?_, ?_, ?_⟩
    · rw [hraw]; exact hw
    · rw [hraw]
    · rw [hraw]; exact hfr
    · rw [hraw]; exact hrd
  · exact absurd h id

theorem writeReg_of_ok (z : ZlibOps) (thr : Option Int) (p : RPacket) (h : RegOK z thr p) :
    writeReg z thr p = .ok (packetFrame z thr (rawOfReg p)) := by
  obtain ⟨i, k, f⟩ := regOK_facts z thr p h
  have hlt : ¬ i < 0 := by have := f.nonneg; omega
  have hraw : rawOfReg p = (i.toNat, (rawOfReg p).2) := by rw [← f.rawId]
  rw [hraw]
  simp [writeReg, f.id, f.codec, hlt, f.write, bind, Except.bind, pure, Except.pure]

theorem writeRegAll_of_ok (z : ZlibOps) (thr : Option Int) : ∀ ps : List RPacket,
    (∀ p ∈ ps, RegOK z thr p) →
      writeRegAll z thr ps = .ok ((ps.map rawOfReg).map (packetFrame z thr)).flatten
  | [], _ => rfl
  | p :: ps, h => by
    simp only [writeRegAll, writeReg_of_ok z thr p (h p (by simp)),
      writeRegAll_of_ok z thr ps (fun q hq => h q (by simp [hq])), bind, Except.bind, pure, Except.pure]
    simp

theorem frameOK_of_ok (z : ZlibOps) (thr : Option Int) (ps : List RPacket)
    (hok : ∀ p ∈ ps, RegOK z thr p) : ∀ q ∈ ps.map rawOfReg, FrameOK z thr q := fun q hq => by
  obtain ⟨p, hp, rfl⟩ := List.mem_map.mp hq
  obtain ⟨_, _, f⟩ := regOK_facts z thr p (hok p hp)
  exact f.frame

/-- a dict that finds every packet's class under its id delivers what is expected -/
theorem deliver_all (z : ZlibOps) (thr : Option Int) (dict : List (Int × RegEnt)) (ps : List RPacket)
    (hok : ∀ p ∈ ps, RegOK z thr p)
    (hd : ∀ p ∈ ps, ∀ i, p.ent.id = some i → dictGetG dict i = some p.ent) :
    (ps.map rawOfReg).map (deliver dict) = ps.map RPacket.expected := by
  rw [List.map_map]
  refine List.map_congr_left fun p hp => ?_
  obtain ⟨i, k, f⟩ := regOK_facts z thr p (hok p hp)
  have hcast : ((rawOfReg p).1 : Int) = i := by have := f.nonneg; rw [f.rawId]; omega
  simp [deliver, hcast, hd p hp i f.id, f.codec, f.read, RPacket.expected]

/-! ## `CombatEventPacket` is only registered where it is not deprecated -/

theorem map_ne_combat {α : Type} {g : α → Codec} {o : Option α} {f : CombatFlags}
    (hg : ∀ a, g a ≠ .combat f) : o.map g ≠ some (.combat f) := by
  cases o with
  | none => exact nofun
  | some a => exact fun h => hg a (Option.some.inj h)

theorem handCodec_combat {cls : String} {v : Nat} {f : CombatFlags}
    (h : handCodec cls v = some (.combat f)) :
    cls = "CombatEventPacket" ∧ combatFlagsOf v = some f := by
  unfold handCodec at h
  by_cases hc : cls = "CombatEventPacket"
  · subst hc
    simpa using h
  · rw [if_neg hc] at h
    by_cases h1 : cls = "MapPacket"
    · rw [if_pos h1] at h; exact absurd h (map_ne_combat fun _ => nofun)
    rw [if_neg h1] at h
    by_cases h2 : cls = "PlayerListItemPacket"
    · rw [if_pos h2] at h; cases h
    rw [if_neg h2] at h
    by_cases h3 : cls = "SpawnObjectPacket"
    · rw [if_pos h3] at h; exact absurd h (map_ne_combat fun _ => nofun)
    rw [if_neg h3] at h
    by_cases h4 : cls = "FacePlayerPacket"
    · rw [if_pos h4] at h; exact absurd h (map_ne_combat fun _ => nofun)
    rw [if_neg h4] at h
    by_cases h5 : cls = "PluginResponsePacket"
    · rw [if_pos h5] at h; cases h
    rw [if_neg h5] at h; cases h

theorem codecOfIdx_combat {cls : String} {v k : Nat} {f : CombatFlags}
    (h : codecOfIdx cls v k = some (.combat f)) :
    cls = "CombatEventPacket" ∧ combatFlagsOf v = some f := by
  unfold codecOfIdx at h
  generalize C05D.codecs[k]? = c at h
  match c, h with
  | some none, h => exact handCodec_combat h
  | some (some L), h => exact absurd h (map_ne_combat fun _ => nofun)
  | none, h => cases h

theorem registered_combat_live {t : String × List RegRow} (ht : t ∈ regTable) {r : RegRow}
    (hr : r ∈ t.2) {e : RegEnt} (he : e ∈ r.ents) {f : CombatFlags}
    (h : e.codec = some (.combat f)) : f = ⟨false⟩ := by
  obtain ⟨t0, x, r0, y, e0, k, hm, hm2, hc, rfl⟩ := regEnt_sources ht hr he
  obtain ⟨hcls, hfl⟩ := codecOfIdx_combat h
  obtain ⟨_, hk, _, hcombat⟩ := tableOK_of_mem hm
  obtain ⟨iv, hiv⟩ := List.getElem?_of_mem hm2
  obtain ⟨h1, h2⟩ := List.getElem?_zip_eq_some.mp hiv
  rw [combatFlagsOf_of_index (index_of_row hk h1), combatFlagsR] at hfl
  generalize rank (PRE + 15) = a at hfl hcombat
  -- a row from `PRE|15` on would be among the rows checked to have no `CombatEventPacket`
  have hlt : ¬ a ≤ iv := fun hle => by
    have hy : y ∈ x.2.rows.drop a :=
      List.mem_of_getElem? (i := iv - a) (by rw [List.getElem?_drop, ← h2, Nat.add_sub_cancel' hle])
    have hany : shapeHasCombat (shapeOf x.2 y.2) = true :=
      List.any_eq_true.mpr ⟨_, hc, by simp [hcls]⟩
    rw [hcombat y hy] at hany
    cases hany
  rw [decide_eq_false hlt] at hfl
  exact (Option.some.inj hfl).symm

/-! ## from the lookup functions to membership -/

theorem regRow_mem {t : String} {v : Nat} {r : RegRow} (h : regRow t v = some r) :
    ∃ tt ∈ regTable, tt.1 = t ∧ r ∈ tt.2 ∧ r.v = v := by
  unfold regRow at h
  cases hl : regTable.lookup t with
  | none => simp [hl] at h
  | some rows =>
    simp only [hl, Option.bind_some] at h
    refine ⟨(t, rows), mem_of_lookup hl, rfl, List.mem_of_find?_eq_some h, ?_⟩
    have := List.find?_some h
    simpa using this

theorem regEnt_mem {t : String} {v : Nat} {c : String} {e : RegEnt} (h : regEnt t v c = some e) :
    ∃ r, regRow t v = some r ∧ e ∈ r.ents ∧ e.cls = c := by
  unfold regEnt at h
  cases hr : regRow t v with
  | none => simp [hr] at h
  | some r =>
    simp only [hr, Option.bind_some] at h
    refine ⟨r, rfl, List.mem_of_find?_eq_some h, ?_⟩
    have := List.find?_some h
    simpa using this

/-- a one-line summary of a delivered packet with decidable equality (for the examples): class name,
the class's id, and — when `read` succeeded — the number of payload bytes left unread -/
def Delivered.summary : Delivered → String × Option Int × Option Nat
  | .known e (.ok r) => (e.cls, e.id, some r.2.length)
  | .known e (.error _) => (e.cls, e.id, none)
  | .unknown i => ("", some i, none)

end PyCraft.Dsp
