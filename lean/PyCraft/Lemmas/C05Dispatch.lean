import PyCraft.Model.C05Dispatch
import PyCraft.Lemmas.Custom
import PyCraft.Lemmas.Layout
import PyCraft.Lemmas.LayoutTables
import PyCraft.Lemmas.Packets
import PyCraft.Lemmas.Ids
import PyCraft.Lemmas.TypedStream
import PyCraft.Lemmas.VersionsLive
/-!
Helper lemmas for `Props/C05Dispatch.lean` (model: `Model/C05Dispatch.lean`).

* generic facts about `List.zipWith` and `List.lookup`;
* `codec_rt`: every codec (field list or hand-written) round-trips on its `WF` domain;
* the comparisons of a context computed from the INDEX of its version (`cmpGe_of_index`, …); in a
  table with one row per known version the index is the row number (`index_of_row`), so the Bool
  checkers (`rowsCheck`, `spyCheck`, `bytesCheck`) walk the rows once and look no version up.
-/
namespace PyCraft.Dsp
open PyCraft PyCraft.Pk PyCraft.Gen PyCraft.LayoutCheck

theorem mem_zipWith_elim {α β γ : Type} (f : α → β → γ) (l1 : List α) (l2 : List β) (z : γ)
    (h : z ∈ List.zipWith f l1 l2) : ∃ x y, (x, y) ∈ l1.zip l2 ∧ z = f x y := by
  rw [← List.map_uncurry_zip_eq_zipWith] at h
  obtain ⟨p, hp, rfl⟩ := List.mem_map.mp h
  exact ⟨p.1, p.2, hp, rfl⟩

theorem zipWith_all {α β : Type} (c : α → β → Bool) (l1 : List α) (l2 : List β)
    (h : (List.zipWith c l1 l2).all id = true) (x : α) (y : β) (hm : (x, y) ∈ l1.zip l2) :
    c x y = true := by
  rw [← List.map_uncurry_zip_eq_zipWith, List.all_map] at h
  exact List.all_eq_true.mp h (x, y) hm

theorem mem_zip_of_mem_left {α β : Type} (l1 : List α) (l2 : List β) (hl : l1.length = l2.length)
    (x : α) (h : x ∈ l1) : ∃ y, (x, y) ∈ l1.zip l2 := by
  rw [← List.map_fst_zip (Nat.le_of_eq hl)] at h
  obtain ⟨p, hp, rfl⟩ := List.mem_map.mp h
  exact ⟨p.2, hp⟩

/-- projecting a `zipWith` back onto its first list -/
theorem map_zipWith_left {α β γ : Type} (f : α → β → γ) (g : γ → α) (l1 : List α) (l2 : List β)
    (hl : l1.length = l2.length) (h : ∀ x y, (x, y) ∈ l1.zip l2 → g (f x y) = x) :
    (List.zipWith f l1 l2).map g = l1 := by
  rw [← List.map_uncurry_zip_eq_zipWith, List.map_map]
  conv => rhs; rw [← List.map_fst_zip (Nat.le_of_eq hl)]
  exact List.map_congr_left fun p hp => h p.1 p.2 hp

theorem mem_of_lookup {α β : Type} [BEq α] [LawfulBEq α] {l : List (α × β)} {k : α} {y : β}
    (h : l.lookup k = some y) : (k, y) ∈ l := by
  obtain ⟨l₁, l₂, rfl, _⟩ := List.lookup_eq_some_iff.mp h
  simp

/-- `List.lookup` finds SOME entry with that key -/
theorem lookup_of_mem {α β : Type} [BEq α] [LawfulBEq α] {l : List (α × β)} {k : α} {y : β}
    (h : (k, y) ∈ l) : ∃ y', l.lookup k = some y' ∧ (k, y') ∈ l := by
  obtain ⟨y', hy⟩ := Option.isSome_iff_exists.mp
    (List.lookup_isSome_iff.mpr ⟨_, h, beq_self_eq_true k⟩)
  exact ⟨y', hy, mem_of_lookup hy⟩

/-! ## every codec round-trips on its domain -/

theorem wtHasNbt_eq : ∀ t : WType, wtHasNbt t = t.hasNbt := by
  intro t
  induction t with
  | array l t ih => simpa [wtHasNbt, WType.hasNbt] using ih
  | custom c => cases c <;> rfl
  | _ => rfl

theorem codec_hasNbt_fields (L : Layout) : (Codec.fields L).hasNbt = Layout.hasNbt L := by
  simp [Codec.hasNbt, Layout.hasNbt, wtHasNbt_eq]

/-- a round trip in the sense of `RT`, seen through the embedding `inj` of the packet into `PVal`; such
a body can be followed by anything, under whatever condition `c` the caller asks it -/
theorem rt_lift {α : Type} {w : Except Err Bytes} {r : Reader α} {x : α} (inj : α → PVal) (c : Prop)
    (h : RT w r x) :
    ∃ bs, w = .ok bs ∧ (r bs).map (fun q => (inj q.1, q.2)) = .ok (inj x, []) ∧
      (c → ∀ rest, (r (bs ++ rest)).map (fun q => (inj q.1, q.2)) = .ok (inj x, rest)) := by
  obtain ⟨bs, hw, h0, hr⟩ := rt_exact h
  exact ⟨bs, hw, by rw [h0]; rfl, fun _ rest => by rw [hr rest]; rfl⟩

/-- For every codec and every wire-representable value: `write_fields` succeeds; `read` of exactly the
written bytes returns the (normalised) value and leaves nothing; and when the body is self-delimiting
the same holds with anything appended, which is left unread. -/
theorem codec_rt (k : Codec) (p : PVal) (h : k.WF p) :
    ∃ bs, k.write p = .ok bs ∧ k.read bs = .ok (k.norm p, []) ∧
      (k.selfDelimiting p = true → ∀ rest, k.read (bs ++ rest) = .ok (k.norm p, rest)) := by
  cases k <;> cases p <;> try exact h.elim
  case fields.fields L vals =>
    obtain ⟨bs, h1, h2, h3⟩ := fields_rt realCustomLaw L vals h.1 h.2
    exact ⟨bs, h1, by simp [Codec.read, Codec.norm, h3, Except.map],
      fun hs rest => by simp [Codec.read, Codec.norm, h2 hs rest, Except.map]⟩
  case map.map f p => exact rt_lift PVal.map _ (rt_map f p h)
  case pli.pli p => exact rt_lift PVal.pli _ (rt_pli p h)
  case spawn.spawn f p => exact rt_lift PVal.spawn _ (rt_spawn f p h)
  case combat.combat f ev => exact rt_lift PVal.combat _ (rt_combat f ev h)
  case face.face f p => exact rt_lift PVal.face _ (rt_face f p h)
  case plug.plug p =>
    obtain ⟨bs, hw, hr, hs⟩ := plugresp_rt p h
    refine ⟨bs, hw, by simp [Codec.read, Codec.norm, hr, Except.map], fun hsd rest => ?_⟩
    have : p.effSuccessful = false := by simpa [Codec.selfDelimiting] using hsd
    simp [Codec.read, Codec.norm, hs this rest, Except.map]

instance (k : Codec) (p : PVal) : Decidable (k.WF p) := by
  cases k <;> cases p <;> unfold Codec.WF <;> infer_instance

instance (z : ZlibOps) (thr : Option Int) (p : RPacket) : Decidable (RegOK z thr p) := by
  unfold RegOK
  split
  · next i k _ _ => cases k.write p.val <;> exact inferInstance
  · exact inferInstance

/-! ## an in-domain sample value for every codec (non-vacuity) -/

def sampleUuid : Bytes := [0, 1, 2, 3, 4, 5, 6, 7, 8, 9, 10, 11, 12, 13, 14, 15]

def sampleMap : MapPkt :=
  ⟨3, 1, true, false, [⟨5, 12, -1, 1, some "hi"⟩], 2, 1, some (3, 4), some [0xaa, 0xbb]⟩

def samplePli : PliPkt :=
  ⟨.addPlayer, [.addPlayer sampleUuid "ab" [⟨"n", "v", some "s"⟩] 1 20 (some "hi")]⟩

/-- coordinates 1, 2, 3: as `Integer`s before protocol 100, as the IEEE patterns of the `Double`s
1.0, 2.0, 3.0 from there on; pitch 90° and yaw 180° as the `Angle` steps 64 and 128 -/
def sampleSpawn (f : SpawnFlags) : SpawnPkt :=
  if f.v100 then
    ⟨1, some sampleUuid, 5, 0x3FF0000000000000, 0x4000000000000000, 0x4008000000000000, 64, 128, 1,
     some 1, some 2, some 3⟩
  else ⟨1, some sampleUuid, 5, 1, 2, 3, 64, 128, 1, some 1, some 2, some 3⟩

/-- target (1.0, 2.0, 3.0) as IEEE patterns -/
def sampleFace : FacePkt :=
  ⟨some 0, some 0x3FF0000000000000, some 0x4000000000000000, some 0x4008000000000000, some 7, some 1⟩

/-- the sample packets of the generator's recording runs (`harness/gen/c05dispatch.py`,
`hand_samples`), and for a field list the sample values of `Lemmas/LayoutTables.lean` -/
def sampleOf : Codec → PVal
  | .fields L => .fields (L.map fun f => sampleVal f.2)
  | .map _ => .map sampleMap
  | .pli => .pli samplePli
  | .spawn f => .spawn (sampleSpawn f)
  | .combat _ => .combat (.dead 1 2 "x")
  | .face _ => .face sampleFace
  | .plug => .plug ⟨1, some true, some [0x61, 0x62]⟩

/-- the codec is one for which the model makes a claim: an admissible field list without NBT, or a
hand-written pair that is not the deprecated combat packet -/
def Codec.admissible : Codec → Bool
  | .fields L => L.ok
  | _ => true

theorem sample_WF (k : Codec) (hok : k.admissible = true) (hn : k.hasNbt = false)
    (hc : k ≠ .combat ⟨true⟩) : k.WF (sampleOf k) := by
  cases k with
  | fields L =>
    exact ⟨hok, sample_wellTypedFields L (by rw [← codec_hasNbt_fields]; exact hn)⟩
  | map f =>
    obtain ⟨a, b, c, d, e⟩ := f
    show MapWF _ sampleMap
    cases a <;> cases b <;> cases c <;> cases d <;> cases e <;> decide +kernel
  | pli => show PliWF samplePli; decide +kernel
  | spawn f =>
    obtain ⟨a, b, c⟩ := f
    show SpawnWF _ (sampleSpawn _)
    cases a <;> cases b <;> cases c <;> decide +kernel
  | combat f =>
    obtain ⟨a⟩ := f
    cases a with
    | true => exact absurd rfl hc
    | false => show CombatWF _ _; decide +kernel
  | face f =>
    obtain ⟨a⟩ := f
    show FaceWF _ sampleFace
    cases a <;> decide +kernel
  | plug => show PluginRespWF _; decide +kernel

/-! ## the comparisons of a context from the position of its version -/

/-- `PROTOCOL_VERSION_INDICES[v] = i` iff `v` is the `i`-th known version -/
theorem index_iff (v i : Nat) :
    index liveTables v = some i ↔ liveTables.knownProtocols[i]? = some v :=
  indexed_live.index_eq_some_iff v i

theorem known_has_index {v : Nat} (h : v ∈ liveTables.knownProtocols) :
    ∃ iv, index liveTables v = some iv :=
  let ⟨i, hi⟩ := List.getElem?_of_mem h
  ⟨i, (index_iff v i).mpr hi⟩

/-- the arguments of the `protocol_…` tests of the hand-written classes and custom types -/
abbrev thresholds : List Nat :=
  [49, 100, 107, 201, 204, 353, 364, 373, 443, 452, 458, 741, PRE + 6, PRE + 15]

theorem thresholds_known : (thresholds.all fun t => (index liveTables t).isSome) = true := by
  decide +kernel

/-- the index of a threshold -/
def rank (thr : Nat) : Nat := (index liveTables thr).getD 0

theorem index_threshold {thr : Nat} (h : thr ∈ thresholds) : index liveTables thr = some (rank thr) := by
  obtain ⟨j, hj⟩ := Option.isSome_iff_exists.mp (List.all_eq_true.mp thresholds_known thr h)
  rw [rank, hj, Option.getD_some]

theorem cmpGe_of_index {v iv thr : Nat} (hv : index liveTables v = some iv) (ht : thr ∈ thresholds) :
    cmpGe v thr = some (decide (rank thr ≤ iv)) := by
  simp [cmpGe, laterEq, earlierEq, indexE, hv, index_threshold ht, Except.toOption, bind, Except.bind,
    pure, Except.pure]

theorem cmpLt_of_index {v iv thr : Nat} (hv : index liveTables v = some iv) (ht : thr ∈ thresholds) :
    cmpLt v thr = some (decide (iv < rank thr)) := by
  simp [cmpLt, earlier, indexE, hv, index_threshold ht, Except.toOption, bind, Except.bind, pure,
    Except.pure]

/-! ## tables with one row per known version -/

/-- in such a table, in order, row number `iv` is the row of the version with index `iv` -/
theorem index_of_row {β : Type} {rows : List (Nat × β)}
    (hk : rows.map (·.1) = liveTables.knownProtocols) {x : Nat × β} {iv : Nat}
    (h : rows[iv]? = some x) : index liveTables x.1 = some iv := by
  rw [index_iff, ← hk, List.getElem?_map, h]
  rfl

/-- `rows` has one row per known version, in order, and row number `iv` satisfies `P iv`: the rows
are walked once with their position, no version is looked up -/
def rowsCheck {β : Type} (rows : List (Nat × β)) (P : Nat → β → Bool) : Bool :=
  rows.map (·.1) == liveTables.knownProtocols && rows.zipIdx.all fun x => P x.2 x.1.2

theorem rowsCheck_sound {β : Type} {rows : List (Nat × β)} {P : Nat → β → Bool}
    (h : rowsCheck rows P = true) :
    rows.map (·.1) = liveTables.knownProtocols ∧
    ∀ x ∈ rows, ∃ iv, (x, iv) ∈ rows.zipIdx ∧ index liveTables x.1 = some iv ∧ P iv x.2 = true := by
  simp only [rowsCheck, Bool.and_eq_true, beq_iff_eq, List.all_eq_true] at h
  refine ⟨h.1, fun x hx => ?_⟩
  obtain ⟨iv, hiv⟩ := List.getElem?_of_mem hx
  have hm : (x, iv) ∈ rows.zipIdx := List.mem_zipIdx_iff_getElem?.mpr hiv
  exact ⟨iv, hm, index_of_row h.1 hiv, h.2 _ hm⟩

/-! ## the recorded comparisons (spy tables) -/

/-- the log recorded for every known version is the expected one, `exp` being given the INDEX of the
version -/
def spyCheck (tab : C05D.SpyTable) (exp : Nat → C05D.SpyLog) : Bool :=
  rowsCheck tab.rows fun iv j => tab.variants[j]? == some (exp iv)

/-- what a spy table must satisfy: it has one row per known protocol version, in order, and the log of
every row is `log` of the flags the MODEL computes for that version -/
def SpyAgrees {F : Type} (tab : C05D.SpyTable) (flagsOf : Nat → Option F) (log : F → C05D.SpyLog) : Prop :=
  tab.rows.map (·.1) = liveTables.knownProtocols ∧
  ∀ x ∈ tab.rows, ∃ f, flagsOf x.1 = some f ∧ tab.variants[x.2]? = some (log f)

theorem spyAgrees_of_check {F : Type} {tab : C05D.SpyTable} {flagsOf : Nat → Option F}
    {log : F → C05D.SpyLog} {flagsR : Nat → F}
    (hR : ∀ {v iv}, index liveTables v = some iv → flagsOf v = some (flagsR iv))
    (h : spyCheck tab (fun iv => log (flagsR iv)) = true) : SpyAgrees tab flagsOf log := by
  obtain ⟨h1, h2⟩ := rowsCheck_sound h
  refine ⟨h1, fun x hx => ?_⟩
  obtain ⟨iv, _, hi, hv⟩ := h2 x hx
  exact ⟨flagsR iv, hR hi, eq_of_beq hv⟩

/-- the writer's and the reader's table of one class, against the same flags -/
theorem spy_pair {F : Type} {send read : C05D.SpyTable} {flagsOf : Nat → Option F}
    {logS logR : F → C05D.SpyLog} {flagsR : Nat → F}
    (hR : ∀ {v iv}, index liveTables v = some iv → flagsOf v = some (flagsR iv))
    (h : (spyCheck send (fun iv => logS (flagsR iv)) &&
      spyCheck read (fun iv => logR (flagsR iv))) = true) :
    SpyAgrees send flagsOf logS ∧ SpyAgrees read flagsOf logR :=
  have h := (Bool.and_eq_true _ _).mp h
  ⟨spyAgrees_of_check hR h.1, spyAgrees_of_check hR h.2⟩

def mapFlagsR (iv : Nat) : MapFlags :=
  ⟨decide (rank 107 ≤ iv), decide (rank 452 ≤ iv), decide (rank (PRE + 6) ≤ iv),
   decide (rank 373 ≤ iv), decide (rank 364 ≤ iv)⟩

theorem mapFlagsOf_of_index {v iv : Nat} (hv : index liveTables v = some iv) :
    mapFlagsOf v = some (mapFlagsR iv) := by
  simp [mapFlagsOf, mapFlagsR, cmpGe_of_index hv]

def spawnFlagsR (iv : Nat) : SpawnFlags :=
  ⟨decide (rank 49 ≤ iv), decide (rank 458 ≤ iv), decide (rank 100 ≤ iv)⟩

theorem spawnFlagsOf_of_index {v iv : Nat} (hv : index liveTables v = some iv) :
    spawnFlagsOf v = some (spawnFlagsR iv) := by
  simp [spawnFlagsOf, spawnFlagsR, cmpGe_of_index hv]

def faceFlagsR (iv : Nat) : FaceFlags := ⟨decide (rank 353 ≤ iv)⟩

theorem faceFlagsOf_of_index {v iv : Nat} (hv : index liveTables v = some iv) :
    faceFlagsOf v = some (faceFlagsR iv) := by
  simp [faceFlagsOf, faceFlagsR, cmpGe_of_index hv]

def combatFlagsR (iv : Nat) : CombatFlags := ⟨decide (rank (PRE + 15) ≤ iv)⟩

theorem combatFlagsOf_of_index {v iv : Nat} (hv : index liveTables v = some iv) :
    combatFlagsOf v = some (combatFlagsR iv) := by
  simp [combatFlagsOf, combatFlagsR, cmpGe_of_index hv]

/-! ### PlayerListItemPacket, PluginResponsePacket: no comparison at all -/

/-- the flag-free codecs: "flags" of type `Unit` for every KNOWN version -/
def unitFlagsOf (v : Nat) : Option Unit := (index liveTables v).map fun _ => ()

/-! ## the formats of the context-dependent custom types -/

def customFlagsR (iv : Nat) : CustomFlags :=
  ⟨decide (rank 443 ≤ iv), decide (rank 741 ≤ iv), decide (rank 201 ≤ iv), decide (iv < rank 204)⟩

theorem customFlagsOf_of_index {v iv : Nat} (hv : index liveTables v = some iv) :
    customFlagsOf v = some (customFlagsR iv) := by
  simp [customFlagsOf, customFlagsR, cmpGe_of_index hv, cmpLt_of_index hv]

/-- `customProbe` has one row per known version, in order; in every row the format written and the
format accepted coincide for each of the three types, and they are the ones `customFlagsOf` computes
from the version order -/
theorem custom_probe :
    C05D.customProbe.map (·.1) = liveTables.knownProtocols ∧
    ∀ x ∈ C05D.customProbe, ∃ fl, customFlagsOf x.1 = some fl ∧ customFlagsOfRow x.2 = some fl := by
  have h : rowsCheck C05D.customProbe
      (fun iv row => customFlagsOfRow row == some (customFlagsR iv)) = true := by decide +kernel
  obtain ⟨h1, h2⟩ := rowsCheck_sound h
  refine ⟨h1, fun x hx => ?_⟩
  obtain ⟨iv, _, hi, hv⟩ := h2 x hx
  exact ⟨customFlagsR iv, customFlagsOf_of_index hi, eq_of_beq hv⟩

theorem customFlagsAt_known (v : Nat) (h : v ∈ liveTables.knownProtocols) :
    ∃ fl, customFlagsAt v = some fl ∧ customFlagsOf v = some fl := by
  obtain ⟨h1, h2⟩ := custom_probe
  rw [← h1] at h
  obtain ⟨x, hx, rfl⟩ := List.mem_map.mp h
  obtain ⟨y', hl, hm⟩ := lookup_of_mem hx
  obtain ⟨fl, hf1, hf2⟩ := h2 (x.1, y') hm
  exact ⟨fl, by simp [customFlagsAt, hl, hf2], hf1⟩

/-! ### filling the flags in does not change the shape of a layout -/

theorem instT_selfDelimiting (fl : CustomFlags) : ∀ t : WType,
    (instT fl t).selfDelimiting = t.selfDelimiting := by
  intro t
  induction t with
  | array l t ih => simpa [instT, WType.selfDelimiting] using ih
  | custom c => cases c <;> rfl
  | _ => rfl

theorem instT_lastOk (fl : CustomFlags) (t : WType) : (instT fl t).lastOk = t.lastOk := by
  cases t with
  | array l t => simp [instT, WType.lastOk, WType.selfDelimiting, instT_selfDelimiting]
  | custom c => cases c <;> rfl
  | _ => rfl

theorem instLayout_ok (fl : CustomFlags) : ∀ L : Layout, Layout.ok (instLayout fl L) = Layout.ok L
  | [] => rfl
  | (n, t) :: L => by
    have ih := instLayout_ok fl L
    have hi : instLayout fl ((n, t) :: L) = (n, instT fl t) :: instLayout fl L := rfl
    have he : (instLayout fl L).isEmpty = L.isEmpty := by cases L <;> rfl
    rw [hi, Layout.ok, Layout.ok, ih, he, instT_lastOk, instT_selfDelimiting]

theorem layoutAt_known (v : Nat) (h : v ∈ liveTables.knownProtocols) (L : Layout) :
    ∃ L', layoutAt v L = some L' ∧ Layout.ok L' = Layout.ok L := by
  unfold layoutAt
  split
  · obtain ⟨fl, hf, _⟩ := customFlagsAt_known v h
    exact ⟨instLayout fl L, by simp [hf], instLayout_ok fl L⟩
  · exact ⟨L, rfl, rfl⟩

/-! ## the hand-written codec of every known version -/

theorem handCodec_known (cls : String) (v : Nat) (hc : cls ∈ handNames)
    (hv : v ∈ liveTables.knownProtocols) : ∃ k, handCodec cls v = some k ∧ k.admissible = true := by
  obtain ⟨iv, hi⟩ := known_has_index hv
  simp only [handNames, List.mem_cons, List.not_mem_nil, or_false] at hc
  rcases hc with rfl | rfl | rfl | rfl | rfl | rfl
  · exact ⟨.map (mapFlagsR iv), by simp [handCodec, mapFlagsOf_of_index hi], rfl⟩
  · exact ⟨.pli, by simp [handCodec], rfl⟩
  · exact ⟨.spawn (spawnFlagsR iv), by simp [handCodec, spawnFlagsOf_of_index hi], rfl⟩
  · exact ⟨.combat (combatFlagsR iv), by simp [handCodec, combatFlagsOf_of_index hi], rfl⟩
  · exact ⟨.face (faceFlagsR iv), by simp [handCodec, faceFlagsOf_of_index hi], rfl⟩
  · exact ⟨.plug, by simp [handCodec], rfl⟩

end PyCraft.Dsp
