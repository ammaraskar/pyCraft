import PyCraft.Model.Custom
import PyCraft.Lemmas.Wire
import PyCraft.Lemmas.Position
/-!
`realCustom` / `realDom` (`Model/Custom.lean`) satisfy `CustomLaw`: every in-domain value of a custom
type encodes to a non-empty byte string that is read back exactly whatever follows, and every strict
prefix of which makes the reader fail.  (Nothing is in the domain of NBT.)
-/
namespace PyCraft

/-! ### tuples of ints as values -/

theorem intsOf_map (is : List Int) : intsOf (is.map .int) = some is := by
  induction is with
  | nil => rfl
  | cons i is ih => simp [intsOf, ih]

theorem intsOf_some : ∀ (vs : List Value) (is : List Int), intsOf vs = some is → vs = is.map .int := by
  intro vs
  induction vs with
  | nil => intro is h; simp [intsOf] at h; subst h; rfl
  | cons v vs ih =>
    intro is h
    cases v <;> simp [intsOf] at h
    obtain ⟨js, hj, rfl⟩ := h
    rw [ih js hj]; rfl

theorem ints?_ofInts (is : List Int) : (Value.ofInts is).ints? = some is := intsOf_map is

theorem ints?_some (v : Value) (is : List Int) (h : v.ints? = some is) : v = Value.ofInts is := by
  cases v <;> simp [Value.ints?] at h
  rw [intsOf_some _ _ h]; rfl

theorem domInts_elim {P : List Int → Prop} {v : Value} (h : domInts P v) :
    ∃ is, v = Value.ofInts is ∧ v.ints? = some is ∧ P is := by
  unfold domInts at h
  split at h
  · next is hi => exact ⟨is, ints?_some v is hi, hi, h⟩
  · exact h.elim

theorem posDom_elim {is : List Int} (h : posDom is) : ∃ x y z, is = [x, y, z] ∧
    -2 ^ 25 ≤ x ∧ x < 2 ^ 25 ∧ -2 ^ 11 ≤ y ∧ y < 2 ^ 11 ∧ -2 ^ 25 ≤ z ∧ z < 2 ^ 25 := by
  unfold posDom at h
  split at h
  · exact ⟨_, _, _, rfl, h⟩
  · exact h.elim

theorem secDom_elim {is : List Int} (h : secDom is) : ∃ x y z, is = [x, y, z] ∧
    -2 ^ 21 ≤ x ∧ x < 2 ^ 21 ∧ -2 ^ 19 ≤ y ∧ y < 2 ^ 19 ∧ -2 ^ 21 ≤ z ∧ z < 2 ^ 21 := by
  unfold secDom at h
  split at h
  · exact ⟨_, _, _, rfl, h⟩
  · exact h.elim

theorem recDom_elim {v741 : Bool} {is : List Int} (h : recDom v741 is) : ∃ x y z b, is = [x, y, z, b] ∧
    0 ≤ x ∧ x < 16 ∧ 0 ≤ y ∧ (y < if v741 then 16 else 256) ∧ 0 ≤ z ∧ z < 16 ∧
    0 ≤ b ∧ (b < if v741 then 2 ^ 65 else 2 ^ 42) := by
  unfold recDom at h
  split at h
  · exact ⟨_, _, _, _, rfl, h⟩
  · exact h.elim

theorem tripleDom_elim {t : IntT} {is : List Int} (h : tripleDom t is) : ∃ x y z, is = [x, y, z] ∧
    t.inDom x ∧ t.inDom y ∧ t.inDom z := by
  unfold tripleDom at h
  split at h
  · exact ⟨_, _, _, rfl, h⟩
  · exact h.elim

theorem encInts3_ofInts (f : Int → Int → Int → Except Err Bytes) (x y z : Int) :
    encInts3 f (Value.ofInts [x, y, z]) = f x y z := by
  simp only [encInts3, ints?_ofInts]

theorem encInts4_ofInts (f : Int → Int → Int → Int → Except Err Bytes) (x y z b : Int) :
    encInts4 f (Value.ofInts [x, y, z, b]) = f x y z b := by
  simp only [encInts4, ints?_ofInts]

/-! ### the 8-byte words -/

theorem decSecPos_short (bs : Bytes) (h : bs.length < 8) : decSecPos bs = .error .struct := by
  simp only [decSecPos, Pos.readU64_short bs h]

theorem decPos_short (newer : Bool) (bs : Bytes) (h : bs.length < 8) :
    decPos newer bs = .error .struct := by
  simp only [decPos, Pos.readU64_short bs h]

theorem beU64_ne_nil (n : Nat) : beU64 n ≠ [] := by
  intro e; have := Pos.beU64_length n; rw [e] at this; simp at this

theorem hdr_position (newer : Bool) (x y z : Int)
    (hx1 : -2 ^ 25 ≤ x) (hx2 : x < 2 ^ 25) (hy1 : -2 ^ 11 ≤ y) (hy2 : y < 2 ^ 11)
    (hz1 : -2 ^ 25 ≤ z) (hz2 : z < 2 ^ 25) :
    Hdr (realDec (.position newer)) (beU64 (Pos.posWord newer x y z)) (Value.ofInts [x, y, z]) := by
  refine ⟨beU64_ne_nil _, fun rest => ?_, fun p hp hne => ⟨.struct, ?_⟩⟩
  · simp only [realDec, Pos.decPos_posWord newer x y z rest hx1 hx2 hy1 hy2 hz1 hz2]
  · have hl := prefix_length_lt hp hne
    rw [Pos.beU64_length] at hl
    simp only [realDec, decPos_short newer p hl]

theorem hdr_secpos (x y z : Int)
    (hx1 : -2 ^ 21 ≤ x) (hx2 : x < 2 ^ 21) (hy1 : -2 ^ 19 ≤ y) (hy2 : y < 2 ^ 19)
    (hz1 : -2 ^ 21 ≤ z) (hz2 : z < 2 ^ 21) :
    Hdr (realDec .secpos) (beU64 (Pos.secWord x y z)) (Value.ofInts [x, y, z]) := by
  refine ⟨beU64_ne_nil _, fun rest => ?_, fun p hp hne => ⟨.struct, ?_⟩⟩
  · simp only [realDec, Pos.decSecPos_secWord x y z rest hx1 hx2 hy1 hy2 hz1 hz2]
  · have hl := prefix_length_lt hp hne
    rw [Pos.beU64_length] at hl
    simp only [realDec, decSecPos_short p hl]

/-! ### the two record formats -/

theorem hdr_record_new (x y z b : Nat) (hx : x < 16) (hy : y < 16) (hz : z < 16) (hb : b < 2 ^ 65) :
    Hdr (realDec (.record true)) (encVarInt (Pos.recWord x y z b))
      (Value.ofInts [(x : Int), (y : Int), (z : Int), (b : Int)]) := by
  refine ⟨enc_ne_nil _, fun rest => ?_, fun p hp hne => ?_⟩
  · simp only [realDec, Pos.decRecord_new x y z b rest hx hy hz hb]
  · obtain ⟨e, he⟩ := decVarIntAux_prefix_err 10 _ 0 0 p hp hne
    exact ⟨e, by simp only [realDec, decRecord, if_true, decVarInt, he]⟩

theorem hdr_record_old (x y z b : Nat) (hx : x < 16) (hy : y < 256) (hz : z < 16) (hb : b < 2 ^ 42) :
    Hdr (realDec (.record false)) (UInt8.ofNat (x * 16 + z) :: UInt8.ofNat y :: encVarInt b)
      (Value.ofInts [(x : Int), (y : Int), (z : Int), (b : Int)]) := by
  refine ⟨by simp, fun rest => ?_, fun p hp hne => ?_⟩
  · have := Pos.decRecord_old x y z b rest hx hy hz hb
    simp only [List.cons_append] at this ⊢
    simp only [realDec, this]
  · rcases p with _ | ⟨c0, p⟩
    · exact ⟨.struct, rfl⟩
    · rw [List.cons_prefix_cons] at hp
      obtain ⟨rfl, hp⟩ := hp
      rcases p with _ | ⟨c1, p⟩
      · exact ⟨.struct, rfl⟩
      · rw [List.cons_prefix_cons] at hp
        obtain ⟨rfl, hp⟩ := hp
        have hne' : p ≠ encVarInt b := fun e => hne (by rw [e])
        obtain ⟨e, he⟩ := decVarIntAux_prefix_err 5 _ 0 0 p hp hne'
        exact ⟨e, by simp only [realDec, decRecord, Bool.false_eq_true, if_false, Pos.readU8,
          decVarInt, he]⟩

/-! ### three fixed-width integers, one fixed-width integer -/

theorem hdr_triple (t : IntT) (x y z : Int) (hx : t.inDom x) (hy : t.inDom y) (hz : t.inDom z) :
    ∃ bs, encTriple t x y z = .ok bs ∧ Hdr (decTriple t) bs (Value.ofInts [x, y, z]) := by
  obtain ⟨bx, ex, _⟩ := t.pack_spec x hx
  obtain ⟨by', ey, _⟩ := t.pack_spec y hy
  obtain ⟨bz, ez, _⟩ := t.pack_spec z hz
  have Hz : Hdr (fun bs => t.unpack bs >>= fun p => pure (Value.ofInts [x, y, p.1], p.2)) bz _ :=
    (hdr_int t z bz hz ez).map (fun z => Value.ofInts [x, y, z]) _ fun _ => rfl
  have Hy := (hdr_int t y by' hy ey).bind
    (k := fun p => t.unpack p.2 >>= fun q => pure (Value.ofInts [x, p.1, q.1], q.2)) Hz.read Hz.prefixErr
  exact ⟨bx ++ (by' ++ bz), by simp [encTriple, ex, ey, ez, bind, Except.bind, pure, Except.pure],
    (hdr_int t x bx hx ex).bind Hy.read Hy.prefixErr⟩

theorem hdr_pitch (f32 scaled : Bool) (i : Int) (h : (pitchT f32).inDom i) :
    ∃ bs, (pitchT f32).pack i = .ok bs ∧ Hdr (realDec (.pitch f32 scaled)) bs (.int i) := by
  obtain ⟨bs, hb, _⟩ := (pitchT f32).pack_spec i h
  exact ⟨bs, hb, (hdr_int _ i bs h hb).map Value.int _ (fun _ => rfl)⟩

/-! ### the law -/

/-- every in-domain value of a custom type is an item of `(realEnc, realDec)` -/
theorem real_item (c : CustomT) (v : Value) (h : realDom c v) :
    ∃ bs, realEnc c v = .ok bs ∧ Hdr (realDec c) bs v := by
  cases c with
  | position newer =>
    obtain ⟨is, rfl, _, hP⟩ := domInts_elim (show domInts posDom v from h)
    obtain ⟨x, y, z, rfl, hx1, hx2, hy1, hy2, hz1, hz2⟩ := posDom_elim hP
    exact ⟨_, by simp only [realEnc, encInts3_ofInts, Pos.encPos_eq],
      hdr_position newer x y z hx1 hx2 hy1 hy2 hz1 hz2⟩
  | secpos =>
    obtain ⟨is, rfl, _, hP⟩ := domInts_elim (show domInts secDom v from h)
    obtain ⟨x, y, z, rfl, hx1, hx2, hy1, hy2, hz1, hz2⟩ := secDom_elim hP
    exact ⟨_, by simp only [realEnc, encInts3_ofInts, Pos.encSecPos_eq],
      hdr_secpos x y z hx1 hx2 hy1 hy2 hz1 hz2⟩
  | record v741 =>
    obtain ⟨is, rfl, _, hP⟩ := domInts_elim (show domInts (recDom v741) v from h)
    obtain ⟨x, y, z, b, rfl, hx1, hx2, hy1, hy2, hz1, hz2, hb1, hb2⟩ := recDom_elim hP
    obtain ⟨x, rfl⟩ := Int.eq_ofNat_of_zero_le hx1
    obtain ⟨y, rfl⟩ := Int.eq_ofNat_of_zero_le hy1
    obtain ⟨z, rfl⟩ := Int.eq_ofNat_of_zero_le hz1
    obtain ⟨b, rfl⟩ := Int.eq_ofNat_of_zero_le hb1
    cases v741
    · simp only [Bool.false_eq_true, if_false] at hy2 hb2
      exact ⟨_, by simp only [realEnc, encInts4_ofInts,
          Pos.encRecord_old x y z b (by omega) (by omega) (by omega)],
        hdr_record_old x y z b (by omega) (by omega) (by omega) (by omega)⟩
    · simp only [if_true] at hy2 hb2
      exact ⟨_, by simp only [realEnc, encInts4_ofInts,
          Pos.encRecord_new x y z b (by omega) (by omega) (by omega)],
        hdr_record_new x y z b (by omega) (by omega) (by omega) (by omega)⟩
  | explRecord =>
    obtain ⟨is, rfl, _, hP⟩ := domInts_elim (show domInts (tripleDom .i8) v from h)
    obtain ⟨x, y, z, rfl, hx, hy, hz⟩ := tripleDom_elim hP
    obtain ⟨bs, h1, h2⟩ := hdr_triple .i8 x y z hx hy hz
    exact ⟨bs, by simp only [realEnc, encInts3_ofInts, h1], h2⟩
  | effectPos =>
    obtain ⟨is, rfl, _, hP⟩ := domInts_elim (show domInts (tripleDom .i32) v from h)
    obtain ⟨x, y, z, rfl, hx, hy, hz⟩ := tripleDom_elim hP
    obtain ⟨bs, h1, h2⟩ := hdr_triple .i32 x y z hx hy hz
    exact ⟨bs, by simp only [realEnc, encInts3_ofInts, h1], h2⟩
  | pitch f32 scaled =>
    cases v with
    | int i =>
      obtain ⟨bs, h1, h2⟩ := hdr_pitch f32 scaled i h
      exact ⟨bs, h1, h2⟩
    | _ => exact h.elim
  | nbt => exact h.elim

/-- a codec all of whose in-domain values are items satisfies `CustomLaw` -/
theorem customLaw_of_items (cc : CustomCodec) (cw : CustomT → Value → Prop)
    (h : ∀ c v, cw c v → ∃ bs, cc.enc c v = .ok bs ∧ Hdr (cc.dec c) bs v) : CustomLaw cc cw := by
  refine ⟨fun c v rest hw => ?_, fun c v bs hw he p hp hne => ?_⟩
  · obtain ⟨bs, h1, h2, h3, _⟩ := h c v hw
    exact ⟨bs, h1, h2, h3 rest⟩
  · obtain ⟨bs', h1, _, _, h4⟩ := h c v hw
    rw [he] at h1; cases h1
    exact h4 p hp hne

/-- the library's custom types (NBT excluded from the domain) obey the law C02 asks for -/
theorem realCustomLaw : CustomLaw realCustom realDom :=
  customLaw_of_items realCustom realDom real_item

end PyCraft
