import PyCraft.Model.C02Exact
import PyCraft.Lemmas.C02ExactFloat
import PyCraft.Lemmas.C02Exact
/-!
Helper lemmas for the `FixedPoint.read` part of `Props/C02Exact.lean`: Python's `int / int`
(`intTrueDiv`, built on `roundQuotF64`) is the binary64 NEAREST to the exact quotient, ties to even;
it is the exact quotient whenever that is a binary64.
Magnitudes are naturals in units of `2^-1074`; the rational `N / d` is compared with a float of
magnitude `v` by cross-multiplying: `v * d` against `N`.
-/
set_option exponentiation.threshold 2200

namespace PyCraft.C02X
open PyCraft

theorem two_pow_52 : (2 : Nat) ^ 52 = 4503599627370496 := by decide
theorem two_pow_53 : (2 : Nat) ^ 53 = 9007199254740992 := by decide

/-! ## binary64: `roundQuotF64` is `fmtRound 52 0` -/

theorem f64Quantum_eq (t : Nat) : f64Quantum t = fmtQuantum 52 0 t := (Nat.max_zero _).symm

theorem roundQuotF64_eq (N d : Nat) : roundQuotF64 N d = fmtRound 52 0 N d := by
  simp only [roundQuotF64, fmtRound, f64Quantum_eq, Nat.sub_zero]

/-- the rounded significand lies in `[2^52, 2^53]` above the subnormal range and in `[0, 2^53]` in it -/
theorem quot_sig (N d : Nat) (hd : 0 < d) :
    rneNat N (d * 2 ^ f64Quantum (N / d)) ≤ 2 ^ 53 ∧
    (f64Quantum (N / d) = 0 ∨ 2 ^ 52 ≤ rneNat N (d * 2 ^ f64Quantum (N / d))) := by
  have h := fmt_sig 52 0 N d hd
  rwa [← f64Quantum_eq] at h

/-- cross-multiplied by `d`, the value denoted by the rounded pattern is `K` times the grid step
`d·2^qe` -/
theorem roundQuotF64_value_mul (N d : Nat) (hd : 0 < d) :
    f64Mag (roundQuotF64 N d) * d
      = rneNat N (d * 2 ^ f64Quantum (N / d)) * (d * 2 ^ f64Quantum (N / d)) := by
  have h := fmtRound_value_mul 52 0 N d hd
  rwa [Nat.pow_zero, Nat.mul_one, ← roundQuotF64_eq, ← f64Quantum_eq, ← f64Mag_eq] at h

/-- **nearest, ties to even**: no binary64 magnitude is closer to `N / d` than the rounded one; one
that is equally close and different exists only when the rounded pattern is even -/
theorem roundQuotF64_nearest (N d : Nat) (hd : 0 < d) (m' : Nat) :
    absDiff (f64Mag (roundQuotF64 N d) * d) N ≤ absDiff (f64Mag m' * d) N ∧
    (absDiff (f64Mag (roundQuotF64 N d) * d) N = absDiff (f64Mag m' * d) N →
      f64Mag m' ≠ f64Mag (roundQuotF64 N d) → roundQuotF64 N d % 2 = 0) := by
  have h := fmtRound_nearest 52 0 N d (by omega) hd m'
  rwa [Nat.pow_zero, Nat.mul_one, Nat.mul_one, ← roundQuotF64_eq, ← f64Mag_eq, ← f64Mag_eq] at h

/-- **exact when on the grid**: if `N / d` is a multiple of the spacing at its own magnitude, the
rounded value IS `N / d` -/
theorem roundQuotF64_exact (N d : Nat) (hd : 0 < d)
    (hdiv : N % (d * 2 ^ f64Quantum (N / d)) = 0) :
    f64Mag (roundQuotF64 N d) * d = N := by
  rw [roundQuotF64_value_mul N d hd]
  exact rneNat_of_dvd _ _ (Nat.mul_pos hd (Nat.two_pow_pos _)) hdiv

/-- an integer below `2^53` over a power of two up to `2^1074` is on the grid -/
theorem small_on_grid (a bits : Nat) (ha : a < 2 ^ 53) (hb : bits ≤ 1074) :
    (a * 2 ^ 1074) % (2 ^ bits * 2 ^ f64Quantum (a * 2 ^ 1074 / 2 ^ bits)) = 0 := by
  have e1 : (2 : Nat) ^ 1074 = 2 ^ (1074 - bits) * 2 ^ bits := by
    rw [← Nat.pow_add]; congr 1; omega
  have ht : a * 2 ^ 1074 / 2 ^ bits = a * 2 ^ (1074 - bits) := by
    rw [e1, ← Nat.mul_assoc, Nat.mul_div_cancel _ (Nat.two_pow_pos _)]
  rw [ht]
  by_cases ha0 : a = 0
  · subst ha0; simp
  have hl : a.log2 < 53 := (Nat.log2_lt ha0).mpr ha
  have hq : f64Quantum (a * 2 ^ (1074 - bits)) ≤ 1074 - bits := by
    unfold f64Quantum
    rw [log2_mul_two_pow _ _ ha0]; omega
  generalize f64Quantum (a * 2 ^ (1074 - bits)) = qe at hq
  have e2 : (2 : Nat) ^ 1074 = 2 ^ (1074 - bits - qe) * (2 ^ bits * 2 ^ qe) := by
    rw [← Nat.pow_add, ← Nat.pow_add]; congr 1; omega
  rw [e2, ← Nat.mul_assoc]
  exact Nat.mul_mod_left _ _

/-- the quotient of a magnitude below `2^65` is far from overflowing -/
theorem roundQuotF64_lt_inf (a d : Nat) (hd : 0 < d) (ha : a < 2 ^ 65) :
    roundQuotF64 (a * 2 ^ 1074) d < f64InfPat := by
  obtain ⟨k1, _⟩ := quot_sig (a * 2 ^ 1074) d hd
  have ht : a * 2 ^ 1074 / d < 2 ^ 1139 := by
    have h1 : a * 2 ^ 1074 / d ≤ a * 2 ^ 1074 := Nat.div_le_self _ _
    have h2 : a * 2 ^ 1074 < 2 ^ 65 * 2 ^ 1074 :=
      Nat.mul_lt_mul_of_lt_of_le ha (Nat.le_refl _) (Nat.two_pow_pos _)
    rw [← Nat.pow_add] at h2
    omega
  have hq : f64Quantum (a * 2 ^ 1074 / d) ≤ 1086 := by
    unfold f64Quantum
    by_cases h0 : a * 2 ^ 1074 / d = 0
    · rw [h0]; simp [Nat.log2_zero]
    · have := (Nat.log2_lt h0).mpr ht
      omega
  unfold roundQuotF64
  simp only [f64InfPat]
  generalize f64Quantum (a * 2 ^ 1074 / d) = qe at *
  generalize rneNat (a * 2 ^ 1074) (d * 2 ^ qe) = K at *
  rw [two_pow_53] at k1
  rw [two_pow_52]
  omega

/-- `intTrueDiv` of an integer of magnitude below `2^65` by a positive `d` succeeds, and its result is
the sign of `a` on top of the rounded magnitude (which is below the pattern of infinity) -/
theorem intTrueDiv_ok (a : Int) (d : Nat) (hd : 0 < d) (ha : a.natAbs < 2 ^ 65) :
    intTrueDiv a d = .ok ((if a < 0 then 2 ^ 63 else 0) + roundQuotF64 (a.natAbs * 2 ^ 1074) d) ∧
    roundQuotF64 (a.natAbs * 2 ^ 1074) d < f64InfPat := by
  have hlt := roundQuotF64_lt_inf a.natAbs d hd ha
  refine ⟨?_, hlt⟩
  unfold intTrueDiv
  rw [if_neg (by omega)]
  simp only
  rw [if_neg (by omega)]

/-- a sign bit on top of a magnitude pattern `m` below infinity -/
theorem signed_pattern (neg : Prop) [Decidable neg] (m : Nat) (hm : m < f64InfPat) :
    (if neg then 2 ^ 63 else 0) + m < 2 ^ 64 ∧ ((if neg then 2 ^ 63 else 0) + m) % 2 ^ 63 = m ∧
    ((if neg then 2 ^ 63 else 0) + m) % 2 ^ 63 / 2 ^ 52 ≠ 2047 ∧
    (((if neg then 2 ^ 63 else 0) + m) / 2 ^ 63 = 1 ↔ neg) ∧
    ((if neg then 2 ^ 63 else 0) + m) % 2 = m % 2 := by
  unfold f64InfPat at hm
  split
  · simp only [*, iff_true]; omega
  · simp only [*, iff_false]; omega

/-- `FixedPoint.read` of a packed in-domain integer `v`: the float is the sign of `v` on top of the
rounded magnitude of `|v| / 2^bits`, which is finite -/
theorem fixed_read_pack (cc : CustomCodec) (base : IntT) (bits : Nat) (v : Int) (hd : base.inDom v)
    (rest : Bytes) :
    ∃ bs, base.pack v = .ok bs ∧ bs.length = base.width ∧
      (beValue bs : Int) = v % (256 : Int) ^ base.width ∧
      (FixedPointT.init base bits).read cc (bs ++ rest)
        = .ok ((if v < 0 then 2 ^ 63 else 0) + roundQuotF64 (v.natAbs * 2 ^ 1074) (2 ^ bits), rest) ∧
      roundQuotF64 (v.natAbs * 2 ^ 1074) (2 ^ bits) < f64InfPat := by
  obtain ⟨bs, h1, h2, h3⟩ := base.pack_spec v hd
  obtain ⟨bs', h1', _, hr⟩ := base.unpack_pack v hd
  rw [h1] at h1'; cases h1'
  have h65 : v.natAbs < 2 ^ 65 := by
    have := IntT.inDom_natAbs_lt base v 8 base.width_le hd
    omega
  obtain ⟨hdiv, hlt⟩ := intTrueDiv_ok v (2 ^ bits) (Nat.two_pow_pos _) h65
  refine ⟨bs, h1, h2, h3, ?_, hlt⟩
  rw [fixed_read_eq, hr rest]
  show (do let x ← intTrueDiv v (2 ^ bits); pure (x, rest)) = _
  rw [hdiv]; rfl

end PyCraft.C02X
