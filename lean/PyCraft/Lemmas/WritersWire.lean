import PyCraft.Lemmas.WritersBase
/-!
The wire invariant `WireInv` of `Model/Writers.lean` and its preservation by every step
(`wire_step`).  All clauses speak about global state and the lock holder's program counter `cur s`.

The proof reads the normal form of a step (`step_facts`) and lemmas about the transitions alone,
each saying what a transition does to one aspect of the holder's program counter `c → c'`:
`Trans.ctl` (flags, socket, `popleft`), `Trans.dctx`, `Trans.flush` (a running `disconnect`),
`Trans.half` (the open length prefix), `Trans.acct` (sent / in flight / queued / failed against
issued), `Trans.todo` (the program consumed), `Trans.popped`, `Trans.pipeline` (the FIFO pipeline).
-/
namespace PyCraft.Writers

/-! ### The invariant -/

structure WireInv (s : Sys) : Prop where
  /-- the wire is whole frames followed by the holder's open length prefix (if any) -/
  wire_eq : s.wire = frames (sentPkts s.wire) ++ (cur s).half
  /-- the holder is at a point that writes, pops or closes only while the socket is open -/
  needs_open : (cur s).needsOpen = true → s.sockOpen = true
  /-- a `disconnect` reaches its last `rel` only with the socket closed -/
  rel_closed : ∀ c, cur s = .user (.dRel c) → s.sockOpen = false
  /-- the networking thread takes its exceptional way out only after a write on a closed socket -/
  xrel_closed : ∀ n, cur s = .net .xRel n → s.sockOpen = false
  /-- past `sti` the interrupt flag is set (or the networking thread is gone already) -/
  past_sti : (cur s).pastSti = true → s.interrupt = true ∨ s.ntSlot = false
  /-- closed ⇒ interrupted: a `disconnect` closes the socket only after `sti` -/
  closed_int : s.sockOpen = false → s.interrupt = true ∨ s.ntSlot = false
  /-- interrupted ⇒ closed, except between the `sti` and the `cls` of the running `disconnect` -/
  int_closed : s.interrupt = true → s.sockOpen = false ∨ (cur s).pastSti = true
  /-- a write fails only on a closed socket -/
  failed_closed : s.failed ≠ [] → s.sockOpen = false
  /-- `popleft` is never called on an empty deque -/
  pop_ok : (cur s).atPop = true → s.queue ≠ []
  /-- only a graceful `disconnect` that found the socket open runs the flush loop -/
  flush_ctx : ∀ c, (cur s).dctx = some c → (cur s).flushing = true →
    c.imm = false ∧ c.open0 = true
  /-- an immediate disconnect leaves the wire as it found it -/
  imm_wire : ∀ c, (cur s).dctx = some c → c.imm = true → s.wire = c.wire0
  /-- a graceful disconnect: the queue snapshot is sent, or still being flushed -/
  snap : ∀ c, (cur s).dctx = some c → c.imm = false → c.open0 = true → ∀ p ∈ c.snap,
    p ∈ sentPkts s.wire ∨ ((cur s).flushing = true ∧ (p ∈ (cur s).popped ∨ p ∈ s.queue))
  /-- issued = sent ∪ in-flight ∪ queued ∪ failed … -/
  mem_issued : ∀ p, p ∈ s.issued ↔
    p ∈ sentPkts s.wire ∨ p ∈ (cur s).infl ∨ p ∈ s.queue ∨ p ∈ s.failed
  /-- … pairwise disjoint and without repetition -/
  nodup : (sentPkts s.wire ++ (cur s).infl ++ s.queue ++ s.failed).Nodup



/-- The parts of a duplicate-free concatenation are pairwise disjoint. -/
theorem disj3 {α : Type} {a b c : List α} (h : (a ++ b ++ c).Nodup) :
    (∀ p ∈ a, p ∉ b ∧ p ∉ c) ∧ (∀ p ∈ b, p ∉ c) := by
  simp only [List.nodup_append, List.mem_append] at h
  grind

/-- Sent, in flight, queued, failed: pairwise disjoint (and no packet is sent twice). -/
theorem WireInv.disj {s : Sys} (hw : WireInv s) :
    (sentPkts s.wire).Nodup ∧
    (∀ p ∈ sentPkts s.wire, p ∉ (cur s).infl ∧ p ∉ s.queue ∧ p ∉ s.failed) ∧
    (∀ p ∈ (cur s).infl, p ∉ s.queue ∧ p ∉ s.failed) ∧ (∀ p ∈ s.queue, p ∉ s.failed) := by
  have h := hw.nodup
  simp only [List.nodup_append, List.mem_append] at h
  grind

/-- The wire: whole frames, then nothing or the open length prefix of the lock holder's packet,
which has no frame yet. -/
theorem wire_cases {s : Sys} (hw : WireInv s) :
    s.wire = frames (sentPkts s.wire) ∨
    ∃ t p, s.owner = some t ∧ (s.thr t).pc.half = [(p, 0)] ∧ p ∉ sentPkts s.wire ∧
      s.wire = frames (sentPkts s.wire) ++ [(p, 0)] := by
  have h := hw.wire_eq
  rcases half_shape (cur s) with h0 | ⟨p, h1, h2⟩
  · left; rw [h0, List.append_nil] at h; exact h
  · right
    cases ho : s.owner with
    | none => rw [cur_of_free ho] at h1; cases h1
    | some t =>
      rw [h1] at h
      rw [cur_of_owner ho] at h1
      exact ⟨t, p, rfl, h1, fun hp => (hw.disj.2.1 p hp).1 (by rw [h2]; simp), h⟩

/-- With the interrupt flag clear, the socket is open. -/
theorem open_of_not_int {s : Sys} (hl : LockInv s) (hw : WireInv s) (hi : s.interrupt = false) :
    s.sockOpen = true := by
  cases ho : s.sockOpen with
  | true => rfl
  | false =>
    rcases hw.closed_int ho with h | h
    · rw [hi] at h; cases h
    · obtain ⟨pc, n, h0⟩ := hl.nt_net
      have h1 := hl.nt_slot h pc n h0
      have h2 := hl.nt_exit pc n h0 (by rcases h1 with h1 | h1 <;> rw [h1] <;> rfl)
      rw [hi] at h2; cases h2

/-! ### The transitions, as the lock holder sees them

`c → c'` is the holder's program counter before and after the transition `pc → pc'`. -/

section
variable {cfg : Cfg} {s : Sys} {t : Tid} {pc pc' c c' : Pc} {td td' : List Op} {ev : Ev}

/-- A step outside the critical sections does nothing the lock holder could notice, except that
it may append to the queue. -/
theorem Trans.out (h : Trans cfg s t pc td ev pc' td') (h1 : pc.crit = false)
    (h2 : pc'.crit = false) :
    ev ≠ .sti ∧ ev ≠ .rel ∧ ev ≠ .cls ∧ ev ≠ .fail ∧ ev.snds = [] ∧ ev.pops = [] ∧ ev ≠ .acq ∧
      ev.isMove = false ∧ ev.isChk = false := by
  cases h <;> simp_all [Pc.crit, UPc.crit, NPc.crit, Ev.snds, Ev.pops, Ev.isMove, Ev.isChk]

/-- Which transitions lead the holder to the program points that the clauses of `WireInv` about
flags, socket and `popleft` speak of. -/
theorem Trans.ctl (h : Trans cfg s t pc td ev pc' td') (hh : Holder pc pc' c c') :
    (c'.needsOpen = true → ev ≠ .cls ∧
      (c.needsOpen = true ∨ s.sockOpen = true ∨ s.interrupt = false)) ∧
    (∀ d, c' = .user (.dRel d) → ev = .cls ∨ s.sockOpen = false ∨ c = .user (.dRel d)) ∧
    (∀ n, c' = .net .xRel n → s.sockOpen = false ∨ c = .net .xRel n) ∧
    (c'.pastSti = true → c.pastSti = true ∨ s.ntSlot = false ∨ ev = .sti) ∧
    (ev = .cls → c.pastSti = true) ∧
    (c.pastSti = true → c'.pastSti = true ∨ ev = .cls) ∧
    (ev = .sti → c'.pastSti = true ∨ s.sockOpen = false) ∧
    ((ev = .rel ∧ ∃ n, pc = .net .xRel n) → ∃ n, c = .net .xRel n) ∧
    (c'.atPop = true → ev.pops = [] ∧ (c.atPop = true ∨ s.queue ≠ [])) := by
  rcases hh with ⟨rfl, rfl⟩ | ⟨h1, h2, rfl⟩
  · cases h <;> simp_all [Pc.atLock, Pc.crit, UPc.crit, NPc.crit, Pc.needsOpen, Pc.pastSti, Pc.atPop, Ev.pops]
  · obtain ⟨o1, o2, o3, o4, o5, o6, o7⟩ := h.out h1 h2
    simp_all

/-- A running `disconnect` keeps its context; a new one records the queue, the wire and the
socket, and enters the flush loop exactly if it is graceful and found the socket open. -/
theorem Trans.dctx (h : Trans cfg s t pc td ev pc' td') (hh : Holder pc pc' c c') (d : DCtx)
    (hd : c'.dctx = some d) :
    (c.dctx = some d ∧ ev ≠ .acq ∧ (c'.flushing = true → c.flushing = true) ∧
      (ev.snds = [] ∨ c.flushing = true)) ∨
    (ev = .acq ∧ d.snap = s.queue ∧ d.wire0 = s.wire ∧ d.open0 = s.sockOpen ∧
      (c'.flushing = true ↔ (d.imm = false ∧ s.sockOpen = true))) := by
  rcases hh with ⟨rfl, rfl⟩ | ⟨h1, h2, rfl⟩
  · cases h <;> simp_all [Pc.atLock, Pc.crit, UPc.crit, NPc.crit, Pc.dctx, Pc.flushing, Ev.snds]
    all_goals (subst hd; simp_all)
  · obtain ⟨o1, o2, o3, o4, o5, o6, o7⟩ := h.out h1 h2
    simp_all

/-- The open length prefix along a transition: together with the chunk sent it makes whole frames
and the open prefix afterwards. -/
theorem Trans.half (h : Trans cfg s t pc td ev pc' td') (hh : Holder pc pc' c c') :
    c.half ++ ev.snds = frames (sentPkts (c.half ++ ev.snds)) ++ c'.half := by
  rcases hh with ⟨rfl, rfl⟩ | ⟨h1, h2, rfl⟩
  · cases h <;> simp [Pc.atLock, Pc.crit, UPc.crit, NPc.crit, Pc.half, Ev.snds, sentPkts, frames]
  · rw [(h.out h1 h2).2.2.2.2.1, List.append_nil, sentPkts_half]; rfl

theorem wire_eq_snoc {w h x h' : List Chunk} (w1 : w = frames (sentPkts w) ++ h)
    (hx : h ++ x = frames (sentPkts (h ++ x)) ++ h') :
    w ++ x = frames (sentPkts (w ++ x)) ++ h' := by
  have e1 : w ++ x = frames (sentPkts w) ++ (h ++ x) := by rw [← List.append_assoc, ← w1]
  have e2 : sentPkts (w ++ x) = sentPkts w ++ sentPkts (h ++ x) := by
    rw [e1, sentPkts_append, sentPkts_frames]
  rw [e2, frames_append, List.append_assoc, ← hx, e1]

/-- Inside the flush loop (socket open), a packet that is popped or queued is sent by this
transition, or is still popped or queued inside the loop afterwards. -/
theorem Trans.flush (h : Trans cfg s t pc td ev pc' td') (hh : Holder pc pc' c c')
    (hfl : c.flushing = true) (hno : s.sockOpen = true) (p : Pkt)
    (hp : p ∈ c.popped ∨ p ∈ s.queue) :
    p ∈ sentPkts ev.snds ∨ (c'.flushing = true ∧ (p ∈ c'.popped ∨
      p ∈ (if ev.pops = [] then s.queue ++ ev.apps else s.queue.tail))) := by
  rcases hh with ⟨rfl, rfl⟩ | ⟨h1, h2, rfl⟩
  · cases h <;> simp_all [Pc.atLock, Pc.crit, UPc.crit, NPc.crit, Pc.flushing, Pc.popped, Ev.snds,
      Ev.apps, Ev.pops, sentPkts]
  · rw [if_pos (h.out h1 h2).2.2.2.2.2.1]
    exact Or.inr ⟨hfl, hp.imp_right (List.mem_append_left _)⟩

/-! ### The lists along a transition -/

/-- A failing write found the socket closed; a pop takes the head of the queue. -/
theorem Trans.guard (h : Trans cfg s t pc td ev pc' td') :
    (ev = .fail → s.sockOpen = false) ∧
    (ev.pops ≠ [] → s.queue = ev.pops ++ s.queue.tail ∧ ev.apps = []) := by
  cases h <;> simp_all [Ev.pops, Ev.apps]

/-- The `queued` packets of a program, in program order. -/
def Op.queuedPkt : Op → Option Pkt
  | .queued p => some p
  | _ => none

def queuedPkts (prog : List Op) : List Pkt := prog.filterMap Op.queuedPkt

/-- How a transition consumes the program: a prefix `ops` (at most one operation), whose packets are
the ones it issues; the queued ones among them are what it appends to the queue. -/
theorem Trans.todo (h : Trans cfg s t pc td ev pc' td') :
    ∃ ops, td = ops ++ td' ∧ pktsOf ops = (if ev = .acq then pc'.issues else ev.apps) ∧
      queuedPkts ops = ev.apps ∧ (pktsOf ops).Nodup ∧ ev.apps.Sublist (pktsOf ops) := by
  cases h <;> first
    | exact ⟨[], rfl, rfl, rfl, List.nodup_nil, List.Sublist.refl _⟩
    | exact ⟨[_], rfl, rfl, rfl, by simp [pktsOf, Op.pkts], by simp [pktsOf, Op.pkts, Ev.apps]⟩

/-- The accounting of a transition: what it sends, what is in flight at the holder, queued or
failed after it, is what was in flight or queued before together with what it issues. -/
theorem Trans.acct (h : Trans cfg s t pc td ev pc' td') (hh : Holder pc pc' c c') :
    (sentPkts ev.snds ++ c'.infl ++ (if ev.pops = [] then s.queue ++ ev.apps else s.queue.tail) ++
      (if ev = .fail then pc.infl else [])).Perm
    (c.infl ++ s.queue ++ (if ev = .acq then pc'.issues else ev.apps)) := by
  rcases hh with ⟨rfl, rfl⟩ | ⟨h1, h2, rfl⟩
  · cases h <;> simp_all [Pc.atLock, Pc.crit, UPc.crit, NPc.crit, Pc.infl, Pc.issues, Ev.snds, Ev.apps, Ev.pops,
      sentPkts]
    exact (List.perm_append_singleton _ _).symm
  · obtain ⟨o1, o2, o3, o4, o5, o6, o7⟩ := h.out h1 h2
    simp_all

/-- With the socket open at the program points that need it, only a forced write fails: it holds
the lock at `fSnd0` and finds the socket closed. -/
theorem Trans.fail (h : Trans cfg s t pc td .fail pc' td') (hh : Holder pc pc' c c')
    (hno : c.needsOpen = true → s.sockOpen = true) :
    ∃ p, pc = .user (.fSnd0 p) ∧ c = pc ∧ pc.infl = [p] ∧ s.sockOpen = false := by
  rcases hh with ⟨rfl, rfl⟩ | ⟨h1, h2, rfl⟩
  · cases h <;> simp_all [Pc.atLock, Pc.crit, UPc.crit, NPc.crit, Pc.needsOpen, Pc.infl]
  · obtain ⟨o1, o2, o3, o4, o5, o6, o7⟩ := h.out h1 h2
    simp_all

/-- Nothing is sent on a closed socket. -/
theorem Trans.closed_snds (h : Trans cfg s t pc td ev pc' td') (hh : Holder pc pc' c c')
    (hno : c.needsOpen = true → s.sockOpen = true) (hc : s.sockOpen = false) : ev.snds = [] := by
  rcases hh with ⟨rfl, rfl⟩ | ⟨h1, h2, rfl⟩
  · cases h <;> simp_all [Pc.atLock, Pc.crit, UPc.crit, NPc.crit, Pc.needsOpen, Ev.snds]
  · obtain ⟨o1, o2, o3, o4, o5, o6, o7⟩ := h.out h1 h2
    simp_all

/-- The packet in flight from the queue (socket open where it matters): it stays or is sent, and a
popped packet becomes it. -/
theorem Trans.popped (h : Trans cfg s t pc td ev pc' td') (hh : Holder pc pc' c c')
    (hno : c.needsOpen = true → s.sockOpen = true) (p : Pkt) (hp : p ∈ c.popped ∨ p ∈ ev.pops) :
    p ∈ sentPkts ev.snds ∨ p ∈ c'.popped := by
  rcases hh with ⟨rfl, rfl⟩ | ⟨h1, h2, rfl⟩
  · cases h <;> simp_all [Pc.atLock, Pc.crit, UPc.crit, NPc.crit, Pc.popped, Pc.needsOpen, Ev.snds, Ev.pops,
      sentPkts]
  · obtain ⟨o1, o2, o3, o4, o5, o6, o7⟩ := h.out h1 h2
    simp_all

/-- Sent, in flight from the queue, queued: this list only grows, and an `app` extends it at the
end. -/
theorem Trans.pipeline (h : Trans cfg s t pc td ev pc' td') (hh : Holder pc pc' c c')
    (hno : c.needsOpen = true → s.sockOpen = true) :
    (c.popped ++ s.queue).Sublist
      (sentPkts ev.snds ++ c'.popped ++ (if ev.pops = [] then s.queue ++ ev.apps else s.queue.tail)) ∧
    (ev.apps ≠ [] → sentPkts ev.snds ++ c'.popped ++
      (if ev.pops = [] then s.queue ++ ev.apps else s.queue.tail) = c.popped ++ s.queue ++ ev.apps) := by
  rcases hh with ⟨rfl, rfl⟩ | ⟨h1, h2, rfl⟩
  · cases h <;> simp_all [Pc.atLock, Pc.crit, UPc.crit, NPc.crit, Pc.popped, Pc.needsOpen, Ev.snds, Ev.apps,
      Ev.pops, sentPkts]
  · obtain ⟨o1, o2, o3, o4, o5, o6, o7⟩ := h.out h1 h2
    simp_all

end

theorem pktsOf_append (a b : List Op) : pktsOf (a ++ b) = pktsOf a ++ pktsOf b := by
  simp [pktsOf]

/-! ### Preservation -/

theorem wire_step (cfg : Cfg) (s s' : Sys) (t : Tid) (hl : LockInv s) (hw : WireInv s)
    (hf : ∀ p ∈ pktsOf (s.thr t).todo, p ∉ s.issued)
    (hs : step cfg s t = some s') : WireInv s' := by
  obtain ⟨ev, pc, pc', td, td', f⟩ := step_facts cfg s s' t hl hs
  have htr := f.trans
  have hcur := f.holder
  obtain ⟨fi, fn, fo⟩ := f.flags
  obtain ⟨d1, d2, d3, d4⟩ := f.lists
  have hoi := open_of_not_int hl hw
  have w2 := hw.needs_open
  have w3 := hw.rel_closed
  have w3x := hw.xrel_closed
  have w4 := hw.past_sti
  have w5 := hw.closed_int
  have w5i := hw.int_closed
  have w6 := hw.pop_ok
  -- flags, socket, `popleft`: each clause from its line of `Trans.ctl`, the flags and the clauses
  -- before the step
  obtain ⟨k1, k2, k3, k4, k5, k6, k7, k8, k9⟩ := htr.ctl hcur
  have c1 : (cur s').needsOpen = true → s'.sockOpen = true := by grind
  have c2 : ∀ d, cur s' = .user (.dRel d) → s'.sockOpen = false := by grind
  have c3 : ∀ n, cur s' = .net .xRel n → s'.sockOpen = false := by grind
  have c4 : (cur s').pastSti = true → s'.interrupt = true ∨ s'.ntSlot = false := by grind
  have c5 : s'.sockOpen = false → s'.interrupt = true ∨ s'.ntSlot = false := by grind
  have c6 : s'.interrupt = true → s'.sockOpen = false ∨ (cur s').pastSti = true := by grind
  have c7 : (cur s').atPop = true → s'.queue ≠ [] := fun h => by
    obtain ⟨e, k⟩ := k9 h
    rw [d2, if_pos e]
    exact fun h0 => k.elim (w6 ·) id (List.append_eq_nil_iff.mp h0).1
  -- the wire: whole frames, then the open prefix
  have weq : s'.wire = frames (sentPkts s'.wire) ++ (cur s').half := by
    have w1 := hw.wire_eq
    rw [d1]; exact wire_eq_snoc w1 (htr.half hcur)
  -- a running `disconnect`
  have w7 := hw.flush_ctx
  have w9 := hw.imm_wire
  have w11 := hw.snap
  have hfn := flushing_needsOpen (cur s)
  have dc1 : ∀ d, (cur s').dctx = some d → (cur s').flushing = true → d.imm = false ∧ d.open0 = true := by
    intro d h1 h2
    rcases htr.dctx hcur d h1 with ⟨e1, -, e3, -⟩ | ⟨-, -, -, e4, e5⟩
    · exact w7 d e1 (e3 h2)
    · have := e5.mp h2; exact ⟨this.1, by rw [e4]; exact this.2⟩
  have dc2 : ∀ d, (cur s').dctx = some d → d.imm = true → s'.wire = d.wire0 := by
    intro d h1 h2
    rw [d1]
    rcases htr.dctx hcur d h1 with ⟨e1, -, -, e4 | e4⟩ | ⟨rfl, -, e3, -, -⟩
    · rw [e4, List.append_nil]; exact w9 d e1 h2
    · have := (w7 d e1 e4).1; rw [h2] at this; cases this
    · rw [e3]; simp [Ev.snds]
  have dc3 : ∀ d, (cur s').dctx = some d → d.imm = false → d.open0 = true → ∀ p ∈ d.snap,
      p ∈ sentPkts s'.wire ∨ ((cur s').flushing = true ∧ (p ∈ (cur s').popped ∨ p ∈ s'.queue)) := by
    intro d h1 h2 h3 p hp
    rw [d1, d2, sentPkts_append]
    rcases htr.dctx hcur d h1 with ⟨e1, -, -, -⟩ | ⟨rfl, e2, -, e4, e5⟩
    · rcases w11 d e1 h2 h3 p hp with k | ⟨k1, k2⟩
      · exact Or.inl (List.mem_append_left _ k)
      · rcases htr.flush hcur k1 (w2 (hfn k1)) p k2 with k | k
        · exact Or.inl (List.mem_append_right _ k)
        · exact Or.inr k
    · right
      refine ⟨e5.mpr ⟨h2, by rw [← e4]; exact h3⟩, Or.inr ?_⟩
      rw [e2] at hp; simpa [Ev.pops, Ev.apps] using hp
  -- the accounting: sent, in flight, queued, failed against issued
  obtain ⟨ops, htd, hops, -, hopsn, -⟩ := htr.todo
  have hm := hw.mem_issued
  have hacct : (sentPkts s'.wire ++ (cur s').infl ++ s'.queue ++ s'.failed).Perm
      (sentPkts s.wire ++ (cur s).infl ++ s.queue ++ s.failed ++ pktsOf ops) := by
    rw [d1, d2, d3, sentPkts_append, hops, List.perm_iff_count]
    intro a
    have := (htr.acct hcur).count_eq a
    simp only [List.count_append] at this ⊢
    omega
  have hmem : ∀ p, p ∈ s'.issued ↔
      p ∈ sentPkts s'.wire ∨ p ∈ (cur s').infl ∨ p ∈ s'.queue ∨ p ∈ s'.failed := by
    intro p
    rw [d4, ← hops, List.mem_append, hm p]
    simpa [or_assoc] using (hacct.mem_iff (a := p)).symm
  have hnd : (sentPkts s'.wire ++ (cur s').infl ++ s'.queue ++ s'.failed).Nodup := by
    rw [hacct.nodup_iff, List.nodup_append]
    refine ⟨hw.nodup, hopsn, fun p hp q hq e => ?_⟩
    subst e
    refine hf p ?_ ((hm p).mpr (by simpa [or_assoc] using hp))
    rw [f.thr, htd, pktsOf_append]; exact List.mem_append_left _ hq
  have hfc : s'.failed ≠ [] → s'.sockOpen = false := by
    rw [d3]
    by_cases hev : ev = .fail
    · exact fun _ => (sockOpen_step fo).1 (htr.guard.1 hev)
    · rw [if_neg hev, List.append_nil]
      exact fun h => (sockOpen_step fo).1 (hw.failed_closed h)
  exact ⟨weq, c1, c2, c3, c4, c5, c6, hfc, c7, dc1, dc2, dc3, hmem, hnd⟩

/-- The packets issued by a step are those of the prefix `ops` of its thread's program that it
consumes; the other threads keep their programs. -/
theorem step_issued (cfg : Cfg) (s s' : Sys) (t : Tid) (hl : LockInv s)
    (hs : step cfg s t = some s') :
    ∃ ops, (s.thr t).todo = ops ++ (s'.thr t).todo ∧ s'.issued = s.issued ++ pktsOf ops ∧
      ∀ u, u ≠ t → s'.thr u = s.thr u := by
  obtain ⟨ev, pc, pc', td, td', f⟩ := step_facts cfg s s' t hl hs
  obtain ⟨ops, htd, hops, -, -, -⟩ := f.trans.todo
  exact ⟨ops, by rw [f.thr, f.thr']; exact htd, by rw [f.lists.issued, hops], f.others⟩

/-! ### The initial state -/

theorem wire_init (progs : List (List Op)) : WireInv (init progs) := by
  have hc : cur (init progs) = .user .idle := rfl
  constructor <;> (try rw [hc]) <;>
    simp [Pc.half, Pc.needsOpen, Pc.pastSti, Pc.atPop, Pc.dctx, Pc.infl, init, sentPkts, frames]

end PyCraft.Writers
