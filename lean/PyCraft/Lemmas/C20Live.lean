import PyCraft.Model.C20Live
import PyCraft.Lemmas.Trackers
import PyCraft.Lemmas.Enums
/-! Helper lemmas for `Props/C20Live.lean`: Python's `&`/`|` on ints bit by bit, the
signed flags byte, the int model of `name_from_value` against the natural-number model and the
variant model, tables of printed names, the player list with spelled-out add slots against
`Model/Trackers.lean`. -/
namespace PyCraft.TrackLive
open PyCraft PyCraft.Trackers PyCraft.Enums

/-! ### Binary digits of an int -/

theorem pyBit_ofNat (a k : Nat) : pyBit (Int.ofNat a) k = a.testBit k := by
  unfold pyBit
  rw [Nat.testBit_eq_decide_div_mod_eq]
  have h : (Int.ofNat a) / (2 : Int) ^ k = ((a / 2 ^ k : Nat) : Int) := by
    rw [Int.natCast_ediv, Int.natCast_pow]; rfl
  rw [h]
  congr 1
  apply propext
  omega

theorem pyBit_negSucc (a k : Nat) : pyBit (Int.negSucc a) k = !a.testBit k := by
  unfold pyBit
  rw [Nat.testBit_eq_decide_div_mod_eq]
  have hpos : (0 : Int) < (2 : Int) ^ k := Int.pow_pos (by decide)
  have h : (Int.negSucc a) / (2 : Int) ^ k = -(((a / 2 ^ k : Nat) : Int) + 1) := by
    rw [Int.negSucc_ediv a hpos, Int.natCast_ediv, Int.natCast_pow]; rfl
  rw [h]
  generalize a / 2 ^ k = q
  by_cases hq : q % 2 = 1
  · have : ¬ (-((q : Int) + 1)) % 2 = 1 := by omega
    rw [decide_eq_false this, decide_eq_true hq]; rfl
  · have : (-((q : Int) + 1)) % 2 = 1 := by omega
    rw [decide_eq_true this, decide_eq_false hq]; rfl

/-! ### The signed flags byte -/

/-- `flags & 2**k` is truthy iff binary digit `k` of `flags` is set. -/
theorem pyAnd_two_pow_ne_zero (flags : Int) (k : Nat) :
    pyAnd flags ((2 ^ k : Nat) : Int) ≠ 0 ↔ pyBit flags k = true := by
  cases flags with
  | ofNat a =>
    rw [pyBit_ofNat]
    exact (not_congr Int.natCast_eq_zero).trans
      ((ne_zero_iff_testBit (a &&& 2 ^ k) k fun i e => by simp [Ne.symm e]).trans (by simp))
  | negSucc a =>
    rw [pyBit_negSucc]
    exact (not_congr Int.natCast_eq_zero).trans
      ((ne_zero_iff_testBit (2 ^ k ^^^ (2 ^ k &&& a)) k fun i e => by simp [Ne.symm e]).trans
        (by simp))
/-- For `k < 8`, binary digit `k` of a signed value is that of its low byte read unsigned: a natural
is reduced modulo `2^8`, and `-(a+1)` becomes `2^8 - (a mod 2^8 + 1)`, whose digits are the
complements of those of `a`. -/
theorem pyBit_byte (flags : Int) (k : Nat) (hk : k < 8) :
    pyBit flags k = decide (flagsOfByte flags / 2 ^ k % 2 = 1) := by
  rw [← Nat.testBit_eq_decide_div_mod_eq]
  cases flags with
  | ofNat a =>
    have h : flagsOfByte (Int.ofNat a) = a % 2 ^ 8 := by
      show ((a : Int) % 256).toNat = a % 2 ^ 8
      omega
    rw [pyBit_ofNat, h, Nat.testBit_mod_two_pow]
    simp [hk]
  | negSucc a =>
    have h : flagsOfByte (Int.negSucc a) = 2 ^ 8 - (a % 2 ^ 8 + 1) := by unfold flagsOfByte; omega
    rw [pyBit_negSucc, h, Nat.testBit_two_pow_sub_succ (Nat.mod_lt _ (by decide)),
      Nat.testBit_mod_two_pow]
    simp [hk]

/-- The low eight binary digits of the byte read unsigned are those of the signed value. -/
theorem flagsOfByte_digit (flags : Int) (k : Nat) (hk : k < 8) :
    (flagsOfByte flags / 2 ^ k % 2 = 1) = (flags / 2 ^ k % 2 = 1) := by
  have h := pyBit_byte flags k hk
  unfold pyBit at h
  simpa using h.symm

/-- One branch of `apply`: Python's `&` on the signed flags agrees with the natural-number `&&&` on the
two's-complement byte, for every single-bit flag below `0x100`. -/
theorem relOrAbsZ_eq (flags : Int) (k : Nat) (hk : k < 8) (cur pkt : Rat) :
    relOrAbsZ flags ((2 ^ k : Nat) : Int) cur pkt = relOrAbs (flagsOfByte flags) (2 ^ k) cur pkt := by
  rw [relOrAbs_bit]
  unfold relOrAbsZ
  by_cases h : flagsOfByte flags / 2 ^ k % 2 = 1
  · have : pyBit flags k = true := by rw [pyBit_byte flags k hk]; simpa using h
    rw [if_pos ((pyAnd_two_pow_ne_zero flags k).2 this), if_pos h]
  · have : ¬ pyBit flags k = true := by rw [pyBit_byte flags k hk]; simpa using h
    rw [if_neg (fun e => this ((pyAnd_two_pow_ne_zero flags k).1 e)), if_neg h]

theorem applyPosLookWith_model (flags : Int) (pkt cur : Pos) :
    applyPosLookWith modelPosFlags flags pkt cur = applyPosLook (flagsOfByte flags) pkt cur := by
  have h0 := relOrAbsZ_eq flags 0 (by decide)
  have h1 := relOrAbsZ_eq flags 1 (by decide)
  have h2 := relOrAbsZ_eq flags 2 (by decide)
  have h3 := relOrAbsZ_eq flags 3 (by decide)
  have h4 := relOrAbsZ_eq flags 4 (by decide)
  simp only [applyPosLookWith, applyPosLook, modelPosFlags, FLAG_REL_X, FLAG_REL_Y, FLAG_REL_Z,
    FLAG_REL_YAW, FLAG_REL_PITCH]
  exact congr (congr (congr (congr (congrArg Pos.mk (h0 _ _)) (h1 _ _)) (h2 _ _))
    (congrArg mod360 (h3 _ _))) (congrArg mod360 (h4 _ _))

/-! ### The int model extends the natural-number model -/

abbrev castP (p : String × Nat) : String × Int := (p.1, (p.2 : Int))

theorem intMembers_eq (l : List (String × Nat)) : intMembers l = l.map castP := rfl

theorem pyOr_natCast (a b : Nat) : pyOr (a : Int) (b : Int) = ((a ||| b : Nat) : Int) := rfl

theorem natCast_beq (a b : Nat) : ((a : Int) == (b : Int)) = (a == b) := by
  simp [BEq.beq, Int.ofNat_inj]

theorem candidatesZ_cast (members : List (String × Nat)) (value : Nat) :
    candidatesZ (members.map castP) (value : Int) = (candidates members value).map castP := by
  simp only [candidatesZ, candidates, List.filter_map, Function.comp_def, pyOr_natCast, natCast_beq]

theorem insDescZ_cast (p : String × Nat) (l : List (String × Nat)) :
    insDescZ (castP p) (l.map castP) = (insDesc p l).map castP := by
  induction l with
  | nil => rfl
  | cons q qs ih =>
    simp only [List.map_cons, insDescZ, insDesc, castP, Int.ofNat_le]
    split
    · rfl
    · simp only [List.map_cons]; rw [← ih]

theorem sortDescZ_cast (l : List (String × Nat)) :
    sortDescZ (l.map castP) = (sortDesc l).map castP := by
  induction l with
  | nil => rfl
  | cons p ps ih => simp only [List.map_cons, sortDescZ, sortDesc, ih, insDescZ_cast]

theorem greedyZ_cast (value : Nat) (l : List (String × Nat)) :
    ∀ (names : List String) (ret : Nat),
      greedyZ (value : Int) (l.map castP) (names, (ret : Int)) =
        ((greedy value l (names, ret)).1, (((greedy value l (names, ret)).2 : Nat) : Int)) := by
  induction l with
  | nil => intro names ret; rfl
  | cons c rest ih =>
    intro names ret
    simp only [List.map_cons, castP, greedyZ, greedy, pyOr_natCast, bne, natCast_beq]
    split <;> exact ih _ _

theorem chosenNamesZ_cast (members : List (String × Nat)) (value : Nat) :
    chosenNamesZ (intMembers members) (value : Int) = chosenNames members value := by
  unfold chosenNamesZ chosenNames
  rw [intMembers_eq, candidatesZ_cast, sortDescZ_cast]
  have := greedyZ_cast value (sortDesc (candidates members value)) [] 0
  simp only [Int.natCast_zero] at this
  simp only [this, natCast_beq]

/-- On natural members and a natural value the int model IS `Enums.nameFromValue`. -/
theorem nameFromValueZ_cast (members : List (String × Nat)) (value : Nat) :
    nameFromValueZ (intMembers members) (value : Int) = nameFromValue members value := by
  unfold nameFromValueZ nameFromValue
  rw [chosenNamesZ_cast]
  rcases chosenNames members value with _ | _ | _ <;> rfl

/-! ### The variant model, and windows of a table of printed names -/

theorem greedyV_faithful (value : Int) (l : List (String × Int)) (st : List String × Int) :
    greedyV .faithful value l st = greedyZ value l st := by
  induction l generalizing st with
  | nil => rfl
  | cons c rest ih =>
    obtain ⟨n, v⟩ := c
    obtain ⟨names, ret⟩ := st
    have he : NameVariant.faithful.eqClause = true := rfl
    simp only [greedyV, greedyZ, he, Bool.true_and, ih]

theorem joinCharsV_bar (l : List (List Char)) : joinCharsV '|' l = joinChars l := by
  induction l with
  | nil => rfl
  | cons a rest ih =>
    cases rest with
    | nil => rfl
    | cons b rest' => simp only [joinCharsV, joinChars, ih]

/-- With all switches as in the code the variant model is the model. -/
theorem nameFromValueV_faithful (members : List (String × Int)) (value : Int) :
    nameFromValueV .faithful members value = nameFromValueZ members value := by
  unfold nameFromValueV nameFromValueZ chosenNamesZ
  simp only [greedyV_faithful]
  split
  · cases (greedyZ value (sortDescZ (candidatesZ members value)) ([], 0)).1.reverse with
    | nil => simp [NameVariant.faithful]
    | cons n ns => simp [NameVariant.faithful, joinCharsV_bar, joinBar]
  · rfl

theorem variantTable_faithful (tbl : List (String × List (String × Int) × List (Option String)))
    (lo : Int) (count : Nat) :
    variantTable .faithful tbl lo count =
      tbl.map fun e => (e.1, e.2.1, namesFrom e.2.1 lo count) := by
  simp only [variantTable, nameFromValueV_faithful, namesFrom]

/-- A window of the names printed from `lo` on is the names printed from the window's start on. -/
theorem namesFrom_drop_take {members : List (String × Int)} {lo : Int} {count a n : Nat}
    (h : a + n ≤ count) :
    ((namesFrom members lo count).drop a).take n = namesFrom members (lo + a) n := by
  apply List.ext_getElem?
  intro i
  simp only [namesFrom, List.getElem?_take, List.getElem?_drop, List.getElem?_map]
  by_cases hi : i < n
  · have h1 : a + i < count := by omega
    simp [hi, h1, Int.add_assoc]
  · simp [hi]

/-! ### Negative values -/

theorem pyOr_nonneg (a b : Int) (ha : 0 ≤ a) (hb : 0 ≤ b) : 0 ≤ pyOr a b := by
  cases a with
  | negSucc a => omega
  | ofNat a =>
    cases b with
    | negSucc b => omega
    | ofNat b => exact Int.natCast_nonneg _

theorem greedyZ_nonneg (value : Int) (l : List (String × Int)) (hl : ∀ p ∈ l, 0 ≤ p.2) :
    ∀ (names : List String) (ret : Int), 0 ≤ ret → 0 ≤ (greedyZ value l (names, ret)).2 := by
  induction l with
  | nil => intro names ret h; exact h
  | cons c rest ih =>
    intro names ret h
    obtain ⟨n, v⟩ := c
    have hv : 0 ≤ v := hl (n, v) (List.mem_cons_self ..)
    have hr : ∀ p ∈ rest, 0 ≤ p.2 := fun p hp => hl p (List.mem_cons_of_mem _ hp)
    unfold greedyZ
    split
    · exact ih hr _ _ (pyOr_nonneg _ _ h hv)
    · exact ih hr _ _ h

theorem mem_insDescZ (p x : String × Int) (l : List (String × Int)) :
    x ∈ insDescZ p l ↔ x = p ∨ x ∈ l := by
  induction l with
  | nil => simp [insDescZ]
  | cons q qs ih =>
    unfold insDescZ
    split
    · simp
    · simp [ih]; grind

theorem mem_sortDescZ (x : String × Int) (l : List (String × Int)) : x ∈ sortDescZ l ↔ x ∈ l := by
  induction l with
  | nil => simp [sortDescZ]
  | cons p ps ih => simp [sortDescZ, mem_insDescZ, ih]

/-- A class whose upper-case members are all non-negative never names a negative value. -/
theorem nameFromValueZ_neg (members : List (String × Int))
    (hm : ∀ p ∈ members, pyIsUpper p.1 = true → 0 ≤ p.2) (value : Int) (hv : value < 0) :
    nameFromValueZ members value = none := by
  have hc : ∀ p ∈ sortDescZ (candidatesZ members value), 0 ≤ p.2 := by
    intro p hp
    rw [mem_sortDescZ] at hp
    unfold candidatesZ at hp
    rw [List.mem_filter] at hp
    have := hp.2
    simp only [Bool.and_eq_true] at this
    exact hm p hp.1 this.1
  have h := greedyZ_nonneg value _ hc [] 0 (Int.le_refl 0)
  unfold nameFromValueZ chosenNamesZ
  have hne : ((greedyZ value (sortDescZ (candidatesZ members value)) ([], 0)).2 == value) = false := by
    simp only [beq_eq_false_iff_ne, ne_eq]
    omega
  simp only [hne]
  rfl

/-- Below zero a class without negative members prints nothing: the names printed from `-k` on are
`k` times `None`, then the names printed from `0` on. -/
theorem namesFrom_neg_prefix (members : List (String × Int)) (hm : ∀ p ∈ members, 0 ≤ p.2)
    (k n : Nat) :
    namesFrom members (-(k : Int)) (k + n) = List.replicate k none ++ namesFrom members 0 n := by
  simp only [namesFrom, List.range_add, List.map_append, List.map_map]
  congr 1
  · rw [List.eq_replicate_iff]
    refine ⟨by simp, fun o ho => ?_⟩
    obtain ⟨i, hi, rfl⟩ := List.mem_map.1 ho
    have := List.mem_range.1 hi
    exact nameFromValueZ_neg members (fun p hp _ => hm p hp) _ (by omega)
  · apply List.map_congr_left
    intro i _
    simp only [Function.comp]
    congr 1
    omega

/-! ### Player list -/

section dictmap
variable {β γ : Type}

abbrev mapVals (g : β → γ) (l : List (Int × β)) : List (Int × γ) := l.map fun kv => (kv.1, g kv.2)

theorem mapVals_dictSet (g : β → γ) (k : Int) (v : β) (l : List (Int × β)) :
    mapVals g (dictSet k v l) = dictSet k (g v) (mapVals g l) := by
  induction l with
  | nil => rfl
  | cons q qs ih =>
    simp only [dictSet, mapVals, List.map_cons] at ih ⊢
    split <;> simp only [List.map_cons, ih]

theorem mapVals_dictModify (g : β → γ) (f : β → β) (f' : γ → γ) (hf : ∀ v, g (f v) = f' (g v))
    (k : Int) (l : List (Int × β)) :
    mapVals g (dictModify k f l) = dictModify k f' (mapVals g l) := by
  induction l with
  | nil => rfl
  | cons q qs ih =>
    simp only [dictModify, mapVals, List.map_cons] at ih ⊢
    split <;> simp only [List.map_cons, ih, hf]

theorem mapVals_dictDel (g : β → γ) (k : Int) (l : List (Int × β)) :
    mapVals g (dictDel k l) = dictDel k (mapVals g l) := by
  induction l with
  | nil => rfl
  | cons q qs ih =>
    simp only [dictDel, mapVals, List.map_cons] at ih ⊢
    split <;> simp only [List.map_cons, ih]

theorem dictGet_mapVals (g : β → γ) (k : Int) (l : List (Int × β)) :
    dictGet k (mapVals g l) = (dictGet k l).map g := by
  induction l with
  | nil => rfl
  | cons q qs ih =>
    simp only [dictGet, mapVals, List.map_cons] at ih ⊢
    split <;> simp only [Option.map_some, ih]

theorem keys_mapVals (g : β → γ) (l : List (Int × β)) : keys (mapVals g l) = keys l := by
  simp [keys, mapVals, List.map_map, Function.comp_def]

end dictmap

theorem absList_eq (enc : List PlayerProperty → Nat) (l : PlayerListF) :
    absList enc l = mapVals (PlayerItem.abs enc) l := rfl

theorem absList_step (enc : List PlayerProperty → Nat) (l : PlayerListF) (a : ActionF) :
    absList enc (applyActionF l a) = applyAction (absList enc l) (a.abs enc) := by
  simp only [absList_eq]
  cases a with
  | add a => exact mapVals_dictSet _ _ _ _
  | gamemode u g | latency u g | displayName u g =>
    exact mapVals_dictModify (PlayerItem.abs enc) _ _ (fun _ => rfl) u l
  | remove u => exact mapVals_dictDel _ _ _

theorem absList_packet (enc : List PlayerProperty → Nat) (pkt : List ActionF) (l : PlayerListF) :
    absList enc (applyPacketF l pkt) = applyPacket (absList enc l) (pkt.map (ActionF.abs enc)) := by
  rw [applyPacket, List.foldl_map]
  exact (List.foldl_hom (absList enc) fun l a => (absList_step enc l a).symm).symm

theorem keys_applyActionF_nodup (l : PlayerListF) (a : ActionF) (h : (keys l).Nodup) :
    (keys (applyActionF l a)).Nodup := by
  cases a with
  | add a => exact nodup_keys_dictSet _ _ l h
  | gamemode u g | latency u g | displayName u g =>
    simpa only [applyActionF, keys_dictModify] using h
  | remove u => rw [applyActionF, keys_dictDel u l h]; exact h.filter _

theorem dictGet_applyActionF (l : PlayerListF) (h : (keys l).Nodup) (k : Int) (a : ActionF) :
    dictGet k (applyActionF l a) =
      match a with
      | .add a => if k = a.uuid then some a.item else dictGet k l
      | .gamemode u g => if k = u then (dictGet u l).map (fun p => { p with gamemode := g }) else dictGet k l
      | .latency u x => if k = u then (dictGet u l).map (fun p => { p with ping := x }) else dictGet k l
      | .displayName u d =>
        if k = u then (dictGet u l).map (fun p => { p with displayName := d }) else dictGet k l
      | .remove u => if k = u then none else dictGet k l := by
  cases a with
  | add a => exact dictGet_dictSet _ _ _ _
  | gamemode u g | latency u g | displayName u g => exact dictGet_dictModify _ _ _ _
  | remove u => exact dictGet_dictDel u k l h

/-- The uuid, name and properties of a bound player are those of the last add: an add sets them, a
removal unbinds, and no update touches them. -/
theorem lastAdd_spec (acts : List ActionF) :
    ∀ (l : PlayerListF) (init : Option AddPlayer) (k : Int), (keys l).Nodup →
      (dictGet k l).map (fun p => (p.uuid, p.name, p.properties)) =
        init.map (fun a => (a.uuid, a.name, a.properties)) →
      (dictGet k (acts.foldl applyActionF l)).map (fun p => (p.uuid, p.name, p.properties)) =
        (lastAdd k init acts).map (fun a => (a.uuid, a.name, a.properties)) := by
  induction acts with
  | nil => intro l init k _ h; exact h
  | cons a as ih =>
    intro l init k hnd h
    simp only [List.foldl_cons, lastAdd] at ih ⊢
    apply ih _ _ _ (keys_applyActionF_nodup l a hnd)
    rw [dictGet_applyActionF l hnd k a]
    have hupd : ∀ (u : Int) (f : PlayerItem → PlayerItem),
        (∀ p, ((f p).uuid, (f p).name, (f p).properties) = (p.uuid, p.name, p.properties)) →
        (if k = u then (dictGet u l).map f else dictGet k l).map
            (fun p => (p.uuid, p.name, p.properties)) =
          init.map (fun a => (a.uuid, a.name, a.properties)) := by
      intro u f hf
      by_cases e : k = u
      · subst e
        rw [if_pos rfl, ← h]
        cases dictGet k l <;> simp [hf]
      · rw [if_neg e]; exact h
    cases a with
    | add a =>
      by_cases e : k = a.uuid
      · simp [e, AddPlayer.item]
      · have e' : ¬ a.uuid = k := fun x => e x.symm
        simp [e, e', h]
    | gamemode u g | latency u g | displayName u g => exact hupd u _ fun _ => rfl
    | remove u =>
      by_cases e : k = u
      · subst e; simp
      · have e' : ¬ u = k := fun x => e x.symm
        simp [e, e', h]

end PyCraft.TrackLive
