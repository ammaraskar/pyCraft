import PyCraft.Model.Versions
import PyCraft.Lemmas.Assoc
/-!
Specification vocabulary for C08 (`dedup`, `odFromList`, `lastVal`, `specTables`) and the proof that
`initKnown` is `specTables`: each loop of `initglobals` is a fold whose closed form is `dedupFrom` /
`odExtend`.  From it, one equation per table.  The order of versions needs less than `initKnown`: for any
tables whose index dict is the known list zipped with positions (`Tables.Indexed`) the index is the
position in that list, and the comparison functions are stated through it for known and for unknown
versions.
-/
namespace PyCraft

/-! ### Specification vocabulary -/

/-- Duplicate-free projection keeping FIRST occurrences, in order. -/
def dedup {α : Type} [DecidableEq α] : List α → List α
  | [] => []
  | x :: xs => x :: (dedup xs).filter (fun y => decide (y ≠ x))

/-- `OrderedDict(pairs)`: assign the pairs one after the other to an empty ordered dict. -/
def odFromList {α β : Type} [DecidableEq α] (l : List (α × β)) : List (α × β) :=
  l.foldl (fun d e => odSet d e.1 e.2) []

/-- The value of the LAST pair with key `k`. -/
def lastVal {α β : Type} [DecidableEq α] (l : List (α × β)) (k : α) : Option β :=
  (l.reverse.find? (fun e => decide (e.1 = k))).map (·.2)

/-- The accumulator form used by the loops: append `x` unless already present. -/
def dedupFrom {α : Type} [DecidableEq α] (acc : List α) (l : List α) : List α :=
  l.foldl (fun acc x => if x ∈ acc then acc else acc ++ [x]) acc

/-- Assign the pairs one after the other to the ordered dict `d`. -/
def odExtend {α β : Type} [DecidableEq α] (d : List (α × β)) (l : List (α × β)) : List (α × β) :=
  l.foldl (fun d e => odSet d e.1 e.2) d

/-- The `(id, protocol)` pairs of the records, in order. -/
def recPairs (recs : List Rec) : List (String × Nat) := recs.map fun r => (r.id, r.protocol)

/-- Closed form of the tables as projections of the record list. -/
def specTables (recs : List Rec) : Tables :=
  let kp := dedup (recs.map (·.protocol))
  let sv := odFromList (recPairs (recs.filter (·.supported)))
  let rv := sv.filter (fun e => isRelease e.1)
  { knownVersions := odFromList (recPairs recs)
    knownProtocols := kp
    supportedVersions := sv
    indices := kp.zipIdx
    supportedProtocols := dedup (sv.map (·.2))
    releaseVersions := rv
    releaseProtocols := dedup (rv.map (·.2)) }

section Dedup
variable {α : Type} [DecidableEq α]

theorem mem_dedup (l : List α) (a : α) : a ∈ dedup l ↔ a ∈ l := by
  induction l with
  | nil => simp [dedup]
  | cons x xs ih =>
    simp only [dedup, List.mem_cons, List.mem_filter, ih, decide_eq_true_eq]
    by_cases h : a = x <;> simp [h]

theorem nodup_dedup (l : List α) : (dedup l).Nodup := by
  induction l with
  | nil => simp [dedup]
  | cons x xs ih =>
    simp only [dedup, List.nodup_cons, List.mem_filter, decide_eq_true_eq]
    exact ⟨fun h => h.2 rfl, ih.sublist List.filter_sublist⟩

theorem dedup_sublist (l : List α) : (dedup l).Sublist l := by
  induction l with
  | nil => simp [dedup]
  | cons x xs ih =>
    simp only [dedup]
    exact List.Sublist.cons_cons x (List.filter_sublist.trans ih)

theorem dedupFrom_eq (acc l : List α) :
    dedupFrom acc l = acc ++ (dedup l).filter (fun y => decide (y ∉ acc)) := by
  induction l generalizing acc with
  | nil => simp [dedupFrom, dedup]
  | cons x xs ih =>
    have hstep : dedupFrom acc (x :: xs) = dedupFrom (if x ∈ acc then acc else acc ++ [x]) xs := rfl
    rw [hstep]
    by_cases hx : x ∈ acc
    · rw [if_pos hx, ih]
      congr 1
      simp only [dedup, List.filter_cons, hx, not_true_eq_false, decide_false, Bool.false_eq_true,
        if_false, List.filter_filter]
      apply List.filter_congr
      intro y _
      by_cases hy : y ∈ acc
      · simp [hy]
      · have : y ≠ x := fun e => hy (e ▸ hx)
        simp [hy, this]
    · rw [if_neg hx, ih]
      simp only [dedup, List.filter_cons, hx, not_false_eq_true, decide_true, if_true,
        List.filter_filter, List.append_assoc, List.singleton_append]
      congr 2
      apply List.filter_congr
      intro y _
      simp [List.mem_append, not_or, Bool.and_comm]

theorem dedupFrom_nil (l : List α) : dedupFrom [] l = dedup l := by
  rw [dedupFrom_eq]; simp

theorem dedupFrom_append (acc l₁ l₂ : List α) :
    dedupFrom acc (l₁ ++ l₂) = dedupFrom (dedupFrom acc l₁) l₂ := by
  simp [dedupFrom, List.foldl_append]

/-- `dedup` of an extended list extends `dedup` of the original (chronology is append-only). -/
theorem dedup_append (l₁ l₂ : List α) :
    dedup (l₁ ++ l₂) = dedup l₁ ++ (dedup l₂).filter (fun y => decide (y ∉ dedup l₁)) := by
  rw [← dedupFrom_nil, dedupFrom_append, dedupFrom_nil, dedupFrom_eq]

theorem dedup_prefix_append (l₁ l₂ : List α) : dedup l₁ <+: dedup (l₁ ++ l₂) := by
  rw [dedup_append]; exact List.prefix_append _ _

theorem dedup_of_nodup (l : List α) (h : l.Nodup) : dedup l = l := by
  induction l with
  | nil => rfl
  | cons x xs ih =>
    rw [List.nodup_cons] at h
    simp only [dedup, ih h.2]
    congr 1
    rw [List.filter_eq_self]
    intro y hy
    simp only [decide_eq_true_eq]
    exact fun e => h.1 (e ▸ hy)

theorem idxOf_cons_ite (x : α) (xs : List α) (y : α) :
    (x :: xs).idxOf y = if x = y then 0 else xs.idxOf y + 1 := by
  rw [List.idxOf_cons]
  by_cases h : x = y
  · subst h; simp
  · have : (x == y) = false := beq_eq_false_iff_ne.2 h
    simp [this, h]

/-- Filtering keeps the relative position of the elements it keeps. -/
theorem idxOf_filter_lt (p : α → Bool) (l : List α) (a b : α) (ha : p a = true) (hb : p b = true) :
    (l.filter p).idxOf a < (l.filter p).idxOf b ↔ l.idxOf a < l.idxOf b := by
  induction l with
  | nil => simp
  | cons z zs ih =>
    by_cases hz : p z = true
    · rw [List.filter_cons_of_pos hz]
      simp only [idxOf_cons_ite]
      by_cases h1 : z = a <;> by_cases h2 : z = b
      · rw [if_pos h1, if_pos h2, if_pos h1, if_pos h2]
      · rw [if_pos h1, if_neg h2, if_pos h1, if_neg h2]; omega
      · rw [if_neg h1, if_pos h2, if_neg h1, if_pos h2]; omega
      · rw [if_neg h1, if_neg h2, if_neg h1, if_neg h2]; omega
    · rw [List.filter_cons_of_neg hz]
      have h1 : ¬ z = a := fun e => hz (e ▸ ha)
      have h2 : ¬ z = b := fun e => hz (e ▸ hb)
      simp only [idxOf_cons_ite]
      rw [if_neg h1, if_neg h2]
      omega

/-- First-occurrence order: `a` comes before `b` in `dedup l` exactly when the first occurrence of
`a` in `l` comes before the first occurrence of `b`. -/
theorem idxOf_dedup_lt (l : List α) (a b : α) :
    (dedup l).idxOf a < (dedup l).idxOf b ↔ l.idxOf a < l.idxOf b := by
  induction l with
  | nil => simp [dedup]
  | cons x xs ih =>
    simp only [dedup, idxOf_cons_ite]
    by_cases h1 : x = a <;> by_cases h2 : x = b
    · rw [if_pos h1, if_pos h2, if_pos h1, if_pos h2]
    · rw [if_pos h1, if_neg h2, if_pos h1, if_neg h2]; omega
    · rw [if_neg h1, if_pos h2, if_neg h1, if_pos h2]; omega
    · have ha : (fun y => decide (y ≠ x)) a = true := by simpa using fun e => h1 e.symm
      have hb : (fun y => decide (y ≠ x)) b = true := by simpa using fun e => h2 e.symm
      have := idxOf_filter_lt (fun y => decide (y ≠ x)) (dedup xs) a b ha hb
      rw [if_neg h1, if_neg h2, if_neg h1, if_neg h2]
      omega

end Dedup

section OD
variable {α β : Type} [DecidableEq α]

/-- The ordered dict is the association list of `Lemmas/Assoc.lean`, which has its laws. -/
theorem odGet_eq (d : List (α × β)) (k : α) : odGet d k = d.lookup k := by
  induction d with
  | nil => rfl
  | cons e r ih => obtain ⟨a, b⟩ := e; rw [odGet, Assoc.lookup_cons, ih]

theorem odSet_eq (d : List (α × β)) (k : α) (v : β) : odSet d k v = Assoc.set d k v := by
  induction d with
  | nil => rfl
  | cons e r ih => simp only [odSet, Assoc.set, ih]

theorem odSet_keys (d : List (α × β)) (k : α) (v : β) :
    (odSet d k v).map (·.1) = if k ∈ d.map (·.1) then d.map (·.1) else d.map (·.1) ++ [k] := by
  rw [odSet_eq]; exact Assoc.keys_set d k v

theorem odSet_of_not_mem (d : List (α × β)) (k : α) (v : β) (h : k ∉ d.map (·.1)) :
    odSet d k v = d ++ [(k, v)] := by
  rw [odSet_eq]; exact Assoc.set_of_not_mem d k v h

theorem odGet_odSet (d : List (α × β)) (k k' : α) (v : β) :
    odGet (odSet d k v) k' = if k = k' then some v else odGet d k' := by
  rw [odGet_eq, odSet_eq, odGet_eq]; exact Assoc.lookup_set d k k' v

theorem mem_odSet (d : List (α × β)) (k : α) (v : β) (e : α × β) (h : e ∈ odSet d k v) :
    e ∈ d ∨ e = (k, v) :=
  Assoc.mem_set (odSet_eq d k v ▸ h)

theorem odGet_eq_none (d : List (α × β)) (k : α) : odGet d k = none ↔ k ∉ d.map (·.1) := by
  rw [odGet_eq]; exact Assoc.lookup_eq_none d k

/-- In a dict (distinct keys) the items are exactly the key/value associations. -/
theorem mem_iff_odGet (d : List (α × β)) (hd : (d.map (·.1)).Nodup) (k : α) (v : β) :
    (k, v) ∈ d ↔ odGet d k = some v := by
  rw [odGet_eq]; exact Assoc.mem_iff_lookup hd k v

theorem odExtend_keys (d l : List (α × β)) :
    (odExtend d l).map (·.1) = dedupFrom (d.map (·.1)) (l.map (·.1)) := by
  induction l generalizing d with
  | nil => rfl
  | cons e l ih =>
    have h1 : odExtend d (e :: l) = odExtend (odSet d e.1 e.2) l := rfl
    have h2 : dedupFrom (d.map (·.1)) ((e :: l).map (·.1))
        = dedupFrom (if e.1 ∈ d.map (·.1) then d.map (·.1) else d.map (·.1) ++ [e.1])
            (l.map (·.1)) := rfl
    rw [h1, h2, ih, odSet_keys]

theorem odFromList_keys (l : List (α × β)) :
    (odFromList l).map (·.1) = dedup (l.map (·.1)) := by
  have := odExtend_keys [] l
  rw [List.map_nil, dedupFrom_nil] at this
  exact this

theorem odFromList_keys_nodup (l : List (α × β)) : ((odFromList l).map (·.1)).Nodup := by
  rw [odFromList_keys]; exact nodup_dedup _

theorem lastVal_cons (e : α × β) (l : List (α × β)) (k : α) :
    lastVal (e :: l) k = (lastVal l k).or (if e.1 = k then some e.2 else none) := by
  simp only [lastVal, List.reverse_cons, List.find?_append, List.find?_cons, List.find?_nil]
  cases h : List.find? (fun e => decide (e.1 = k)) l.reverse with
  | some x => simp
  | none => by_cases h2 : e.1 = k <;> simp [h2]

theorem odGet_odExtend (d l : List (α × β)) (k : α) :
    odGet (odExtend d l) k = (lastVal l k).or (odGet d k) := by
  induction l generalizing d with
  | nil => simp [odExtend, lastVal]
  | cons e l ih =>
    have h1 : odExtend d (e :: l) = odExtend (odSet d e.1 e.2) l := rfl
    rw [h1, ih, odGet_odSet, lastVal_cons]
    cases lastVal l k with
    | some x => simp
    | none => by_cases h2 : e.1 = k <;> simp [h2]

/-- Last assignment wins. -/
theorem odGet_odFromList (l : List (α × β)) (k : α) : odGet (odFromList l) k = lastVal l k := by
  have := odGet_odExtend [] l k
  simpa [odGet, odFromList, odExtend] using this

theorem mem_odExtend (d l : List (α × β)) (e : α × β) (h : e ∈ odExtend d l) : e ∈ d ∨ e ∈ l := by
  induction l generalizing d with
  | nil => left; exact h
  | cons e' l ih =>
    have h1 : odExtend d (e' :: l) = odExtend (odSet d e'.1 e'.2) l := rfl
    rw [h1] at h
    rcases ih _ h with h | h
    · rcases mem_odSet _ _ _ _ h with h | h
      · left; exact h
      · right; rw [h]; exact List.mem_cons_self
    · right; exact List.mem_cons_of_mem _ h

theorem mem_odFromList (l : List (α × β)) (e : α × β) (h : e ∈ odFromList l) : e ∈ l := by
  rcases mem_odExtend [] l e h with h | h
  · cases h
  · exact h

theorem odExtend_of_nodup (d l : List (α × β)) (h : ((d ++ l).map (·.1)).Nodup) :
    odExtend d l = d ++ l := by
  induction l generalizing d with
  | nil => simp [odExtend]
  | cons e l ih =>
    have h1 : odExtend d (e :: l) = odExtend (odSet d e.1 e.2) l := rfl
    have hk : e.1 ∉ d.map (·.1) := by
      simp only [List.map_append, List.map_cons, List.nodup_append, List.mem_cons] at h
      intro hm
      exact h.2.2 _ hm _ (Or.inl rfl) rfl
    rw [h1, odSet_of_not_mem _ _ _ hk, ih]
    · simp
    · simpa using h

/-- Building a dict from pairs with distinct keys changes nothing. -/
theorem odFromList_of_nodup (l : List (α × β)) (h : (l.map (·.1)).Nodup) : odFromList l = l := by
  have := odExtend_of_nodup [] l (by simpa using h)
  simpa [odFromList, odExtend] using this

theorem odExtend_append (d l₁ l₂ : List (α × β)) :
    odExtend d (l₁ ++ l₂) = odExtend (odExtend d l₁) l₂ := by
  simp [odExtend, List.foldl_append]

end OD

/-! ### The two loops of `initglobals` in closed form -/

/-- One iteration of the first loop, table by table. -/
theorem stepKnown_eq (t : Tables) (r : Rec) :
    stepKnown t r =
      { t with
        knownVersions := odSet t.knownVersions r.id r.protocol
        knownProtocols :=
          if r.protocol ∈ t.knownProtocols then t.knownProtocols
          else t.knownProtocols ++ [r.protocol]
        indices :=
          if r.protocol ∈ t.knownProtocols then t.indices
          else odSet t.indices r.protocol t.knownProtocols.length
        supportedVersions :=
          if r.supported then odSet t.supportedVersions r.id r.protocol
          else t.supportedVersions } := by
  unfold stepKnown; dsimp only; split <;> split <;> simp_all

theorem foldl_stepKnown (recs : List Rec) (t : Tables)
    (h : t.indices = t.knownProtocols.zipIdx) :
    recs.foldl stepKnown t =
      { knownVersions := odExtend t.knownVersions (recPairs recs)
        knownProtocols := dedupFrom t.knownProtocols (recs.map (·.protocol))
        supportedVersions := odExtend t.supportedVersions (recPairs (recs.filter (·.supported)))
        indices := (dedupFrom t.knownProtocols (recs.map (·.protocol))).zipIdx
        supportedProtocols := t.supportedProtocols
        releaseVersions := t.releaseVersions
        releaseProtocols := t.releaseProtocols } := by
  induction recs generalizing t with
  | nil =>
    obtain ⟨kv, kp, sv, idx, sp, rv, rp⟩ := t
    simp only at h
    simp [odExtend, dedupFrom, recPairs, h]
  | cons r rs ih =>
    have hinv : (stepKnown t r).indices = (stepKnown t r).knownProtocols.zipIdx := by
      rw [stepKnown_eq]
      dsimp only
      by_cases hp : r.protocol ∈ t.knownProtocols
      · rw [if_pos hp, if_pos hp, h]
      · rw [if_neg hp, if_neg hp, h, odSet_of_not_mem _ _ _ (by rwa [List.zipIdx_map_fst]),
          List.zipIdx_append]
        simp
    rw [List.foldl_cons, ih _ hinv, stepKnown_eq]
    dsimp only
    have e1 : odExtend (odSet t.knownVersions r.id r.protocol) (recPairs rs)
        = odExtend t.knownVersions (recPairs (r :: rs)) := rfl
    have e2 : dedupFrom (if r.protocol ∈ t.knownProtocols then t.knownProtocols
          else t.knownProtocols ++ [r.protocol]) (rs.map (·.protocol))
        = dedupFrom t.knownProtocols ((r :: rs).map (·.protocol)) := rfl
    have e3 : odExtend (if r.supported then odSet t.supportedVersions r.id r.protocol
          else t.supportedVersions) (recPairs (rs.filter (·.supported)))
        = odExtend t.supportedVersions (recPairs ((r :: rs).filter (·.supported))) := by
      by_cases hs : r.supported = true
      · rw [if_pos hs, List.filter_cons_of_pos hs]; rfl
      · rw [if_neg hs, List.filter_cons_of_neg hs]
    rw [e1, e2, e3]

/-- One iteration of the second loop, table by table. -/
theorem stepSupported_eq (t : Tables) (e : String × Nat) :
    stepSupported t e =
      { t with
        supportedProtocols :=
          if e.2 ∈ t.supportedProtocols then t.supportedProtocols else t.supportedProtocols ++ [e.2]
        releaseVersions :=
          if isRelease e.1 then odSet t.releaseVersions e.1 e.2 else t.releaseVersions
        releaseProtocols :=
          if isRelease e.1 then
            (if e.2 ∈ t.releaseProtocols then t.releaseProtocols else t.releaseProtocols ++ [e.2])
          else t.releaseProtocols } := by
  unfold stepSupported; dsimp only
  split <;> split <;> (try split) <;> simp_all

theorem foldl_stepSupported (l : List (String × Nat)) (t : Tables) :
    l.foldl stepSupported t =
      { knownVersions := t.knownVersions
        knownProtocols := t.knownProtocols
        supportedVersions := t.supportedVersions
        indices := t.indices
        supportedProtocols := dedupFrom t.supportedProtocols (l.map (·.2))
        releaseVersions := odExtend t.releaseVersions (l.filter (fun e => isRelease e.1))
        releaseProtocols :=
          dedupFrom t.releaseProtocols ((l.filter (fun e => isRelease e.1)).map (·.2)) } := by
  induction l generalizing t with
  | nil => rfl
  | cons e l ih =>
    rw [List.foldl_cons, ih, stepSupported_eq]
    dsimp only
    have e5 : dedupFrom (if e.2 ∈ t.supportedProtocols then t.supportedProtocols
          else t.supportedProtocols ++ [e.2]) (l.map (·.2))
        = dedupFrom t.supportedProtocols ((e :: l).map (·.2)) := rfl
    rw [e5]
    by_cases hr : isRelease e.1 = true
    · rw [if_pos hr, if_pos hr, List.filter_cons_of_pos (by simpa using hr)]; rfl
    · rw [if_neg hr, if_neg hr, List.filter_cons_of_neg (by simpa using hr)]

/-- The second half of `initglobals` in closed form: the three release/supported tables are
functions of `supportedVersions` only; the other four tables are untouched. -/
theorem rebuildSupported_eq (t : Tables) :
    rebuildSupported t =
      { knownVersions := t.knownVersions
        knownProtocols := t.knownProtocols
        supportedVersions := t.supportedVersions
        indices := t.indices
        supportedProtocols := dedup (t.supportedVersions.map (·.2))
        releaseVersions := odFromList (t.supportedVersions.filter (fun e => isRelease e.1))
        releaseProtocols :=
          dedup ((t.supportedVersions.filter (fun e => isRelease e.1)).map (·.2)) } := by
  unfold rebuildSupported
  rw [foldl_stepSupported]
  simp only [dedupFrom_nil]
  rfl

/-- `initglobals(True)` does not depend on the previous state of the globals and equals the closed
form. -/
theorem initKnownFrom_eq_spec (prev : Tables) (recs : List Rec) :
    initKnownFrom prev recs = specTables recs := by
  unfold initKnownFrom
  rw [foldl_stepKnown _ _ rfl, rebuildSupported_eq]
  simp only [dedupFrom_nil, specTables]
  have hk : odExtend [] (recPairs (recs.filter (·.supported)))
      = odFromList (recPairs (recs.filter (·.supported))) := rfl
  have hk2 : odExtend [] (recPairs recs) = odFromList (recPairs recs) := rfl
  rw [hk, hk2, odFromList_of_nodup _ ((List.filter_sublist.map _).nodup (odFromList_keys_nodup _))]

theorem initKnown_eq_spec (recs : List Rec) : initKnown recs = specTables recs :=
  initKnownFrom_eq_spec _ _

/-! ### The seven tables of `initKnown`, one by one -/

section Tables
variable (recs : List Rec)

theorem knownVersions_eq :
    (initKnown recs).knownVersions = odFromList (recPairs recs) := by
  rw [initKnown_eq_spec]; rfl

theorem knownProtocols_eq :
    (initKnown recs).knownProtocols = dedup (recs.map (·.protocol)) := by
  rw [initKnown_eq_spec]; rfl

theorem supportedVersions_eq :
    (initKnown recs).supportedVersions = odFromList (recPairs (recs.filter (·.supported))) := by
  rw [initKnown_eq_spec]; rfl

theorem indices_eq :
    (initKnown recs).indices = (initKnown recs).knownProtocols.zipIdx := by
  rw [initKnown_eq_spec]; rfl

theorem supportedProtocols_eq :
    (initKnown recs).supportedProtocols = dedup ((initKnown recs).supportedVersions.map (·.2)) := by
  rw [initKnown_eq_spec]; rfl

theorem releaseVersions_eq :
    (initKnown recs).releaseVersions
      = (initKnown recs).supportedVersions.filter (fun e => isRelease e.1) := by
  rw [initKnown_eq_spec]; rfl

theorem releaseProtocols_eq :
    (initKnown recs).releaseProtocols = dedup ((initKnown recs).releaseVersions.map (·.2)) := by
  rw [initKnown_eq_spec]; rfl

theorem knownVersions_keys :
    (initKnown recs).knownVersions.map (·.1) = dedup (recs.map (·.id)) := by
  rw [knownVersions_eq, odFromList_keys, recPairs, List.map_map]; rfl

theorem supportedVersions_keys :
    (initKnown recs).supportedVersions.map (·.1)
      = dedup ((recs.filter (·.supported)).map (·.id)) := by
  rw [supportedVersions_eq, odFromList_keys, recPairs, List.map_map]; rfl

theorem knownVersions_keys_nodup :
    ((initKnown recs).knownVersions.map (·.1)).Nodup := by
  rw [knownVersions_eq]; exact odFromList_keys_nodup _

theorem supportedVersions_keys_nodup :
    ((initKnown recs).supportedVersions.map (·.1)).Nodup := by
  rw [supportedVersions_eq]; exact odFromList_keys_nodup _

theorem mem_knownProtocols (p : Nat) :
    p ∈ (initKnown recs).knownProtocols ↔ p ∈ recs.map (·.protocol) := by
  rw [knownProtocols_eq, mem_dedup]

theorem supportedProtocols_known (p : Nat)
    (hp : p ∈ (initKnown recs).supportedProtocols) : p ∈ (initKnown recs).knownProtocols := by
  rw [supportedProtocols_eq, mem_dedup, supportedVersions_eq] at hp
  obtain ⟨e, he, rfl⟩ := List.mem_map.1 hp
  obtain ⟨r, hr, rfl⟩ := List.mem_map.1 (mem_odFromList _ _ he)
  exact (mem_knownProtocols recs _).2 (List.mem_map.2 ⟨r, (List.mem_filter.1 hr).1, rfl⟩)

theorem releaseProtocols_supported (p : Nat)
    (hp : p ∈ (initKnown recs).releaseProtocols) : p ∈ (initKnown recs).supportedProtocols := by
  rw [releaseProtocols_eq, mem_dedup, releaseVersions_eq] at hp
  obtain ⟨e, he, rfl⟩ := List.mem_map.1 hp
  rw [supportedProtocols_eq, mem_dedup]
  exact List.mem_map.2 ⟨e, (List.mem_filter.1 he).1, rfl⟩

end Tables

theorem odGet_zipIdx (l : List Nat) (n pv : Nat) :
    odGet (l.zipIdx n) pv = if pv ∈ l then some (n + l.idxOf pv) else none := by
  induction l generalizing n with
  | nil => simp [odGet]
  | cons x xs ih =>
    rw [List.zipIdx_cons, odGet, ih, idxOf_cons_ite]
    by_cases h : x = pv
    · simp [h]
    · have h' : ¬ pv = x := fun e => h e.symm
      simp only [h, if_false, List.mem_cons, h', false_or]
      split
      · congr 1; omega
      · rfl

theorem getElem?_eq_some_iff_idxOf (l : List Nat) (hl : l.Nodup) (i pv : Nat) :
    l[i]? = some pv ↔ pv ∈ l ∧ l.idxOf pv = i := by
  constructor
  · intro h
    obtain ⟨hi, rfl⟩ := List.getElem?_eq_some_iff.1 h
    exact ⟨List.getElem_mem hi, hl.idxOf_getElem i hi⟩
  · rintro ⟨hm, rfl⟩
    have hi := List.idxOf_lt_length_iff.2 hm
    rw [List.getElem?_eq_getElem hi, List.getElem_idxOf hi]

theorem idxOf_inj_of_mem {l : List Nat} {a b : Nat} (ha : a ∈ l) (hb : b ∈ l)
    (h : l.idxOf a = l.idxOf b) : a = b := by
  have e1 := List.getElem_idxOf (List.idxOf_lt_length_iff.2 ha)
  have e2 := List.getElem_idxOf (List.idxOf_lt_length_iff.2 hb)
  simp only [h] at e1
  exact e1.symm.trans e2

/-- Each element is below its successor. -/
def increasing : List Nat → Bool
  | a :: b :: l => decide (a < b) && increasing (b :: l)
  | _ => true

/-- For `<`, adjacent pairs suffice. -/
theorem pairwise_lt_of_increasing : ∀ l : List Nat, increasing l = true → l.Pairwise (· < ·)
  | [], _ => List.Pairwise.nil
  | [_], _ => List.pairwise_singleton _ _
  | a :: b :: l, h => by
    simp only [increasing, Bool.and_eq_true, decide_eq_true_eq] at h
    have ih := pairwise_lt_of_increasing (b :: l) h.2
    refine List.pairwise_cons.2 ⟨fun x hx => ?_, ih⟩
    rcases List.mem_cons.1 hx with rfl | hx
    · exact h.1
    · exact Nat.lt_trans h.1 ((List.pairwise_cons.1 ih).1 x hx)

/-- In a duplicate-free list position order is list order: a sublist has increasing positions. -/
theorem pairwise_idxOf_of_sublist {l k : List Nat} (h : l.Sublist k) (hk : k.Nodup) :
    (l.map fun v => k.idxOf v).Pairwise (· < ·) := by
  have hpos : k.Pairwise (fun a b => k.idxOf a < k.idxOf b) := by
    rw [List.pairwise_iff_getElem]
    intro i j hi hj hij
    rw [hk.idxOf_getElem i hi, hk.idxOf_getElem j hj]
    exact hij
  rw [List.pairwise_map]
  exact hpos.sublist h

theorem knownProtocols_nodup (recs : List Rec) : (initKnown recs).knownProtocols.Nodup := by
  rw [knownProtocols_eq]; exact nodup_dedup _

/-! ### The comparison functions in terms of `indexE` -/

theorem earlier_ok (t : Tables) (a b i j : Nat) (ha : indexE t a = .ok i) (hb : indexE t b = .ok j) :
    earlier t a b = .ok (decide (i < j)) := by
  simp only [earlier, ha, hb]; rfl

theorem earlierEq_ok (t : Tables) (a b i j : Nat) (ha : indexE t a = .ok i)
    (hb : indexE t b = .ok j) : earlierEq t a b = .ok (decide (i ≤ j)) := by
  simp only [earlierEq, ha, hb]; rfl

theorem indexE_cases (t : Tables) (a : Nat) :
    (∃ i, indexE t a = .ok i) ∨ indexE t a = .error .other := by
  unfold indexE; cases index t a with
  | some i => exact Or.inl ⟨i, rfl⟩
  | none => exact Or.inr rfl

theorem earlier_err_left (t : Tables) (a b : Nat) (ha : indexE t a = .error .other) :
    earlier t a b = .error .other ∧ earlierEq t a b = .error .other := by
  simp only [earlier, earlierEq, ha]; exact ⟨rfl, rfl⟩

theorem earlier_err_right (t : Tables) (a b : Nat) (hb : indexE t b = .error .other) :
    earlier t a b = .error .other ∧ earlierEq t a b = .error .other := by
  rcases indexE_cases t a with ⟨i, ha⟩ | ha
  · simp only [earlier, earlierEq, ha, hb]; exact ⟨rfl, rfl⟩
  · exact earlier_err_left t a b ha

/-! ### Tables whose index dict is the known list zipped with positions -/

/-- The index dict is the known list zipped with positions, and that list repeats nothing: what
`initglobals(True)` establishes and `initglobals(False)` keeps.  Everything about the order of
versions follows from this, whatever else the tables hold. -/
structure Tables.Indexed (t : Tables) : Prop where
  indices : t.indices = t.knownProtocols.zipIdx
  nodup : t.knownProtocols.Nodup

theorem indexed_initKnown (recs : List Rec) : (initKnown recs).Indexed :=
  ⟨indices_eq recs, knownProtocols_nodup recs⟩

namespace Tables.Indexed
variable {t : Tables} (h : t.Indexed)
include h

theorem index (pv : Nat) :
    index t pv = if pv ∈ t.knownProtocols then some (t.knownProtocols.idxOf pv) else none := by
  rw [PyCraft.index, h.indices, odGet_zipIdx, Nat.zero_add]

theorem index_eq_some_iff (pv i : Nat) :
    PyCraft.index t pv = some i ↔ t.knownProtocols[i]? = some pv := by
  rw [h.index, getElem?_eq_some_iff_idxOf _ h.nodup]
  by_cases hm : pv ∈ t.knownProtocols <;> simp [hm]

theorem indexE_known {pv : Nat} (hm : pv ∈ t.knownProtocols) :
    indexE t pv = .ok (t.knownProtocols.idxOf pv) := by
  simp only [indexE, h.index, hm, if_true]

theorem indexE_unknown {pv : Nat} (hm : pv ∉ t.knownProtocols) : indexE t pv = .error .other := by
  simp only [indexE, h.index, hm, if_false]

/-- Position of a known version, as an equation for `earlier` / `earlierEq`. -/
theorem earlier_known {a b : Nat} (ha : a ∈ t.knownProtocols) (hb : b ∈ t.knownProtocols) :
    earlier t a b = .ok (decide (t.knownProtocols.idxOf a < t.knownProtocols.idxOf b)) ∧
    earlierEq t a b = .ok (decide (t.knownProtocols.idxOf a ≤ t.knownProtocols.idxOf b)) :=
  ⟨earlier_ok _ a b _ _ (h.indexE_known ha) (h.indexE_known hb),
   earlierEq_ok _ a b _ _ (h.indexE_known ha) (h.indexE_known hb)⟩

/-- A comparison with an unknown version raises. -/
theorem earlier_unknown {a b : Nat} (hm : a ∉ t.knownProtocols ∨ b ∉ t.knownProtocols) :
    earlier t a b = .error .other ∧ earlierEq t a b = .error .other :=
  hm.elim (fun ha => earlier_err_left _ a b (h.indexE_unknown ha))
    (fun hb => earlier_err_right _ a b (h.indexE_unknown hb))

/-- `protocol_in_range` among known versions. -/
theorem inRange_known {v s e : Nat} (hv : v ∈ t.knownProtocols) (hs : s ∈ t.knownProtocols)
    (he : e ∈ t.knownProtocols) :
    inRange t v s e = .ok (decide (t.knownProtocols.idxOf s ≤ t.knownProtocols.idxOf v ∧
      t.knownProtocols.idxOf v < t.knownProtocols.idxOf e)) := by
  unfold inRange
  rw [(h.earlier_known hv he).1, (h.earlier_known hs hv).2]
  by_cases hve : t.knownProtocols.idxOf v < t.knownProtocols.idxOf e <;>
    simp [hve, bind, Except.bind, pure, Except.pure]

end Tables.Indexed

end PyCraft
