import PyCraft.Model.Position
import PyCraft.Lemmas.VarInt
import PyCraft.Lemmas.Wire
import PyCraft.Lemmas.BitField
/-!
Helper lemmas for C04.  The three packed words (`posWord`, `secWord`, `recWord`) are concatenations
of bit fields (`Bits.cat`, `Lemmas/BitField.lean`); `posFields` is the way back.  Masking an integer
and sign-extending the field wraps it into the signed range (`wrap`, `signFix_maskBits`), at any
width; `ChunkSectionPos.read`'s own sign extension is the same function (`secFix_eq`).
`Pos.beValue` and `beU64` of `Model/Position.lean` are `beValue` and `beBytes 8` of `Model/Wire.lean`
under other names (`beValue_eq`, `beU64_eq`); the big-endian facts are taken from `Lemmas/Wire.lean`.
-/
namespace PyCraft.Pos
open PyCraft.Bits

/-! ### bit operations as arithmetic -/

theorem and_mask (n k m : Nat) (hm : m = 2 ^ k - 1) : n &&& m = n % 2 ^ k := by
  subst hm; exact Nat.and_two_pow_sub_one_eq_mod n k

/-- `value & m` for a one-bit mask `m = 2^k` is truthy iff bit `k` is set. -/
theorem and_bit (n k m : Nat) (hm : m = 2 ^ k) : (n &&& m ≠ 0) ↔ 2 ^ k ≤ n % 2 ^ (k + 1) := by
  subst hm
  have h3 := Nat.div_add_mod (n &&& 2 ^ k) (2 ^ k)
  have hr := Nat.mod_lt n (Nat.two_pow_pos k)
  rw [Nat.and_div_two_pow, Nat.div_self (Nat.two_pow_pos k), Nat.and_one_is_mod,
    Nat.and_mod_two_pow, Nat.mod_self, Nat.and_zero] at h3
  rw [Nat.mod_pow_succ]
  rcases Nat.mod_two_eq_zero_or_one (n / 2 ^ k) with h | h
  · rw [h] at h3 ⊢; omega
  · rw [h] at h3 ⊢; omega

/-! ### `struct '>Q'` -/

/-- `Pos.beValue` (Horner form) is the positional big-endian value of `Model/Wire.lean`. -/
theorem beValue_eq (bs : Bytes) : beValue bs = PyCraft.beValue bs := by
  rw [beValue, foldl_beValue, Nat.zero_mul, Nat.zero_add]

theorem beU64_eq (n : Nat) : beU64 n = beBytes 8 n := by
  simp only [beBytes, Nat.pow_zero, Nat.div_one]; rfl

theorem beU64_length (n : Nat) : (beU64 n).length = 8 := rfl

theorem beValue_lt (w : Bytes) (h : w.length = 8) : beValue w < 2 ^ 64 := by
  have := PyCraft.beValue_lt w
  rwa [h, ← beValue_eq] at this

theorem beValue_beU64 (n : Nat) (h : n < 2 ^ 64) : beValue (beU64 n) = n := by
  rw [beValue_eq, beU64_eq, beValue_beBytes, Nat.mod_eq_of_lt h]

theorem beU64_beValue (w : Bytes) (h : w.length = 8) : beU64 (beValue w) = w := by
  rw [beValue_eq, beU64_eq, ← h, beBytes_beValue]

theorem readU64_append (w rest : Bytes) (h : w.length = 8) :
    readU64 (w ++ rest) = .ok (beValue w, rest) := by
  unfold readU64
  simp only [List.take_left' h, List.drop_left' h, h, if_true]

theorem readU64_short (bs : Bytes) (h : bs.length < 8) : readU64 bs = .error .struct := by
  unfold readU64
  have : (List.take 8 bs).length ≠ 8 := by rw [List.length_take]; omega
  simp only [this, if_false]

theorem readU64_beU64 (n : Nat) (rest : Bytes) (h : n < 2 ^ 64) :
    readU64 (beU64 n ++ rest) = .ok (n, rest) := by
  rw [readU64_append _ _ (beU64_length n), beValue_beU64 n h]

theorem packU64_nat (n : Nat) (h : n < 2 ^ 64) : packU64 (n : Int) = .ok (beU64 n) := by
  unfold packU64
  rw [if_pos (by omega)]
  simp

/-! ### masks and sign extension -/

theorem maskBits_cast (v : Int) (k : Nat) : (maskBits v k : Int) = v % 2 ^ k :=
  Int.toNat_of_nonneg (Int.emod_nonneg v (Int.pow_ne_zero (by omega)))

theorem maskBits_lt (v : Int) (k : Nat) : maskBits v k < 2 ^ k := by
  have h : v % 2 ^ k < 2 ^ k := Int.emod_lt_of_pos v (Int.pow_pos (by omega))
  rw [← maskBits_cast] at h
  exact_mod_cast h

theorem maskBits_lt4 (v : Int) : maskBits v 4 < 2 ^ 4 := maskBits_lt v 4

theorem maskBits_eq_iff (v w : Int) (k : Nat) :
    maskBits v k = maskBits w k ↔ v % 2 ^ k = w % 2 ^ k := by
  rw [← maskBits_cast, ← maskBits_cast, Int.ofNat_inj]

theorem two_pow_cast (k : Nat) : ((2 ^ k : Nat) : Int) = 2 ^ k := by push_cast; rfl

theorem maskBits_nat (n k : Nat) (h : n < 2 ^ k) : maskBits (n : Int) k = n := by
  rw [maskBits, ← two_pow_cast, ← Int.natCast_emod, Int.toNat_natCast, Nat.mod_eq_of_lt h]

/-- Sign extension at any width `k + 1`: the value lies in the signed range, masking it gives the
residue `u` back, and it is the only number in the range with that residue. -/
theorem signFix_pow (k u : Nat) (hu : u < 2 ^ (k + 1)) :
    (-2 ^ k ≤ signFix u (2 ^ k) (2 ^ (k + 1)) ∧ signFix u (2 ^ k) (2 ^ (k + 1)) < 2 ^ k) ∧
      maskBits (signFix u (2 ^ k) (2 ^ (k + 1))) (k + 1) = u ∧
      ∀ x : Int, -2 ^ k ≤ x ∧ x < 2 ^ k → maskBits x (k + 1) = u →
        x = signFix u (2 ^ k) (2 ^ (k + 1)) := by
  have hv : signFix u (2 ^ k) (2 ^ (k + 1)) =
      if (u : Int) < 2 ^ k then (u : Int) else u - 2 ^ (k + 1) := by
    unfold signFix
    have e := two_pow_cast k
    have e' := two_pow_cast (k + 1)
    split <;> split <;> omega
  have hu' : (u : Int) < 2 ^ (k + 1) := by exact_mod_cast hu
  obtain ⟨h1, h2, h3⟩ := twos_complement_unique (2 ^ (k + 1)) (2 ^ k) u _
    (Int.pow_succ 2 k ▸ by omega) (Int.natCast_nonneg u) hu' hv
  refine ⟨h1, ?_, fun x hx hm => h3 x hx ?_⟩
  · rw [maskBits, h2, Int.toNat_natCast]
  · rw [← hm, maskBits_cast]

/-- A field read from a word, sign-extended and masked again, is the field. -/
theorem maskBits_signFix (k u : Nat) (hu : u % 2 ^ (k + 1) = u) :
    maskBits (signFix u (2 ^ k) (2 ^ (k + 1))) (k + 1) = u :=
  (signFix_pow k u (hu ▸ Nat.mod_lt _ (Nat.two_pow_pos _))).2.1

/-- Two's-complement wrap into `[-2^k, 2^k)`. -/
def wrap (k : Nat) (v : Int) : Int := (v + 2 ^ k) % 2 ^ (k + 1) - 2 ^ k

/-- Masking ANY integer and sign-extending the field wraps it into the signed range: the wrapped
value lies in the range and has the residue of `v`. -/
theorem signFix_maskBits (k : Nat) (v : Int) :
    signFix (maskBits v (k + 1)) (2 ^ k) (2 ^ (k + 1)) = wrap k v := by
  have hW : (0 : Int) < 2 ^ (k + 1) := Int.pow_pos (by omega)
  have e : (2 : Int) ^ (k + 1) = 2 * 2 ^ k := by rw [Int.pow_succ]; omega
  have h0 := Int.emod_nonneg (v + 2 ^ k) (Int.ne_of_gt hW)
  have h1 := Int.emod_lt_of_pos (v + 2 ^ k) hW
  refine ((signFix_pow k _ (maskBits_lt v (k + 1))).2.2 _ ⟨by unfold wrap; omega, by unfold wrap; omega⟩
    ?_).symm
  rw [wrap, maskBits, maskBits, Int.sub_emod, Int.emod_emod, ← Int.sub_emod, Int.add_sub_cancel]

theorem wrap_id (k : Nat) (x : Int) (h1 : -2 ^ k ≤ x) (h2 : x < 2 ^ k) : wrap k x = x := by
  have e : (2 : Int) ^ (k + 1) = 2 * 2 ^ k := by rw [Int.pow_succ]; omega
  rw [wrap, Int.emod_eq_of_lt (by omega) (by omega)]; omega

/-! ### `Position` -/

/-- The 64-bit word written by `Position.send_with_context`: x, then z, y (newer) or y, z. -/
def posWord (newer : Bool) (x y z : Int) : Nat :=
  if newer then cat 12 (cat 26 (maskBits x 26) (maskBits z 26)) (maskBits y 12)
  else cat 26 (cat 12 (maskBits x 26) (maskBits y 12)) (maskBits z 26)

theorem posWord_lt (newer : Bool) (x y z : Int) : posWord newer x y z < 2 ^ 64 := by
  unfold posWord; split
  · exact cat3_lt (i := 26) (maskBits_lt x 26) (maskBits_lt z 26) (maskBits_lt y 12)
  · exact cat3_lt (i := 26) (maskBits_lt x 26) (maskBits_lt y 12) (maskBits_lt z 26)

theorem encPos_eq (newer : Bool) (x y z : Int) :
    encPos newer x y z = .ok (beU64 (posWord newer x y z)) := by
  rw [← packU64_nat _ (posWord_lt newer x y z)]
  unfold encPos posWord
  cases newer
  · exact congrArg (fun n : Nat => packU64 n) (pack3_cat _ _ _ 12 26 (maskBits_lt y 12) (maskBits_lt z 26))
  · exact congrArg (fun n : Nat => packU64 n) (pack3_cat _ _ _ 26 12 (maskBits_lt z 26) (maskBits_lt y 12))

/-- The three coordinates `Position.read_with_context` takes out of the word `n`. -/
def posFields (newer : Bool) (n : Nat) : Int × Int × Int :=
  (signFix (n / 2 ^ 38) (2 ^ 25) (2 ^ 26),
    signFix (if newer then n % 2 ^ 12 else n / 2 ^ 26 % 2 ^ 12) (2 ^ 11) (2 ^ 12),
    signFix (if newer then n / 2 ^ 12 % 2 ^ 26 else n % 2 ^ 26) (2 ^ 25) (2 ^ 26))

theorem decPos_arith (newer : Bool) (bs : Bytes) (n : Nat) (rest : Bytes)
    (h : readU64 bs = .ok (n, rest)) : decPos newer bs = .ok (posFields newer n, rest) := by
  simp only [decPos, h, and_mask _ 12 0xFFF rfl, and_mask _ 26 0x3FFFFFF rfl,
    Nat.shiftRight_eq_div_pow, posFields]

/-- The fields of the word of ANY integers are the coordinates wrapped into their ranges. -/
theorem posFields_posWord (newer : Bool) (x y z : Int) :
    posFields newer (posWord newer x y z) = (wrap 25 x, wrap 11 y, wrap 25 z) := by
  rw [← signFix_maskBits 25 x, ← signFix_maskBits 11 y, ← signFix_maskBits 25 z]
  have hy := maskBits_lt y 12
  have hz := maskBits_lt z 26
  cases newer
  · simp only [posFields, posWord, Bool.false_eq_true, if_false, div_pow_add _ 12 26, cat_div hz,
      cat_div hy, cat_mod hy, cat_mod hz]
  · simp only [posFields, posWord, if_true, div_pow_add _ 26 12, cat_div hy, cat_div hz, cat_mod hz,
      cat_mod hy]

/-- Decoding what the encoder wrote, for ALL integers. -/
theorem decPos_encPos (newer : Bool) (x y z : Int) (rest : Bytes) :
    decPos newer (beU64 (posWord newer x y z) ++ rest) =
      .ok ((wrap 25 x, wrap 11 y, wrap 25 z), rest) := by
  rw [decPos_arith newer _ _ rest (readU64_beU64 _ rest (posWord_lt newer x y z)), posFields_posWord]

theorem decPos_posWord (newer : Bool) (x y z : Int) (rest : Bytes)
    (hx1 : -2 ^ 25 ≤ x) (hx2 : x < 2 ^ 25) (hy1 : -2 ^ 11 ≤ y) (hy2 : y < 2 ^ 11)
    (hz1 : -2 ^ 25 ≤ z) (hz2 : z < 2 ^ 25) :
    decPos newer (beU64 (posWord newer x y z) ++ rest) = .ok ((x, y, z), rest) := by
  rw [decPos_encPos, wrap_id 25 x hx1 hx2, wrap_id 11 y hy1 hy2, wrap_id 25 z hz1 hz2]

/-- Re-packing the fields read from any word `n < 2^64` gives `n` back. -/
theorem posWord_posFields (newer : Bool) (n : Nat) (h : n < 2 ^ 64) :
    posWord newer (posFields newer n).1 (posFields newer n).2.1 (posFields newer n).2.2 = n := by
  have hx : n / 2 ^ 38 < 2 ^ 26 := Nat.div_lt_of_lt_mul h
  unfold posWord posFields
  rw [maskBits_signFix 25 _ (Nat.mod_eq_of_lt hx)]
  cases newer
  · simp only [Bool.false_eq_true, if_false]
    rw [maskBits_signFix 11 _ (Nat.mod_mod _ _), maskBits_signFix 25 _ (Nat.mod_mod _ _)]
    rw [div_pow_add n 12 26, cat_div_mod, cat_div_mod]
  · simp only [if_true]
    rw [maskBits_signFix 11 _ (Nat.mod_mod _ _), maskBits_signFix 25 _ (Nat.mod_mod _ _)]
    rw [div_pow_add n 26 12, cat_div_mod, cat_div_mod]

/-- The fields of a word below `2^64` lie in the signed 26/12/26-bit ranges. -/
theorem posFields_range (newer : Bool) (n : Nat) (h : n < 2 ^ 64) :
    (-2 ^ 25 ≤ (posFields newer n).1 ∧ (posFields newer n).1 < 2 ^ 25) ∧
      (-2 ^ 11 ≤ (posFields newer n).2.1 ∧ (posFields newer n).2.1 < 2 ^ 11) ∧
      (-2 ^ 25 ≤ (posFields newer n).2.2 ∧ (posFields newer n).2.2 < 2 ^ 25) := by
  refine ⟨(signFix_pow 25 _ (Nat.div_lt_of_lt_mul h)).1, (signFix_pow 11 _ ?_).1,
    (signFix_pow 25 _ ?_).1⟩
  · split <;> exact Nat.mod_lt _ (Nat.two_pow_pos _)
  · split <;> exact Nat.mod_lt _ (Nat.two_pow_pos _)

/-- The layout sums, with Python's `&` spelled as the integer (floor) modulus. -/
theorem posWord_int (newer : Bool) (x y z : Int) :
    (posWord newer x y z : Int) =
      if newer then (x % 2 ^ 26) * 2 ^ 38 + (z % 2 ^ 26) * 2 ^ 12 + y % 2 ^ 12
      else (x % 2 ^ 26) * 2 ^ 38 + (y % 2 ^ 12) * 2 ^ 26 + z % 2 ^ 26 := by
  unfold posWord
  cases newer
  · simp only [Bool.false_eq_true, if_false, cat3_int, maskBits_cast]
  · simp only [if_true, cat3_int, maskBits_cast]

/-! ### `ChunkSectionPos` -/

def secWord (x y z : Int) : Nat := cat 20 (cat 22 (maskBits x 22) (maskBits z 22)) (maskBits y 20)

theorem secWord_lt (x y z : Int) : secWord x y z < 2 ^ 64 :=
  cat3_lt (i := 22) (maskBits_lt x 22) (maskBits_lt z 22) (maskBits_lt y 20)

theorem encSecPos_eq (x y z : Int) : encSecPos x y z = .ok (beU64 (secWord x y z)) := by
  rw [← packU64_nat _ (secWord_lt x y z)]
  exact congrArg (fun n : Nat => packU64 n) (pack3_cat _ _ _ 22 20 (maskBits_lt z 22) (maskBits_lt y 20))

/-- Sign extension as done by `ChunkSectionPos.read` (`v | ~mask if v & signbit else v & mask`). -/
def secFix (v : Nat) (k : Nat) : Int :=
  if 2 ^ (k - 1) ≤ v % 2 ^ k then orNotMask v k else ((v % 2 ^ k : Nat) : Int)

theorem decSecPos_arith (bs : Bytes) (n : Nat) (rest : Bytes) (hn : n < 2 ^ 64)
    (h : readU64 bs = .ok (n, rest)) :
    decSecPos bs = .ok ((secFix (n / 2 ^ 20 / 2 ^ 22) 22, secFix n 20, secFix (n / 2 ^ 20) 22), rest) := by
  simp only [decSecPos, h, and_bit _ 19 0x80000 rfl, and_bit _ 21 0x200000 rfl,
    and_mask _ 20 0xFFFFF rfl, and_mask _ 22 0x3FFFFF rfl, Nat.shiftRight_eq_div_pow, secFix]
  have e : n / 2 ^ 20 / 2 ^ 22 % 2 ^ 22 = n / 2 ^ 20 / 2 ^ 22 :=
    Nat.mod_eq_of_lt (Nat.div_lt_of_lt_mul (Nat.div_lt_of_lt_mul hn))
  simp only [e, Nat.reduceSub]

/-- `secFix` looks at the low `k` bits only. -/
theorem secFix_mod (v k : Nat) : secFix (v % 2 ^ k) k = secFix v k := by
  simp only [secFix, orNotMask, Nat.mod_mod]

/-- `ChunkSectionPos.read`'s `|`-with-complement is the `Position` sign fix on the low bits. -/
theorem secFix_eq (v k : Nat) :
    secFix v (k + 1) = signFix (v % 2 ^ (k + 1)) (2 ^ k) (2 ^ (k + 1)) := by
  unfold secFix orNotMask signFix
  rw [Nat.add_sub_cancel, two_pow_cast]

theorem secFix_pow (k v : Nat) :
    (-2 ^ k ≤ secFix v (k + 1) ∧ secFix v (k + 1) < 2 ^ k) ∧
      maskBits (secFix v (k + 1)) (k + 1) = v % 2 ^ (k + 1) := by
  rw [secFix_eq]
  have h := signFix_pow k _ (Nat.mod_lt v (Nat.two_pow_pos (k + 1)))
  exact ⟨h.1, h.2.1⟩

theorem secFix_maskBits (k : Nat) (v : Int) : secFix (maskBits v (k + 1)) (k + 1) = wrap k v := by
  rw [secFix_eq, Nat.mod_eq_of_lt (maskBits_lt v (k + 1)), signFix_maskBits]

/-- Decoding what the encoder wrote, for ALL integers. -/
theorem decSecPos_encSecPos (x y z : Int) (rest : Bytes) :
    decSecPos (beU64 (secWord x y z) ++ rest) = .ok ((wrap 21 x, wrap 19 y, wrap 21 z), rest) := by
  rw [decSecPos_arith _ _ rest (secWord_lt x y z) (readU64_beU64 _ rest (secWord_lt x y z)),
    ← secFix_mod (secWord x y z), ← secFix_mod (secWord x y z / 2 ^ 20), secWord,
    cat_div (maskBits_lt y 20), cat_mod (maskBits_lt y 20), cat_div (maskBits_lt z 22),
    cat_mod (maskBits_lt z 22), secFix_maskBits 21, secFix_maskBits 19, secFix_maskBits 21]

theorem decSecPos_secWord (x y z : Int) (rest : Bytes)
    (hx1 : -2 ^ 21 ≤ x) (hx2 : x < 2 ^ 21) (hy1 : -2 ^ 19 ≤ y) (hy2 : y < 2 ^ 19)
    (hz1 : -2 ^ 21 ≤ z) (hz2 : z < 2 ^ 21) :
    decSecPos (beU64 (secWord x y z) ++ rest) = .ok ((x, y, z), rest) := by
  rw [decSecPos_encSecPos, wrap_id 21 x hx1 hx2, wrap_id 19 y hy1 hy2, wrap_id 21 z hz1 hz2]

theorem secWord_of_fields (n : Nat) (h : n < 2 ^ 64) :
    secWord (secFix (n / 2 ^ 20 / 2 ^ 22) 22) (secFix n 20) (secFix (n / 2 ^ 20) 22) = n := by
  have hx : n / 2 ^ 20 / 2 ^ 22 < 2 ^ 22 := Nat.div_lt_of_lt_mul (Nat.div_lt_of_lt_mul h)
  rw [secWord, (secFix_pow 21 _).2, (secFix_pow 21 _).2, (secFix_pow 19 _).2, Nat.mod_eq_of_lt hx,
    cat_div_mod, cat_div_mod]

theorem secWord_int (x y z : Int) :
    (secWord x y z : Int) = (x % 2 ^ 22) * 2 ^ 42 + (z % 2 ^ 22) * 2 ^ 20 + y % 2 ^ 20 := by
  simp only [secWord, cat3_int, maskBits_cast]

/-! ### `Record` -/

/-- The VarLong value written by the new-format `Record.send_with_context`. -/
def recWord (x y z b : Nat) : Nat := cat 4 (cat 4 (cat 4 b x) z) y

theorem encRecord_new (x y z b : Nat) (hx : x < 16) (hy : y < 16) (hz : z < 16) :
    encRecord true x y z b = .ok (encVarInt (recWord x y z b)) := by
  rw [← encVarIntZ_nat, encRecord, if_pos rfl, maskBits_nat _ 4 hx, maskBits_nat _ 4 hy,
    maskBits_nat _ 4 hz, pack3_cat x z y 4 4 hz hy, shlOrLow]
  congr 1
  simp only [recWord, cat]
  omega

/-- `2 ^ 65`: the VarLong reader takes 11 groups of 7 bits (`7 * 11 = 77`), of which the low 12 bits
hold x, z, y. -/
theorem decRecord_new (x y z b : Nat) (rest : Bytes) (hx : x < 16) (hy : y < 16) (hz : z < 16)
    (hb : b < 2 ^ 65) :
    decRecord true (encVarInt (recWord x y z b) ++ rest) = .ok (((x : Int), (y : Int), (z : Int), (b : Int)), rest) := by
  have hlt : recWord x y z b < 2 ^ (7 * (10 + 1)) := cat3_lt (i := 69) (cat_lt (j := 65) hb hx) hz hy
  rw [decRecord, if_pos rfl, decVarInt_encVarInt 10 _ rest hlt]
  simp only [and_mask _ 4 0xF rfl, Nat.shiftRight_eq_div_pow, div_pow_add _ 8 4, div_pow_add _ 4 4,
    recWord, cat_div (k := 4) hy, cat_div (k := 4) hz, cat_div (k := 4) hx, cat_mod (k := 4) hx,
    cat_mod (k := 4) hz, cat_mod (k := 4) hy]

theorem packU8_nat (n : Nat) (h : n < 256) : packU8 (n : Int) = .ok [UInt8.ofNat n] := by
  rw [packU8, if_pos (by omega), Int.toNat_natCast]

theorem encRecord_old (x y z b : Nat) (hx : x < 16) (hy : y < 256) (hz : z < 16) :
    encRecord false x y z b =
      .ok (UInt8.ofNat (x * 16 + z) :: UInt8.ofNat y :: encVarInt b) := by
  have e : shlOrLow (x : Int) 4 z = ((x * 16 + z : Nat) : Int) := by unfold shlOrLow; omega
  simp only [encRecord, Bool.false_eq_true, if_false, maskBits_nat z 4 hz, e,
    packU8_nat _ (show x * 16 + z < 256 by omega), packU8_nat y hy, encVarIntZ_nat,
    List.cons_append, List.nil_append]

/-- `2 ^ 42 = 2 ^ (7 * 6)`: the VarInt reader takes 6 groups of 7 bits. -/
theorem decRecord_old (x y z b : Nat) (rest : Bytes) (hx : x < 16) (hy : y < 256) (hz : z < 16)
    (hb : b < 2 ^ 42) :
    decRecord false (UInt8.ofNat (x * 16 + z) :: UInt8.ofNat y :: encVarInt b ++ rest) =
      .ok (((x : Int), (y : Int), (z : Int), (b : Int)), rest) := by
  have e1 : (x * 16 + z) / 2 ^ 4 = x := cat_div (k := 4) hz
  have e2 : (x * 16 + z) % 2 ^ 4 = z := cat_mod (k := 4) hz
  simp only [decRecord, Bool.false_eq_true, if_false, List.cons_append, readU8,
    decVarInt_encVarInt 5 b rest (by omega), and_mask _ 4 0xF rfl, Nat.shiftRight_eq_div_pow,
    u8_ofNat_toNat (x * 16 + z) (by omega), u8_ofNat_toNat y hy, e1, e2]

end PyCraft.Pos
