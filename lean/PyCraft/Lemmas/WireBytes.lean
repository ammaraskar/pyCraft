import PyCraft.Model.WireBytes
import PyCraft.Lemmas.FrameViews
import PyCraft.Lemmas.Writers
import PyCraft.Lemmas.Cfb8
import PyCraft.Lemmas.Basic
/-!
Helper lemmas for `Props/C12Bytes.lean`: the bytes of a wire made of whole frames, the open length
prefix, reduction of the encrypted reader to the plain one, and the bridge between `encSends`
(`Model/Frame.lean`) and the CFB8 chunk functions / wrapper model of `Model/Cfb8.lean`.
-/
namespace PyCraft.Writers
open PyCraft

variable (z : ZlibOps) (thr : Option Int) (payload : Pkt → Bytes)

theorem chunkBytes_zero (p : Pkt) :
    chunkBytes z thr payload (p, 0) = encVarInt (frameBody z thr (payload p)).length := rfl

theorem chunkBytes_one (p : Pkt) :
    chunkBytes z thr payload (p, 1) = frameBody z thr (payload p) := rfl

theorem sendsOf_append (a b : List Chunk) :
    sendsOf z thr payload (a ++ b) = sendsOf z thr payload a ++ sendsOf z thr payload b := by
  simp [sendsOf]

theorem bytesOf_append (a b : List Chunk) :
    bytesOf z thr payload (a ++ b) = bytesOf z thr payload a ++ bytesOf z thr payload b := by
  simp [bytesOf, sendsOf_append]

theorem bytesOf_open (p : Pkt) :
    bytesOf z thr payload [(p, 0)] = encVarInt (frameBody z thr (payload p)).length := by
  simp [bytesOf, sendsOf, chunkBytes_zero]

/-- whole frames on the abstract wire are exactly the `frameSends` of their packets … -/
theorem sendsOf_frames (ps : List Pkt) :
    sendsOf z thr payload (frames ps) = ps.flatMap fun p => frameSends z thr (payload p) := by
  induction ps with
  | nil => rfl
  | cons p ps ih =>
    have : frames (p :: ps) = [(p, 0), (p, 1)] ++ frames ps := by simp [frames]
    rw [this, sendsOf_append, ih]
    rfl

/-- … and their bytes are the concatenated frames. -/
theorem bytesOf_frames (ps : List Pkt) :
    bytesOf z thr payload (frames ps) = (ps.map fun p => frame z thr (payload p)).flatten := by
  induction ps with
  | nil => rfl
  | cons p ps ih =>
    have : frames (p :: ps) = [(p, 0), (p, 1)] ++ frames ps := by simp [frames]
    rw [this, bytesOf_append, ih]
    simp [bytesOf, sendsOf, chunkBytes_zero, chunkBytes_one, frame]

/-- the packet buffer is never empty (it starts with the id) … -/
theorem payloadOf_ne_nil (content : Pkt → Nat × Bytes) (p : Pkt) : payloadOf content p ≠ [] := by
  intro h
  have := congrArg List.length h
  simp only [payloadOf, packetPayload, List.length_append, List.length_nil] at this
  have := enc_length_pos (content p).1
  omega

/-- … hence neither is the frame body, whatever the threshold and `deflate` do. -/
theorem frameBody_ne_nil (pl : Bytes) (h : pl ≠ []) : frameBody z thr pl ≠ [] := by
  intro h0
  have hl := congrArg List.length h0
  cases thr with
  | none => exact h h0
  | some t =>
    simp only [frameBody] at hl
    split at hl <;>
      · simp only [List.length_append, List.length_nil] at hl
        have := enc_length_pos pl.length
        have := enc_length_pos 0
        omega

theorem map_frame_content (content : Pkt → Nat × Bytes) (ps : List Pkt) :
    (ps.map fun p => frame z thr (payloadOf content p)) =
      (ps.map content).map (packetFrame z thr) := by
  simp [List.map_map, Function.comp_def, packetFrame, payloadOf]

/-- the open length prefix is a strict prefix of its packet's frame -/
theorem open_prefix_strict (content : Pkt → Nat × Bytes) (p : Pkt) :
    bytesOf z thr (payloadOf content) [(p, 0)] ++ frameBody z thr (payloadOf content p) =
        packetFrame z thr (content p) ∧
      frameBody z thr (payloadOf content p) ≠ [] :=
  ⟨by rw [bytesOf_open]; rfl, frameBody_ne_nil z thr _ (payloadOf_ne_nil content p)⟩

/-! ### the encrypted reader on a chunk-wise encrypted stream is the plain reader on the plain text -/

theorem readAllEnc_encSends {σ : Type} (cp : CipherPair σ) (s0 : σ) (c : Bool) (sends : List Bytes)
    (segs : Segs) (hseg : segs.flatten = (encSends cp.enc s0 sends).2.flatten) :
    readAllEnc cp.dec s0 z c segs = readAll z c [sends.flatten] := by
  rw [readAllEnc_spec, hseg, encSends_flatten, (cp.inv s0 _).1, readAll_spec]
  simp

/-! ### `encSends` over the CFB8 encryptor is `cfb8EncChunks`; the wrapper model -/

theorem encSends_cfb8 (E : Bytes → Bytes) : ∀ (ds : List Bytes) (reg : Bytes),
    encSends (cfb8EncX E) reg ds = cfb8EncChunks E reg ds := by
  intro ds
  induction ds with
  | nil => intro reg; rfl
  | cons d ds ih =>
    intro reg
    simp only [encSends, cfb8EncChunks, updates]
    rw [ih]
    rfl

theorem flatMap_sent_filter (ops : List PyCraft.Op) :
    ops.flatMap PyCraft.Op.sent = (ops.filter PyCraft.Op.isSend).flatMap PyCraft.Op.sent := by
  induction ops with
  | nil => rfl
  | cons op ops ih =>
    cases op <;> simp [List.filter_cons, PyCraft.Op.isSend, PyCraft.Op.sent, ih]

theorem flatMap_sent_sends (ds : List Bytes) :
    (ds.map PyCraft.Op.send).flatMap PyCraft.Op.sent = ds.flatten := by
  induction ds with
  | nil => rfl
  | cons d ds ih => simp [PyCraft.Op.sent, ih]

end PyCraft.Writers
