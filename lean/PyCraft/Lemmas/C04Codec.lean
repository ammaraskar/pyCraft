import PyCraft.Model.C04Codec
import PyCraft.Lemmas.Position
import PyCraft.Lemmas.VersionsLive
import PyCraft.Generated.Versions
import PyCraft.Generated.C04Codec
/-!
Helper lemmas for `Props/C04Codec.lean`: the version-indexed codecs of `Model/C04Codec.lean`
reduce to the flag-indexed codecs of `Model/Position.lean` once the outcome of the method's own
version test is known; mismatching flags do not round-trip (concrete witnesses); a linear-time
checker for "the flags of a table are the outcome of `protocol_later_eq thr`".
-/
namespace PyCraft.C04Codec
open PyCraft

/-! ### the versioned codecs in terms of the flag codecs -/

theorem posReadAt_eq (thr : Nat) (t : Tables) (v : Nat) (b : Bool) (bs : Bytes)
    (h : laterEq t v thr = .ok b) : posReadAt thr t v bs = decPos b bs := by
  unfold posReadAt decPos
  cases readU64 bs with
  | error e => rfl
  | ok p =>
    obtain ⟨location, rest⟩ := p
    simp only [h]
    cases b <;> simp

theorem posSendAt_eq (thr : Nat) (t : Tables) (v : Nat) (b : Bool) (x y z : Int)
    (h : laterEq t v thr = .ok b) : posSendAt thr t v x y z = encPos b x y z := by
  simp only [posSendAt, h]

theorem recReadAt_eq (thr : Nat) (t : Tables) (v : Nat) (b : Bool) (bs : Bytes)
    (h : laterEq t v thr = .ok b) : recReadAt thr t v bs = decRecord b bs := by
  simp only [recReadAt, h]

theorem recSendAt_eq (thr : Nat) (t : Tables) (v : Nat) (b : Bool) (x y z bsid : Int)
    (h : laterEq t v thr = .ok b) : recSendAt thr t v x y z bsid = encRecord b x y z bsid := by
  simp only [recSendAt, h]

/-- the reader consumes its 8 bytes before it looks at the version -/
theorem posReadAt_short (thr : Nat) (t : Tables) (v : Nat) (bs : Bytes) (h : bs.length < 8) :
    posReadAt thr t v bs = .error .struct := by
  simp only [posReadAt, Pos.readU64_short bs h]

theorem posReadAt_undefined (thr : Nat) (t : Tables) (v : Nat) (e : Err) (w rest : Bytes)
    (hw : w.length = 8) (h : laterEq t v thr = .error e) :
    posReadAt thr t v (w ++ rest) = .error e := by
  simp only [posReadAt, Pos.readU64_append w rest hw, h]

/-! ### mismatching layouts do not round-trip -/

/-- The position (1, 2, 3) comes back only when written and read in the same layout. -/
theorem pos_cross (es ed : Bool) (w : Bytes) (hw : encPos es 1 2 3 = .ok w)
    (hr : decPos ed (w ++ []) = .ok ((1, 2, 3), [])) : es = ed := by
  cases es
  · have e : encPos false 1 2 3 = .ok [0, 0, 0, 64, 8, 0, 0, 3] := by decide +kernel
    rw [e] at hw; cases hw
    cases ed
    · rfl
    · exact absurd hr (by decide +kernel)
  · have e : encPos true 1 2 3 = .ok [0, 0, 0, 64, 0, 0, 48, 2] := by decide +kernel
    rw [e] at hw; cases hw
    cases ed
    · exact absurd hr (by decide +kernel)
    · rfl

/-- The record (1, 2, 3, 5) comes back only when written and read in the same format. -/
theorem rec_cross (es ed : Bool) (w : Bytes) (hw : encRecord es 1 2 3 5 = .ok w)
    (hr : decRecord ed (w ++ []) = .ok ((1, 2, 3, 5), [])) : es = ed := by
  cases es
  · have e : encRecord false 1 2 3 5 = .ok [0x13, 0x02, 0x05] := by decide +kernel
    rw [e] at hw; cases hw
    cases ed
    · rfl
    · exact absurd hr (by decide +kernel)
  · have e : encRecord true 1 2 3 5 = .ok [0xb2, 0xa2, 0x01] := by decide +kernel
    rw [e] at hw; cases hw
    cases ed
    · exact absurd hr (by decide +kernel)
    · rfl

/-! ### a linear-time check of "flag = outcome of `protocol_later_eq thr`" for a whole table

`laterEq t v thr` looks `thr` and `v` up in the index dict from its head, so evaluating it for each
of the 369 rows is quadratic.  The tables are in the order of the index dict, so one lock-step walk
suffices; `switchOk_sound` turns the walk into the statement about `laterEq`. -/

/-- rows and index entries side by side: same version, and both flags say "index ≥ j" -/
def switchCheck (j : Nat) : List (Nat × Nat) → List (Nat × Nat × Nat) → Bool
  | [], [] => true
  | (p, i) :: idx, (v, e, d) :: tab =>
    p == v && ((e == 1) == decide (j ≤ i)) && ((d == 1) == decide (j ≤ i)) && switchCheck j idx tab
  | _, _ => false

/-- `thr` has an index `j`, and the table passes the lock-step walk against the index dict -/
def switchOk (t : Tables) (thr : Nat) (tab : List (Nat × Nat × Nat)) : Bool :=
  match index t thr with
  | some j => switchCheck j t.indices tab
  | none => false

theorem switchCheck_sound (j : Nat) (idx : List (Nat × Nat)) (tab : List (Nat × Nat × Nat))
    (h : switchCheck j idx tab = true) :
    ∀ r ∈ tab, ∃ i, (r.1, i) ∈ idx ∧ (r.2.1 == 1) = decide (j ≤ i) ∧
      (r.2.2 == 1) = decide (j ≤ i) := by
  induction idx generalizing tab with
  | nil =>
    cases tab with
    | nil => intro r hr; cases hr
    | cons a tab => simp [switchCheck] at h
  | cons pi idx ih =>
    cases tab with
    | nil => simp [switchCheck] at h
    | cons a tab =>
      obtain ⟨p, i⟩ := pi
      obtain ⟨v, e, d⟩ := a
      simp only [switchCheck, Bool.and_eq_true, beq_iff_eq] at h
      obtain ⟨⟨⟨hpv, he⟩, hd⟩, hrest⟩ := h
      intro r hr
      rcases List.mem_cons.1 hr with rfl | hr
      · exact ⟨i, by simp [hpv], he, hd⟩
      · obtain ⟨i', hm, h1, h2⟩ := ih tab hrest r hr
        exact ⟨i', List.mem_cons_of_mem _ hm, h1, h2⟩

theorem switchOk_sound (t : Tables) (hnd : (t.indices.map (·.1)).Nodup) (thr : Nat)
    (tab : List (Nat × Nat × Nat)) (h : switchOk t thr tab = true) :
    ∀ r ∈ tab, laterEq t r.1 thr = .ok (r.2.1 == 1) ∧ laterEq t r.1 thr = .ok (r.2.2 == 1) := by
  unfold switchOk at h
  cases hj : index t thr with
  | none => simp [hj] at h
  | some j =>
    simp only [hj] at h
    intro r hr
    obtain ⟨i, hm, h1, h2⟩ := switchCheck_sound j t.indices tab h r hr
    have hi : index t r.1 = some i := (mem_iff_odGet t.indices hnd r.1 i).1 hm
    have hl : laterEq t r.1 thr = .ok (decide (j ≤ i)) := by
      simp only [laterEq, earlierEq, indexE, hj, hi]; rfl
    exact ⟨by rw [hl, h1], by rw [hl, h2]⟩

/-- the index dict of the live tables has distinct keys: it is the known-version list (duplicate
free) zipped with positions (`indexed_live`) -/
theorem live_indices_nodup : (liveTables.indices.map (·.1)).Nodup := by
  rw [indexed_live.indices, List.zipIdx_map_fst]; exact indexed_live.nodup

/-- a row of a table whose version column is the known-version list is about a known version -/
theorem row_known {tab : List (Nat × Nat × Nat)} (h : tab.map (·.1) = liveTables.knownProtocols)
    (r : Nat × Nat × Nat) (hr : r ∈ tab) : r.1 ∈ liveTables.knownProtocols :=
  h ▸ List.mem_map_of_mem hr

/-- … and every known version has a row -/
theorem known_row {tab : List (Nat × Nat × Nat)} (h : tab.map (·.1) = liveTables.knownProtocols)
    (v : Nat) (hv : v ∈ liveTables.knownProtocols) : ∃ e d, (v, e, d) ∈ tab := by
  rw [← h, List.mem_map] at hv
  obtain ⟨⟨v', e, d⟩, hm, rfl⟩ := hv
  exact ⟨e, d, hm⟩

end PyCraft.C04Codec
