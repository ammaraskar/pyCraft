import PyCraft.Lemmas.LifecycleInv
/-!
The API calls of `Model/Lifecycle.lean` as steps of the transition system: vocabulary (`atCall`,
`pendingOut`, `Sys.shared`, `SameThreads`) and the characterisation of a call step by `body`.
-/
namespace PyCraft.Life

/-- Thread `t`'s next action is "acquire the lock and run the body of the API call `op`":
a user thread between calls whose next operation is `op`, or a networking thread inside a
reaction / listener / exception handler / `_handle_exception` that calls `op`. -/
def atCall (s : Sys) : Tid → Op → Prop
  | .user u, op => (s.usr u).pc = .idle ∧ ∃ rest, (s.usr u).todo = op :: rest
  | .net i, op => ∃ site, (s.net i).pc = .call site ∧ site.op = op

/-- The outcome of the API call whose body thread `t` has just executed (it still holds the lock). -/
def pendingOut (s : Sys) : Tid → Option Outcome
  | .user u => match (s.usr u).pc with
    | .rel out => some out
    | .idle => none
  | .net i => match (s.net i).pc with
    | .callRel _ out => some out
    | _ => none

/-- The attributes of the `Connection` object. -/
structure Shared where
  nt        : Option Nat
  newNt     : Option Nat
  socket    : Sock
  file      : FileSt
  connected : Bool
  conns     : Nat
  nthreads  : Nat
deriving DecidableEq, Repr

def Sys.shared (s : Sys) : Shared :=
  ⟨s.nt, s.newNt, s.socket, s.file, s.connected, s.conns, s.nthreads⟩

/-- No thread object was created, interrupted or moved, except that thread `t` itself advanced. -/
def SameThreads (s s' : Sys) (t : Tid) : Prop :=
  ∀ j, (s'.net j).intr = (s.net j).intr ∧ (s'.net j).prev = (s.net j).prev ∧
    (t ≠ .net j → (s'.net j).pc = (s.net j).pc)

/-- The connection is active: `_check_connection` raises. -/
theorem busy_iff (s : Sys) :
    busy s = true ↔ (∃ i, s.nt = some i ∧ (s.net i).intr = false) ∨ s.newNt ≠ none := by
  unfold busy
  cases hn : s.nt <;> cases hm : s.newNt <;> simp

/-- An API body leaves the reconnect budgets alone. -/
theorem body_frame (env : List Beh) (s : Sys) (op : Op) (t : Tid) :
    (body env s op).1.rl = s.rl ∧ (body env s op).1.rh = s.rh :=
  let f := (body_effect (c := (body env s op).1) (out := (body env s op).2) t rfl).frame
  ⟨f.2.2.2.1, f.2.2.2.2.1⟩

/-- A call step is enabled iff the lock can be acquired, and is the body of the call. -/
theorem call_step (env : List Beh) (s s' : Sys) (t : Tid) (op : Op) (hat : atCall s t op)
    (hs : step env s t = some s') :
    canAcq s t = true ∧ pendingOut s' t = some (body env s op).2 ∧
    s'.shared = (body env s op).1.shared ∧ s'.owner = some t ∧ s'.depth = s.depth + 1 ∧
    SameThreads (body env s op).1 s' t ∧ s'.rl = s.rl ∧ s'.rh = s.rh ∧
    s'.log = s.log ++ [(t, .call op (body env s op).2)] ∧
    (∀ u, t = .user u → (s'.usr u).outs = (s.usr u).outs) := by
  rcases t with u | i
  · obtain ⟨hpc, rest, htd⟩ := hat
    simp only [step, stepUser, hpc, htd] at hs
    split at hs
    · next hc =>
      simp only [Option.some.injEq] at hs; subst hs
      exact ⟨hc, by simp [pendingOut, updU], rfl, rfl, rfl, fun j => ⟨rfl, rfl, fun _ => rfl⟩,
        (body_frame env s op (.user u)).1, (body_frame env s op (.user u)).2, rfl,
        fun v hv => by cases hv; simp [updU]⟩
    · cases hs
  · obtain ⟨site, hpc, rfl⟩ := hat
    simp only [step, stepNet, hpc] at hs
    split at hs
    · next hc =>
      simp only [Option.some.injEq] at hs; subst hs
      exact ⟨hc, by simp [pendingOut, updN], rfl, rfl, rfl,
        fun j => by by_cases hj : j = i <;> simp [updN, hj],
        (body_frame env s site.op (.net i)).1, (body_frame env s site.op (.net i)).2, rfl,
        fun v hv => by cases hv⟩
    · cases hs

theorem call_enabled (env : List Beh) (s : Sys) (t : Tid) (op : Op) (hat : atCall s t op)
    (hc : canAcq s t = true) : ∃ s', step env s t = some s' := by
  rcases t with u | i
  · obtain ⟨hpc, rest, htd⟩ := hat
    simp [step, stepUser, hpc, htd, hc]
  · obtain ⟨site, hpc, rfl⟩ := hat
    simp [step, stepNet, hpc, hc]


theorem pendingOut_atRel (s : Sys) (t : Tid) (out : Outcome) (hp : pendingOut s t = some out) :
    atRel s t = true := by
  rcases t with u | i
  · simp only [pendingOut] at hp
    split at hp <;> simp_all [atRel, UPc.isRel]
  · simp only [pendingOut] at hp
    split at hp <;> simp_all [atRel, NPc.isRel]

/-- The release step that ends an API call: the caller is always enabled, the lock becomes free,
the connection and all other threads are untouched, and the caller receives the outcome. -/
theorem release_step (env : List Beh) (s : Sys) (t : Tid) (out : Outcome) (h : LInv s)
    (hp : pendingOut s t = some out) :
    ∃ s', step env s t = some s' ∧ s'.shared = s.shared ∧ s'.owner = none ∧ s'.depth = 0 ∧
      SameThreads s s' t ∧
      (∀ u, t = .user u → (s'.usr u).outs = (s.usr u).outs ++ [out] ∧ (s'.usr u).pc = .idle) ∧
      (∀ i site, t = .net i → (s.net i).pc = .callRel site out →
        (s'.net i).pc = afterCall s site out) := by
  have hr := pendingOut_atRel s t out hp
  have ho := (h.own_iff t).mp hr
  have hd := h.depth_ok
  rcases t with u | i
  · simp only [pendingOut] at hp
    split at hp
    · next o hpc =>
      cases hp
      have hex : ∃ s', step env s (.user u) = some s' := by
        simp only [step, stepUser, hpc]; exact ⟨_, rfl⟩
      obtain ⟨s', hs'⟩ := hex
      have hs2 := hs'
      simp only [step, stepUser, hpc, Option.some.injEq] at hs2
      subst hs2
      refine ⟨_, hs', rfl, by simp [ownerAfterRel, hd, ho],
        by simp [hd, ho], fun j => ⟨rfl, rfl, fun _ => rfl⟩, ?_, by simp⟩
      intro v hv; cases hv; simp [updU]
    · cases hp
  · simp only [pendingOut] at hp
    split at hp
    · next site o hpc =>
      cases hp
      have hex : ∃ s', step env s (.net i) = some s' := by
        simp only [step, stepNet, hpc]; exact ⟨_, rfl⟩
      obtain ⟨s', hs'⟩ := hex
      have hs2 := hs'
      simp only [step, stepNet, hpc, Option.some.injEq] at hs2
      subst hs2
      refine ⟨_, hs', rfl, by simp [ownerAfterRel, hd, ho],
        by simp [hd, ho], fun j => ?_, by simp, ?_⟩
      · by_cases hj : j = i <;> simp [updN, hj]
      · intro k site' hk hpc'; cases hk
        rw [hpc] at hpc'; cases hpc'
        simp [updN]
    · cases hp


/-- The "check the flag and disconnect" block of `_handle_exception` as a step: it is enabled iff
the lock can be acquired, reads the flag of `new_networking_thread or networking_thread` and runs
the body of `disconnect(immediate=True)` exactly when that flag is set — in ONE action. -/
theorem hchk_step (env : List Beh) (s s' : Sys) (i : Nat) (hpc : (s.net i).pc = .hChk)
    (hs : step env s (.net i) = some s') :
    canAcq s (.net i) = true ∧ s'.owner = some (.net i) ∧ (s'.net i).pc = .hRel ∧
    ((∃ j, target s = some j ∧ (s.net j).intr = true ∧ s'.shared = (discSt s).shared ∧
        SameThreads (discSt s) s' (.net i)) ∨
     (∃ j, target s = some j ∧ (s.net j).intr = false ∧ s'.shared = s.shared ∧
        SameThreads s s' (.net i)) ∨
     (target s = none ∧ s'.shared = s.shared ∧ SameThreads s s' (.net i))) := by
  simp only [step, stepNet, hpc] at hs
  split at hs
  · next hc =>
    split at hs
    · next j htg =>
      split at hs
      · next hi =>
        simp only [Option.some.injEq] at hs; subst hs
        refine ⟨hc, rfl, by simp [updN], Or.inl ⟨j, htg, hi, ?_, ?_⟩⟩
        · simp [Sys.shared, doDisconnect_discSt]
        · intro k
          by_cases hk : k = i <;> simp [updN, hk, doDisconnect_discSt]
      · next hi =>
        simp only [Option.some.injEq] at hs; subst hs
        refine ⟨hc, rfl, by simp [updN], Or.inr (Or.inl ⟨j, htg, by simpa using hi, rfl, ?_⟩)⟩
        intro k
        by_cases hk : k = i <;> simp [updN, hk]
    · next htg =>
      simp only [Option.some.injEq] at hs; subst hs
      refine ⟨hc, rfl, by simp [updN], Or.inr (Or.inr ⟨htg, rfl, ?_⟩)⟩
      intro k
      by_cases hk : k = i <;> simp [updN, hk]
  · cases hs

/-- The action at the `except` clause is always enabled; it sets the flag and enters
`_handle_exception`. -/
theorem exc_step (env : List Beh) (s : Sys) (i : Nat) (hpc : (s.net i).pc = .exc) :
    ∃ s', step env s (.net i) = some s' ∧ (s'.net i).intr = true ∧ (s'.net i).pc = .hRun ∧
      s'.shared = s.shared ∧ ∀ j, j ≠ i → s'.net j = s.net j := by
  refine ⟨{ s with net := updN s i { s.net i with intr := true, pc := .hRun },
                   log := s.log ++ [(.net i, .exc)] },
    by simp only [step, stepNet, hpc], by simp [updN], by simp [updN], rfl, ?_⟩
  intro j hj
  simp [updN, hj]

theorem SameThreads.trans {s1 s2 s3 : Sys} {t : Tid} (h1 : SameThreads s1 s2 t)
    (h2 : SameThreads s2 s3 t) : SameThreads s1 s3 t := fun j =>
  ⟨(h2 j).1.trans (h1 j).1, (h2 j).2.1.trans (h1 j).2.1,
   fun ht => ((h2 j).2.2 ht).trans ((h1 j).2.2 ht)⟩

/-- If `c` is `s` with the new thread object `x0`, a state with the threads of `c` has that object
and otherwise the threads of `s`. -/
theorem SameThreads.created {s c s1 : Sys} {t : Tid} {x0 : NetThr} (hst : SameThreads c s1 t)
    (hc : c.net = updN s s.nthreads x0) (hne : t ≠ .net s.nthreads) :
    (s1.net s.nthreads).intr = x0.intr ∧ (s1.net s.nthreads).prev = x0.prev ∧
    (s1.net s.nthreads).pc = x0.pc ∧
    ∀ j, j ≠ s.nthreads → (s1.net j).intr = (s.net j).intr ∧
      (s1.net j).prev = (s.net j).prev ∧ (t ≠ .net j → (s1.net j).pc = (s.net j).pc) := by
  refine ⟨?_, ?_, ?_, fun j hj => ?_⟩
  · rw [(hst _).1, hc]; simp [updN]
  · rw [(hst _).2.1, hc]; simp [updN]
  · rw [(hst _).2.2 hne, hc]; simp [updN]
  · obtain ⟨a, b, d⟩ := hst j
    exact ⟨by rw [a, hc]; simp [updN, hj], by rw [b, hc]; simp [updN, hj],
      fun ht => by rw [d ht, hc]; simp [updN, hj]⟩

theorem SameThreads.refl (s : Sys) (t : Tid) : SameThreads s s t := fun _ => ⟨rfl, rfl, fun _ => rfl⟩

/-- The caller of an API call is an existing thread, so it is not the thread object that a
successful `connect()` creates. -/
theorem atCall_ne_new (s : Sys) (h : LInv s) (t : Tid) (op : Op) (hat : atCall s t op) :
    t ≠ .net s.nthreads := by
  rintro rfl
  obtain ⟨site, hpc, -⟩ := hat
  have := (h.born s.nthreads).mpr (Nat.le_refl _)
  rw [hpc] at this; cases this

/-- What a `connect()` / `status()` that is not refused with `InvalidState` does (the conclusion of
`C16.reusable_after_end`): exactly one connection attempt; on refusal the caller gets the refusal,
the socket is left unconnected, no thread is created; otherwise the call succeeds, the new socket
and stream are installed and exactly one, uninterrupted, thread object is created — in the slot if
it was empty, else as the successor of the holder — all other threads being untouched. -/
def _root_.PyCraft.Ends.ConnectsAfresh (env : List Beh) (s : Sys) (t : Tid) (s1 : Sys) : Prop :=
  s1.conns = s.conns + 1 ∧
  (env.getD s.conns .accept = .refuse →
    pendingOut s1 t = some .refused ∧ s1.socket = .unconnected ∧
    s1.nthreads = s.nthreads ∧ s1.nt = s.nt ∧ s1.newNt = none ∧ SameThreads s s1 t) ∧
  (env.getD s.conns .accept ≠ .refuse →
    pendingOut s1 t = some .ok ∧ s1.socket = .open s.conns ∧ s1.file = .open s.conns ∧
    s1.connected = true ∧ s1.nthreads = s.nthreads + 1 ∧
    (s.net s.nthreads).pc = .unborn ∧ (s1.net s.nthreads).intr = false ∧
    (∀ j, j ≠ s.nthreads → (s1.net j).intr = (s.net j).intr ∧
      (s1.net j).prev = (s.net j).prev ∧ (t ≠ .net j → (s1.net j).pc = (s.net j).pc)) ∧
    ((s.nt = none ∧ s1.nt = some s.nthreads ∧ s1.newNt = none ∧
        (s1.net s.nthreads).pc = .loopChk ∧ (s1.net s.nthreads).prev = none) ∨
     (∃ p, s.nt = some p ∧ s1.nt = some p ∧ s1.newNt = some s.nthreads ∧
        (s1.net s.nthreads).pc = .waitPrev ∧ (s1.net s.nthreads).prev = some p)))

/-- A `connect()` / `status()` called while `_check_connection` passes connects afresh. -/
theorem connects_afresh {env : List Beh} {s s1 : Sys} {t : Tid} {op : Op} (h : LInv s)
    (hop : op.isConn = true) (hat : atCall s t op) (hb : busy s = false)
    (hs1 : step env s t = some s1) : Ends.ConnectsAfresh env s t s1 := by
  have hnew := ((not_busy s).mp hb).2
  have hne := atCall_ne_new s h t op hat
  have hborn : (s.net s.nthreads).pc = .unborn := (h.born _).mpr (Nat.le_refl _)
  obtain ⟨-, hp, hsh, -, -, hst, -, -, -, -⟩ := call_step env s s1 t op hat hs1
  obtain ⟨sb, ob, hbd⟩ : ∃ sb ob, body env s op = (sb, ob) := ⟨_, _, rfl⟩
  simp only [hbd, Sys.shared, Shared.mk.injEq] at hsh hp hst
  obtain ⟨e1, e2, e3, e4, e5, e6, e7⟩ := hsh
  rcases body_cases env s op sb ob hbd with ⟨-, hb', -⟩ | ⟨-, -, henv, b1, b2⟩ |
    ⟨-, -, henv, hn, b1, b2⟩ | ⟨p, -, -, henv, hn, b1, b2⟩ | ⟨hop', -⟩
  · rw [hb] at hb'; cases hb'
  · rw [b1] at e1 e2 e3 e4 e5 e6 e7 hst; rw [b2] at hp
    refine ⟨e6, fun _ => ⟨hp, e3, e7, e1, e2.trans hnew, hst⟩, fun hc => absurd henv hc⟩
  · rw [b1] at e1 e2 e3 e4 e5 e6 e7 hst; rw [b2] at hp
    obtain ⟨c1, c2, c3, c4⟩ := hst.created (x0 := ⟨false, none, .loopChk⟩) rfl hne
    exact ⟨e6, fun hc => absurd hc henv, fun _ => ⟨hp, e3, e4, e5, e7, hborn, c1, c4,
      .inl ⟨hn, e1, e2.trans hnew, c3, c2⟩⟩⟩
  · rw [b1] at e1 e2 e3 e4 e5 e6 e7 hst; rw [b2] at hp
    obtain ⟨c1, c2, c3, c4⟩ := hst.created (x0 := ⟨false, some p, .waitPrev⟩) rfl hne
    exact ⟨e6, fun hc => absurd hc henv, fun _ => ⟨hp, e3, e4, e5, e7, hborn, c1, c4,
      .inr ⟨p, hn, e1.trans hn, e2, c3, c2⟩⟩⟩
  · rw [hop] at hop'; cases hop'

end PyCraft.Life
