import PyCraft.Props.C09
import PyCraft.Props.C09Wire
import PyCraft.Props.C09Status
import PyCraft.Props.C09Clock
#print axioms PyCraft.C09.negotiate_sound
#print axioms PyCraft.C09.negotiate_complete
#print axioms PyCraft.C09.mismatch_message_correct
#print axioms PyCraft.C09.mismatch_message_distinguishes
#print axioms PyCraft.C09.single_no_query
#print axioms PyCraft.C09.many_query_latest
#print axioms PyCraft.C09.plan_errors
#print axioms PyCraft.C09.followup_direct
#print axioms PyCraft.C09.resolve_spec
#print axioms PyCraft.C09.ctor_error_kind
#print axioms PyCraft.C09.ctor_refuses_unsupported
#print axioms PyCraft.C09.ctor_ok_spec
#print axioms PyCraft.C09.ctor_succeeds
#print axioms PyCraft.C09.ctor_allowed_sorted
#print axioms PyCraft.C09.handshake_fields
#print axioms PyCraft.C09.session_outcome
#print axioms PyCraft.C09.status_once_noping
#print axioms PyCraft.C09.status_once_ping
#print axioms PyCraft.C09.status_once
#print axioms PyCraft.C09.status_any_script
#print axioms PyCraft.C09.status_no_ping_unless_requested
#print axioms PyCraft.C09Wire.segmentation_invariant
#print axioms PyCraft.C09Wire.client_writes_first_bytes
#print axioms PyCraft.C09Wire.server_recovers_first_frames
#print axioms PyCraft.C09Wire.handshake_frame_injective
#print axioms PyCraft.C09Wire.handshake_bytes_injective
#print axioms PyCraft.C09Wire.status_and_login_streams_diverge
#print axioms PyCraft.C09Wire.handshake_protocol_is_negotiated
#print axioms PyCraft.C09Wire.negotiated_reply_in_bytes
#print axioms PyCraft.C09Wire.negotiated_default_in_bytes
#print axioms PyCraft.C09Wire.status_handshake_bytes
#print axioms PyCraft.C09Wire.ping_echo_bytes
#print axioms PyCraft.C09Wire.pong_payload_is_a_long
#print axioms PyCraft.C09Wire.ping_out_of_range_raises
#print axioms PyCraft.C09Wire.status_response_roundtrip
#print axioms PyCraft.C09Wire.status_exchange_bytes
#print axioms PyCraft.C09Wire.wrong_encoding_detected
#print axioms PyCraft.C09Status.handler_callables
#print axioms PyCraft.C09Status.handlers_invoked_are_installed
#print axioms PyCraft.C09Status.ping_iff_requested
#print axioms PyCraft.C09Status.changed_doPing_refuted
#print axioms PyCraft.C09Status.status_noping_general
#print axioms PyCraft.C09Status.status_ping_general
#print axioms PyCraft.C09Status.latency_general
#print axioms PyCraft.C09Status.parse_failure
#print axioms PyCraft.C09Status.thread_outcomes
#print axioms PyCraft.C09Status.exit_is_last
#print axioms PyCraft.C09Status.noping_any_script
#print axioms PyCraft.C09Status.fallback_only_when_no_version
#print axioms PyCraft.C09Status.changed_exception_test_refuted
#print axioms PyCraft.C09Status.login_with_reported_version_iff
#print axioms PyCraft.C09Status.refines_first_model
#print axioms PyCraft.C09Status.errors_are_delivered
#print axioms PyCraft.C09Status.mismatch_sound
#print axioms PyCraft.C09Status.float_protocol
#print axioms PyCraft.C09Status.session_total
#print axioms PyCraft.C09Status.live_sane
#print axioms PyCraft.C09Status.live_rank
#print axioms PyCraft.C09Status.live_session_total
#print axioms PyCraft.C09Clock.latency_nonneg_of_same_monotone_conversion
#print axioms PyCraft.C09Clock.latency_nonneg_of_monotone_stages
#print axioms PyCraft.C09Clock.trunc_monotone
#print axioms PyCraft.C09Clock.round_monotone
#print axioms PyCraft.C09Clock.round_model_is_nearest_ties_even
#print axioms PyCraft.C09Clock.floor_model_is_floor
#print axioms PyCraft.C09Clock.latency_trunc_nonneg
#print axioms PyCraft.C09Clock.latency_trunc_within_one
#print axioms PyCraft.C09Clock.latency_zero_same_millisecond
#print axioms PyCraft.C09Clock.crosses_lt
#print axioms PyCraft.C09Clock.latency_eq_boundaries_crossed
#print axioms PyCraft.C09Clock.reactLog_reports_latency
#print axioms PyCraft.C09Clock.mixed_pair_negative_family
#print axioms PyCraft.C09Clock.mixed_pair_negative_witness
#print axioms PyCraft.C09Clock.mixed_pair_ge_neg_one
#print axioms PyCraft.C09Clock.mixed_pair_negative_iff
#print axioms PyCraft.C09Clock.mixed_pair_tie_family
#print axioms PyCraft.C09Clock.trunc_then_round_nonneg
#print axioms PyCraft.C09Clock.live_sites_agree
#print axioms PyCraft.C09Clock.live_each_site_truncates
#print axioms PyCraft.C09Clock.live_dumps_consistent
#print axioms PyCraft.C09Clock.live_latency_expression_and_clock
#print axioms PyCraft.C09Clock.live_latency_rows
#print axioms PyCraft.C09Clock.live_latency_nonneg
#print axioms PyCraft.C09Clock.roundMillis_at_ping_refuted
#print axioms PyCraft.C09Clock.ctorWith_supported_eq_ctor
#print axioms PyCraft.C09Clock.unsupported_names_refused
#print axioms PyCraft.C09Clock.known_lookup_differs
#print axioms PyCraft.C09Clock.live_tables_agree
#print axioms PyCraft.C09Clock.live_supported_names_covered
#print axioms PyCraft.C09Clock.live_shared_names_sound
#print axioms PyCraft.C09Clock.known_lookup_accepts_unsupported_name
#print axioms PyCraft.C09Clock.live_lookup_is_supported_table
#print axioms PyCraft.C09Clock.live_shared_names_refused
#print axioms PyCraft.C09Clock.live_shared_names_refused_by_ctor
#print axioms PyCraft.C09Clock.live_ctor_rows
