import PyCraft.Props.C20
import PyCraft.Props.C20Maps
import PyCraft.Props.C20Live
#print axioms PyCraft.C20.playerlist_replay
#print axioms PyCraft.C20.playerlist_replay_from_empty
#print axioms PyCraft.C20.playerlist_keys_nodup
#print axioms PyCraft.C20.playerlist_ctor_is_replay
#print axioms PyCraft.C20.add_overwrites
#print axioms PyCraft.C20.update_unknown_noop
#print axioms PyCraft.C20.update_known
#print axioms PyCraft.C20.remove_then_add_at_end
#print axioms PyCraft.C20.map_patch_coords
#print axioms PyCraft.C20.map_patch_none
#print axioms PyCraft.C20.apply_to_map_fields
#print axioms PyCraft.C20.map_set_apply
#print axioms PyCraft.C20.map_replay_append
#print axioms PyCraft.C20.position_apply
#print axioms PyCraft.C20.angle_wrap_id
#print axioms PyCraft.C20.position_replay_range
#print axioms PyCraft.C20.bitfield_chosen_or
#print axioms PyCraft.C20.bitfield_name_parses_back
#print axioms PyCraft.C20.split_join
#print axioms PyCraft.C20.bitfield_name_none_iff
#print axioms PyCraft.C20.bitfield_sort_spec
#print axioms PyCraft.C20.checkEnum_parses_back
#print axioms PyCraft.C20.enum_name_from_value
#print axioms PyCraft.C20.record_eq_fieldwise
#print axioms PyCraft.C20.record_eq_hash
#print axioms PyCraft.C20.record_eq_decides
#print axioms PyCraft.C20.record_eq_equivalence
#print axioms PyCraft.C20.record_ne
#print axioms PyCraft.C20.vector_ops_componentwise
#print axioms PyCraft.C20.vector_floordiv
#print axioms PyCraft.C20.vector_int_laws
#print axioms PyCraft.C20.alias_readback
#print axioms PyCraft.C20.alias_transform_readback
#print axioms PyCraft.C20.alias_multi_readback
#print axioms PyCraft.C20.library_flag_names_clean
#print axioms PyCraft.C20.library_flag_enums_check
#print axioms PyCraft.C20.library_flag_names_parse_back
#print axioms PyCraft.C20Maps.fresh_map_spec
#print axioms PyCraft.C20Maps.fresh_map_live
#print axioms PyCraft.C20Maps.fresh_map_default_size
#print axioms PyCraft.C20Maps.fresh_sets_wf
#print axioms PyCraft.C20Maps.map_replay_total
#print axioms PyCraft.C20Maps.map_replay_keys
#print axioms PyCraft.C20Maps.map_replay_fields
#print axioms PyCraft.C20Maps.map_replay_pixel
#print axioms PyCraft.C20Maps.map_replay_unique
#print axioms PyCraft.C20Maps.cell_lands
#print axioms PyCraft.C20Maps.cell_only
#print axioms PyCraft.C20Maps.map_last_patch_lands
#print axioms PyCraft.C20Maps.in_range_of_rect
#print axioms PyCraft.C20Maps.fx_agrees
#print axioms PyCraft.C20Maps.map_error_state
#print axioms PyCraft.C20Maps.map_replay_error_point
#print axioms PyCraft.C20Maps.live_scenarios_agree
#print axioms PyCraft.C20Maps.live_scenarios_cover
#print axioms PyCraft.C20Maps.pixel_law_holds
#print axioms PyCraft.C20Maps.pixel_law_holds_with
#print axioms PyCraft.C20Maps.error_law_holds
#print axioms PyCraft.C20Maps.seeded_ff_refuted
#print axioms PyCraft.C20Maps.seeded_width_refuted
#print axioms PyCraft.C20Maps.seeded_late_store_refuted
#print axioms PyCraft.C20Live.posflags_live
#print axioms PyCraft.C20Live.position_apply_observed
#print axioms PyCraft.C20Live.flag_truthy_is_bit
#print axioms PyCraft.C20Live.pyAnd_pyOr_bitwise
#print axioms PyCraft.C20Live.flagsOfByte_bit
#print axioms PyCraft.C20Live.position_apply_signed
#print axioms PyCraft.C20Live.position_apply_live
#print axioms PyCraft.C20Live.position_apply_bits
#print axioms PyCraft.C20Live.flagLive_matches_flagEnums
#print axioms PyCraft.C20Live.names_live
#print axioms PyCraft.C20Live.names_live_at
#print axioms PyCraft.C20Live.names_live_nat
#print axioms PyCraft.C20Live.live_names_parse_back
#print axioms PyCraft.C20Live.negative_values_unnamed
#print axioms PyCraft.C20Live.int_model_extends_nat_model
#print axioms PyCraft.C20Live.add_field_mapping
#print axioms PyCraft.C20Live.playerlist_full_simulates
#print axioms PyCraft.C20Live.name_properties_from_last_add
#print axioms PyCraft.C20Live.playerlist_probe_live
