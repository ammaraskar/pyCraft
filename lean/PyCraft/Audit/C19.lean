import PyCraft.Props.C19
import PyCraft.Props.C19Seq
import PyCraft.Props.C19SeqLive
import PyCraft.Props.C19SeqRuns
#print axioms PyCraft.C19.authenticated_iff
#print axioms PyCraft.C19.error_reply_raises_and_preserves
#print axioms PyCraft.C19.accepted_reply_returns_true
#print axioms PyCraft.C19.validate_true_iff_204
#print axioms PyCraft.C19.join_refuses_offline
#print axioms PyCraft.C19.success_stores_exactly_authenticate
#print axioms PyCraft.C19.success_stores_exactly_refresh
#print axioms PyCraft.C19.returns_true_iff
#print axioms PyCraft.C19.payload_shape
#print axioms PyCraft.C19.missing_credentials_refuse
#print axioms PyCraft.C19.partial_success_body_authenticate
#print axioms PyCraft.C19.partial_success_body_refresh
#print axioms PyCraft.C19.success_status_bad_body
#print axioms PyCraft.C19.token_changes_only_on_200_json
#print axioms PyCraft.C19.never_returns_false
#print axioms PyCraft.C19Seq.json_decodes_back
#print axioms PyCraft.C19Seq.json_is_printable_ascii
#print axioms PyCraft.C19Seq.make_request_spec
#print axioms PyCraft.C19Seq.request_is_documented_post
#print axioms PyCraft.C19Seq.sign_out_is_documented_post
#print axioms PyCraft.C19Seq.posted_payload
#print axioms PyCraft.C19Seq.payload_conforms_documented
#print axioms PyCraft.C19Seq.sign_out_conforms_documented
#print axioms PyCraft.C19Seq.join_payload_vs_documented
#print axioms PyCraft.C19Seq.raise_from_response_spec
#print axioms PyCraft.C19Seq.error_reply_raises
#print axioms PyCraft.C19Seq.sign_out_error_reply_raises
#print axioms PyCraft.C19Seq.sign_out_raises_on_documented_success
#print axioms PyCraft.C19Seq.transport_failure_propagates
#print axioms PyCraft.C19Seq.join_refuses_offline
#print axioms PyCraft.C19Seq.authenticate_true_iff
#print axioms PyCraft.C19Seq.refresh_true_iff
#print axioms PyCraft.C19Seq.store_on_200
#print axioms PyCraft.C19Seq.documented_result_is_stored
#print axioms PyCraft.C19Seq.authenticate_true_yet_not_authenticated
#print axioms PyCraft.C19Seq.partial_store
#print axioms PyCraft.C19Seq.selected_profile_not_an_object
#print axioms PyCraft.C19Seq.tokens_independent
#print axioms PyCraft.C19Seq.service_run_is_reply_run
#print axioms PyCraft.C19Seq.refused_call_leaves_no_trace
#print axioms PyCraft.C19Seq.refusal_iff
#print axioms PyCraft.C19Seq.history_only_storing_steps_matter
#print axioms PyCraft.C19Seq.history_unchanged
#print axioms PyCraft.C19Seq.program_history_unchanged
#print axioms PyCraft.C19Seq.authenticate_then_join
#print axioms PyCraft.C19Seq.live_constants
#print axioms PyCraft.C19Seq.live_dumps_agree
#print axioms PyCraft.C19Seq.live_loads_agree
#print axioms PyCraft.C19Seq.live_replies_decode
#print axioms PyCraft.C19Seq.live_run1_agrees
#print axioms PyCraft.C19Seq.live_run2_agrees
#print axioms PyCraft.C19Seq.live_run3_agrees
#print axioms PyCraft.C19Seq.live_run4_agrees
#print axioms PyCraft.C19Seq.live_run5_agrees
#print axioms PyCraft.C19Seq.live_run6_agrees
#print axioms PyCraft.C19Seq.live_runs_agree
