import PyCraft.Props.C08
import PyCraft.Props.C08Live
#print axioms PyCraft.C08.tables_are_projections
#print axioms PyCraft.C08.known_protocols_dedup
#print axioms PyCraft.C08.known_versions_projection
#print axioms PyCraft.C08.indices_spec
#print axioms PyCraft.C08.order_strict_total
#print axioms PyCraft.C08.predicates_consistent
#print axioms PyCraft.C08.in_range_short_circuit
#print axioms PyCraft.C08.supported_projection
#print axioms PyCraft.C08.release_projection
#print axioms PyCraft.C08.supported_only_projection
#print axioms PyCraft.C08.init_idempotent
#print axioms PyCraft.C08.extend_then_init
#print axioms PyCraft.C08.extend_monotone
#print axioms PyCraft.C08.model_eq_live
#print axioms PyCraft.C08.ordinary_numbers_monotone
#print axioms PyCraft.C08.pre_numbers_monotone
#print axioms PyCraft.C08.supported_sorted_by_index
#print axioms PyCraft.C08Live.ids_functional_iff
#print axioms PyCraft.C08Live.records_agree
#print axioms PyCraft.C08Live.tables_agree
#print axioms PyCraft.C08Live.projections_of_records
#print axioms PyCraft.C08Live.numeric_on_sorted_class
#print axioms PyCraft.C08Live.live_ordinary_numeric
#print axioms PyCraft.C08Live.live_pre_numeric
#print axioms PyCraft.C08Live.earlier_of_rank_sorted
#print axioms PyCraft.C08Live.live_lists_nested
#print axioms PyCraft.C08Live.live_release_sorted_by_index
#print axioms PyCraft.C08Live.live_release_chronological
#print axioms PyCraft.C08Live.live_ids_functional
#print axioms PyCraft.C08Live.live_tables_agree
#print axioms PyCraft.C08Live.live_projections
#print axioms PyCraft.C08Live.by_reference_transparent
#print axioms PyCraft.C08Live.context_answers_current
#print axioms PyCraft.C08Live.rebuild_after_history
#print axioms PyCraft.C08Live.restart_is_import
#print axioms PyCraft.C08Live.m2_invisible_at_import
#print axioms PyCraft.C08Live.insert_order_unchanged
#print axioms PyCraft.C08Live.insert_fresh
#print axioms PyCraft.C08Live.model_eq_live_runs
