import PyCraft.Generated.Enums
import PyCraft.Lemmas.Enums
import PyCraft.Lemmas.Trackers
import PyCraft.Lemmas.Records
/-!
# C20 — State trackers replay packet histories; helper value types obey their laws

Only property theorems and non-vacuity examples live here; helper lemmas are in `Lemmas/`.
Models: `Model/Trackers.lean` (player list, map, position), `Model/Enums.lean`
(`name_from_value`), `Model/Records.lean` (`MutableRecord`, `Vector`, attribute aliases).
-/
namespace PyCraft.C20
open PyCraft PyCraft.Trackers PyCraft.Enums PyCraft.Records

/-! ## Player list -/

/-- Replaying any history of player-list packets on any dict (distinct keys, as every Python dict
has) gives exactly the `items()` of the reference semantics: a finite map `uuid → player` plus
insertion order, where an add binds (new uuid last, known uuid in place), an update touches a bound
uuid only, a removal unbinds. -/
theorem playerlist_replay (hist : List (List Action)) (l₀ : PlayerList)
    (h : (l₀.map Prod.fst).Nodup) :
    replay hist l₀ = (refReplay hist (RefState.ofList l₀)).items :=
  ((Rel.ofList l₀ h).replay hist).items.symm

/-- … in particular from the empty `PlayerList()`. -/
theorem playerlist_replay_from_empty (hist : List (List Action)) :
    replay hist [] = (refReplay hist ⟨fun _ => none, []⟩).items :=
  playerlist_replay hist [] (by simp)

/-- The dict invariant is kept: keys stay distinct under any history. -/
theorem playerlist_keys_nodup (hist : List (List Action)) (l₀ : PlayerList)
    (h : (l₀.map Prod.fst).Nodup) : ((replay hist l₀).map Prod.fst).Nodup :=
  ((Rel.ofList l₀ h).replay hist).1

/-- The constructor `PlayerList(*items)` is the replay of one add per item on the empty list
(so a later item with the same uuid wins and keeps the first one's position). -/
theorem playerlist_ctor_is_replay (items : List Player) :
    PlayerList.ofItems items = replay [items.map .add] [] := by
  simp [PlayerList.ofItems, replay, applyPacket, List.foldl_map, applyAction]

/-- An add overwrites: afterwards the uuid is bound to the new player, every other uuid is bound as
before, and the key order is unchanged for a known uuid / extended at the end for a new one. -/
theorem add_overwrites (l : PlayerList) (p : Player) :
    dictGet p.uuid (applyAction l (.add p)) = some p ∧
    (∀ k, k ≠ p.uuid → dictGet k (applyAction l (.add p)) = dictGet k l) ∧
    (applyAction l (.add p)).map Prod.fst =
      (if p.uuid ∈ l.map Prod.fst then l.map Prod.fst else l.map Prod.fst ++ [p.uuid]) := by
  refine ⟨by simp [applyAction, dictGet_dictSet], ?_, keys_dictSet p.uuid p l⟩
  intro k hk
  simp [applyAction, dictGet_dictSet, hk]

/-- Updates and removals of an unknown uuid are no-ops. -/
theorem update_unknown_noop (l : PlayerList) (u : Int) (h : dictGet u l = none)
    (g x : Int) (d : Option String) :
    applyAction l (.gamemode u g) = l ∧ applyAction l (.latency u x) = l ∧
    applyAction l (.displayName u d) = l ∧ applyAction l (.remove u) = l := by
  have hk := (dictGet_none_iff u l).1 h
  exact ⟨dictModify_of_not_mem u _ l hk, dictModify_of_not_mem u _ l hk,
    dictModify_of_not_mem u _ l hk, dictDel_of_not_mem u l hk⟩

/-- Updates of a known uuid rewrite exactly one field of that player, keep every other binding and
the key order. -/
theorem update_known (l : PlayerList) (u : Int) (p : Player) (h : dictGet u l = some p)
    (g x : Int) (d : Option String) :
    dictGet u (applyAction l (.gamemode u g)) = some { p with gamemode := g } ∧
    dictGet u (applyAction l (.latency u x)) = some { p with ping := x } ∧
    dictGet u (applyAction l (.displayName u d)) = some { p with displayName := d } ∧
    (∀ a, (a = .gamemode u g ∨ a = .latency u x ∨ a = .displayName u d) →
      (applyAction l a).map Prod.fst = l.map Prod.fst ∧
      ∀ k, k ≠ u → dictGet k (applyAction l a) = dictGet k l) := by
  refine ⟨by simp [applyAction, dictGet_dictModify, h], by simp [applyAction, dictGet_dictModify, h],
    by simp [applyAction, dictGet_dictModify, h], ?_⟩
  intro a ha
  rcases ha with rfl | rfl | rfl <;>
    exact ⟨keys_dictModify u _ l, fun k hk => by simp [applyAction, dictGet_dictModify, hk]⟩

/-- Remove followed by add re-inserts the player at the END of the dict. -/
theorem remove_then_add_at_end (l : PlayerList) (h : (l.map Prod.fst).Nodup) (p : Player) :
    applyAction (applyAction l (.remove p.uuid)) (.add p) =
      l.filter (fun q => q.1 ≠ p.uuid) ++ [(p.uuid, p)] := by
  simp only [applyAction]
  rw [dictDel_eq_filter _ _ h, dictSet_of_not_mem]
  rw [keys_filter]; simp

/-! ## Map -/

/-- In-range patch on a `W×H` map (`offX + width ≤ W`, `offY + height ≤ H`,
`len(pixels) = width*height`): the loop does not raise, pixel `i` of the packet lands at column
`offX + i mod width`, row `offY + i div width` (flat index `x + W*z`), and every cell outside the
rectangle is unchanged.  (`width = 0` forces `pixels = b''`: nothing changes.) -/
theorem map_patch_coords (m : MapState) (W H width height offX offY : Nat) (px : Bytes)
    (hW : m.width = W) (hlen : m.pixels.length = W * H)
    (hx : offX + width ≤ W) (hz : offY + height ≤ H) (hpx : px.length = width * height) :
    ∃ r, applyPatch m width ((offX : Int), (offY : Int)) (some px) = .ok r ∧ r.length = W * H ∧
      (∀ i, (hi : i < px.length) →
        r[(offX + i % width) + W * (offY + i / width)]? = some px[i]) ∧
      (∀ x z, x < W → z < H →
        ¬ (offX ≤ x ∧ x < offX + width ∧ offY ≤ z ∧ z < offY + height) →
        r[x + W * z]? = m.pixels[x + W * z]?) := by
  obtain ⟨r, hr, hl, hcell⟩ := patchLoop_cells W H width offX offY px hx m.pixels hlen
    (hpx ▸ Nat.mul_le_mul_left _ (by omega))
  refine ⟨r, by simp only [applyPatch, hW]; exact hr, hl, ?_, ?_⟩
  · intro i hi
    have hwpos : 0 < width := Nat.pos_of_ne_zero fun h => by simp [hpx, h] at hi
    have hm := Nat.mod_lt i hwpos
    have hd : i / width < height :=
      (Nat.div_lt_iff_lt_mul hwpos).2 (by rw [Nat.mul_comm, ← hpx]; exact hi)
    rw [hcell _ _ (by omega) (by omega),
      if_pos ⟨Nat.le_add_right _ _, Nat.add_lt_add_left hm _, Nat.le_add_right _ _⟩,
      Nat.add_sub_cancel_left, Nat.add_sub_cancel_left, Nat.mod_add_div,
      List.getElem?_eq_getElem hi]
    rfl
  · intro x z hxW hzH hout
    rw [hcell x z hxW hzH]
    split
    · rename_i hc
      have : height ≤ z - offY := by omega
      rw [List.getElem?_eq_none (by
        rw [hpx]; exact Nat.le_trans (Nat.mul_le_mul_left _ this) (Nat.le_add_left _ _))]
      rfl
    · rfl

/-- The "no pixels" packet (`width == 0` on the wire, read as `pixels = None`) changes no pixel,
whatever its other fields; so does an empty `pixels`. -/
theorem map_patch_none (m : MapState) (width : Nat) (off : Int × Int) :
    applyPatch m width off none = .ok m.pixels ∧ applyPatch m width off (some []) = .ok m.pixels :=
  ⟨rfl, rfl⟩

/-- `apply_to_map`, when the pixel loop does not raise, sets id, scale, icons, tracking and locked
from the packet, patches the pixels, and leaves the map's own width/height alone. -/
theorem apply_to_map_fields (pkt : MapPacket) (m m' : MapState) (h : applyToMap pkt m = .ok m') :
    m'.id = some pkt.mapId ∧ m'.scale = some pkt.scale ∧ m'.icons = pkt.icons ∧
    m'.isTrackingPosition = pkt.isTrackingPosition ∧ m'.isLocked = pkt.isLocked ∧
    m'.width = m.width ∧ m'.height = m.height ∧
    applyPatch m pkt.width pkt.offset pkt.pixels = .ok m'.pixels := by
  unfold applyToMap at h
  split at h
  · cases h
  · rename_i px hpx
    cases h
    exact ⟨rfl, rfl, rfl, rfl, rfl, rfl, rfl, hpx⟩

/-- `apply_to_map_set`: the packet is applied to the map with its id, a fresh zeroed 128×128 map
being created (at the end of the dict) when the id is unknown; other maps are untouched. -/
theorem map_set_apply (pkt : MapPacket) (s s' : MapSet) (h : applyToMapSet pkt s = .ok s') :
    ∃ m', applyToMap pkt ((dictGet pkt.mapId s).getD (MapState.new (some pkt.mapId))) = .ok m' ∧
      dictGet pkt.mapId s' = some m' ∧
      (∀ k, k ≠ pkt.mapId → dictGet k s' = dictGet k s) ∧
      s'.map Prod.fst =
        (if pkt.mapId ∈ s.map Prod.fst then s.map Prod.fst else s.map Prod.fst ++ [pkt.mapId]) := by
  rw [applyToMapSet_eq] at h
  split at h
  · cases h
  · rename_i m' hm'
    cases h
    exact ⟨m', hm', by simp [dictGet_dictSet], fun k hk => by simp [dictGet_dictSet, hk],
      keys_dictSet _ _ _⟩

/-- Map histories replay in order: replaying `ps ++ qs` is replaying `ps` and then, unless that
raised, `qs` on the resulting map set. -/
theorem map_replay_append (ps qs : List MapPacket) (s : MapSet) :
    replayMaps (ps ++ qs) s =
      (match replayMaps ps s with
       | .error e => .error e
       | .ok s' => replayMaps qs s') := by
  induction ps generalizing s with
  | nil => rfl
  | cons p ps ih =>
    simp only [List.cons_append, replayMaps]
    cases applyToMapSet p s with
    | error e => rfl
    | ok s' => exact ih s'

/-! ## Position and look -/

/-- Each coordinate is `cur + pkt` if its relative bit of `flags` is set, else `pkt` (bit `k` set
means `flags / 2^k` is odd: X=bit 0, Y=1, Z=2, YAW=3, PITCH=4); yaw and pitch are then reduced
modulo 360: the results lie in `[0, 360)` and differ from the unreduced angle by a whole number of
turns. -/
theorem position_apply (flags : Nat) (pkt cur : Pos) :
    let r := applyPosLook flags pkt cur
    let yaw₀ := if flags / 8 % 2 = 1 then cur.yaw + pkt.yaw else pkt.yaw
    let pitch₀ := if flags / 16 % 2 = 1 then cur.pitch + pkt.pitch else pkt.pitch
    r.x = (if flags % 2 = 1 then cur.x + pkt.x else pkt.x) ∧
    r.y = (if flags / 2 % 2 = 1 then cur.y + pkt.y else pkt.y) ∧
    r.z = (if flags / 4 % 2 = 1 then cur.z + pkt.z else pkt.z) ∧
    (0 ≤ r.yaw ∧ r.yaw < 360 ∧ ∃ n : Int, yaw₀ = r.yaw + 360 * (n : Rat)) ∧
    (0 ≤ r.pitch ∧ r.pitch < 360 ∧ ∃ n : Int, pitch₀ = r.pitch + 360 * (n : Rat)) := by
  have hx := relOrAbs_bit flags 0 cur.x pkt.x
  have hy := relOrAbs_bit flags 1 cur.y pkt.y
  have hz := relOrAbs_bit flags 2 cur.z pkt.z
  have hyaw := relOrAbs_bit flags 3 cur.yaw pkt.yaw
  have hpitch := relOrAbs_bit flags 4 cur.pitch pkt.pitch
  simp only [Nat.pow_zero, Nat.div_one, Nat.reducePow] at hx hy hz hyaw hpitch
  simp only [applyPosLook, FLAG_REL_X, FLAG_REL_Y, FLAG_REL_Z, FLAG_REL_YAW, FLAG_REL_PITCH,
    hx, hy, hz, hyaw, hpitch]
  exact ⟨trivial, trivial, trivial,
    ⟨(mod360_range _).1, (mod360_range _).2, mod360_congr _⟩,
    ⟨(mod360_range _).1, (mod360_range _).2, mod360_congr _⟩⟩

/-- An angle already in `[0, 360)` is not changed by the wrap. -/
theorem angle_wrap_id (a : Rat) (h0 : 0 ≤ a) (h1 : a < 360) : mod360 a = a := by
  unfold mod360
  have e : a = 360 * (a / 360) := by grind
  have f1 : (0 : Int) ≤ (a / 360).floor := Rat.le_floor_iff.2 (by
    show ((0 : Int) : Rat) ≤ a / 360
    simp; grind)
  have f2 : (a / 360).floor < (1 : Int) := Rat.floor_lt_iff.2 (by
    show a / 360 < ((1 : Int) : Rat)
    simp; grind)
  have : (a / 360).floor = 0 := by omega
  rw [this]; grind

/-- After any non-empty history of position packets, yaw and pitch lie in `[0, 360)`. -/
theorem position_replay_range (hist : List (Nat × Pos)) (cur : Pos) (h : hist ≠ []) :
    0 ≤ (replayPos hist cur).yaw ∧ (replayPos hist cur).yaw < 360 ∧
    0 ≤ (replayPos hist cur).pitch ∧ (replayPos hist cur).pitch < 360 := by
  rw [← List.dropLast_concat_getLast h]
  simp only [replayPos, List.foldl_append, List.foldl_cons, List.foldl_nil, applyPosLook]
  exact ⟨(mod360_range _).1, (mod360_range _).2, (mod360_range _).1, (mod360_range _).2⟩

/-! ## Flag names -/

/-- Loop invariant result: the names selected by `BitFieldEnum.name_from_value` (in printed order)
are member names whose values OR together to exactly `value`. -/
theorem bitfield_chosen_or (members : List (String × Nat)) (hnd : (members.map Prod.fst).Nodup)
    (value : Nat) (ns : List String) (h : chosenNames members value = some ns) :
    tokensValue members ns = some value ∧
    ∀ n ∈ ns, pyIsUpper n = true ∧ ∃ v, (n, v) ∈ members ∧ v ||| value = value :=
  ⟨tokensValue_chosen members hnd value ns h, chosenNames_mem members value ns h⟩

/-- The printed name of a flag value parses back to that value: for every class (distinct attribute
names, none containing `'|'`) and every value, if `name_from_value` returns a string then splitting
it at `'|'` and OR-ing the named members' values (`"0"` ↦ 0) gives the value back. -/
theorem bitfield_name_parses_back (members : List (String × Nat))
    (hnd : (members.map Prod.fst).Nodup) (hbar : ∀ p ∈ members, '|' ∉ p.1.toList)
    (value : Nat) (s : String) (h : nameFromValue members value = some s) :
    parseName members s = some value :=
  nameFromValue_parses members hnd hbar value s h

/-- Splitting a `'|'`-joined non-empty list of `'|'`-free names returns the list. -/
theorem split_join (names : List String) (hne : names ≠ [])
    (h : ∀ n ∈ names, '|' ∉ n.toList) : splitBar (joinBar names) = names :=
  splitBar_joinBar names hne h

/-- `name_from_value` returns `None` exactly when the greedy cover does not reach the value, i.e.
when the OR of ALL upper-case members that are sub-masks of `value` differs from `value`. -/
theorem bitfield_name_none_iff (members : List (String × Nat)) (value : Nat) :
    nameFromValue members value = none ↔
      orAll ((candidates members value).map Prod.snd) ≠ value := by
  rw [← chosenNames_none_iff]
  unfold nameFromValue
  split <;> simp_all

/-- The model's sort is Python's `sorted(..., reverse=True, key=value)`: a permutation, values
non-increasing, and stable (members of equal value keep their `__dict__` order). -/
theorem bitfield_sort_spec (l : List (String × Nat)) :
    (sortDesc l).Perm l ∧ (sortDesc l).Pairwise (fun a b => b.2 ≤ a.2) ∧
    ∀ k, (sortDesc l).filter (fun a => a.2 == k) = l.filter (fun a => a.2 == k) :=
  ⟨perm_sortDesc l, pairwise_sortDesc l, fun k => filter_sortDesc k l⟩

/-- Instantiation scheme for generated enums: if the computable check succeeds then every value
below 256 that prints parses back to itself. -/
theorem checkEnum_parses_back (members : List (String × Nat)) (h : checkEnum members = true) :
    ∀ v, v < 256 → ∀ s, nameFromValue members v = some s → parseName members s = some v := by
  intro v hv s hs
  unfold checkEnum at h
  rw [List.all_eq_true] at h
  have := h v (List.mem_range.2 hv)
  rw [hs] at this
  simpa using this

/-- Plain `Enum.name_from_value` returns the FIRST upper-case attribute with the given value, and
`None` exactly when there is none; with distinct names the printed name determines the value. -/
theorem enum_name_from_value (members : List (String × Int)) (value : Int) :
    (∀ n, enumNameFromValue members value = some n →
      ∃ pre post, members = pre ++ (n, value) :: post ∧ pyIsUpper n = true ∧
        ∀ p ∈ pre, ¬ (pyIsUpper p.1 = true ∧ p.2 = value)) ∧
    (enumNameFromValue members value = none ↔
      ∀ p ∈ members, ¬ (pyIsUpper p.1 = true ∧ p.2 = value)) :=
  ⟨fun n h => enumName_some members value n h, enumName_none_iff members value⟩

/-! ## Records -/

section records
variable {Val : Type} [DecidableEq Val]

/-- `==` compares field-wise: it returns `True` exactly when the classes are identical and every
slot is assigned on both sides to equal values. -/
theorem record_eq_fieldwise (a b : Rec Val) :
    recEq a b = .ok true ↔
      a.tag = b.tag ∧ ∀ n ∈ a.names, ∃ v, getSlot a n = .ok v ∧ getSlot b n = .ok v := by
  unfold recEq
  by_cases ht : a.tag = b.tag
  · simp only [ht, ne_eq, not_true_eq_false, if_false, true_and]
    exact allSlotsEq_true_iff a b a.slots
  · simp [ht]

/-- Records that compare equal hash equally (for any hash function `h` of the pair
`(type, tuple of slot values)`); in fact they are then identical and fully assigned.  Hypotheses:
records of the same class have the same slot names, and slot names are distinct. -/
theorem record_eq_hash (h : Nat → List Val → Nat) (pyNone : Val) (a b : Rec Val)
    (hcls : a.tag = b.tag → a.names = b.names) (hnd : a.names.Nodup)
    (heq : recEq a b = .ok true) :
    recHash h pyNone a = recHash h pyNone b ∧ a.tag = b.tag ∧ a.slots = b.slots := by
  obtain ⟨rfl, _⟩ := (recEq_true_iff a b hcls hnd).1 heq
  exact ⟨rfl, rfl, rfl⟩

/-- On fully assigned records `==` never raises and decides "same class and same slot values". -/
theorem record_eq_decides (a b : Rec Val) (hcls : a.tag = b.tag → a.names = b.names)
    (hnd : a.names.Nodup) (ha : a.complete = true) (hb : b.complete = true) :
    recEq a b = .ok (decide (a.tag = b.tag ∧ a.slots = b.slots)) := by
  -- `==` does not raise; its result is `True` exactly when `recEq_true_iff` says so
  have hex : ∃ c, recEq a b = .ok c := by
    by_cases ht : a.tag = b.tag
    · obtain ⟨c, hc⟩ := allSlotsEq_ok a b a.slots (fun n hn =>
        ⟨getSlot_of_complete a ha n hn, getSlot_of_complete b hb n (by rw [← hcls ht]; exact hn)⟩)
      exact ⟨c, by simp [recEq, ht, hc]⟩
    · exact ⟨false, by simp [recEq, ht]⟩
  obtain ⟨c, hc⟩ := hex
  have hiff := recEq_true_iff a b hcls hnd
  rw [hc] at hiff ⊢
  rw [Except.ok.injEq] at hiff ⊢
  rw [Bool.eq_iff_iff, decide_eq_true_iff, hiff]
  exact ⟨fun h => h.1 ▸ ⟨rfl, rfl⟩,
    fun h => ⟨by cases a; cases b; exact congr (congrArg Rec.mk h.1) h.2, ha⟩⟩
/-- `==` is reflexive (on fully assigned records), symmetric and transitive. -/
theorem record_eq_equivalence (a b c : Rec Val)
    (hab : a.tag = b.tag → a.names = b.names) (hbc : b.tag = c.tag → b.names = c.names)
    (hnd : a.names.Nodup) :
    (a.complete = true → recEq a a = .ok true) ∧
    (recEq a b = .ok true → recEq b a = .ok true) ∧
    (recEq a b = .ok true → recEq b c = .ok true → recEq a c = .ok true) := by
  -- records that compare equal are the same record
  refine ⟨fun hc => (recEq_true_iff a a (fun _ => rfl) hnd).2 ⟨rfl, hc⟩, fun h => ?_, fun h h' => ?_⟩
  · obtain ⟨rfl, _⟩ := (recEq_true_iff a b hab hnd).1 h
    exact h
  · obtain ⟨rfl, _⟩ := (recEq_true_iff a b hab hnd).1 h
    exact h'

/-- `!=` is the negation of `==` (and raises exactly when `==` does). -/
theorem record_ne (a b : Rec Val) :
    (∀ c, recNe a b = .ok c ↔ recEq a b = .ok (!c)) ∧
    (∀ e, recNe a b = .error e ↔ recEq a b = .error e) := by
  unfold recNe
  cases recEq a b with
  | error e => simp
  | ok x => cases x <;> simp

end records

/-! ## Vectors -/

/-- Vector arithmetic is component-wise and the result has the type of the LEFT/self operand
(`type(self)(…)`), whatever the type of the other vector; `+`/`-` with a non-vector give
`NotImplemented`. -/
theorem vector_ops_componentwise {α : Type} [Add α] [Sub α] [Neg α] [Mul α]
    (a b : Vec α) (k : α) :
    (∃ r, vadd a (.vec b) = some r ∧ r.ty = a.ty ∧
      r.x = a.x + b.x ∧ r.y = a.y + b.y ∧ r.z = a.z + b.z) ∧
    (∃ r, vsub a (.vec b) = some r ∧ r.ty = a.ty ∧
      r.x = a.x - b.x ∧ r.y = a.y - b.y ∧ r.z = a.z - b.z) ∧
    ((vneg a).ty = a.ty ∧ (vneg a).x = -a.x ∧ (vneg a).y = -a.y ∧ (vneg a).z = -a.z) ∧
    ((vmul a k).ty = a.ty ∧ (vmul a k).x = a.x * k ∧ (vmul a k).y = a.y * k ∧
      (vmul a k).z = a.z * k) ∧
    ((vrmul k a).ty = a.ty ∧ (vrmul k a).x = k * a.x ∧ (vrmul k a).y = k * a.y ∧
      (vrmul k a).z = k * a.z) ∧
    vadd a .nonVec = none ∧ vsub a .nonVec = none :=
  ⟨⟨_, rfl, rfl, rfl, rfl, rfl⟩, ⟨_, rfl, rfl, rfl, rfl, rfl⟩, ⟨rfl, rfl, rfl, rfl⟩,
   ⟨rfl, rfl, rfl, rfl⟩, ⟨rfl, rfl, rfl, rfl⟩, rfl, rfl⟩

/-- Floor division by a non-zero integer is component-wise true floor division (`k*q ≤ a < k*q+k`
for `k > 0`) and keeps the type; division by zero raises. -/
theorem vector_floordiv (a : Vec Int) (k : Int) :
    (k = 0 → vfloordiv a k = .error .other) ∧
    (0 < k → ∃ r, vfloordiv a k = .ok r ∧ r.ty = a.ty ∧
      (k * r.x ≤ a.x ∧ a.x < k * r.x + k) ∧ (k * r.y ≤ a.y ∧ a.y < k * r.y + k) ∧
      (k * r.z ≤ a.z ∧ a.z < k * r.z + k)) := by
  constructor
  · intro h; simp [vfloordiv, h]
  · intro hk
    have hne : k ≠ 0 := by omega
    refine ⟨⟨a.ty, a.x.fdiv k, a.y.fdiv k, a.z.fdiv k⟩, by simp [vfloordiv, hne], rfl, ?_, ?_, ?_⟩ <;>
    · simp only [Int.fdiv_eq_ediv_of_nonneg _ (Int.le_of_lt hk)]
      exact ⟨Int.mul_ediv_self_le hne, Int.lt_mul_ediv_self_add hk⟩

/-- Over the integers the component-wise operations obey the vector-space laws on components:
`a - b = a + (-b)`, `a + (-a) = 0`, `k * a = a * k`, and `+` is commutative up to the type tag. -/
theorem vector_int_laws (a b : Vec Int) (k : Int) :
    vsub a (.vec b) = vadd a (.vec (vneg b)) ∧
    vadd a (.vec (vneg a)) = some ⟨a.ty, 0, 0, 0⟩ ∧
    vrmul k a = vmul a k ∧
    (vadd a (.vec b)).map (fun r => (r.x, r.y, r.z)) =
      (vadd b (.vec a)).map (fun r => (r.x, r.y, r.z)) := by
  refine ⟨?_, ?_, ?_, ?_⟩
  · simp [vsub, vadd, vneg, Int.sub_eq_add_neg]
  · simp [vadd, vneg, Int.add_right_neg]
  · simp [vrmul, vmul, Int.mul_comm]
  · simp [vadd, Int.add_comm]

/-! ## Attribute aliases -/

section aliases
variable {Val : Type}

/-- `attribute_alias(name)`: reading through the alias returns what was set through it; setting
through the alias sets the underlying attribute and nothing else. -/
theorem alias_readback (o : Obj Val) (name : String) (v : Val) :
    aliasGet name (aliasSet name o v) = .ok v ∧
    getAttr (aliasSet name o v) name = .ok v ∧
    ∀ m, m ≠ name → getAttr (aliasSet name o v) m = getAttr o m :=
  ⟨getAttr_setAttr_self o name v, getAttr_setAttr_self o name v,
   fun m hm => getAttr_setAttr_ne o name m v hm⟩

/-- `attribute_transform(name, from_orig, to_orig)`: the underlying attribute receives
`to_orig(value)`; the alias round-trips when `from_orig ∘ to_orig = id`. -/
theorem alias_transform_readback (o : Obj Val) (name : String) (fromOrig toOrig : Val → Val)
    (hinv : ∀ v, fromOrig (toOrig v) = v) (v : Val) :
    transformGet name fromOrig (transformSet name toOrig o v) = .ok v ∧
    getAttr (transformSet name toOrig o v) name = .ok (toOrig v) := by
  simp [transformGet, transformSet, getAttr_setAttr_self, hinv]

/-- `multi_attribute_alias(container, *names)` with distinct names: setting a container of as many
values as names and reading back returns those values; each underlying attribute holds its
component; other attributes are untouched. -/
theorem alias_multi_readback (names : List String) (hnd : names.Nodup) (o : Obj Val)
    (vals : List Val) (hlen : vals.length = names.length) :
    multiGet names (multiSet names o vals) = .ok vals ∧
    (∀ n v, (n, v) ∈ names.zip vals → getAttr (multiSet names o vals) n = .ok v) ∧
    (∀ m, m ∉ names → getAttr (multiSet names o vals) m = getAttr o m) :=
  ⟨multiGet_multiSet names hnd o vals hlen,
   fun n v h => getAttr_multiSet_zip names hnd o vals n v h,
   fun m hm => getAttr_multiSet_not_mem names o vals m hm⟩

end aliases

/-! ## Non-vacuity: concrete instances -/

section examples

private def alice : Player := ⟨1, "alice", 0, 0, 10, none⟩
private def alice2 : Player := ⟨1, "alice", 0, 1, 20, some "A"⟩
private def bob : Player := ⟨2, "bob", 0, 0, 30, none⟩

-- add / overwrite keeps position; update of unknown is a no-op; remove + add goes to the end
example : replay [[.add alice, .add bob], [.add alice2, .gamemode 7 3, .remove 9]] [] =
    [(1, alice2), (2, bob)] := by decide
example : replay [[.add alice, .add bob], [.remove 1, .add alice2]] [] =
    [(2, bob), (1, alice2)] := by decide
example : ([(1, alice), (2, bob)] : PlayerList).map Prod.fst |>.Nodup := by decide
example : dictGet 7 ([(1, alice), (2, bob)] : PlayerList) = none := by decide

-- a 2×2 patch at (1,1) of a 4×3 map
private def m43 : MapState := { MapState.new none with width := 4, height := 3, pixels := List.replicate 12 0 }
example : applyPatch m43 2 (1, 1) (some [1, 2, 3, 4]) = .ok [0,0,0,0, 0,1,2,0, 0,3,4,0] := by decide
example : m43.width = 4 ∧ m43.pixels.length = 4 * 3 ∧ 1 + 2 ≤ 4 ∧ 1 + 2 ≤ 3 ∧
    ([1, 2, 3, 4] : Bytes).length = 2 * 2 := by decide
-- out-of-range behaviour: a row overflow wraps into the next row, a negative offset indexes from
-- the end, and far out of range raises (IndexError)
example : applyPatch m43 2 (3, 0) (some [1, 2]) = .ok [0,0,0,1, 2,0,0,0, 0,0,0,0] := by decide
example : applyPatch m43 1 (-1, 0) (some [9]) = .ok [0,0,0,0, 0,0,0,0, 0,0,0,9] := by decide
example : applyPatch m43 1 (0, 3) (some [9]) = .error .other := by decide
example : applyPatch m43 0 (0, 0) (some [9]) = .error .other := by decide

-- relative X and YAW (flags = 0x09): x adds, yaw adds and wraps; absolute pitch −90 wraps to 270
example : applyPosLook 9 ⟨1, 2, 3, 350, -90⟩ ⟨10, 20, 30, 20, 5⟩ = ⟨11, 2, 3, 10, 270⟩ := by
  decide +kernel

-- GameMode is a BitFieldEnum
private def gameMode : List (String × Nat) :=
  [("SURVIVAL", 0), ("CREATIVE", 1), ("ADVENTURE", 2), ("SPECTATOR", 3), ("HARDCORE", 8)]
example : nameFromValue gameMode 11 = some "SPECTATOR|HARDCORE" := by decide +kernel
example : nameFromValue gameMode 0 = some "SURVIVAL" := by decide +kernel
example : nameFromValue gameMode 4 = none := by decide +kernel
example : nameFromValue [("A", 1)] 0 = some "0" := by decide +kernel
example : parseName gameMode "SPECTATOR|HARDCORE" = some 11 := by decide +kernel
private theorem gameMode_clean :
    (gameMode.map Prod.fst).Nodup ∧ ∀ p ∈ gameMode, '|' ∉ p.1.toList := by decide +kernel
example : (gameMode.map Prod.fst).Nodup ∧ ∀ p ∈ gameMode, '|' ∉ p.1.toList := gameMode_clean
example : checkEnum gameMode = true := checkEnum_of_names gameMode gameMode_clean.1 gameMode_clean.2
example : enumNameFromValue [("lower", 1), ("TOP", 1), ("ALSO", 1)] 1 = some "TOP" := by
  decide +kernel

-- records
private def r1 : Rec Nat := ⟨5, [("uuid", some 1), ("name", some 2)]⟩
private def r2 : Rec Nat := ⟨5, [("uuid", some 1), ("name", none)]⟩
example : recEq r1 r1 = .ok true ∧ r1.complete = true ∧ r1.names.Nodup := by decide
/-- A partially initialised record is hashable but comparing it — even with itself — raises. -/
example : recEq r2 r2 = .error .other ∧ recHash (fun t vs => t + vs.sum) 0 r2 = 6 := by decide

-- vectors: Position + Vector is a Position, Vector + Position is a Vector
example : vadd (⟨.sub 1, 1, 2, 3⟩ : Vec Int) (.vec ⟨.vector, 10, 20, 30⟩) = some ⟨.sub 1, 11, 22, 33⟩ := by
  decide
example : vadd (⟨.vector, 10, 20, 30⟩ : Vec Int) (.vec ⟨.sub 1, 1, 2, 3⟩) = some ⟨.vector, 11, 22, 33⟩ := by
  decide
example : vfloordiv ⟨.vector, -7, 7, 0⟩ 2 = .ok ⟨.vector, -4, 3, 0⟩ := by decide

-- aliases: PositionAndLook.position = multi_attribute_alias(Vector, 'x', 'y', 'z')
example : multiGet ["x", "y", "z"] (multiSet ["x", "y", "z"] [("yaw", 0), ("x", 9)] [1, 2, 3]) =
    (.ok [1, 2, 3] : Except Err (List Nat)) := by decide
/-- With a repeated name the last value wins and the read-back differs from what was set. -/
example : multiGet ["x", "x"] (multiSet ["x", "x"] [] [1, 2]) =
    (.ok [2, 2] : Except Err (List Nat)) := by decide

end examples

end PyCraft.C20

/-! ## Every flag enum found in the library (tabulated from the live classes on every run) -/
namespace PyCraft.C20
open PyCraft.Gen PyCraft.Enums

/-- In every flag enum of the library the attribute names are distinct and free of `'|'`. -/
theorem library_flag_names_clean :
    ∀ e ∈ flagEnums, (e.2.map Prod.fst).Nodup ∧ ∀ p ∈ e.2, '|' ∉ p.1.toList := by decide +kernel

theorem library_flag_enums_check : ∀ e ∈ flagEnums, checkEnum e.2 = true :=
  fun e he =>
    have h := library_flag_names_clean e he
    checkEnum_of_names e.2 h.1 h.2

/-- For every flag enum in the library and every value 0..255: a printed name parses back to the
value it was printed for. -/
theorem library_flag_names_parse_back :
    ∀ e ∈ flagEnums, ∀ v, v < 256 → ∀ s, nameFromValue e.2 v = some s → parseName e.2 s = some v :=
  fun e he => checkEnum_parses_back e.2 (library_flag_enums_check e he)

example : flagEnums.length ≥ 3 := by decide +kernel

end PyCraft.C20
