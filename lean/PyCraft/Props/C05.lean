import PyCraft.Lemmas.Custom
import PyCraft.Lemmas.Layout
import PyCraft.Lemmas.LayoutTables
import PyCraft.Props.C02
/-!
# C05 (generic part) — packets declared as a list of typed fields round-trip

Model: `Model/Layout.lean` (`Packet.read` / `Packet.write_fields` over a `definition`), on top of
`Model/Wire.lean` (the field types, arbitrarily nested arrays included) and `Model/Custom.lean` (the
real codec of `Position`, `ChunkSectionPos`, the two `Record`s, `EffectPosition`, `Pitch`).  Helper
lemmas are in `Lemmas/Custom.lean`, `Lemmas/Layout.lean`, `Lemmas/LayoutTables.lean`.

A layout is a PROGRAM: any list of fields, of any length, with any nesting of arrays — this covers
user-defined packets.  The generic theorems hold for any custom codec `cc` with domain `cw` obeying
`CustomLaw`; they are instantiated for the real codec (`…_real`) and, through `decide +kernel` on
Bool checkers, for every layout tabulated from the live code (`Generated/Layouts.lean`).

NBT (`pynbt`) is outside the model: `realDom .nbt _ = False`, so for a layout with an NBT field the
round-trip theorems are vacuous; those layouts are exactly the ones of `nbtClasses`.
The hand-written codecs (`none` in the table) are in `Props/C05Hand.lean`.
-/
namespace PyCraft.C05
open PyCraft PyCraft.Gen PyCraft.LayoutCheck

/-! ## the custom codecs obey the law C02 asks for, and C02 instantiated for them -/

/-- `Position`, `ChunkSectionPos`, both `Record` formats, `ExplosionPacket.Record`,
`EffectPosition` and `Pitch`: every in-domain value encodes to a NON-EMPTY byte string that is read
back exactly whatever follows, and every strict prefix of which makes the reader raise. -/
theorem real_custom_law : CustomLaw realCustom realDom := realCustomLaw

/-- C02 round trip with the real custom codec plugged in: any self-delimiting type (arrays of
positions, of records, … included), any in-domain value, any continuation. -/
theorem dec_enc_real (t : WType) (hs : t.selfDelimiting = true) (v : Value)
    (hw : WellTyped realDom t v) (rest : Bytes) :
    ∃ bs, encode realCustom t v = .ok bs ∧ decode realCustom t (bs ++ rest) = .ok (v, rest) :=
  C02.dec_enc realCustomLaw t hs v hw rest

theorem enc_total_real (t : WType) (v : Value) (hw : WellTyped realDom t v) :
    ∃ bs, encode realCustom t v = .ok bs := C02.enc_total realCustomLaw t v hw

theorem enc_nonempty_real (t : WType) (hs : t.selfDelimiting = true) (v : Value)
    (hw : WellTyped realDom t v) (bs : Bytes) (he : encode realCustom t v = .ok bs) : bs ≠ [] :=
  C02.enc_nonempty realCustomLaw t hs v hw bs he

theorem dec_prefix_err_real (t : WType) (hs : t.selfDelimiting = true) (v : Value)
    (hw : WellTyped realDom t v) (bs : Bytes) (he : encode realCustom t v = .ok bs)
    (p : Bytes) (hp : p <+: bs) (hne : p ≠ bs) : ∃ e, decode realCustom t p = .error e :=
  C02.dec_prefix_err realCustomLaw t hs v hw bs he p hp hne

/-- NBT is not modelled: both directions are an (unspecific) error and nothing is in its domain. -/
theorem nbt_not_modelled (v : Value) (bs : Bytes) :
    realCustom.enc .nbt v = .error .other ∧ realCustom.dec .nbt bs = .error .other ∧
    ¬ realDom .nbt v := ⟨rfl, rfl, fun h => h⟩

/-! ## every layout (= every program) -/

section generic
variable {cc : CustomCodec} {cw : CustomT → Value → Prop}

/-- Round trip of a packet body.  For ANY admissible layout (every field but the last
self-delimiting, the last self-delimiting or a bare trailing byte array) and any in-domain values:
writing succeeds; reading the written bytes returns exactly the values and consumes the payload
EXACTLY (nothing left); and when every field is self-delimiting, reading the bytes followed by
anything returns the values and leaves exactly what followed. -/
theorem layout_rt (law : CustomLaw cc cw) (L : Layout) (vals : List Value)
    (hok : L.ok = true) (hw : WellTypedFields cw L vals) :
    ∃ bs, encodeFields cc L vals = .ok bs ∧
      (L.allSD = true → ∀ rest, decodeFields cc L (bs ++ rest) = .ok (vals, rest)) ∧
      decodeFields cc L bs = .ok (vals, []) :=
  fields_rt law L vals hok hw

/-- Writing never fails on in-domain values — for any layout at all, admissible or not. -/
theorem layout_enc_total (law : CustomLaw cc cw) (L : Layout) (vals : List Value)
    (hw : WellTypedFields cw L vals) : ∃ bs, encodeFields cc L vals = .ok bs := by
  induction L generalizing vals with
  | nil => rw [wtf_nil hw]; exact ⟨[], rfl⟩
  | cons f L ih =>
    obtain ⟨n, t⟩ := f
    obtain ⟨v, vs, rfl, hv, hvs⟩ := wtf_cons hw
    obtain ⟨a, ha⟩ := encode_total law t v hv
    obtain ⟨b, hb⟩ := ih vs hvs
    exact ⟨a ++ b, encodeFields_cons n t L v vs a b ha hb⟩

/-- Truncation is detected: when every field is self-delimiting, reading ANY strict prefix of a
written body raises — it never yields a packet. -/
theorem layout_prefix_err (law : CustomLaw cc cw) (L : Layout) (vals : List Value)
    (hs : L.allSD = true) (hw : WellTypedFields cw L vals) (bs : Bytes)
    (he : encodeFields cc L vals = .ok bs) (p : Bytes) (hp : p <+: bs) (hne : p ≠ bs) :
    ∃ e, decodeFields cc L p = .error e := by
  obtain ⟨bs', e1, _, e3⟩ := fields_item law L vals hs hw
  rw [he] at e1; cases e1
  exact e3 p hp hne

/-- The body is the concatenation of the field encodings, in field order: nothing is added between
fields (`f v` names the encoding of the value at each position). -/
theorem layout_bytes (L : Layout) (vals : List Value) (f : WType → Value → Bytes)
    (h : ∀ p ∈ L.zip vals, encode cc p.1.2 p.2 = .ok (f p.1.2 p.2)) (hl : vals.length = L.length) :
    encodeFields cc L vals = .ok ((L.zip vals).map fun p => f p.1.2 p.2).flatten := by
  induction L generalizing vals with
  | nil =>
    cases vals with
    | nil => rfl
    | cons v vs => simp at hl
  | cons g L ih =>
    obtain ⟨n, t⟩ := g
    cases vals with
    | nil => simp at hl
    | cons v vs =>
      have h1 := h ((n, t), v) (by simp)
      have h2 := ih vs (fun p hp => h p (by simp [hp])) (by simpa using hl)
      rw [encodeFields_cons n t L v vs _ _ h1 h2]
      simp

/-- A value list whose length differs from the number of fields is never written. -/
theorem layout_length (L : Layout) (vals : List Value) (bs : Bytes)
    (h : encodeFields cc L vals = .ok bs) : vals.length = L.length := by
  induction L generalizing vals bs with
  | nil =>
    cases vals with
    | nil => rfl
    | cons v vs => simp [encodeFields] at h
  | cons f L ih =>
    obtain ⟨n, t⟩ := f
    cases vals with
    | nil => simp [encodeFields] at h
    | cons v vs =>
      simp only [encodeFields, bind, Except.bind] at h
      split at h
      · simp at h
      · split at h
        · simp at h
        · next b hb => simp [ih vs b hb]

/-- The same round trip at the level of the packet OBJECT (`getattr` / `setattr`): if every field's
attribute is set to an in-domain value, `write_fields` succeeds, and `read` of the written bytes
into ANY other instance (attributes `other`) consumes them exactly and leaves every field's attribute
equal to the original's — also when a name occurs in several fields — and every other attribute of
the instance untouched. -/
theorem packet_rt (law : CustomLaw cc cw) (L : Layout) (attrs other : Attrs) (hok : L.ok = true)
    (hw : ∀ f ∈ L, ∃ v, attrs.lookup f.1 = some v ∧ WellTyped cw f.2 v) :
    ∃ bs, writeFields cc attrs L = .ok bs ∧
      ∃ attrs', readFields cc L other bs = .ok (attrs', []) ∧
        (∀ f ∈ L, attrs'.lookup f.1 = attrs.lookup f.1) ∧
        (∀ n, n ∉ L.map (·.1) → attrs'.lookup n = other.lookup n) := by
  have hsome : ∀ f ∈ L, (attrs.lookup f.1).isSome = true := fun f hf => by
    obtain ⟨v, hv, _⟩ := hw f hf; simp [hv]
  obtain ⟨bs, h1, h2⟩ := fields_exact law L _ hok (wtf_fieldValues attrs L hw)
  obtain ⟨z1, z2⟩ := zip_fieldValues attrs L hsome
  refine ⟨bs, by rw [writeFields_eq cc attrs L hsome, h1], _, readFields_eq cc L other bs _ _ h2,
    fun f hf => ?_, fun n hn => ?_⟩
  · rw [lookup_setAll attrs _ other z1 f.1, z2, if_pos (List.mem_map.mpr ⟨f, hf, rfl⟩)]
  · rw [lookup_setAll attrs _ other z1 n, z2, if_neg hn]

/-- `write_fields` on an instance lacking the attribute of some field raises (`AttributeError`, or
the error of an earlier field's `send`) — it never produces a packet body. -/
theorem packet_missing_attr (L : Layout) (attrs : Attrs) (f : String × WType) (hf : f ∈ L)
    (hn : attrs.lookup f.1 = none) : ∃ e, writeFields cc attrs L = .error e := by
  induction L with
  | nil => simp at hf
  | cons g L ih =>
    obtain ⟨n, t⟩ := g
    cases hl : attrs.lookup n with
    | none => exact ⟨.other, by simp only [writeFields, hl]⟩
    | some v =>
      have hf' : f ∈ L := by
        rcases List.mem_cons.mp hf with rfl | h
        · simp [hl] at hn
        · exact h
      obtain ⟨e, he⟩ := ih hf'
      simp only [writeFields, hl, he, bind, Except.bind]
      split <;> exact ⟨_, rfl⟩

end generic

/-! ### with the real custom codec -/

theorem layout_rt_real (L : Layout) (vals : List Value) (hok : L.ok = true)
    (hw : WellTypedFields realDom L vals) :
    ∃ bs, encodeFields realCustom L vals = .ok bs ∧
      (L.allSD = true → ∀ rest, decodeFields realCustom L (bs ++ rest) = .ok (vals, rest)) ∧
      decodeFields realCustom L bs = .ok (vals, []) := layout_rt realCustomLaw L vals hok hw

theorem layout_enc_total_real (L : Layout) (vals : List Value)
    (hw : WellTypedFields realDom L vals) : ∃ bs, encodeFields realCustom L vals = .ok bs :=
  layout_enc_total realCustomLaw L vals hw

theorem layout_prefix_err_real (L : Layout) (vals : List Value) (hs : L.allSD = true)
    (hw : WellTypedFields realDom L vals) (bs : Bytes)
    (he : encodeFields realCustom L vals = .ok bs) (p : Bytes) (hp : p <+: bs) (hne : p ≠ bs) :
    ∃ e, decodeFields realCustom L p = .error e :=
  layout_prefix_err realCustomLaw L vals hs hw bs he p hp hne

/-! ## the layouts tabulated from the live code -/

/-- (table, class, versions) of the generated layouts that contain an NBT field — the layouts about
which the model says nothing.  Computed from the table; reported, not asserted away. -/
def nbtClasses : List (String × String × List Nat) := nbtClassesOf layoutTables

/-- the classes of `nbtClasses` -/
def nbtClassNames : List (String × String) := [("cbPlay", "JoinGamePacket"), ("cbPlay", "RespawnPacket")]

/-- the classes with a hand-written `read` / `write_fields` (a class counts as hand-written when its
`read` or `write_fields` is not `Packet`'s own; the three `SpecialisedCombatEventPacket` subclasses
re-bind the generic ones and so have field layouts) -/
def handWrittenExpected : List (String × String) :=
  [("cbPlay", "CombatEventPacket"), ("cbPlay", "FacePlayerPacket"), ("cbPlay", "MapPacket"),
   ("cbPlay", "PlayerListItemPacket"), ("cbPlay", "SpawnObjectPacket"),
   ("sbLogin", "PluginResponsePacket")]

theorem checkEntries_ok : checkEntries idTables layoutTables = true := by decide +kernel
theorem checkCover_ok : checkCover idTables layoutTables = true := by decide +kernel
theorem checkLayouts_ok : checkLayouts layoutTables nbtClassNames = true := by decide +kernel

/-- For every state/direction table, every SUPPORTED protocol version and every packet class
registered for it: the class has an integer id, and the layout table has, under the same table name,
a row for the class with a variant — a list of typed fields, or `none` for a hand-written codec —
that lists this version.  So every packet the library can send or receive on a supported version is
covered either by the generic theorems of this file or by a hand-written model. -/
theorem every_supported_class_has_layout_or_hand_codec_and_id :
    ∀ t ∈ idTables, ∀ r ∈ t.2, r.2.1 = true → ∀ e ∈ r.2.2,
      (∃ i : Int, e.2 = some i) ∧
      ∃ rows, layoutTables.lookup t.1 = some rows ∧
        ∃ row ∈ rows, row.1 = e.1 ∧ ∃ var ∈ row.2, r.1 ∈ var.2 :=
  covered_of_checks idTables layoutTables checkEntries_ok checkCover_ok

/-- Every generated field layout is admissible (`Layout.ok`: a trailing byte array only in last
position, no array of trailing byte arrays), and contains an NBT field — the only type outside the
model — only for the classes of `nbtClassNames`. -/
theorem generated_layouts_ok :
    ∀ t ∈ layoutTables, ∀ row ∈ t.2, ∀ var ∈ row.2, ∀ L, var.1 = some L →
      Layout.ok L = true ∧ (Layout.hasNbt L = true → (t.1, row.1) ∈ nbtClassNames) :=
  checkLayouts_sound layoutTables nbtClassNames checkLayouts_ok

/-- … and both listed classes do have NBT layouts: the list is exact. -/
theorem nbt_classes_exact :
    ∀ x, x ∈ nbtClasses.map (fun y => (y.1, y.2.1)) ↔ x ∈ nbtClassNames :=
  sameSet_iff _ _ (by decide +kernel)

/-- The set of classes with a hand-written codec in the generated table is exactly
`handWrittenExpected`, and none of them also has a field layout in another version. -/
theorem hand_written_classes :
    (∀ x, x ∈ handWrittenOf layoutTables ↔ x ∈ handWrittenExpected) ∧
    ∀ x ∈ handWrittenOf layoutTables, x ∉ fieldClassesOf layoutTables := by
  have h : sameSet (handWrittenOf layoutTables) handWrittenExpected = true ∧
      ((handWrittenOf layoutTables).all fun x => !(fieldClassesOf layoutTables).contains x) = true := by
    decide +kernel
  refine ⟨sameSet_iff _ _ h.1, fun x hx hc => ?_⟩
  have := List.all_eq_true.mp h.2 x hx
  simp [hc] at this

/-- C05, generic part, on the live tables: EVERY generated field layout — every packet class of every
table whose codec is the generic one, under every protocol version it is registered for — round-trips
with the real custom codecs: writing in-domain values succeeds and reading them back yields equal
values and consumes the payload exactly.  (Vacuous exactly for the NBT layouts of `nbtClasses`, which
have no in-domain values; see `generated_layouts_inhabited` for all the others.) -/
theorem generated_layouts_rt :
    ∀ t ∈ layoutTables, ∀ row ∈ t.2, ∀ var ∈ row.2, ∀ L, var.1 = some L →
      ∀ vals, WellTypedFields realDom L vals →
        ∃ bs, encodeFields realCustom L vals = .ok bs ∧
          (Layout.allSD L = true → ∀ rest,
            decodeFields realCustom L (bs ++ rest) = .ok (vals, rest)) ∧
          decodeFields realCustom L bs = .ok (vals, []) := fun t ht row hrow var hvar L hL vals hw =>
  layout_rt_real L vals (generated_layouts_ok t ht row hrow var hvar L hL).1 hw

/-- Non-vacuity on the live tables: every generated layout WITHOUT an NBT field has in-domain
values (an explicit sample), so `generated_layouts_rt` says something about each of them. -/
theorem generated_layouts_inhabited :
    ∀ t ∈ layoutTables, ∀ row ∈ t.2, ∀ var ∈ row.2, ∀ L, var.1 = some L →
      (t.1, row.1) ∉ nbtClassNames → ∃ vals, WellTypedFields realDom L vals := by
  intro t ht row hrow var hvar L hL hn
  refine ⟨L.map fun f => sampleVal f.2, sample_wellTypedFields L ?_⟩
  cases h : Layout.hasNbt L with
  | false => rfl
  | true => exact absurd ((generated_layouts_ok t ht row hrow var hvar L hL).2 h) hn

/-! ## non-vacuity -/

/-- a three-field layout with a nested array and a custom type; in-domain values; the body -/
private def exL : Layout :=
  [("id", .varint), ("grid", .array .varint (.array .u8 (.custom (.position true)))),
   ("data", .trailing)]
private def exV : List Value :=
  [.int 300, .list [.list [Value.ofInts [1, 2, 3], Value.ofInts [-1, -2, -3]], .list []],
   .bytes [0xde, 0xad]]
private def exB : Bytes :=
  [0xac, 0x02, 2, 2, 0, 0, 0, 0x40, 0, 0, 0x30, 0x02, 0xff, 0xff, 0xff, 0xff, 0xff, 0xff, 0xdf, 0xfe,
   0, 0xde, 0xad]

private theorem exW : WellTypedFields realDom exL exV := by
  refine ⟨?_, ?_, ?_, True.intro⟩
  · show (0 : Int) ≤ 300 ∧ (300 : Int) < 2 ^ 32; omega
  · simp [WellTyped]; decide
  · exact True.intro

example : exL.ok = true ∧ exL.allSD = false := by decide
example : encodeFields realCustom exL exV = .ok exB := by decide +kernel
example : ∃ bs, encodeFields realCustom exL exV = .ok bs ∧ decodeFields realCustom exL bs = .ok (exV, []) := by
  obtain ⟨bs, h1, _, h3⟩ := layout_rt_real exL exV (by decide) exW
  exact ⟨bs, h1, h3⟩
example : ∃ bs, encodeFields realCustom exL exV = .ok bs := layout_enc_total_real exL exV exW

/-- the same without the trailing field: all fields self-delimiting -/
private def exL2 : Layout := exL.take 2
private theorem exW2 : WellTypedFields realDom exL2 (exV.take 2) := ⟨exW.1, exW.2.1, True.intro⟩
example : exL2.allSD = true := by decide
example : ∃ e, decodeFields realCustom exL2 (exB.take 10) = .error e :=
  layout_prefix_err_real exL2 (exV.take 2) (by decide) exW2 (exB.take 21) (by decide +kernel)
    (exB.take 10) (by decide) (by decide)
example : decodeFields realCustom exL2 (exB.take 21 ++ [9, 9]) = .ok (exV.take 2, [9, 9]) := by
  obtain ⟨bs, h1, h2, _⟩ := layout_rt_real exL2 (exV.take 2) (by decide) exW2
  have e : encodeFields realCustom exL2 (exV.take 2) = .ok (exB.take 21) := by decide +kernel
  rw [e] at h1; cases h1
  exact h2 (by decide) [9, 9]

/-- why `Layout.ok` excludes an ARRAY of trailing byte arrays even in last position: the first
element swallows the second -/
example : encodeFields noCustomCodec [("a", .array .varint .trailing)] [.list [.bytes [1], .bytes [2]]]
      = .ok [2, 1, 2] ∧
    decodeFields noCustomCodec [("a", .array .varint .trailing)] [2, 1, 2]
      = .ok ([.list [.bytes [1, 2], .bytes []]], []) := ⟨by decide +kernel, rfl⟩
/-- … and a trailing byte array that is not last: it swallows the following field -/
example : ∃ e, decodeFields noCustomCodec [("a", .trailing), ("b", .bool)] [7, 1] = .error e :=
  ⟨.struct, rfl⟩

/-- a packet object: attributes in any order, an unrelated attribute, a name used twice -/
example : ∃ bs, writeFields realCustom [("y", .int 2), ("zzz", .bool true), ("x", .int 1)]
      [("x", .varint), ("y", .int .i8), ("x", .varint)] = .ok bs ∧ bs = [1, 2, 1] :=
  ⟨_, by decide +kernel, rfl⟩
example : ∃ e, writeFields realCustom [("y", .int 2)] [("y", .int .i8), ("x", .varint)] = .error e :=
  packet_missing_attr _ _ ("x", .varint) (by decide) (by decide)

-- the generated tables are not trivial
example : (fieldLayouts layoutTables).length ≥ 80 := by decide +kernel
example : ∃ t ∈ idTables, ∃ r ∈ t.2, r.1 = 757 ∧ r.2.1 = true ∧ r.2.2.length ≥ 20 :=
  ⟨("cbPlay", cbPlay), .tail _ (.tail _ (.tail _ (.head _))), by decide +kernel⟩

end PyCraft.C05
