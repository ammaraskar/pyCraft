import PyCraft.Lemmas.Negotiate
/-!
# C09 — Status queries and version negotiation pick the right version or the right error

Only property theorems and non-vacuity examples live here; helper lemmas are in
`Lemmas/Negotiate.lean`.  Every statement is for ALL version tables `env : VEnv`; the only sanity
hypothesis ever used is `Sane env` (every supported protocol has a rank, i.e.
`SUPPORTED_PROTOCOL_VERSIONS ⊆ KNOWN_PROTOCOL_VERSIONS`, which `initglobals` guarantees), and it is
needed only where Python would otherwise raise `TypeError` from `max`.  Python sets are
duplicate-free lists; `rankOf env v` is `PROTOCOL_VERSION_INDICES[v]`.
-/
namespace PyCraft.C09
open PyCraft PyCraft.Neg

/-! ## Negotiation outcome -/

/-- Soundness: the client goes on to log in with version `v` only if the server reported exactly
`v` and `v` is allowed, or the reply carried no version / no protocol key / the server closed
without replying and `v` is the configured default. -/
theorem negotiate_sound (env : VEnv) (allowed : List Nat) (dflt : Nat) (r : StatusReply) (v : Nat)
    (h : evalStatus env allowed dflt r = .connect v) :
    (∃ n name, r = .proto n name ∧ n = (v : Int) ∧ v ∈ allowed) ∨
      ((r = .noVersion ∨ r = .noProtocolKey ∨ r = .closedBeforeReply) ∧ v = dflt) := by
  cases r with
  | proto n name =>
    left
    simp only [evalStatus, handleProtoVersion, versionMismatch] at h
    split at h
    · rename_i hz
      obtain ⟨w, hw, rfl⟩ := (inZ_iff _ _).1 hz
      simp only [Int.toNat_natCast, NegOutcome.connect.injEq] at h
      subst h
      exact ⟨_, name, rfl, rfl, hw⟩
    · cases h
  | emptyObj => cases h
  | noVersion | noProtocolKey | closedBeforeReply =>
    cases h
    exact .inr ⟨by simp, rfl⟩

/-- Completeness, for every integer the server may report:
(1) an allowed protocol number is accepted as is;
(2) any other integer (negative ones included) yields a version mismatch that carries the
    server's number and name, flagged `supported` exactly when the number is a supported protocol;
(3) replies without a version, without a protocol key, or a closed stream fall back to the default;
(4) the empty status object is rejected as invalid and never leads to a login. -/
theorem negotiate_complete (env : VEnv) (allowed : List Nat) (dflt : Nat) :
    (∀ (n : Nat) name, n ∈ allowed →
        evalStatus env allowed dflt (.proto (n : Int) name) = .connect n) ∧
    (∀ (n : Int) name, (∀ v ∈ allowed, (v : Int) ≠ n) →
        ∃ b, evalStatus env allowed dflt (.proto n name) = .mismatch n name b ∧
          (b = true ↔ ∃ p ∈ env.supportedProtocols, (p : Int) = n)) ∧
    (evalStatus env allowed dflt .noVersion = .connect dflt ∧
      evalStatus env allowed dflt .noProtocolKey = .connect dflt ∧
      evalStatus env allowed dflt .closedBeforeReply = .connect dflt) ∧
    (evalStatus env allowed dflt .emptyObj = .invalidStatus ∧
      ∀ v, evalStatus env allowed dflt .emptyObj ≠ .connect v) := by
  refine ⟨?_, ?_, ⟨rfl, rfl, rfl⟩, rfl, fun v h => by cases h⟩
  · intro n name hn
    have : inZ (n : Int) allowed = true := (inZ_iff _ _).2 ⟨n, hn, rfl⟩
    simp [evalStatus, this, handleProtoVersion]
  · intro n name hn
    have : inZ n allowed = false := Bool.eq_false_iff.2 fun hz =>
      have ⟨w, hw, he⟩ := (inZ_iff _ _).1 hz
      hn w hw he
    refine ⟨inZ n env.supportedProtocols, ?_, inZ_iff _ _⟩
    simp [evalStatus, this, versionMismatch]

/-- The text of the mismatch error.  When the server's number `n` is not allowed, the error's text
is exactly `Server's protocol version of <n in decimal>[ (<name>)] is not supported.` if `n` is not
a supported protocol, and `… is supported, but not allowed for this connection.` if it is. -/
theorem mismatch_message_correct (env : VEnv) (allowed : List Nat) (dflt : Nat) (n : Int)
    (name : Option String) (hn : ∀ v ∈ allowed, (v : Int) ≠ n) :
    ∃ b, evalStatus env allowed dflt (.proto n name) = .mismatch n name b ∧
      ((∃ p ∈ env.supportedProtocols, (p : Int) = n) →
        mismatchMessage n name b =
          "Server's protocol version of " ++ toString n ++
            (match name with | none => "" | some s => " (" ++ s ++ ")") ++
            " is supported, but not allowed for this connection.") ∧
      ((∀ p ∈ env.supportedProtocols, (p : Int) ≠ n) →
        mismatchMessage n name b =
          "Server's protocol version of " ++ toString n ++
            (match name with | none => "" | some s => " (" ++ s ++ ")") ++
            " is not supported.") := by
  obtain ⟨b, hb, hiff⟩ := (negotiate_complete env allowed dflt).2.1 n name hn
  refine ⟨b, hb, fun hs => ?_, fun hs => ?_⟩
  · rw [mismatchMessage_eq, if_pos (hiff.2 hs)]
    rfl
  · have hb' : ¬ b = true := fun hb' =>
      have ⟨p, hp, he⟩ := hiff.1 hb'
      hs p hp he
    rw [mismatchMessage_eq, if_neg hb']
    rfl

/-- The two wordings cannot be confused, whatever the server's number and name are: the message
ends in `" is not supported."` iff the flag says unsupported, and ends in
`" is supported, but not allowed for this connection."` iff the flag says supported. -/
theorem mismatch_message_distinguishes (n : Int) (name : Option String) (b : Bool) :
    (" is not supported.".toList <:+ (mismatchMessage n name b).toList ↔ b = false) ∧
    (" is supported, but not allowed for this connection.".toList
        <:+ (mismatchMessage n name b).toList ↔ b = true) := by
  -- an ending of a text that ends in the one wording is comparable, as a suffix, with that
  -- wording; and neither wording is a suffix of the other
  have hends : ¬ " is not supported.".toList <:+
        " is supported, but not allowed for this connection.".toList ∧
      ¬ " is supported, but not allowed for this connection.".toList <:+
        " is not supported.".toList := by decide +kernel
  have key : ∀ pre s t : List Char, ¬ t <:+ s → ¬ s <:+ t → ¬ t <:+ pre ++ s :=
    fun pre s t h₁ h₂ h =>
      (List.suffix_or_suffix_of_suffix h (List.suffix_append pre s)).elim h₁ h₂
  rw [mismatchMessage_eq, String.toList_append]
  cases b with
  | false =>
    exact ⟨⟨fun _ => rfl, fun _ => List.suffix_append _ _⟩,
      ⟨fun h => absurd h (key _ _ _ hends.2 hends.1), fun h => by cases h⟩⟩
  | true =>
    exact ⟨⟨fun h => absurd h (key _ _ _ hends.1 hends.2), fun h => by cases h⟩,
      ⟨fun _ => rfl, fun _ => List.suffix_append _ _⟩⟩

/-! ## When a status query is made -/

/-- With exactly one allowed version no status query is made: `connect()` logs in directly with
that version (whether or not it has a rank — `max` of a singleton compares nothing); and a direct
login happens ONLY for a one-element allowed set. -/
theorem single_no_query (env : VEnv) (allowed : List Nat) :
    (allowed.length = 1 → ∃ v, allowed = [v] ∧ connectPlan env allowed = .ok (.direct v)) ∧
    (∀ v, connectPlan env allowed = .ok (.direct v) → allowed = [v]) := by
  constructor
  · intro h1
    match allowed, h1 with
    | [v], _ => exact ⟨v, rfl, rfl⟩
  · intro v h
    rcases connectPlan_ok env allowed _ h with ⟨w, hw, hp⟩ | ⟨_, w, hp, _⟩
    · cases hp
      exact hw
    · cases hp

/-- With two or more allowed versions (all of which have a rank) a status query is made, and its
handshake carries the latest allowed version: a member of the allowed set that is strictly later
than every other member. -/
theorem many_query_latest (env : VEnv) (allowed : List Nat) (h2 : 2 ≤ allowed.length)
    (hr : ∀ a ∈ allowed, a ∈ env.knownOrder) :
    ∃ v, connectPlan env allowed = .ok (.query v) ∧ v ∈ allowed ∧
      ∀ a ∈ allowed, a ≠ v → rankOf env a < rankOf env v := by
  obtain ⟨v, hp, hl⟩ := connectPlan_many env allowed h2 hr
  exact ⟨v, hp, latest_spec env allowed v hl⟩

/-- An empty allowed set makes `connect()` raise `ValueError` (from `max`); two or more versions of
which one has no rank make it raise `TypeError`; there is no other failure. -/
theorem plan_errors (env : VEnv) (allowed : List Nat) (e : Err)
    (h : connectPlan env allowed = .error e) :
    (allowed = [] ∧ e = .value) ∨
      (2 ≤ allowed.length ∧ e = .type ∧ ∃ a ∈ allowed, a ∉ env.knownOrder) := by
  unfold connectPlan at h
  split at h
  next e' hl =>
    cases h
    exact latest_err env allowed _ hl
  · split at h <;> cases h

/-- After negotiation settles on `v` (server's version or the default), `handle_proto_version`
sets the allowed set to `{v}` and calls `connect()` again: that second call logs in directly with
`v`, with no further status query. -/
theorem followup_direct (env : VEnv) (allowed : List Nat) (dflt : Nat) (r : StatusReply) (v : Nat)
    (_h : evalStatus env allowed dflt r = .connect v) :
    connectPlan env [v] = .ok (.direct v) := connectPlan_single env v

/-! ## Construction -/

/-- What it means for a requested version to be accepted: a `str` must be a key of
`SUPPORTED_MINECRAFT_VERSIONS` whose protocol is supported, an `int` must itself be a supported
protocol number, anything else is refused; and a refusal is always `ValueError`. -/
theorem resolve_spec (env : VEnv) (r : VReq) :
    (∀ v, resolve env r = .ok v ↔
      v ∈ env.supportedProtocols ∧
        (r = .num (v : Int) ∨ ∃ s, r = .name s ∧ dictGet env.supportedNames s = some v)) ∧
    (∀ e, resolve env r = .error e → e = .value) :=
  ⟨resolve_ok_iff env r, resolve_err env r⟩

/-- In a sane environment the constructor's only failure is `ValueError`. -/
theorem ctor_error_kind (env : VEnv) (hsane : Sane env) (allowed : Option (List VReq))
    (initial : Option VReq) (e : Err) (h : ctor env allowed initial = .error e) : e = .value := by
  rcases ctor_err env allowed _ e h with ha | ⟨al, ha, hl⟩ | ⟨r', _, he⟩
  · exact allowedSet_err env allowed e ha
  · rcases latest_err env al e hl with ⟨_, he⟩ | ⟨_, _, a, ha', hna⟩
    · exact he
    · exact absurd (hsane a (allowedSet_sub env allowed al ha a ha')) hna
  · exact resolve_err env r' e he

/-- Unknown or unsupported versions are refused at construction: if any element of
`allowed_versions` does not resolve to a supported protocol, the constructor raises `ValueError`
(whatever `initial_version` is); so does an empty `allowed_versions`; and in a sane environment so
does an `initial_version` that does not resolve. -/
theorem ctor_refuses_unsupported (env : VEnv) :
    (∀ reqs initial, (∃ r ∈ reqs, ∀ v, resolve env r ≠ .ok v) →
        ctor env (some reqs) initial = .error .value) ∧
    (∀ initial, ctor env (some []) initial = .error .value) ∧
    (Sane env → ∀ allowed r, (∀ v, resolve env r ≠ .ok v) →
        ctor env allowed (some r) = .error .value) := by
  refine ⟨?_, ?_, ?_⟩
  · intro reqs initial hbad
    simp [ctor, allowedSet, resolveAll_bad env reqs hbad]
  · intro initial
    have : toSet env [] = [] := (toSet_eq_nil env []).2 rfl
    simp [ctor, allowedSet, resolveAll, this, latest]
  · intro hsane allowed r hbad
    cases h : ctor env allowed (some r) with
    | ok cfg =>
      exact absurd ((ctor_ok env allowed _ cfg h).2.2.2 r rfl) (hbad _)
    | error e => rw [ctor_error_kind env hsane allowed _ e h]

/-- What a successful construction guarantees: the allowed set is a non-empty duplicate-free
subset of the supported protocols, consisting exactly of the resolved requests (or of all supported
protocols when `allowed_versions is None`); the default is a supported protocol; the context
version is the latest allowed version (a member, strictly later than every other member); the
default equals it when no `initial_version` was given, and is the resolved `initial_version`
otherwise — which need NOT be a member of the allowed set. -/
theorem ctor_ok_spec (env : VEnv) (allowed : Option (List VReq)) (initial : Option VReq)
    (cfg : Cfg) (h : ctor env allowed initial = .ok cfg) :
    cfg.allowed.Nodup ∧ cfg.allowed ≠ [] ∧
    (∀ v ∈ cfg.allowed, v ∈ env.supportedProtocols) ∧
    (allowed = none → ∀ v, v ∈ cfg.allowed ↔ v ∈ env.supportedProtocols) ∧
    (∀ reqs, allowed = some reqs → ∀ v, v ∈ cfg.allowed ↔ ∃ r ∈ reqs, resolve env r = .ok v) ∧
    cfg.default ∈ env.supportedProtocols ∧
    cfg.ctx ∈ cfg.allowed ∧
    (∀ a ∈ cfg.allowed, a ≠ cfg.ctx → rankOf env a < rankOf env cfg.ctx) ∧
    (initial = none → cfg.default = cfg.ctx) ∧
    (∀ r, initial = some r → resolve env r = .ok cfg.default) := by
  obtain ⟨ha, hl, hd1, hd2⟩ := ctor_ok env allowed initial cfg h
  obtain ⟨l, hal, _, hs1, hs2⟩ := allowedSet_ok env allowed cfg.allowed ha
  obtain ⟨hmem, hmax⟩ := latest_spec env cfg.allowed cfg.ctx hl
  have hsub := allowedSet_sub env allowed cfg.allowed ha
  -- membership in the canonical set of `l` is membership in `l`
  have hin : ∀ v, v ∈ cfg.allowed ↔ v ∈ l := fun v => hal ▸ mem_toSet env l v
  refine ⟨hal ▸ nodup_toSet env l, List.ne_nil_of_mem hmem, hsub, fun hn v => ?_,
    fun reqs hr v => (hin v).trans (hs2 reqs hr v), ?_, hmem, hmax, hd1, hd2⟩
  · rw [hin v, hs1 hn]
  · cases initial with
    | none =>
      rw [hd1 rfl]
      exact hsub _ hmem
    | some r => exact ((resolve_ok_iff env r _).1 (hd2 r rfl)).1

/-- Construction succeeds whenever it should: in a sane environment, if `allowed_versions` is
`None` and something is supported, or is a non-empty collection all of whose elements resolve, and
`initial_version` is `None` or resolves, then the constructor returns. -/
theorem ctor_succeeds (env : VEnv) (hsane : Sane env) (allowed : Option (List VReq))
    (initial : Option VReq)
    (ha : match allowed with
      | none => env.supportedProtocols ≠ []
      | some reqs => reqs ≠ [] ∧ ∀ r ∈ reqs, ∃ v, resolve env r = .ok v)
    (hi : ∀ r, initial = some r → ∃ v, resolve env r = .ok v) :
    ∃ cfg, ctor env allowed initial = .ok cfg := by
  have hal : ∃ al, allowedSet env allowed = .ok al ∧ al ≠ [] := by
    cases allowed with
    | none => exact ⟨_, rfl, mt (toSet_eq_nil env _).1 ha⟩
    | some reqs =>
      obtain ⟨l, hl⟩ := resolveAll_good env reqs ha.2
      refine ⟨toSet env l, by simp only [allowedSet, hl], mt (toSet_eq_nil env l).1 ?_⟩
      obtain ⟨r, hr⟩ := List.exists_mem_of_ne_nil _ ha.1
      obtain ⟨v, hv⟩ := ha.2 r hr
      exact List.ne_nil_of_mem ((resolveAll_ok env reqs l hl v).2 ⟨r, hr, hv⟩)
  obtain ⟨al, hal, hne⟩ := hal
  obtain ⟨lt, hlt⟩ := latest_ok_of_ranked env al hne
    (fun a ha' => hsane a (allowedSet_sub env allowed al hal a ha'))
  cases initial with
  | none => exact ⟨⟨al, lt, lt⟩, by simp only [ctor, hal, hlt]⟩
  | some r =>
    obtain ⟨v, hv⟩ := hi r rfl
    exact ⟨⟨al, v, lt⟩, by simp only [ctor, hal, hlt, hv]⟩

/-- In a sane environment whose rank table has no repeats, the allowed set produced by the
constructor is listed in ascending rank (it is a sub-list of `KNOWN_PROTOCOL_VERSIONS`) — the
canonical form printed by the driver. -/
theorem ctor_allowed_sorted (env : VEnv) (hsane : Sane env) (hk : env.knownOrder.Nodup)
    (allowed : Option (List VReq)) (initial : Option VReq) (cfg : Cfg)
    (h : ctor env allowed initial = .ok cfg) : cfg.allowed.Sublist env.knownOrder := by
  obtain ⟨ha, _⟩ := ctor_ok env allowed initial cfg h
  obtain ⟨l, hal, hl, _⟩ := allowedSet_ok env allowed cfg.allowed ha
  rw [hal, toSet_eq_filter env l hk (fun x hx => hsane x (hl x hx))]
  exact List.filter_sublist

/-! ## What goes on the wire -/

/-- Every TCP connection `connect()` opens starts with a handshake carrying the configured host
and port, followed either by a login start (next state 2) naming the authenticated profile if there
is an auth token and the configured user name otherwise, or by a status request (next state 1) whose
handshake carries the latest allowed version.  If the outcome is `connect v`, the LAST connection
is `[handshake(v, host, port, 2), login start]` — the chosen protocol number is the one in the
handshake.  If the outcome is an error, the only connection is the status query: no login start is
ever sent. -/
theorem handshake_fields (env : VEnv) (p : ConnParams) (allowed : List Nat) (dflt : Nat)
    (r : StatusReply) (s : Session) (h : session env p allowed dflt r = .ok s) :
    (∀ fr ∈ s.conns, ∃ hs rest, fr = .handshake hs :: rest ∧ hs.host = p.host ∧ hs.port = p.port ∧
        ((hs.next = 2 ∧ rest = [.loginStart (loginName p)]) ∨
         (hs.next = 1 ∧ rest = [.statusRequest] ∧ latest env allowed = .ok hs.proto))) ∧
    (∀ v, s.outcome = .connect v →
        s.conns.getLast? = some [.handshake ⟨v, p.host, p.port, 2⟩, .loginStart (loginName p)]) ∧
    ((∀ v, s.outcome ≠ .connect v) →
        ∃ q, s.conns = [[.handshake ⟨q, p.host, p.port, 1⟩, .statusRequest]]) ∧
    (loginName p = match p.authProfile with | some a => some a | none => p.username) := by
  rcases session_ok env p allowed dflt r s h with ⟨v, rfl, rfl⟩ | ⟨q, _, hl, rfl⟩
  · refine ⟨fun fr hfr => ?_, fun v' hv' => ?_, fun hno => absurd rfl (hno v), rfl⟩
    · cases List.mem_singleton.1 hfr
      exact ⟨⟨v, p.host, p.port, 2⟩, _, rfl, rfl, rfl, .inl ⟨rfl, rfl⟩⟩
    · cases hv'
      rfl
  · refine ⟨fun fr hfr => ?_, fun v hv => ?_, fun hno => ?_, rfl⟩
    · rcases List.mem_cons.1 hfr with rfl | hfr
      · exact ⟨⟨q, p.host, p.port, 1⟩, _, rfl, rfl, rfl, .inr ⟨rfl, rfl, hl⟩⟩
      · obtain ⟨v, _, rfl⟩ := mem_followUp hfr
        exact ⟨⟨v, p.host, p.port, 2⟩, _, rfl, rfl, rfl, .inl ⟨rfl, rfl⟩⟩
    · show (_ :: followUp p (evalStatus env allowed dflt r)).getLast? = _
      rw [show evalStatus env allowed dflt r = .connect v from hv]
      rfl
    · cases ho : evalStatus env allowed dflt r with
      | connect v => exact absurd ho (hno v)
      | mismatch _ _ _ | invalidStatus => exact ⟨q, rfl⟩

/-- The session's outcome is the negotiation outcome: with one allowed version it is `connect`
that version on a single connection; otherwise it is `evalStatus` of the server's reply, reached
after exactly one status-query connection, plus one login connection iff the outcome is `connect`. -/
theorem session_outcome (env : VEnv) (p : ConnParams) (allowed : List Nat) (dflt : Nat)
    (r : StatusReply) (s : Session) (h : session env p allowed dflt r = .ok s) :
    (∃ v, allowed = [v] ∧ s.outcome = .connect v ∧ s.conns.length = 1) ∨
    (2 ≤ allowed.length ∧ s.outcome = evalStatus env allowed dflt r ∧
      s.conns.length = (match s.outcome with | .connect _ => 2 | _ => 1)) := by
  rcases session_ok env p allowed dflt r s h with ⟨v, rfl, rfl⟩ | ⟨q, h2, _, rfl⟩
  · exact .inl ⟨v, rfl, rfl, rfl⟩
  · refine .inr ⟨h2, rfl, ?_⟩
    cases evalStatus env allowed dflt r <;> rfl

/-! ## Plain status query -/

/-- Status query WITHOUT latency: for a server that answers with a response (followed by anything
at all), the handler gets that status exactly once, no ping is sent, no latency is reported, the
connection is closed by exactly one `disconnect`, the exit callback runs exactly once, nothing
sent after the response is reacted to, and no clock reading is taken. -/
theorem status_once_noping (j : String) (extra : List StatusPkt) (clock : List Nat) :
    runStatus false (.response j :: extra) clock =
      some ⟨[.disconnect, .handleStatus j], true, 1⟩ := by
  simp [runStatus, runLoop, usesTimer, react, StatusSt.init, StatusSt.disc, runLoop_interrupted]

/-- Status query WITH latency, compliant server (`response`, then a pong echoing the ping's time):
the handler gets the status exactly once, exactly one ping is sent (stamped with the first clock
reading), the latency handler is called exactly once with `second reading − first reading`, which
is non-negative for a monotone clock; then exactly one `disconnect`, exit callback exactly once,
and nothing sent after the pong is reacted to. -/
theorem status_once_ping (j : String) (extra : List StatusPkt) (t₁ t₂ : Nat) (clock : List Nat)
    (hmono : t₁ ≤ t₂) :
    runStatus true (.response j :: .pong (t₁ : Int) :: extra) (t₁ :: t₂ :: clock) =
      some ⟨[.sendPing t₁, .handleStatus j, .disconnect, .handlePing ((t₂ : Int) - t₁)], true, 1⟩ ∧
    (0 : Int) ≤ (t₂ : Int) - t₁ := by
  refine ⟨?_, by omega⟩
  simp [runStatus, runLoop, usesTimer, react, StatusSt.init, StatusSt.disc, runLoop_interrupted]

/-- `status_once` in one statement, for the compliant script `[response] ++ [pong if doPing]`:
`handleStatus` occurs exactly once, `sendPing` and `handlePing` occur iff latency was requested,
exactly one `disconnect`, the connection ends closed and the exit callback ran exactly once. -/
theorem status_once (doPing : Bool) (j : String) (extra : List StatusPkt) (t₁ t₂ : Nat)
    (clock : List Nat) (hmono : t₁ ≤ t₂) :
    ∃ run, runStatus doPing
        (.response j :: ((if doPing then [StatusPkt.pong (t₁ : Int)] else []) ++ extra))
        (t₁ :: t₂ :: clock) = some run ∧
      run.acts.count (.handleStatus j) = 1 ∧
      (∀ j', Act.handleStatus j' ∈ run.acts → j' = j) ∧
      run.acts.count .disconnect = 1 ∧
      ((∃ t, Act.sendPing t ∈ run.acts) ↔ doPing = true) ∧
      ((∃ l, Act.handlePing l ∈ run.acts) ↔ doPing = true) ∧
      (∀ l, Act.handlePing l ∈ run.acts → l = (t₂ : Int) - t₁ ∧ 0 ≤ l) ∧
      run.closed = true ∧ run.exitCalls = 1 := by
  cases doPing with
  | false =>
    refine ⟨_, by simpa using status_once_noping j extra (t₁ :: t₂ :: clock), ?_⟩
    simp
  | true =>
    refine ⟨_, by simpa using (status_once_ping j extra t₁ t₂ clock hmono).1, ?_⟩
    simp
    omega

/-- Whatever the server sends (any packets, any pong times, any clock): at most one `disconnect`
is ever issued, the exit callback runs at most once, and it runs exactly when the connection was
closed, which is exactly when a `disconnect` was issued. -/
theorem status_any_script (doPing : Bool) (script : List StatusPkt) (clock : List Nat)
    (run : StatusRun) (h : runStatus doPing script clock = some run) :
    (run.closed = false ∧ run.exitCalls = 0 ∧ run.acts.count .disconnect = 0) ∨
      (run.closed = true ∧ run.exitCalls = 1 ∧ run.acts.count .disconnect = 1) := by
  unfold runStatus at h
  split at h
  · cases h
  next st acts hl =>
    cases h
    rcases runLoop_inv doPing script clock st acts hl with ⟨rfl, hc⟩ | ⟨rfl, hc⟩
    · exact .inl ⟨rfl, rfl, hc⟩
    · exact .inr ⟨rfl, rfl, hc⟩

/-- Pings only if latency was requested: with `handle_ping=False` no ping is ever sent and no
latency is ever reported, whatever the server sends. -/
theorem status_no_ping_unless_requested (script : List StatusPkt) (clock : List Nat)
    (run : StatusRun) (h : runStatus false script clock = some run) :
    ∀ a ∈ run.acts, (∀ t, a ≠ .sendPing t) ∧ (∀ l, a ≠ .handlePing l) := by
  unfold runStatus at h
  split at h
  · cases h
  next st acts hl =>
    cases h
    exact runLoop_noping script clock _ st acts hl

/-! ## Non-vacuity -/

/-- A small but non-trivial environment: three supported versions among seven known ones. -/
def envEx : VEnv :=
  { supportedNames := [("1.8.9", 47), ("1.12.2", 340), ("1.16.4", 754)]
    supportedProtocols := [47, 340, 754]
    knownOrder := [4, 5, 47, 107, 340, 498, 754] }

def paramsEx : ConnParams := ⟨"mc.example.org", 25565, some "steve", none⟩

example : Sane envEx := by decide +kernel
example : envEx.knownOrder.Nodup := by decide +kernel
-- construction
example : ctor envEx none none = .ok ⟨[47, 340, 754], 754, 754⟩ := by decide +kernel
example : ctor envEx (some [.name "1.12.2", .num 47, .num 47]) none = .ok ⟨[47, 340], 340, 340⟩ := by
  decide +kernel
example : ctor envEx (some [.num 340, .num 47]) (some (.num 754)) = .ok ⟨[47, 340], 754, 340⟩ := by
  decide +kernel  -- a default outside the allowed set is accepted
example : ctor envEx (some [.num 47, .num 498]) none = .error .value := by decide +kernel
example : ctor envEx (some [.num 47, .other]) none = .error .value := by decide +kernel
example : ctor envEx (some [.name "1.9"]) none = .error .value := by decide +kernel
example : ctor envEx (some []) none = .error .value := by decide +kernel
example : ctor envEx none (some (.num (-1))) = .error .value := by decide +kernel
-- plans
example : connectPlan envEx [340] = .ok (.direct 340) := by decide +kernel
example : connectPlan envEx [47, 340, 754] = .ok (.query 754) := by decide +kernel
example : connectPlan envEx [] = .error .value := by decide +kernel
example : connectPlan envEx [47, 999] = .error .type := by decide +kernel
-- outcomes
example : evalStatus envEx [47, 340] 340 (.proto 47 (some "1.8.9")) = .connect 47 := by decide +kernel
example : evalStatus envEx [47, 340] 340 (.proto 754 (some "1.16.4")) =
    .mismatch 754 (some "1.16.4") true := by decide +kernel
example : evalStatus envEx [47, 340] 340 (.proto 498 none) = .mismatch 498 none false := by decide +kernel
example : evalStatus envEx [47, 340] 340 (.proto (-3) none) = .mismatch (-3) none false := by decide +kernel
example : evalStatus envEx [47, 340] 340 .noVersion = .connect 340 := by decide +kernel
example : evalStatus envEx [47, 340] 340 .closedBeforeReply = .connect 340 := by decide +kernel
example : evalStatus envEx [47, 340] 340 .emptyObj = .invalidStatus := by decide +kernel
example : mismatchMessage 754 (some "1.16.4") true =
    "Server's protocol version of 754 (1.16.4) is supported, but not allowed for this connection." := by
  decide +kernel
example : mismatchMessage (-3) none false = "Server's protocol version of -3 is not supported." := by
  decide +kernel
-- sessions
example : session envEx paramsEx [47, 340] 340 (.proto 47 (some "1.8.9")) =
    .ok ⟨[[.handshake ⟨340, "mc.example.org", 25565, 1⟩, .statusRequest],
          [.handshake ⟨47, "mc.example.org", 25565, 2⟩, .loginStart (some "steve")]],
         .connect 47⟩ := by decide +kernel
example : session envEx { paramsEx with authProfile := some "Alex" } [340] 340 .emptyObj =
    .ok ⟨[[.handshake ⟨340, "mc.example.org", 25565, 2⟩, .loginStart (some "Alex")]],
         .connect 340⟩ := by decide +kernel
-- status runs
example : runStatus true [.response "{}", .pong 1000, .response "x"] [1000, 1042] =
    some ⟨[.sendPing 1000, .handleStatus "{}", .disconnect, .handlePing 42], true, 1⟩ := by decide +kernel
example : runStatus false [.response "{}", .pong 7] [] =
    some ⟨[.disconnect, .handleStatus "{}"], true, 1⟩ := by decide +kernel
example : runStatus true [.other, .response "{}"] [5] =
    some ⟨[.sendPing 5, .handleStatus "{}"], false, 0⟩ := by decide +kernel

end PyCraft.C09
