import PyCraft.Lemmas.FrameViews
/-!
# C01 — framed packet stream survives any threshold, cipher and read segmentation

Model: `PyCraft/Model/Frame.lean`.  Writer `frameBody`/`frame`/`frameSends` (`Packet.write`,
`Packet._write_buffer`), reader `readPacket`/`readAll` (`PacketReactor.read_packet` called in a
loop) over arrival segments `Segs` (`read(n)` returns at most the rest of the first arrival
segment), `readAllEnc` through `EncryptedFileObjectWrapper`.  zlib is any `z : Zlib`
(`inflate (deflate x) = some x` is the only assumption), the cipher any `CipherPair`.
The guard `FrameOK` says that the id and the two lengths written as VarInts are `< 2^42`, the
bound of the reader's `VarInt.read` (it holds for every id `< 2^32` and every length `< 2^35`).
Only property theorems and non-vacuity examples live here.
-/
namespace PyCraft.C01
open PyCraft

/-- The two chunks handed to `socket.send` concatenate to the frame. -/
theorem frameSends_flatten (z : ZlibOps) (thr : Option Int) (payload : Bytes) :
    (frameSends z thr payload).flatten = frame z thr payload :=
  frameSends_flatten' z thr payload

/-- Read segmentation is invisible: two segmentations of the same byte stream (any sizes, empty
segments, one byte at a time …) give the same VarInt, the same `n` reassembled bytes, the same
packet — or the same exception — and leave the same bytes unread; and the whole sequence of
delivered packets and the final exception are the same.  For any inflate function, compression on
or off, well-formed stream or not. -/
theorem read_segmentation_invariant (z : ZlibOps) (c : Bool) (s1 s2 : Segs)
    (h : s1.flatten = s2.flatten) :
    (∀ mx, (readVarIntS mx s1).map (fun r => (r.1, r.2.flatten))
        = (readVarIntS mx s2).map (fun r => (r.1, r.2.flatten))) ∧
    (∀ n, (readExact s1 n).map (fun r => (r.1, r.2.flatten))
        = (readExact s2 n).map (fun r => (r.1, r.2.flatten))) ∧
    (readPacket z c s1).map (fun r => (r.1, r.2.flatten))
        = (readPacket z c s2).map (fun r => (r.1, r.2.flatten)) ∧
    readAll z c s1 = readAll z c s2 := by
  refine ⟨fun mx => ?_, fun n => ?_, ?_, ?_⟩
  · rw [readVarIntS_spec, readVarIntS_spec, h]
  · rw [readExact_spec, readExact_spec, h]
  · rw [readPacket_spec, readPacket_spec, h]
  · rw [readAll_spec, readAll_spec, h]

/-- … in particular one byte per `read` gives what a single arrival of the whole stream gives. -/
theorem read_bytewise (z : ZlibOps) (c : Bool) (bs : Bytes) :
    readAll z c (bs.map fun b => [b]) = readAll z c [bs] := by
  rw [readAll_spec, readAll_spec]
  congr 1
  induction bs with
  | nil => rfl
  | cons b bs ih => simp only [List.map_cons, List.flatten_cons, ih]; simp

/-- The same for an encrypted connection: however the cipher text is split across reads, the
packets delivered and the final exception are the same. -/
theorem read_segmentation_invariant_encrypted {σ : Type} (dec : StreamXform σ) (s0 : σ)
    (z : ZlibOps) (c : Bool) (s1 s2 : Segs) (h : s1.flatten = s2.flatten) :
    readAllEnc dec s0 z c s1 = readAllEnc dec s0 z c s2 := by
  rw [readAllEnc_spec, readAllEnc_spec, h]

/-- Round trip of a whole conversation: for every zlib, every threshold (`none`, or `some t` for
ANY integer `t` — negative, `-1`, zero, anything), every list of packets `(id, field bytes)` passing
the VarInt guard, and every segmentation of the concatenated frames, the reader (compression
enabled iff a threshold is set) delivers exactly that list — nothing lost, duplicated, merged,
split or reordered, no byte leaking between packets — and then raises end-of-stream. -/
theorem roundtrip_stream (z : Zlib) (thr : Option Int) (ps : List (Nat × Bytes))
    (hok : ∀ p ∈ ps, FrameOK z.toZlibOps thr p) (segs : Segs)
    (hseg : segs.flatten = (ps.map (packetFrame z.toZlibOps thr)).flatten) :
    readAll z.toZlibOps thr.isSome segs = (ps, .eof) := by
  rw [readAll_spec, hseg, parseAll_conversation z thr ps hok]

/-- … and if the stream goes on with an incomplete frame (any strict prefix `t` of a further
frame), still exactly `ps` is delivered, then end-of-stream. -/
theorem roundtrip_stream_trailing (z : Zlib) (thr : Option Int) (ps : List (Nat × Bytes))
    (hok : ∀ p ∈ ps, FrameOK z.toZlibOps thr p) (q : Nat × Bytes)
    (hq : FrameOK z.toZlibOps thr q) (t u : Bytes)
    (htu : t ++ u = packetFrame z.toZlibOps thr q) (hu : u ≠ []) (segs : Segs)
    (hseg : segs.flatten = (ps.map (packetFrame z.toZlibOps thr)).flatten ++ t) :
    readAll z.toZlibOps thr.isSome segs = (ps, .eof) := by
  rw [readAll_spec, hseg, parseAll_frames z thr ps t hok,
    parseAll_incomplete z.toZlibOps thr _ t (Or.inr ⟨q, u, hq, htu, hu⟩)]
  simp

/-- The literal writer: the stream is the concatenation of the `send` calls of `Packet.write`
(two per packet). -/
theorem roundtrip_sends (z : Zlib) (thr : Option Int) (ps : List (Nat × Bytes))
    (hok : ∀ p ∈ ps, FrameOK z.toZlibOps thr p) (segs : Segs)
    (hseg : segs.flatten =
      (ps.flatMap fun p => frameSends z.toZlibOps thr (packetPayload p.1 p.2)).flatten) :
    readAll z.toZlibOps thr.isSome segs = (ps, .eof) := by
  apply roundtrip_stream z thr ps hok
  rw [hseg]
  clear hseg hok
  induction ps with
  | nil => rfl
  | cons p ps ih =>
    simp only [List.flatMap_cons, List.flatten_append, List.map_cons, List.flatten_cons, ih,
      frameSends_flatten']
    rfl

/-- Round trip through any cipher pair: the writer's byte stream — cut into `send` calls in ANY
way (`sends`) — goes through `encryptor.update` call by call from context `s0`; the cipher text
arrives in ANY segmentation and is decrypted `read` call by `read` call from the same `s0`.
Exactly `ps` is delivered, then end-of-stream. -/
theorem roundtrip_encrypted {σ : Type} (cp : CipherPair σ) (s0 : σ) (z : Zlib)
    (thr : Option Int) (ps : List (Nat × Bytes))
    (hok : ∀ p ∈ ps, FrameOK z.toZlibOps thr p)
    (sends : List Bytes)
    (hsends : sends.flatten = (ps.map (packetFrame z.toZlibOps thr)).flatten)
    (segs : Segs) (hseg : segs.flatten = (encSends cp.enc s0 sends).2.flatten) :
    readAllEnc cp.dec s0 z.toZlibOps thr.isSome segs = (ps, .eof) := by
  rw [readAllEnc_spec, hseg, encSends_flatten, (cp.inv s0 _).1, hsends,
    parseAll_conversation z thr ps hok]

/-- The reader never looks inside a frame before it has consumed it: for ANY frame body (any id,
known to the library or not, even bytes that are no VarInt or do not inflate) followed by any
`more`, `read_packet` returns/raises exactly what `parseBody` says about that body alone and
leaves the stream positioned exactly behind the frame. -/
theorem frame_consumed_whole (z : ZlibOps) (c : Bool) (body more : Bytes)
    (hb : body.length < 2 ^ 42) (segs : Segs)
    (hseg : segs.flatten = encVarInt body.length ++ (body ++ more)) :
    (readPacketK idXform z c (Sock.plain segs)).1 = parseBody z c body ∧
    (readPacketK idXform z c (Sock.plain segs)).2.segs.flatten = more :=
  readPacketK_frame idXform z c (Sock.plain segs) body more
    (by rw [ahead_plain, hseg]; exact parseFrame_frame body more hb)

/-- A packet with ANY id (no hypothesis relating it to a packet table) is delivered as
`(id, field bytes)` and the bytes consumed are exactly its frame: the successors `more` are
untouched.  (`roundtrip_stream` likewise has no hypothesis about ids.) -/
theorem unknown_id_skipped (z : Zlib) (thr : Option Int) (id : Nat) (fields more : Bytes)
    (hok : FrameOK z.toZlibOps thr (id, fields)) (segs : Segs)
    (hseg : segs.flatten = packetFrame z.toZlibOps thr (id, fields) ++ more) :
    ∃ s', readPacket z.toZlibOps thr.isSome segs = .ok ((id, fields), s') ∧ s'.flatten = more := by
  obtain ⟨k', e1, e2⟩ := readPacketK_packetFrame idXform z thr (id, fields) more (Sock.plain segs)
    hok hseg
  exact ⟨k'.segs, by simp only [readPacket, e1], e2⟩

/-- The three regimes of `_write_buffer`: no threshold → the payload itself; threshold `-1` or
payload not longer than the threshold → a zero data-length byte, then the payload; otherwise the
payload length as VarInt, then the deflated payload. -/
theorem threshold_cases (z : ZlibOps) (payload : Bytes) :
    frameBody z none payload = payload ∧
    (∀ t : Int, (t = -1 ∨ (payload.length : Int) ≤ t) →
      frameBody z (some t) payload = 0x00 :: payload) ∧
    (∀ t : Int, t ≠ -1 → t < (payload.length : Int) →
      frameBody z (some t) payload = encVarInt payload.length ++ z.deflate payload) := by
  refine ⟨rfl, ?_, ?_⟩
  · intro t ht
    have : ¬ ((payload.length : Int) > t ∧ t ≠ -1) := by omega
    simp only [frameBody, if_neg this]
    unfold encVarInt
    simp
  · intro t h1 h2
    have : (payload.length : Int) > t ∧ t ≠ -1 := by omega
    simp only [frameBody, if_pos this]

/-- With a threshold set, the data-length field read back by the reader is `> 0` exactly when the
writer compressed (and is then the payload length); a payload is never empty since it starts with
the packet id. -/
theorem data_length_pos_iff_compressed (z : ZlibOps) (t : Int) (id : Nat) (fields : Bytes)
    (hlen : (packetPayload id fields).length < 2 ^ 42) :
    packetPayload id fields ≠ [] ∧
    ∃ dl rest, decVarInt 5 (frameBody z (some t) (packetPayload id fields)) = .ok (dl, rest) ∧
      (0 < dl ↔ (((packetPayload id fields).length : Int) > t ∧ t ≠ -1)) ∧
      (0 < dl → dl = (packetPayload id fields).length ∧
        rest = z.deflate (packetPayload id fields)) ∧
      (dl = 0 → rest = packetPayload id fields) := by
  have hpos := packetPayload_pos id fields
  refine ⟨List.length_pos_iff.mp hpos, ?_⟩
  by_cases hc : ((packetPayload id fields).length : Int) > t ∧ t ≠ -1
  · refine ⟨(packetPayload id fields).length, z.deflate (packetPayload id fields), ?_, ?_, ?_, ?_⟩
    · simp only [frameBody, if_pos hc]; exact decVarInt_enc _ _ hlen
    · exact ⟨fun _ => hc, fun _ => hpos⟩
    · intro _; exact ⟨rfl, rfl⟩
    · intro h; omega
  · refine ⟨0, packetPayload id fields, ?_, ?_, ?_, ?_⟩
    · simp only [frameBody, if_neg hc]; exact decVarInt_enc _ _ (by omega)
    · exact ⟨fun h => absurd h (Nat.lt_irrefl 0), fun h => absurd h hc⟩
    · intro h; omega
    · intro _; rfl

-- non-vacuity: concrete frames, thresholds and segmentations
example : frame Zlib.ident.toZlibOps (some 1) [0x05, 0x61, 0x62]
    = [0x04, 0x03, 0x05, 0x61, 0x62] := by decide +kernel
example : frame Zlib.ident.toZlibOps (some 3) [0x05, 0x61, 0x62]
    = [0x04, 0x00, 0x05, 0x61, 0x62] := by decide +kernel
example : frame Zlib.ident.toZlibOps (some (-1)) [0x05, 0x61, 0x62]
    = [0x04, 0x00, 0x05, 0x61, 0x62] := by decide +kernel
example : frame Zlib.ident.toZlibOps none [0x05, 0x61, 0x62] = [0x03, 0x05, 0x61, 0x62] := by
  decide +kernel
example : FrameOK Zlib.ident.toZlibOps (some 1) (5, [0x61, 0x62]) := by decide +kernel
example : readAll Zlib.ident.toZlibOps true [[0x04], [], [0x03, 0x05], [0x61], [0x62, 0x02, 0x00], [0x07]]
    = ([(5, [0x61, 0x62]), (7, [])], .eof) :=
  roundtrip_stream Zlib.ident (some 1) [(5, [0x61, 0x62]), (7, [])] (by decide +kernel) _
    (by decide +kernel)
example : readAll Zlib.ident.toZlibOps false [[0x03, 0x05, 0x61, 0x62, 0x05, 0x01]]
    = ([(5, [0x61, 0x62])], .eof) :=
  roundtrip_stream_trailing Zlib.ident none [(5, [0x61, 0x62])] (by decide +kernel)
    (1, [1, 2, 3, 4]) (by decide +kernel) [0x05, 0x01] [1, 2, 3, 4] (by decide +kernel)
    (by decide) _ (by decide +kernel)
-- the cipher laws are satisfiable (identity pair; `Model/Cfb8.lean` gives CFB8 over any block
-- function); writer chunks `[04] [03 05 61 62]`, cipher text re-segmented as `[04 03 05] [61 62]`
example : readAllEnc idXform () Zlib.ident.toZlibOps true [[0x04, 0x03, 0x05], [0x61, 0x62]]
    = ([(5, [0x61, 0x62])], .eof) :=
  roundtrip_encrypted { enc := idXform, dec := idXform, inv := fun _ _ => ⟨rfl, rfl⟩ } ()
    Zlib.ident (some 1) [(5, [0x61, 0x62])] (by decide +kernel)
    [[0x04], [0x03, 0x05, 0x61, 0x62]] (by decide +kernel) _ (by decide +kernel)
example : readPacket Zlib.ident.toZlibOps true [[0x03, 0x03], [0x05, 0x61]] = .error .assertion := by
  decide +kernel

end PyCraft.C01
