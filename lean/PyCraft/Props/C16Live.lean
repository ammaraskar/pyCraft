import PyCraft.Lemmas.LifecycleFairSched
import PyCraft.Props.C16
/-!
# C16, liveness part — "`disconnect()` … always leads to the networking thread terminating"

`Props/C16.lean` proves the safety half (`disconnect_leads_to_termination_partial`: the interrupted
thread performs at most 23 more actions, is never stuck for good, CAN always be driven to its
death).  This file supplies what was missing there: infinite schedules, a fairness assumption, and
the variant argument showing that the lock cannot be withheld from the thread for ever.

Semantics (`Model/LifecycleFair.lean`).  An infinite schedule is `σ : Nat → Tid`; `runN env s σ n` is
the state after the first `n` picks, a pick of a thread that is not enabled being a no-op exactly
as in `run` (`runN_is_run`).  `shift σ a` is `σ` from pick `a` on.

FAIRNESS ASSUMPTION USED: only WEAK fairness (justice),
`WeakFair env s σ := ∀ t n, (∀ m ≥ n, t is enabled in runN env s σ m) → ∃ m ≥ n, σ m = t`
— a thread that is enabled continuously from some pick on is picked again.  It is implied by
unconditional fairness `Fair σ := ∀ t n, ∃ m ≥ n, σ m = t` (`fair_implies_weakFair`), so every
theorem below also holds for all `Fair` schedules; it is strictly weaker (`rr 1 1` is weakly fair
for the example run but never picks `user 7`).  It constrains ALL threads, in particular the lock
holder: fairness towards the interrupted thread alone is NOT enough (`starved_by_lock_holder`).

Why weak fairness suffices (heart of the variant, `Lemmas/LifecycleFair.lean`,
`Lemmas/LifecycleFairLive.lean`): an interrupted thread `j` is blocked only (a) at the beginning of
a locked block while somebody else holds the lock, or (b) in `previous_thread.join()`.  (a): the
lock holder is always enabled and its step releases the lock (`owner_enabled`), so a weakly fair
schedule always executes a further step; and every step of every thread other than `j` decreases
`vari = 25·Σ_u (actions left in user program u) + Σ_k rank(pc_k)`, because user programs are finite
lists and — `j` occupying a slot — the only other networking threads that can move are past their
epilogue (two actions left), while the one thread object a `connect()` may still create waits for
`j`'s death.  Hence after finitely many such steps `j` itself moves (`fair_decreasing`).  (b): the
predecessor is itself interrupted and not waiting, so (a) applies to it first.

Only property theorems and non-vacuity / refutation examples live here.
-/
namespace PyCraft.C16Live
open PyCraft PyCraft.Life

/-- `runN_is_run`: the state after `n` picks of an infinite schedule is the state that the
finite-schedule semantics of `Model/Lifecycle.lean` assigns to the prefix `σ 0, …, σ (n-1)`; so
every theorem of `Props/C16.lean` about reachable states applies to every `runN` state. -/
theorem runN_is_run (env : List Beh) (s : Sys) (σ : Nat → Tid) (n : Nat) :
    runN env s σ n = run env s ((List.range n).map σ) :=
  runN_eq_run env s σ n

/-- `fair_implies_weakFair`: a schedule that picks every thread id infinitely often is weakly fair
for every server behaviour and every start state. -/
theorem fair_implies_weakFair (σ : Nat → Tid) (hσ : Fair σ) (env : List Beh) (s : Sys) :
    WeakFair env s σ :=
  hσ.weak env s

/-- `interrupted_thread_terminates`: in every reachable state, every existing thread object whose
`interrupt` flag is set — by `disconnect()`, by the reaction to a disconnect packet, or by the
exception path — reaches `dead` on every weakly fair infinite continuation, and stays dead. -/
theorem interrupted_thread_terminates (env : List Beh) (progs : List (List Op)) (rl rh : Nat)
    (sched : List Tid) (j : Nat) :
    let s := run env (init progs rl rh) sched
    (s.net j).pc ≠ .unborn → (s.net j).intr = true →
    ∀ σ, WeakFair env s σ → ∃ n, ∀ m, n ≤ m → ((runN env s σ m).net j).pc = .dead := by
  intro s hb hi σ hf
  exact eventually_always_dead env progs.length j s σ (reach_inv env progs rl rh sched)
    (UB_run env _ sched _ (init_UB progs rl rh)) hb (.inl hi) hf

/-- `disconnect_leads_to_termination`: for all server behaviours, user programs, reconnect budgets
and every reachable state `s`: if any thread `t` (a user thread, or a networking thread in its
reaction to a disconnect packet) executes the body of `disconnect(immediate)` there, giving `s1`,
then every thread `j` occupying a slot of `s1` (`networking_thread` or `new_networking_thread`)
reaches `dead` after finitely many picks of EVERY weakly fair infinite schedule — whatever the
other threads do meanwhile, including further `connect()` calls — and stays dead. -/
theorem disconnect_leads_to_termination (env : List Beh) (progs : List (List Op)) (rl rh : Nat)
    (sched : List Tid) (t : Tid) (imm : Bool) :
    let s := run env (init progs rl rh) sched
    atCall s t (.disconnect imm) → ∀ s1, step env s t = some s1 →
    ∀ j, s1.nt = some j ∨ s1.newNt = some j →
    ∀ σ, WeakFair env s1 σ → ∃ n, ∀ m, n ≤ m → ((runN env s1 σ m).net j).pc = .dead := by
  intro s hat s1 hs1 j hj σ hf
  have h := reach_inv env progs rl rh sched
  have h1 := Life.step_inv env s s1 t h hs1
  have hi := (C16.disconnect_leads_to_termination_partial env progs rl rh sched t imm hat s1 hs1
    j hj).1
  have hb := h1.slot_born hj
  have hub : UB progs.length s1 :=
    UB_step env _ s s1 t (UB_run env _ sched _ (init_UB progs rl rh)) hs1
  exact eventually_always_dead env progs.length j s1 σ h1 hub hb (.inl hi) hf

/-- `disconnect_leads_to_termination_fair`: the same under unconditional fairness (every thread id
is picked infinitely often). -/
theorem disconnect_leads_to_termination_fair (env : List Beh) (progs : List (List Op))
    (rl rh : Nat) (sched : List Tid) (t : Tid) (imm : Bool) :
    let s := run env (init progs rl rh) sched
    atCall s t (.disconnect imm) → ∀ s1, step env s t = some s1 →
    ∀ j, s1.nt = some j ∨ s1.newNt = some j →
    ∀ σ, Fair σ → ∃ n, ∀ m, n ≤ m → ((runN env s1 σ m).net j).pc = .dead := by
  intro s hat s1 hs1 j hj σ hσ
  exact disconnect_leads_to_termination env progs rl rh sched t imm hat s1 hs1 j hj σ
    (hσ.weak env s1)

/-- `all_networking_threads_end`: from every reachable state that is CLOSING — the user programs
have only `disconnect()` calls left, the reconnect budgets of the packet listener and of the
exception handler are exhausted and no such reconnect is pending, and every thread occupying a slot
is interrupted (i.e. a disconnect was the last effective lifecycle call) — every weakly fair
infinite schedule reaches, after finitely many picks, a state `q` that never changes again, in
which every networking thread ever created is dead, no further thread object was created, both
slots are empty, the lock is free and every user program has run to completion. -/
theorem all_networking_threads_end (env : List Beh) (progs : List (List Op)) (rl rh : Nat)
    (sched : List Tid) :
    let s := run env (init progs rl rh) sched
    Closing s → ∀ σ, WeakFair env s σ →
    ∃ n, (∀ m, n ≤ m → runN env s σ m = runN env s σ n) ∧
      (∀ t, step env (runN env s σ n) t = none) ∧
      (runN env s σ n).nthreads = s.nthreads ∧
      (∀ i, i < s.nthreads → ((runN env s σ n).net i).pc = .dead) ∧
      (runN env s σ n).nt = none ∧ (runN env s σ n).newNt = none ∧
      (runN env s σ n).owner = none ∧
      (∀ u, ((runN env s σ n).usr u).pc = .idle ∧ ((runN env s σ n).usr u).todo = []) := by
  intro s hc σ hf
  have h := reach_inv env progs rl rh sched
  have hub : UB progs.length s := UB_run env _ sched _ (init_UB progs rl rh)
  obtain ⟨n, hq⟩ := eventually_quiet env progs.length s σ h hub hc hf
  obtain ⟨a, b, c, d, e⟩ := quiet_facts env _ (runN_inv env s h σ n) hq
  have hn := (closing_runN env progs.length s σ h hub hc n).2.2
  refine ⟨n, fun m hm => ?_, hq, hn, fun i hi => b i (by rw [hn]; exact hi), c, d, a, e⟩
  have e : m = n + (m - n) := by omega
  rw [e, runN_add]
  exact stuck_const env _ _ (fun _ => hq _) _

/-! ### Non-vacuity -/

/-- The ruler schedule 0 1 0 2 0 1 0 3 … over thread codes (`2u ↦ user u`, `2i+1 ↦ net i`) picks
every one of the infinitely many thread ids infinitely often: `Fair` (hence `WeakFair`) is
satisfiable. -/
theorem diag_is_fair : Fair diag := diag_fair

example : (List.range 8).map diag =
    [.user 0, .net 0, .user 0, .user 1, .user 0, .net 0, .user 0, .net 1] := by decide

/-- Round-robin over the user threads `0 … U-1` and the thread objects that exist is weakly fair
from every closing reachable state (no other thread is ever enabled there). -/
theorem round_robin_weakFair (env : List Beh) (progs : List (List Op)) (rl rh : Nat)
    (sched : List Tid) :
    let s := run env (init progs rl rh) sched
    Closing s → WeakFair env s (rr progs.length s.nthreads) := by
  intro s hc
  exact rr_weakFair_closing env progs.length s (reach_inv env progs rl rh sched)
    (UB_run env _ sched _ (init_UB progs rl rh)) hc

/-- One user thread: connect, disconnect. -/
def exProgs : List (List Op) := [[.connect, .disconnect false]]

/-- After the `connect()` call (body and release). -/
def exSched : List Tid := [.user 0, .user 0]

/-- The state just after the body of the `disconnect()` call. -/
def exS1 : Sys := run [] (init exProgs 0 0) (exSched ++ [.user 0])

/-- The scenario satisfies the hypotheses of `disconnect_leads_to_termination`: the user thread is
at its `disconnect()` call, the step yields `exS1`, thread 0 occupies the slot, is alive
(`loopChk`), and the user thread still holds the lock. -/
example :
    let s := run [] (init exProgs 0 0) exSched
    atCall s (.user 0) (.disconnect false) ∧ step [] s (.user 0) = some exS1 ∧
    exS1.nt = some 0 ∧ (exS1.net 0).pc = .loopChk ∧ exS1.owner = some (.user 0) :=
  ⟨⟨by decide, _, rfl⟩, rfl, by decide, by decide, by decide⟩

/-- `exS1` is closing, and round-robin `user 0, net 0, user 0, net 0, …` is weakly fair from it. -/
theorem exS1_closing : Closing exS1 :=
  closing_of_closingB 1 exS1 (reach_inv [] exProgs 0 0 _)
    (UB_run [] _ _ _ (init_UB exProgs 0 0)) (by decide)

theorem exS1_rr : WeakFair [] exS1 (rr 1 1) :=
  round_robin_weakFair [] exProgs 0 0 (exSched ++ [Tid.user 0]) exS1_closing

example : (List.range 4).map (rr 1 1) = [.user 0, .net 0, .user 0, .net 0] := by decide

/-- Weak fairness is strictly weaker than unconditional fairness: `rr 1 1` is weakly fair for the
run from `exS1` but never picks `user 7`. -/
example : WeakFair [] exS1 (rr 1 1) ∧ ¬Fair (rr 1 1) := by
  refine ⟨exS1_rr, fun h => ?_⟩
  obtain ⟨m, -, hm⟩ := h (.user 7) 0
  simp only [rr] at hm
  split at hm
  · have : m % (1 + 1) = 7 := by simpa using hm
    omega
  · cases hm

/-- Theorem 1 instantiated on the scenario, for the ruler schedule and for round-robin: thread 0
dies and stays dead. -/
example : ∃ n, ∀ m, n ≤ m → ((runN [] exS1 diag m).net 0).pc = .dead :=
  disconnect_leads_to_termination_fair [] exProgs 0 0 exSched (.user 0) false
    ⟨by decide, _, rfl⟩ exS1 rfl 0 (Or.inl (by decide)) diag diag_fair

example : ∃ n, ∀ m, n ≤ m → ((runN [] exS1 (rr 1 1) m).net 0).pc = .dead :=
  disconnect_leads_to_termination [] exProgs 0 0 exSched (.user 0) false
    ⟨by decide, _, rfl⟩ exS1 rfl 0 (Or.inl (by decide)) (rr 1 1) exS1_rr

/-- … and concretely: under round-robin thread 0 is dead after 10 picks (5 of them its own: the
interrupt check, `_handle_exit`, the epilogue, its release, the end of `run`). -/
example : ((runN [] exS1 (rr 1 1) 9).net 0).pc ≠ .dead ∧
    ((runN [] exS1 (rr 1 1) 10).net 0).pc = .dead := by decide

/-- Theorem 2 instantiated: round-robin from `exS1` reaches a state that never changes again, with
thread 0 dead and the slots empty. -/
example : ∃ n, (∀ m, n ≤ m → runN [] exS1 (rr 1 1) m = runN [] exS1 (rr 1 1) n) ∧
    ((runN [] exS1 (rr 1 1) n).net 0).pc = .dead ∧ (runN [] exS1 (rr 1 1) n).nt = none := by
  obtain ⟨n, h1, -, -, h4, h5, -⟩ :=
    all_networking_threads_end [] exProgs 0 0 (exSched ++ [Tid.user 0]) exS1_closing (rr 1 1)
      exS1_rr
  exact ⟨n, h1, h4 0 (by decide), h5⟩

/-- Both disjuncts of the slot hypothesis: connect, disconnect, connect, disconnect executed before
the first networking thread notices anything — the second `disconnect()` finds thread 0 (already
interrupted) in `networking_thread` and its waiting successor, thread 1, in
`new_networking_thread`; both die on every weakly fair schedule. -/
def exProgs2 : List (List Op) := [[.connect, .disconnect false, .connect, .disconnect true]]

example :
    let s := run [] (init exProgs2 0 0) (List.replicate 6 (.user 0))
    atCall s (.user 0) (.disconnect true) ∧
    ∃ s1, step [] s (.user 0) = some s1 ∧ s1.nt = some 0 ∧ s1.newNt = some 1 ∧
      (s1.net 1).pc = .waitPrev ∧
      ∀ σ, WeakFair [] s1 σ → ∃ n, ∀ m, n ≤ m →
        ((runN [] s1 σ m).net 0).pc = .dead ∧ ((runN [] s1 σ m).net 1).pc = .dead := by
  intro s
  have hat : atCall s (.user 0) (.disconnect true) := ⟨by decide, _, rfl⟩
  refine ⟨hat, _, rfl, by decide, by decide, by decide, fun σ hf => ?_⟩
  obtain ⟨n0, h0⟩ := disconnect_leads_to_termination [] exProgs2 0 0 _ (.user 0) true hat _ rfl 0
    (Or.inl (by decide)) σ hf
  obtain ⟨n1, h1⟩ := disconnect_leads_to_termination [] exProgs2 0 0 _ (.user 0) true hat _ rfl 1
    (Or.inr (by decide)) σ hf
  exact ⟨n0 + n1, fun m hm => ⟨h0 m (by omega), h1 m (by omega)⟩⟩

/-! ### The fairness hypothesis is needed -/

/-- `starved_thread_never_dies`: the schedule that only ever picks the user thread never lets
thread 0 move: it is alive (`loopChk`) after every number of picks — and this schedule is indeed
not weakly fair for the run (thread 0 is enabled at every pick and never chosen). -/
theorem starved_thread_never_dies :
    (∀ n, ((runN [] exS1 (fun _ => .user 0) n).net 0).pc ≠ .dead) ∧
    ¬WeakFair [] exS1 (fun _ => .user 0) := by
  have h : ∀ n, ((runN [] exS1 (fun _ => .user 0) n).net 0).pc ≠ .dead := by
    intro n
    rw [never_picked [] exS1 (reach_inv [] exProgs 0 0 _) 0 (by decide) _ (fun _ => by simp) n]
    decide
  refine ⟨h, fun hf => ?_⟩
  obtain ⟨n, hn⟩ := disconnect_leads_to_termination [] exProgs 0 0 exSched (.user 0) false
    ⟨by decide, _, rfl⟩ exS1 rfl 0 (Or.inl (by decide)) _ hf
  exact h n (hn n (Nat.le_refl _))

/-- `starved_by_lock_holder`: fairness towards the interrupted thread ALONE is not enough.  In
`exS1` the user thread has executed the body of `disconnect()` and still holds the lock.  The
schedule that picks thread 0 at EVERY pick lets it see its flag and run `_handle_exit`, and then
it waits for ever for the lock at the `with self.connection._write_lock:` of its `finally` block:
it is never dead, because the lock holder is never scheduled. -/
theorem starved_by_lock_holder :
    (∀ n, ((runN [] exS1 (fun _ => .net 0) n).net 0).pc ≠ .dead) ∧
    (∀ n, 2 ≤ n → ((runN [] exS1 (fun _ => .net 0) n).net 0).pc = .epilogue) ∧
    ¬WeakFair [] exS1 (fun _ => .net 0) := by
  have hstuck : ∀ n, 2 ≤ n →
      runN [] exS1 (fun _ => .net 0) n = runN [] exS1 (fun _ => .net 0) 2 := by
    intro n hn
    have e : n = 2 + (n - 2) := by omega
    rw [e, runN_add]
    have hs : step [] (runN [] exS1 (fun _ => .net 0) 2) (.net 0) = none := by decide
    exact stuck_const [] _ _ (fun _ => hs) _
  have h2 : ∀ n, 2 ≤ n → ((runN [] exS1 (fun _ => .net 0) n).net 0).pc = .epilogue := by
    intro n hn; rw [hstuck n hn]; decide
  have h : ∀ n, ((runN [] exS1 (fun _ => .net 0) n).net 0).pc ≠ .dead := by
    intro n
    by_cases hn : 2 ≤ n
    · rw [h2 n hn]; simp
    · have : n = 0 ∨ n = 1 := by omega
      rcases this with rfl | rfl <;> decide
  refine ⟨h, h2, fun hf => ?_⟩
  obtain ⟨n, hn⟩ := disconnect_leads_to_termination [] exProgs 0 0 exSched (.user 0) false
    ⟨by decide, _, rfl⟩ exS1 rfl 0 (Or.inl (by decide)) _ hf
  exact h n (hn n (Nat.le_refl _))

/-- `closing_decidable`: on reachable states `Closing` is implied by its bounded, decidable form
`closingB progs.length s` (quantifying over the user threads that have a program and the thread
objects that exist). -/
theorem closing_decidable (env : List Beh) (progs : List (List Op)) (rl rh : Nat)
    (sched : List Tid) :
    let s := run env (init progs rl rh) sched
    closingB progs.length s = true → Closing s := by
  intro s hc
  exact closing_of_closingB progs.length s (reach_inv env progs rl rh sched)
    (UB_run env _ sched _ (init_UB progs rl rh)) hc

/-- Quiescence needs the "no reconnect pending" part of `Closing`: with a listener budget `rl = 1`
and a server that sends a disconnect packet on the first connection, after the user's final
`disconnect()` (every slot occupant interrupted, no user call left) the listener of the old thread
reconnects; the new connection's thread is never interrupted and runs for ever. -/
example :
    let s := run [.disconnects, .accept] (init [[.connect, .disconnect false]] 1 0)
      ([.user 0, .user 0] ++ List.replicate 5 (.net 0) ++ [.user 0, .user 0] ++
        List.replicate 10 (.net 0) ++ List.replicate 5 (.net 1))
    (s.usr 0).todo = [] ∧ (s.net 0).pc = .dead ∧ s.nt = some 1 ∧ (s.net 1).intr = false ∧
    s.connected = true ∧ (Tid.net 1, Ev.wr (some 1)) ∈ s.log := by decide

/-- … the state right after that final `disconnect()` violates `Closing` only in `rl = 1`. -/
example :
    let s := run [.disconnects, .accept] (init [[.connect, .disconnect false]] 1 0)
      ([.user 0, .user 0] ++ List.replicate 5 (.net 0) ++ [.user 0, .user 0])
    (s.usr 0).todo = [] ∧ s.nt = some 0 ∧ (s.net 0).intr = true ∧ s.newNt = none ∧
    (s.net 0).pc = .call .react ∧ s.rh = 0 ∧ s.rl = 1 ∧ s.socket = .none := by decide

end PyCraft.C16Live
