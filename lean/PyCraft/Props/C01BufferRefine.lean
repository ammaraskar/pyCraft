import PyCraft.Props.C01BufferFrame
import PyCraft.Model.Frame
/-!
# C01 (extension) — `read_packet` over the REAL buffer refines the frame model

`Model/Frame.lean` keeps the frame body in a byte list (`readMoreK`, `parseBody`).  Here the same
steps are written against the `PacketBuffer` model (`Model/PacketBuffer.lean`: one shared cursor,
overwriting writes) exactly as `PacketReactor.read_packet` issues them, and proved equal to the
byte-list versions — so every theorem of `Props/C01` about `readPacketK` is a theorem about the
reader that uses the real buffer.
-/
namespace PyCraft.C01BufferRefine
open PyCraft PyCraft.PBuf

/-- A `send` with the cursor at the end appends and leaves the cursor at the end. -/
theorem send_at_end (s : St) (v : Bytes) (h : s.pos = s.buf.length) :
    (step s (.send v)).1 = ⟨s.buf ++ v, s.buf.length + v.length⟩ :=
  congrArg Prod.fst (step_send_at_end s v h)

theorem send_at_end_pos (s : St) (v : Bytes) (h : s.pos = s.buf.length) :
    (step s (.send v)).1.pos = (step s (.send v)).1.buf.length := by
  rw [send_at_end s v h]; simp

/-- The reassembly loop of `read_packet` over the real buffer:
`while len(packet_data.get_writable()) < length: data = stream.read(length - len(…)); if not data:
raise EOFError; packet_data.send(data)`.  Its termination NEEDS the cursor-at-end invariant `h`:
with the cursor elsewhere a `send` overwrites, `get_writable` need not grow, and the loop could spin. -/
def readMoreBuf {σ : Type} (x : StreamXform σ) (length : Nat) (s : St) (h : s.pos = s.buf.length)
    (k : Sock σ) : Except Err St × Sock σ :=
  if _h : s.buf.length < length then
    let r := k.read x (length - s.buf.length)
    if _hr : r.1 = [] then (.error .eof, r.2)
    else readMoreBuf x length (step s (.send r.1)).1 (send_at_end_pos s r.1 h) r.2
  else (.ok s, k)
termination_by length - s.buf.length
decreasing_by
  have : 0 < (k.read x (length - s.buf.length)).1.length := List.length_pos_iff.mpr _hr
  rw [send_at_end s _ h]
  simp only [List.length_append]
  omega

/-- The loop over the real buffer computes what the byte-list loop computes, and ends with the
cursor at the end of exactly those bytes. -/
theorem readMoreBuf_refines {σ : Type} (x : StreamXform σ) (length : Nat) :
    ∀ (n : Nat) (s : St) (h : s.pos = s.buf.length) (k : Sock σ), length - s.buf.length = n →
      readMoreBuf x length s h k =
        (match (readMoreK x length s.buf k).1 with
          | .ok d => .ok ⟨d, d.length⟩
          | .error e => .error e, (readMoreK x length s.buf k).2) := by
  intro n
  induction n using Nat.strongRecOn with
  | _ n ih =>
    intro s h k hn
    rw [readMoreBuf, readMoreK]
    by_cases hl : s.buf.length < length
    · simp only [hl, dite_true]
      by_cases hr : (k.read x (length - s.buf.length)).1 = []
      · simp [hr]
      · simp only [hr, dite_false]
        have hpos : 0 < (k.read x (length - s.buf.length)).1.length := List.length_pos_iff.mpr hr
        have e := send_at_end s (k.read x (length - s.buf.length)).1 h
        have := ih (length - (step s (.send (k.read x (length - s.buf.length)).1)).1.buf.length)
          (by rw [e]; simp only [List.length_append]; omega)
          (step s (.send (k.read x (length - s.buf.length)).1)).1
          (send_at_end_pos s _ h) (k.read x (length - s.buf.length)).2 rfl
        rw [this, e]
    · simp only [hl, dite_false]
      cases s with
      | mk buf pos => simp at h; simp [h]

/-- `VarInt.read(packet_data)`: ONE byte per `read(1)` on the buffer. -/
def decVarIntBuf (mx : Nat) (be acc : Nat) (s : St) : Except Err Nat × St :=
  let r := step s (.read (some 1))
  match r.2 with
  | some (b :: _) =>
    let acc' := acc ||| ((b.toNat &&& 0x7F) <<< (7 * be))
    if b.toNat &&& 0x80 = 0 then (.ok acc', r.1)
    else if _h : be + 1 > mx then (.error .tooLong, r.1)
    else decVarIntBuf mx (be + 1) acc' r.1
  | _ => (.error .eof, r.1)
termination_by mx + 1 - be
decreasing_by omega

/-- Reading a VarInt from the real buffer = the byte-list decoder on what lies after the cursor; on
success the cursor stands right behind the terminating byte and the contents are untouched. -/
theorem decVarIntBuf_refines (mx : Nat) : ∀ (m be acc : Nat) (s : St), mx + 1 - be = m →
    match decVarIntAux mx be acc (s.buf.drop s.pos) with
    | .ok (v, rest) => ∃ s', decVarIntBuf mx be acc s = (.ok v, s') ∧ s'.buf = s.buf ∧
        s.buf.drop s'.pos = rest
    | .error e => (decVarIntBuf mx be acc s).1 = .error e := by
  intro m
  induction m using Nat.strongRecOn with
  | _ m ih =>
    intro be acc s hm
    rw [decVarIntBuf]
    cases hd : s.buf.drop s.pos with
    | nil => simp [decVarIntAux, step, hd]
    | cons b rest =>
      have hdrop : s.buf.drop (s.pos + 1) = rest := by
        rw [← List.drop_drop, hd]; rfl
      simp only [decVarIntAux, step, hd, List.take_succ_cons, List.take_zero, List.length_cons,
        List.length_nil, Nat.zero_add]
      by_cases h0 : b.toNat &&& 0x80 = 0
      · simp only [h0, if_true]
        exact ⟨_, rfl, rfl, hdrop⟩
      · simp only [h0, if_false]
        by_cases hmx : be + 1 > mx
        · simp [hmx]
        · simp only [hmx, dite_false, if_false]
          have := ih (mx + 1 - (be + 1)) (by omega) (be + 1)
            (acc ||| ((b.toNat &&& 0x7F) <<< (7 * be))) ⟨s.buf, s.pos + 1⟩ rfl
          simp only [hdrop] at this
          exact this

/-- The last stage of `read_packet`: `packet_id = VarInt.read(packet_data)`; what `packet.read`
(or nobody, for an unknown id) then finds after the cursor is `packet_data.read()`. -/
def idStage (s : St) : Except Err (Nat × Bytes) :=
  match decVarIntBuf 5 0 0 s with
  | (.error e, _) => .error e
  | (.ok id, s3) =>
    match (step s3 (.read none)).2 with
    | some rest => .ok (id, rest)
    | none => .error .eof          -- unreachable: `read()` always returns a byte string

theorem idStage_refines (s : St) : idStage s = decVarInt 5 (s.buf.drop s.pos) := by
  have h := decVarIntBuf_refines 5 6 0 0 s rfl
  unfold idStage decVarInt
  cases hd : decVarIntAux 5 0 0 (s.buf.drop s.pos) with
  | error e =>
    rw [hd] at h
    rcases hb : decVarIntBuf 5 0 0 s with ⟨r, s1⟩
    rw [hb] at h
    simp only at h
    subst h
    rfl
  | ok p =>
    obtain ⟨v, rest⟩ := p
    rw [hd] at h
    obtain ⟨s', h1, h2, h3⟩ := h
    rw [h1]
    simp only [step, h2, h3]

/-- `read_packet` after the reassembly loop, over the real buffer: `reset_cursor()`, and when
compression is enabled `VarInt.read`, `read()`, inflate, the size assertion, `reset()`,
`send(decompressed)`, `reset_cursor()`; then the id stage. -/
def parseBodyBuf (z : ZlibOps) (compressed : Bool) (s0 : St) : Except Err (Nat × Bytes) :=
  let s := (step s0 .rewind).1
  let inner : Except Err St :=
    if compressed then
      match decVarIntBuf 5 0 0 s with
      | (.error e, _) => .error e
      | (.ok dataLength, s1) =>
        if dataLength > 0 then
          let r := step s1 (.read none)
          match r.2 with
          | none => .error .eof      -- unreachable
          | some rest =>
            match z.inflate rest with
            | none => .error .zlib
            | some d =>
              if d.length = dataLength then
                .ok (step (step (step r.1 .reset).1 (.send d)).1 .rewind).1
              else .error .assertion
        else .ok s1
    else .ok s
  match inner with
  | .error e => .error e
  | .ok s2 => idStage s2

/-- The reader over the real buffer computes exactly `Frame.parseBody` of the buffer's contents,
wherever the cursor was left by the reassembly loop. -/
theorem parseBodyBuf_refines (z : ZlibOps) (compressed : Bool) (data : Bytes) (p : Nat) :
    parseBodyBuf z compressed ⟨data, p⟩ = parseBody z compressed data := by
  unfold parseBodyBuf parseBody
  cases compressed with
  | false => simp [step, idStage_refines]
  | true =>
    have h := decVarIntBuf_refines 5 6 0 0 ⟨data, 0⟩ rfl
    simp only [List.drop_zero] at h
    simp only [step, if_true, decVarInt]
    cases hd : decVarIntAux 5 0 0 data with
    | error e =>
      rw [hd] at h
      rcases hb : decVarIntBuf 5 0 0 ⟨data, 0⟩ with ⟨r, s1⟩
      rw [hb] at h
      simp only at h
      subst h
      rfl
    | ok q =>
      obtain ⟨v, rest⟩ := q
      rw [hd] at h
      obtain ⟨s', h1, h2, h3⟩ := h
      rw [h1]
      simp only [h2, h3]
      by_cases hv : v > 0
      · simp only [hv, if_true]
        cases z.inflate rest with
        | none => rfl
        | some d =>
          simp only
          by_cases hl : d.length = v
          · simp only [hl, if_true]
            rw [idStage_refines]
            simp [init, decVarInt]
          · simp only [hl, if_false]
      · simp only [hv, if_false]
        rw [idStage_refines, h2, h3]
        rfl

/-- The whole of `read_packet` over the real buffer (`PacketBuffer()`, `send(stream.read(length))`,
reassembly loop, then the parsing stages). -/
def readPacketBuf {σ : Type} (x : StreamXform σ) (z : ZlibOps) (compressed : Bool) (k : Sock σ) :
    Except Err (Nat × Bytes) × Sock σ :=
  match readVarIntK x 5 0 0 k with
  | (.error e, k) => (.error e, k)
  | (.ok length, k) =>
    let r := k.read x length
    match readMoreBuf x length (step init (.send r.1)).1 (send_at_end_pos init r.1 rfl) r.2 with
    | (.error e, k) => (.error e, k)
    | (.ok s, k) => (parseBodyBuf z compressed s, k)

/-- … IS the reader of the frame model: every theorem of `Props/C01` about `readPacketK` (round
trip, segmentation invariance, encryption, bounded reads) holds for the reader that keeps the frame
in the real buffer. -/
theorem readPacketBuf_eq {σ : Type} (x : StreamXform σ) (z : ZlibOps) (compressed : Bool)
    (k : Sock σ) : readPacketBuf x z compressed k = readPacketK x z compressed k := by
  unfold readPacketBuf readPacketK readFrameK
  rcases hv : readVarIntK x 5 0 0 k with ⟨r, k1⟩
  cases r with
  | error e => rfl
  | ok length =>
    simp only
    rw [readMoreBuf_refines x length _ _ _ _ rfl]
    have e0 : (step init (.send (k1.read x length).1)).1.buf = (k1.read x length).1 := by
      simp [step, init]
    rw [e0]
    rcases hm : readMoreK x length (k1.read x length).1 (k1.read x length).2 with ⟨rm, k2⟩
    cases rm with
    | error e => rfl
    | ok d => simp only; rw [parseBodyBuf_refines]

/-- As functions. -/
theorem readPacketBuf_is_readPacketK {σ : Type} :
    @readPacketBuf σ = @readPacketK σ := by
  funext x z c k; exact readPacketBuf_eq x z c k

-- non-vacuity: a compressed frame arriving in four segments, read through the real buffer
example : (readPacketBuf idXform Zlib.ident.toZlibOps true
      (Sock.plain [[0x04], [0x03, 0x05], [0x61], [0x62, 0x02, 0x00]])).1 = .ok (5, [0x61, 0x62]) := by
  decide +kernel
example : (readPacketBuf idXform Zlib.ident.toZlibOps false (Sock.plain [[0x03, 0x05], [0x61]])).1
    = .error .eof := by decide +kernel
example : parseBodyBuf Zlib.ident.toZlibOps true ⟨[0x03, 0x05, 0x61], 3⟩ = .error .assertion := by
  decide +kernel

end PyCraft.C01BufferRefine
