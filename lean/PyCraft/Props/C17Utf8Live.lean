import PyCraft.Lemmas.C17Utf8
import PyCraft.Generated.C17Utf8
/-!
# C17, audit gap 24 — statements over the tables generated from the live code

`Generated/C17Utf8.lean` is rewritten by `harness/gen/c17utf8.py` from /repo on every run; the
theorems here are re-checked by the kernel against what the code says NOW.  (The universally
quantified theorems are in `Props/C17Utf8.lean`.)
-/
namespace PyCraft.C17Utf8
open PyCraft PyCraft.Utf8 PyCraft.Login

/-- Live: `encryption.sha1(b'a' * n).hexdigest()` for n = 55, 56, 64, 112 (around the
block boundaries) and 198 (a realistic login input: 20 + 16 + 162 bytes, four blocks) — every row reproduced by the Lean SHA-1. -/
theorem live_sha1_lengths :
    ∀ r ∈ Gen.C17Utf8.shaRows, hexOfBytes (sha1 (List.replicate r.1 0x61)) = r.2 := by
  decide +kernel

/-- Live: for every tabulated server id (boundary code points of all four length classes,
non-ASCII text, lone surrogates) the mirror of the encoder gives what `str.encode('utf-8')` gave —
the same bytes, or `ValueError` where Python raised — and where it succeeded the bytes are the
reference encoding and `String.toUTF8` of the corresponding Lean string. -/
theorem live_encode :
    ∀ r ∈ Gen.C17Utf8.encRows,
      pyUtf8Encode r.cps = expectOf r.utf8 ∧
      (r.utf8 = none ∨
        (r.utf8 = some (r.cps.flatMap utf8RefCp) ∧ r.utf8 = some (strOfCps r.cps).toUTF8.toList ∧
          codePoints (strOfCps r.cps) = r.cps)) := by
  decide +kernel

/-- Live: `generate_verification_hash(id, secret, key)` of /repo — the three published vectors,
non-ASCII ids with 16-byte secrets and real DER keys of 162 and 294 bytes, inputs of total length 55,
56, 63, 64, 65, 119, 120, ids with lone surrogates — equals the model on every row (the same string,
or `ValueError` where Python raised `UnicodeEncodeError`); and on the rows where Python returned a
value the id is a sequence of scalar values, i.e. the code points of the Lean string `strOfCps`
(`live_hash_string` in `Props/C17Utf8.lean` concludes the statement about `generateVerificationHash`). -/
theorem live_hash :
    ∀ r ∈ Gen.C17Utf8.hashRows,
      generateVerificationHashCps r.cps r.secret r.key = expectOf r.hash ∧
      (r.hash = none ∨ codePoints (strOfCps r.cps) = r.cps) := by
  decide +kernel

/-- The login parameters of a `joinRows` row: the stubbed `os.urandom(16)` as secret, token present
or not as in the row; RSA, JSON and plugin handling as in `demoParams` (irrelevant to `join`). -/
def rowParams (r : Gen.C17Utf8.JoinRow) : LoginParams :=
  { demoParams with secret := r.secret, hasToken := r.hasToken }

/-- Live: the strings the real `LoginReactor.react` handed to `auth_token.join` for one encryption
request (ids `"Nötch€😀"`, `""`, `"-"`, `"--"` with a token, `"世界"` without one) are exactly the `joins` of the login model run with the real hash function. -/
theorem live_join :
    ∀ r ∈ Gen.C17Utf8.joinRows,
      (exec (realHash (rowParams r)) .init
        [.flush, .recv (.encRequest (strOfCps r.cps) r.key r.token), .flush]).joins = r.joins := by
  decide +kernel

end PyCraft.C17Utf8
