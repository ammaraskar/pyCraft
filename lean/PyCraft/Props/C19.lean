import PyCraft.Lemmas.Auth
/-!
# C19 — Auth token state follows the Yggdrasil replies; errors leave it untouched

All statements are for every token, every reply (any status, any of the six body shapes) and every
argument.  `run op t r` runs one of the six operations (`Model/Auth.lean`); its result is
`(token afterwards, outcome, request emitted or none)`.
-/
namespace PyCraft.C19
open PyCraft PyCraft.Auth

/-- A token reports itself authenticated exactly when username, access token and client token are
present and non-empty (Python truthiness: `None` and `""` are both falsy) and both profile fields are
not `None` (they may be empty strings). -/
theorem authenticated_iff (t : Token) :
    authenticated t = true ↔
      (∃ u, t.username = some u ∧ u ≠ "") ∧ (∃ a, t.accessToken = some a ∧ a ≠ "") ∧
      (∃ c, t.clientToken = some c ∧ c ≠ "") ∧ t.profileId ≠ none ∧ t.profileName ≠ none := by
  simp only [← truthy_iff]
  simp [authenticated]

/-- HTTP error replies.  For every operation other than `validate`: if a request was emitted and
the reply status is not one the operation accepts — accepted are exactly `200` for `authenticate`,
`refresh`, `sign_out` and exactly `200`, `204` for `invalidate`, `join` — then the token is unchanged
and the call raises `YggdrasilError` carrying the status code, and either the reply's `error`,
`errorMessage` and (optional) `cause` when the body is an error object, or no fields and the
"Malformed error message" text for every other body. -/
theorem error_reply_raises_and_preserves (op : Op) (t : Token) (r : Reply) (req : Request)
    (hreq : (run op t r).2.2 = some req)
    (hst : match op with
      | .authenticate .. | .refresh | .signOut .. => r.status ≠ 200
      | .invalidate | .join _ => r.status ≠ 200 ∧ r.status ≠ 204
      | .validate => False) :
    (run op t r).1 = t ∧
    (run op t r).2.1 =
      (match r.body with
       | .errorObj e m c => .yggdrasil r.status (some e) (some m) c false
       | _ => .yggdrasil r.status none none none true) := by
  obtain ⟨st, body⟩ := r
  cases op with
  | authenticate fresh user pass inv =>
    simp only at hst
    cases body <;> simp [run, authenticate, raiseFromResponse, hst]
  | refresh =>
    simp only at hst
    cases ha : t.accessToken with
    | none => simp [run, refresh, ha] at hreq
    | some a =>
      cases hc : t.clientToken with
      | none => simp [run, refresh, ha, hc] at hreq
      | some c => cases body <;> simp [run, refresh, ha, hc, raiseFromResponse, hst]
  | validate => exact hst.elim
  | invalidate =>
    simp only at hst
    cases body <;> simp [run, invalidate, raiseFromResponse, hst]
  | signOut user pass =>
    simp only at hst
    cases body <;> simp [run, signOut, raiseFromResponse, hst]
  | join sid =>
    simp only at hst
    cases hau : authenticated t with
    | false => simp [run, join, hau] at hreq
    | true => cases body <;> simp [run, join, hau, raiseFromResponse, hst]

/-- The other direction for the three operations that read nothing from the body: on an accepted
status (`200` for `sign_out`; `200` or `204` for `invalidate` and for `join` on an authenticated
token) the call returns `True`, whatever the body, and the token is unchanged — `invalidate` does not
clear the stored tokens. -/
theorem accepted_reply_returns_true (t : Token) (r : Reply) (user pass sid : String) :
    (r.status = 200 → (signOut user pass r).1 = .ret true) ∧
    (r.status = 200 ∨ r.status = 204 →
      (invalidate t r).1 = t ∧ (invalidate t r).2.1 = .ret true) ∧
    (r.status = 200 ∨ r.status = 204 → authenticated t = true →
      (join t sid r).1 = t ∧ (join t sid r).2.1 = .ret true) := by
  refine ⟨?_, ?_, ?_⟩
  · intro h; simp [signOut, raiseFromResponse, h]
  · intro h; rcases h with h | h <;> simp [invalidate, raiseFromResponse, h]
  · intro h hau; rcases h with h | h <;> simp [join, raiseFromResponse, h, hau]

/-- `validate`: never changes the token and never raises on a reply.  Without an access token
(`None`; the empty string is let through) it raises `ValueError` and sends nothing.  Otherwise it
posts, returns `True` exactly for status 204, and for EVERY other status — 200, 403, 500 … — it
raises nothing and returns `None`, regardless of the body. -/
theorem validate_true_iff_204 (t : Token) (r : Reply) :
    (validate t r).1 = t ∧
    (t.accessToken = none → validate t r = (t, .valueError, none)) ∧
    (t.accessToken ≠ none →
      (validate t r).2.2 ≠ none ∧
      ((validate t r).2.1 = .ret true ↔ r.status = 204) ∧
      (r.status ≠ 204 → (validate t r).2.1 = .retNone)) := by
  cases ha : t.accessToken with
  | none => simp [validate, ha]
  | some a => by_cases h : r.status = 204 <;> simp [validate, ha, h]

/-- `join` on a token that is not authenticated contacts nobody, leaves the token unchanged and
raises the bare `YggdrasilError("AuthenticationToken hasn't been authenticated yet!")` (no status
code, no fields); and `join` emits a request exactly when the token is authenticated. -/
theorem join_refuses_offline (t : Token) (sid : String) (r : Reply) :
    (authenticated t = false → join t sid r = (t, .notAuthenticated, none)) ∧
    ((join t sid r).2.2 ≠ none ↔ authenticated t = true) := by
  cases h : authenticated t with
  | false => simp [join, h]
  | true => simp [join_req t sid r h]

/-- `authenticate` on a `200` reply whose body has all four keys stores exactly: the `username`
ARGUMENT, the returned access token, client token, profile id and profile name (nothing of the old
token survives — all five fields are overwritten) and returns `True`. -/
theorem success_stores_exactly_authenticate (fresh : String) (t : Token) (user pass : String)
    (inv : Bool) (a c i n : String) :
    let res := authenticate fresh t user pass inv ⟨200, .result (some a) (some c) (some ⟨some i, some n⟩)⟩
    res.1 = ⟨some user, some a, some c, some i, some n⟩ ∧ res.2.1 = .ret true := by
  simp [authenticate, raiseFromResponse, Body.parses, storeReply]

/-- `refresh` on a token that has both tokens, on a `200` reply whose body has all four keys: the
username is kept, the four other fields are replaced by the returned ones, `True` is returned. -/
theorem success_stores_exactly_refresh (t : Token) (a c i n : String)
    (ha : t.accessToken ≠ none) (hc : t.clientToken ≠ none) :
    let res := refresh t ⟨200, .result (some a) (some c) (some ⟨some i, some n⟩)⟩
    res.1 = ⟨t.username, some a, some c, some i, some n⟩ ∧ res.2.1 = .ret true := by
  obtain ⟨u, a0, c0, i0, n0⟩ := t
  cases a0 <;> cases c0 <;> simp_all [refresh, raiseFromResponse, Body.parses, storeReply]

/-- `authenticate` / `refresh` return `True` ONLY in the situation of the two theorems above: status
`200` and a body with all four keys (and, for `refresh`, both tokens set beforehand). -/
theorem returns_true_iff (fresh : String) (t : Token) (user pass : String) (inv : Bool) (r : Reply) :
    ((authenticate fresh t user pass inv r).2.1 = .ret true ↔
      r.status = 200 ∧ ∃ a c i n, r.body = .result (some a) (some c) (some ⟨some i, some n⟩)) ∧
    ((refresh t r).2.1 = .ret true ↔
      t.accessToken ≠ none ∧ t.clientToken ≠ none ∧
      r.status = 200 ∧ ∃ a c i n, r.body = .result (some a) (some c) (some ⟨some i, some n⟩)) := by
  constructor
  · rw [(authenticate_fst_snd fresh t user pass inv r).2, finishStore_true_iff]
  · by_cases h : t.accessToken = none ∨ t.clientToken = none
    · rw [refresh_missing t r h]
      exact ⟨fun h' => (by cases h'), fun h' => (not_or.mpr ⟨h'.1, h'.2.1⟩ h).elim⟩
    · obtain ⟨ha, hc⟩ := not_or.mp h
      rw [(refresh_fst_snd t r ha hc).2, finishStore_true_iff]
      exact ⟨fun h' => ⟨ha, hc, h'⟩, fun h' => h'.2.2⟩

/-- The request each operation posts, for every reply (the request never depends on the reply):

* `authenticate` → `AUTH_SERVER/authenticate` with `agent = {name: "Minecraft", version: 1}`,
  `username`, `password` (the arguments) and — only when `invalidate_previous` is false —
  `clientToken` = the stored client token if it is truthy, otherwise the fresh uuid (also when the
  stored one is `""`).  No `requestUser`.
* `refresh` → `AUTH_SERVER/refresh` with the stored `accessToken`, `clientToken`.
* `validate` → `AUTH_SERVER/validate` with the stored `accessToken` ONLY (no client token).
* `invalidate` → `AUTH_SERVER/invalidate` with `accessToken`, `clientToken`, `null` when unset.
* `sign_out` → `AUTH_SERVER/signout` with `username`, `password`.
* `join` → `SESSION_SERVER/join` with `accessToken`, `selectedProfile = {id, name}` (the whole
  profile object, not just the id), `serverId`. -/
theorem payload_shape (fresh : String) (t : Token) (user pass sid : String) (r : Reply) :
    (authenticate fresh t user pass true r).2.2 = some ⟨.auth, "authenticate",
      [("agent", .obj [("name", .str "Minecraft"), ("version", .num 1)]),
       ("username", .atom (.str user)), ("password", .atom (.str pass))]⟩ ∧
    (authenticate fresh t user pass false r).2.2 = some ⟨.auth, "authenticate",
      [("agent", .obj [("name", .str "Minecraft"), ("version", .num 1)]),
       ("username", .atom (.str user)), ("password", .atom (.str pass)),
       ("clientToken", .atom (.str (if truthy t.clientToken = true then t.clientToken.getD "" else fresh)))]⟩ ∧
    (∀ a c, t.accessToken = some a → t.clientToken = some c →
      (refresh t r).2.2 = some ⟨.auth, "refresh",
        [("accessToken", .atom (.str a)), ("clientToken", .atom (.str c))]⟩) ∧
    (∀ a, t.accessToken = some a →
      (validate t r).2.2 = some ⟨.auth, "validate", [("accessToken", .atom (.str a))]⟩) ∧
    (invalidate t r).2.2 = some ⟨.auth, "invalidate",
      [("accessToken", .atom (.ofOpt t.accessToken)), ("clientToken", .atom (.ofOpt t.clientToken))]⟩ ∧
    (signOut user pass r).2 = ⟨.auth, "signout",
      [("username", .atom (.str user)), ("password", .atom (.str pass))]⟩ ∧
    (∀ a i n, authenticated t = true → t.accessToken = some a → t.profileId = some i →
      t.profileName = some n →
      (join t sid r).2.2 = some ⟨.session, "join",
        [("accessToken", .atom (.str a)),
         ("selectedProfile", .obj [("id", .str i), ("name", .str n)]),
         ("serverId", .atom (.str sid))]⟩) ∧
    (⟨.auth, "authenticate", []⟩ : Request).url = "https://authserver.mojang.com/authenticate" ∧
    (⟨.session, "join", []⟩ : Request).url =
      "https://sessionserver.mojang.com/session/minecraft/join" := by
  refine ⟨?_, ?_, ?_, ?_, invalidate_req t r, signOut_req user pass r, ?_, by decide, by decide⟩
  · simp [authenticate_req]
  · simp [authenticate_req, orElse_eq]
  · intro a c ha hc; exact refresh_req t a c r ha hc
  · intro a ha; exact validate_req t a r ha
  · intro a i n hau ha hi hn
    simp [join_req t sid r hau, ha, hi, hn, PayAtom.ofOpt]

/-- The `ValueError` preconditions are `is None` tests made before anything is sent: `refresh`
refuses exactly when the access token or the client token is `None`, `validate` exactly when the
access token is `None` (empty strings pass); a refusal is `ValueError`, no request, token unchanged.
`authenticate`, `invalidate` and `sign_out` have no precondition and always post. -/
theorem missing_credentials_refuse (fresh : String) (t : Token) (user pass : String) (inv : Bool)
    (r : Reply) :
    (t.accessToken = none ∨ t.clientToken = none → refresh t r = (t, .valueError, none)) ∧
    ((refresh t r).2.2 = none ↔ t.accessToken = none ∨ t.clientToken = none) ∧
    (t.accessToken = none → validate t r = (t, .valueError, none)) ∧
    ((validate t r).2.2 = none ↔ t.accessToken = none) ∧
    (authenticate fresh t user pass inv r).2.2 ≠ none ∧
    (invalidate t r).2.2 ≠ none := by
  refine ⟨?_, ?_, ?_, ?_, by simp [authenticate_req], by simp [invalidate_req]⟩
  · exact refresh_missing t r
  · cases ha : t.accessToken with
    | none => simp [refresh, ha]
    | some a =>
      cases hc : t.clientToken with
      | none => simp [refresh, ha, hc]
      | some c => simp [refresh_req t a c r ha hc]
  · intro ha; simp [validate, ha]
  · cases ha : t.accessToken with
    | none => simp [validate, ha]
    | some a => simp [validate_req t a r ha]

/-- POSSIBLE DEFECT, stated exactly.  `authenticate` on a `200` reply whose JSON object lacks one
of the four keys raises `KeyError` AFTER having already assigned everything that precedes the first
missing key in source order: the username is always overwritten; the access token is overwritten if
present in the reply; the client token if access and client token are both present; the profile id
if additionally `selectedProfile.id` is present; the profile name never.  Every field not so
overwritten keeps its OLD value — the token ends up a mixture of two logins. -/
theorem partial_success_body_authenticate (fresh : String) (t : Token) (user pass : String)
    (inv : Bool) (a c : Option String) (sp : Option ProfileObj)
    (hinc : ¬ ∃ a' c' i n, a = some a' ∧ c = some c' ∧ sp = some ⟨some i, some n⟩) :
    let res := authenticate fresh t user pass inv ⟨200, .result a c sp⟩
    res.2.1 = .keyError ∧
    res.1.username = some user ∧
    res.1.accessToken = (if a.isSome then a else t.accessToken) ∧
    res.1.clientToken = (if a.isSome ∧ c.isSome then c else t.clientToken) ∧
    res.1.profileId =
      (if a.isSome ∧ c.isSome ∧ (sp.bind (·.id)).isSome then sp.bind (·.id) else t.profileId) ∧
    res.1.profileName = t.profileName := by
  intro res
  obtain ⟨h1, h2⟩ : res.1 = _ ∧ res.2.1 = _ := authenticate_fst_snd fresh t user pass inv _
  simp only [finishStore_200, Body.parses, if_true] at h1 h2
  rw [h1, h2]
  exact storeReply_partial { t with username := some user } a c sp hinc

/-- The same for `refresh` (the username is not touched by `refresh`). -/
theorem partial_success_body_refresh (t : Token) (a c : Option String) (sp : Option ProfileObj)
    (ha : t.accessToken ≠ none) (hc : t.clientToken ≠ none)
    (hinc : ¬ ∃ a' c' i n, a = some a' ∧ c = some c' ∧ sp = some ⟨some i, some n⟩) :
    let res := refresh t ⟨200, .result a c sp⟩
    res.2.1 = .keyError ∧
    res.1.username = t.username ∧
    res.1.accessToken = (if a.isSome then a else t.accessToken) ∧
    res.1.clientToken = (if a.isSome ∧ c.isSome then c else t.clientToken) ∧
    res.1.profileId =
      (if a.isSome ∧ c.isSome ∧ (sp.bind (·.id)).isSome then sp.bind (·.id) else t.profileId) ∧
    res.1.profileName = t.profileName := by
  intro res
  obtain ⟨h1, h2⟩ : res.1 = _ ∧ res.2.1 = _ := refresh_fst_snd t _ ha hc
  simp only [finishStore_200, Body.parses, if_true] at h1 h2
  rw [h1, h2]
  exact storeReply_partial t a c sp hinc

/-- A `200` reply whose body is not a result object.  Not JSON / empty: `res.json()` raises
`ValueError` before anything is assigned — token unchanged.  JSON but not an object: `TypeError`;
an error object or any object without `accessToken`: `KeyError`; in these cases `authenticate` has
ALREADY overwritten the username (only the username), `refresh` has changed nothing. -/
theorem success_status_bad_body (fresh : String) (t : Token) (user pass : String) (inv : Bool)
    (b : Body) (hb : ∀ a c sp, b ≠ .result a c sp) :
    let au := authenticate fresh t user pass inv ⟨200, b⟩
    let expected : Outcome :=
      if b = .nonJson ∨ b = .empty then .valueError
      else if b = .jsonNonObject then .typeError else .keyError
    au.2.1 = expected ∧
    au.1 = (if b = .nonJson ∨ b = .empty then t else { t with username := some user }) ∧
    (t.accessToken ≠ none → t.clientToken ≠ none →
      (refresh t ⟨200, b⟩).2.1 = expected ∧ (refresh t ⟨200, b⟩).1 = t) := by
  obtain ⟨u, a0, c0, i0, n0⟩ := t
  cases b with
  | result a c sp => exact absurd rfl (hb a c sp)
  | _ =>
    cases a0 <;> cases c0 <;>
      simp [authenticate, refresh, raiseFromResponse, Body.parses, storeReply]

/-- "Errors leave it untouched", globally: the stored credentials can differ after a call only if
the call was `authenticate` or `refresh`, the reply had status `200` and its body was JSON. -/
theorem token_changes_only_on_200_json (op : Op) (t : Token) (r : Reply)
    (h : (run op t r).1 ≠ t) :
    ((∃ fresh user pass inv, op = .authenticate fresh user pass inv) ∨ op = .refresh) ∧
    r.status = 200 ∧ r.body.parses = true := by
  cases op with
  | authenticate fresh user pass inv =>
    exact ⟨.inl ⟨_, _, _, _, rfl⟩, finishStore_fst_ne t _ r
      (by rw [← (authenticate_fst_snd fresh t user pass inv r).1]; exact h)⟩
  | refresh =>
    refine ⟨.inr rfl, ?_⟩
    by_cases hm : t.accessToken = none ∨ t.clientToken = none
    · exact absurd (by rw [run, refresh_missing t r hm]) h
    · obtain ⟨ha, hc⟩ := not_or.mp hm
      exact finishStore_fst_ne t t r (by rw [← (refresh_fst_snd t r ha hc).1]; exact h)
  | validate => exact absurd (validate_true_iff_204 t _).1 h
  | invalidate => exact absurd (invalidate_tok t _) h
  | signOut user pass => exact absurd rfl h
  | join sid => exact absurd (join_tok t sid _) h

/-- No operation ever returns `False`: the only values returned are `True` and (for `validate`)
`None`. -/
theorem never_returns_false (op : Op) (t : Token) (r : Reply) : (run op t r).2.1 ≠ .ret false := by
  cases op with
  | authenticate fresh user pass inv =>
    rw [run, (authenticate_fst_snd fresh t user pass inv r).2]
    exact finishStore_ne_false _ _ r
  | refresh =>
    by_cases hm : t.accessToken = none ∨ t.clientToken = none
    · rw [run, refresh_missing t r hm]; exact fun h => (by cases h)
    · obtain ⟨ha, hc⟩ := not_or.mp hm
      rw [run, (refresh_fst_snd t r ha hc).2]
      exact finishStore_ne_false _ _ r
  | validate =>
    cases ha : t.accessToken with
    | none => simp [run, validate, ha]
    | some a => by_cases h : r.status = 204 <;> simp [run, validate, ha, h]
  | invalidate =>
    by_cases h : r.status = 204
    · simp [run, invalidate, h]
    · cases h1 : raiseFromResponse r with
      | some e => simpa [run, invalidate, h, h1] using raise_ne_retFalse r e h1
      | none => simp [run, invalidate, h, h1]
  | signOut user pass =>
    cases h1 : raiseFromResponse r with
    | some e => simpa [run, signOut, h1] using raise_ne_retFalse r e h1
    | none => simp [run, signOut, h1]
  | join sid =>
    cases hau : authenticated t with
    | false => simp [run, join, hau]
    | true =>
      by_cases h : r.status = 204
      · simp [run, join, hau, h]
      · cases h1 : raiseFromResponse r with
        | some e => simpa [run, join, hau, h, h1] using raise_ne_retFalse r e h1
        | none => simp [run, join, hau, h, h1]

/-! ## Non-vacuity: concrete instances -/

/-- a fully populated token, and one with an empty-string client token -/
def tokA : Token := ⟨some "alice", some "acc-A", some "cli-A", some "id-A", some "Alice"⟩

example : authenticated tokA = true := by decide
example : authenticated { tokA with clientToken := some "" } = false := by decide
example : authenticated { tokA with profileName := some "" } = true := by decide
example : authenticated ⟨none, none, none, none, none⟩ = false := by decide

-- error_reply_raises_and_preserves: hypotheses satisfiable for each of the five operations
example : run (.authenticate "f" "bob" "pw" false) tokA ⟨403, .errorObj "ForbiddenOperationException" "Invalid credentials." none⟩
    = (tokA, .yggdrasil 403 (some "ForbiddenOperationException") (some "Invalid credentials.") none false,
       some ⟨.auth, "authenticate",
         [("agent", .obj [("name", .str "Minecraft"), ("version", .num 1)]),
          ("username", .atom (.str "bob")), ("password", .atom (.str "pw")),
          ("clientToken", .atom (.str "cli-A"))]⟩) := by decide
example : (run .refresh tokA ⟨500, .nonJson⟩).2.1 = .yggdrasil 500 none none none true := by decide
example : (run .invalidate tokA ⟨404, .jsonNonObject⟩).2.1 = .yggdrasil 404 none none none true := by decide
example : (run (.join "srv") tokA ⟨403, .errorObj "E" "M" (some "C")⟩).2.1
    = .yggdrasil 403 (some "E") (some "M") (some "C") false := by decide
/-- `sign_out` accepts only 200: the documented success reply of the real service, 204 with an empty
body, makes it raise. -/
example : (signOut "bob" "pw" ⟨204, .empty⟩).1 = .yggdrasil 204 none none none true := by decide
example : (invalidate tokA ⟨204, .empty⟩).2.1 = .ret true := by decide

-- validate
example : validate tokA ⟨204, .empty⟩
    = (tokA, .ret true, some ⟨.auth, "validate", [("accessToken", .atom (.str "acc-A"))]⟩) := by decide
example : (validate tokA ⟨403, .errorObj "ForbiddenOperationException" "Invalid token" none⟩).2.1 = .retNone := by
  decide
example : validate { tokA with accessToken := none } ⟨204, .empty⟩
    = ({ tokA with accessToken := none }, .valueError, none) := by decide

-- join
example : join { tokA with username := some "" } "srv" ⟨204, .empty⟩
    = ({ tokA with username := some "" }, .notAuthenticated, none) := by decide
example : (join tokA "srv" ⟨204, .empty⟩).2 = (.ret true, some ⟨.session, "join",
    [("accessToken", .atom (.str "acc-A")),
     ("selectedProfile", .obj [("id", .str "id-A"), ("name", .str "Alice")]),
     ("serverId", .atom (.str "srv"))]⟩) := by decide

-- success
example : (authenticate "f" ⟨none, none, none, none, none⟩ "bob" "pw" false
      ⟨200, .result (some "acc-B") (some "cli-B") (some ⟨some "id-B", some "Bob"⟩)⟩)
    = (⟨some "bob", some "acc-B", some "cli-B", some "id-B", some "Bob"⟩, .ret true,
       some ⟨.auth, "authenticate",
         [("agent", .obj [("name", .str "Minecraft"), ("version", .num 1)]),
          ("username", .atom (.str "bob")), ("password", .atom (.str "pw")),
          ("clientToken", .atom (.str "f"))]⟩) := by decide
example : (refresh tokA ⟨200, .result (some "acc-2") (some "cli-2") (some ⟨some "id-2", some "Al"⟩)⟩).1
    = ⟨some "alice", some "acc-2", some "cli-2", some "id-2", some "Al"⟩ := by decide

/-- The partial-body defect on a realistic reply: an account without a game profile gets a `200`
with tokens but no `selectedProfile`.  Logging such an account ("bob") in on a token previously
authenticated as "alice" raises `KeyError` and leaves bob's username and tokens next to ALICE's
profile — and the token claims to be authenticated. -/
example :
    let res := authenticate "f" tokA "bob" "pw" false ⟨200, .result (some "acc-B") (some "cli-B") none⟩
    res.1 = ⟨some "bob", some "acc-B", some "cli-B", some "id-A", some "Alice"⟩ ∧
    res.2.1 = .keyError ∧ authenticated res.1 = true := by decide
example : ¬ ∃ a' c' i n, (some "acc-B" : Option String) = some a' ∧ (some "cli-B" : Option String) = some c' ∧
    (none : Option ProfileObj) = some ⟨some i, some n⟩ := by simp

-- success_status_bad_body
example : (authenticate "f" tokA "bob" "pw" false ⟨200, .jsonNonObject⟩).1 = { tokA with username := some "bob" } ∧
    (authenticate "f" tokA "bob" "pw" false ⟨200, .jsonNonObject⟩).2.1 = .typeError := by decide

-- token_changes_only_on_200_json: the hypothesis is satisfiable
example : (run .refresh tokA ⟨200, .result (some "x") none none⟩).1 ≠ tokA := by decide

end PyCraft.C19
