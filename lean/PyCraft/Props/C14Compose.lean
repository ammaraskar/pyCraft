import PyCraft.Lemmas.C14ComposeRun
import PyCraft.Lemmas.C14ComposeLife
import PyCraft.Props.C14
import PyCraft.Props.C16
/-!
# C14, composed — from the origin of an exception to a reusable connection

Covers rank 4 of `docs/audit_report.md`: the clauses that connect an exception's ORIGIN to the
handler chain, and the chain to "ends that thread, closes the connection (unless a handler already
started a new one) … can connect again".  Line numbers refer to
`minecraft/networking/connection.py`.

PART I is about `Model/C14Compose.lean` (`ExcFlow`): ONE networking thread from `_run` to the end
of `run`, sequentially, with listeners / reaction / `read_packet` / write phase / exit callback
that can raise, with handlers that can call `disconnect()` and `connect()`, with the `exc_info`
pair, with the final locked block.  Every theorem is for ALL setups (hierarchies, listeners,
reactions, reactor handlers, handler chains, final handlers, exit callbacks), ALL write and read
scripts and ALL start states of the connection (subject to the stated, satisfiable hypotheses).

PART II is about the transition system `Model/Lifecycle.lean` (`Life`): the same facts for ALL
server behaviours, user programs, reconnect budgets and schedules — what other threads do
between the `except` clause and the final block cannot invalidate them.

PART III refutes, on concrete instances by kernel evaluation, three code changes that the theorems
of `Props/C14.lean` and `Props/C16.lean` do not notice (`except IgnorePacket` → `except Exception`
in `_react`; `read_packet` wrapped in a `try` that yields `None`; `self.interrupt = True` deleted
from `run`).

Vocabulary (`Lemmas/C14Compose*.lean`): `stagesX` = documented call sequence for a packet;
`cutAfterFirst DEv.notOk` = cut just after the first callback that does not return normally;
`TEv.raisedExc ev = some e` = the log event `ev` let `e` escape into the thread;
`TEv.isActivity` = events of `_run` / `_handle_exit`; `HxOut.events` = calls and final block of
`_handle_exception`; `effR / effHandlers / effFin` = the reactor's handler, the handlers and the
final handler AS THEY BEHAVED (nominal behaviour, or `raises InvalidState` when a `connect()`
inside them was refused); `Conn.FreshNew c` = an uninterrupted `new_networking_thread` owns the
open socket of the latest `_connect()`.
-/
namespace PyCraft.C14Compose
open PyCraft PyCraft.ExcFlow

/-! ## PART I — one thread, from origin to end -/

/-- Origin inside `_react`: the callbacks invoked for a packet are the documented
sequence — matching early listeners in registration order, the reaction, matching ordinary
listeners — cut just after the FIRST one that does not return normally; the `disconnect()` calls
of exactly those callbacks are applied; and `_react` lets `e` escape iff that first one raised `e`
(`IgnorePacket` is swallowed, nothing else is). -/
theorem react_is_spec (hier : Hier) (early ordinary : List XListener) (rx : PCb) (cls : Nat)
    (c : Conn) :
    (reactX hier early ordinary rx cls c).1 =
      cutAfterFirst DEv.notOk (stagesX hier early ordinary rx cls) ∧
    (reactX hier early ordinary rx cls c).2.1 =
      applyDiscs c (reactX hier early ordinary rx cls c).1 ∧
    ((reactX hier early ordinary rx cls c).2.2 = .done ↔
      ∀ ev ∈ stagesX hier early ordinary rx cls, ev.out = .ok) ∧
    (∀ e, (reactX hier early ordinary rx cls c).2.2 = .escaped e ↔
      ∃ ev, (stagesX hier early ordinary rx cls).find? DEv.notOk = some ev ∧ ev.out = .raises e) ∧
    ((reactX hier early ordinary rx cls c).2.2 = .ignored ↔
      ∃ ev, (stagesX hier early ordinary rx cls).find? DEv.notOk = some ev ∧ ev.out = .ignore) := by
  rw [reactX_eq]
  exact ⟨rfl, rfl, classify_find _⟩

/-- Origin → chain → end of thread: in the log of ANY run of the
networking thread, an event that let an exception `e` escape — a listener's callback or the
reaction (via `_react`), `read_packet`, the write phase, the deferred write error, the exit
callback — is preceded only by activity events that let nothing escape, and is followed by
EXACTLY: `self.interrupt = True`, the calls and the final block of
`_handle_exception(e, exc_info)` with `exc_info[1] = e` run on the connection as it then was (own
flag set), and `networking_thread = None`.  So the thread has ended, no packet is read, written or
dispatched afterwards, the first call of the chain is the reactor's handler with exactly `e`, the
exception leaving `run` is the one `_handle_exception` re-raises, and the unread part of the
script is a suffix of the script (nothing was consumed behind the thread's back).  -/
theorem exception_enters_chain (S : Setup) (ws : List WRes) (rs : List RdRes) (c : Conn)
    (pre : List TEv) (ev : TEv) (post : List TEv) (e : Exc)
    (hl : (runThread S ws rs c).log = pre ++ ev :: post) (he : ev.raisedExc = some e) :
    (∀ x ∈ pre, x.raisedExc = none ∧ x.isActivity = true) ∧ ev.isActivity = true ∧
    (runThread S ws rs c).entered = some (e, e) ∧ (runThread S ws rs c).ended = true ∧
    (runThread S ws rs c).conn.nt = none ∧ (runThread S ws rs c).rest <:+ rs ∧
    ∃ c1 rh h, c.Le c1 ∧ (rh = S.rh ∨ rh = S.rhNew) ∧ (c1.conns = c.conns → rh = S.rh) ∧
      h = hx S.hier S.inv rh S.handlers S.fin e e { c1 with nt := c1.nt.map fun _ => true } ∧
      (runThread S ws rs c).hx = some h ∧
      post = [.setIntr] ++ h.events ++ [.slotCleared] ∧
      (∀ x ∈ post, x.raisedExc = none ∧ x.isActivity = false) ∧
      (∃ r, h.out.trace.head? = some (.reactor e r)) ∧
      (runThread S ws rs c).reraised = h.out.reraised ∧
      (runThread S ws rs c).conn = { h.conn with nt := none } := by
  obtain ⟨hsuf, -⟩ := runThreadWith_shape (pyCode S) (pyCode_ok S) S ws rs c
  obtain ⟨c1, h1, h2, h3, h4, hpost⟩ :=
    thread_escape (pyCode S) (pyCode_ok S) S ws rs c pre ev post e hl he
  unfold runThread
  refine ⟨fun x hx => ⟨h3 x hx, h2 x (by simp [hx])⟩, h2 ev (by simp), by rw [h4]; rfl,
    by rw [h4]; rfl, by rw [h4]; rfl, hsuf, c1, if c1.conns = c.conns then S.rh else S.rhNew, _, h1,
    ?_, ?_, rfl, by rw [h4]; rfl, hpost, ?_, hx_head _ _ _ _ _ _ _ _, by rw [h4]; rfl,
    by rw [h4]; rfl⟩
  · split <;> simp
  · intro hc; simp [hc]
  · rw [hpost]; exact HxOut.events_quiet _

/-- Conversely `_handle_exception` is entered only with an
exception that some activity event of the log let escape, and with `exc_info[1]` being that very
exception; if it is not entered, no event let anything escape, nothing leaves `run`, and a thread
that has ended has cleared its slot. -/
theorem chain_entered_only_by_escape (S : Setup) (ws : List WRes) (rs : List RdRes) (c : Conn) :
    (∀ e i, (runThread S ws rs c).entered = some (e, i) →
      i = e ∧ ∃ pre ev post, (runThread S ws rs c).log = pre ++ ev :: post ∧
        ev.raisedExc = some e) ∧
    ((runThread S ws rs c).entered = none →
      (runThread S ws rs c).hx = none ∧ (runThread S ws rs c).reraised = none ∧
      (∀ x ∈ (runThread S ws rs c).log, x.raisedExc = none) ∧
      ((runThread S ws rs c).ended = true → (runThread S ws rs c).conn.nt = none)) :=
  ⟨fun e i h => thread_entered (pyCode S) (pyCode_ok S) S ws rs c e i h,
   fun h => thread_quiet (pyCode S) (pyCode_ok S) S ws rs c h⟩

/-- The same as a predicate on the run (`EscapesEnterChain`), the form
against which changed code is tested in PART III. -/
theorem escapes_enter_chain (S : Setup) (ws : List WRes) (rs : List RdRes) (c : Conn) :
    EscapesEnterChain (runThread S ws rs c) := by
  intro pre ev post e hl he
  obtain ⟨-, -, h3, h4, -, -, c1, rh, h, -, -, -, -, -, -, h5, -⟩ :=
    exception_enters_chain S ws rs c pre ev post e hl he
  exact ⟨h3, h4, fun x hx => (h5 x hx).2⟩

/-- The pure observable of the composed run IS `handleException` of
`Model/Handlers.lean` — applied to the exception that escaped and to the reactor's handler, the
handlers and the final handler as they behaved — so every theorem of `Props/C14.lean`, being about
`handleException`, applies to the composed thread.  The handlers as they behaved have the
registered ids and type filters in the registered order, and the registered behaviour unless a `connect()` inside them raised
`InvalidState`; without `connect()` calls they ARE the registered ones.  The `exc_info[1]` passed
with every call is the exception passed with it, the recorded `exc_info[1]` is the recorded
exception, and what leaves `run` — `exc_info[1]` — is the recorded exception (`C14.reraise_iff`
transferred). -/
theorem chain_is_the_c14_chain (S : Setup) (ws : List WRes) (rs : List RdRes) (c : Conn)
    (h : HxOut) (e i : Exc) (hh : (runThread S ws rs c).hx = some h)
    (he : (runThread S ws rs c).entered = some (e, i)) :
    h.out = handleException S.hier h.effR h.effHandlers h.effFin e ∧
    AllEff S.inv h.effHandlers S.handlers ∧
    h.effHandlers.map (·.id) = S.handlers.map (·.id) ∧
    h.effHandlers.map (·.types) = S.handlers.map (·.types) ∧
    ((∀ x ∈ S.handlers, Act.connect ∉ x.acts) → h.effHandlers = S.handlers.map XHandler.erase) ∧
    h.infos = h.out.trace.map CallEv.arg ∧
    h.recordedInfo = h.out.recorded ∧
    (∀ x, (runThread S ws rs c).reraised = some x →
      h.recordedInfo = some x ∧ h.out.recorded = some x ∧ S.fin = .none ∧ h.out.caught = false) := by
  obtain ⟨c1, e0, -, hh, hent, hre, -⟩ := runThread_hx S ws rs c h hh
  rw [hent] at he
  obtain ⟨rfl, rfl⟩ := Prod.mk.inj (Option.some.inj he)
  rw [hre]
  obtain ⟨o1, o2, o3, o4⟩ := hx_out S.hier S.inv (if c1.conns = c.conns then S.rh else S.rhNew)
    S.handlers S.fin e0 ((pyCode S).excPrologue c1)
  have hfin := hx_effFin_none S.hier S.inv (if c1.conns = c.conns then S.rh else S.rhNew)
    S.handlers S.fin e0 e0 ((pyCode S).excPrologue c1)
  rw [hh] at o1 o2 o3 o4 hfin
  refine ⟨o1, o4, o4.ids.1, o4.ids.2, fun hn => allEff_noConnect S.inv _ _ o4 hn, o2, o3, ?_⟩
  intro x hx
  -- `C14.reraise_iff` for the handlers as they behaved
  have hiff := C14.reraise_iff S.hier h.effR h.effHandlers h.effFin e0
  rw [← o1] at hiff
  obtain ⟨f1, f2, -⟩ := hiff.1.mp (by rw [hx]; simp)
  have hrec := hiff.2.2.1 x hx
  exact ⟨o3.trans hrec, hrec, hfin.mp f1, f2⟩

/-- Chain → cleanup, clauses "closes the connection (unless a handler
has already started a new one)": let the thread occupy the slot and let any uninterrupted
successor own the open socket at the start.  Whenever `_handle_exception` is entered and the
reactor's handler does not swallow the exception, the final locked block never finds both slots
empty, and
* if an uninterrupted `new_networking_thread` exists at that moment — some callback has
  `connect()`ed since and nobody has disconnected after that — the block leaves everything alone:
  the new socket is open, `connected` is true, the successor is still uninterrupted;
* otherwise it executes `disconnect(immediate=True)`: the socket is `None`, `connected` is
  false, and the socket that was open before the block is among the closed ones.
The decision is DERIVED from `self.interrupt = True` in `run` (l.607), not assumed. -/
theorem closes_unless_reconnected (S : Setup) (ws : List WRes) (rs : List RdRes) (c : Conn)
    (hslot : c.nt.isSome = true) (hfresh : c.FreshNew) (h : HxOut)
    (hh : (runThread S ws rs c).hx = some h) (hsw : h.effR ≠ .retTrue) :
    h.cleanup ≠ .failed ∧ h.connAtCleanup.nt = some true ∧
    (h.connAtCleanup.new = some false →
      h.cleanup = .spared ∧ (runThread S ws rs c).conn = { h.connAtCleanup with nt := none } ∧
      (∃ k, (runThread S ws rs c).conn.sock = some k ∧ k + 1 = (runThread S ws rs c).conn.conns) ∧
      (runThread S ws rs c).conn.connected = true ∧
      (c.new ≠ some false → c.conns < (runThread S ws rs c).conn.conns)) ∧
    (h.connAtCleanup.new ≠ some false →
      h.cleanup = .disconnected ∧ (runThread S ws rs c).conn.sock = none ∧
      (runThread S ws rs c).conn.connected = false ∧
      (∀ k, h.connAtCleanup.sock = some k → k ∈ (runThread S ws rs c).conn.closed) ∧
      (h.connAtCleanup.conns = c.conns → ∀ k, c.sock = some k →
        k ∈ (runThread S ws rs c).conn.closed)) := by
  obtain ⟨c1, e, hle, hh, -, -, hconn⟩ := runThread_hx S ws rs c h hh
  rw [hconn]
  -- the connection when `_handle_exception` starts: own flag set, a fresh successor still fresh
  have hle1 := hle.trans (pyPrologue_le S c1)
  have hnt1 : ((pyCode S).excPrologue c1).nt = some true := by
    have := hle.slot hslot
    cases hn : c1.nt <;> simp_all [pyCode]
  obtain ⟨g1, g2, g3, g4⟩ := hx_cleanup S.hier S.inv (if c1.conns = c.conns then S.rh else S.rhNew)
    S.handlers S.fin e e _ hnt1 (hle1.fresh hfresh)
  obtain ⟨gle, -⟩ := hx_conn S.hier S.inv (if c1.conns = c.conns then S.rh else S.rhNew)
    S.handlers S.fin e e ((pyCode S).excPrologue c1)
  rw [hh] at g1 g2 g3 g4 gle
  -- everything from the start of the thread to the final block is API calls
  have le := hle1.trans gle
  obtain ⟨k1, k2⟩ := g4 hsw
  refine ⟨g1, g2, fun hnew => ?_, fun hnew => ?_⟩
  · obtain ⟨a, b⟩ := k1 hnew
    obtain ⟨⟨k, s1, s2⟩, s3⟩ := g3 hnew
    rw [b]
    refine ⟨a, rfl, ⟨k, s1, s2⟩, s3, fun hc0 => Nat.lt_of_le_of_ne le.conns fun heq => ?_⟩
    -- a successor that is uninterrupted now but was not there (or interrupted) before: connected
    rcases le.same heq.symm with g | ⟨-, g⟩
    · exact hc0 (g ▸ hnew)
    · rw [g] at hnew; cases hnew
  · obtain ⟨a, b⟩ := k2 hnew
    obtain ⟨d1, d2, d3, -⟩ := disconnect_spec h.connAtCleanup
    rw [b]
    refine ⟨a, d1, d2, d3, fun heq k hk => ?_⟩
    rcases le.sockKept heq k hk with g | g
    · exact d3 k g
    · obtain ⟨m, hm⟩ := (disconnect_le h.connAtCleanup).closed
      simp only [hm, List.mem_append]; exact .inl g

/-- The previous theorem as a predicate on the run
(`ClosedUnlessReconnected`), the form against which changed code is tested in PART III. -/
theorem closed_unless_reconnected (S : Setup) (ws : List WRes) (rs : List RdRes) (c : Conn)
    (hslot : c.nt.isSome = true) (hfresh : c.FreshNew) :
    ClosedUnlessReconnected (runThread S ws rs c) := by
  intro h hh hsw hnew
  obtain ⟨-, a, b, -⟩ :=
    (closes_unless_reconnected S ws rs c hslot hfresh h hh hsw).2.2.2 hnew
  exact ⟨a, b⟩

/-- Why l.607 matters for "unless a handler has already started a
new one": when `_handle_exception` starts with the own flag set and no successor thread, a
reactor handler whose first `connect()` comes after any number of `disconnect()`s is NOT refused
with `InvalidState`: it behaves as written, a new socket is installed and an uninterrupted
`new_networking_thread` exists afterwards.  More generally (`runActs`), in such a state the first
`connect()` of any callback succeeds. -/
theorem first_callback_can_reconnect (hier : Hier) (inv : Exc) (rh : XReactorH)
    (hs : List XHandler) (fin : XFinal) (e info : Exc) (c : Conn) (pre : List Act)
    (hnt : c.nt = some true) (hnew : c.new = none) (hacts : rh.acts = pre ++ [.connect])
    (hpre : Act.connect ∉ pre) :
    (hx hier inv rh hs fin e info c).effR = rh.rbeh ∧
    (runActs inv rh.acts c).2 = none ∧ (runActs inv rh.acts c).1.new = some false ∧
    (runActs inv rh.acts c).1.conns = c.conns + 1 ∧
    (∀ (acts : List Act), Act.connect ∉ acts →
      (runActs inv (acts ++ [.connect]) c).2 = none ∧
      (runActs inv (acts ++ [.connect]) c).1.new = some false) := by
  obtain ⟨a1, a2, a3⟩ := first_connect_ok inv pre hpre c hnt hnew
  rw [← hacts] at a1 a2 a3
  refine ⟨?_, a1, a2, a3, fun acts ha => ?_⟩
  · rw [(hx_effR hier inv rh hs fin e info c).1, a1]; rfl
  · obtain ⟨b1, b2, -⟩ := first_connect_ok inv acts ha c hnt hnew
    exact ⟨b1, b2⟩

/-- Clause "afterwards the same connection object can connect
again": once `run` has ended — normally or through the exception path, whatever the handlers did
— the slot is empty, so `connect()` is refused with `InvalidState` exactly when a
`new_networking_thread` exists, i.e. only when some callback of this very run has already
connected (if there was no successor at the start and nothing connected since, there is none
now); and when it is not refused it installs the next socket and starts a fresh, uninterrupted
thread directly in the slot. -/
theorem reconnectable_afterwards (S : Setup) (ws : List WRes) (rs : List RdRes) (c : Conn)
    (hend : (runThread S ws rs c).ended = true) :
    (runThread S ws rs c).conn.nt = none ∧
    ((runThread S ws rs c).conn.connect = none ↔ (runThread S ws rs c).conn.new.isSome = true) ∧
    (c.new = none → (runThread S ws rs c).conn.conns = c.conns →
      (runThread S ws rs c).conn.new = none) ∧
    (∀ c', (runThread S ws rs c).conn.connect = some c' →
      c'.nt = some false ∧ c'.new = none ∧ c'.sock = some (runThread S ws rs c).conn.conns ∧
      c'.connected = true ∧ c'.conns = (runThread S ws rs c).conn.conns + 1) := by
  obtain ⟨c2, hle, hc⟩ := thread_ended S ws rs c hend
  unfold runThread
  rw [hc]
  obtain ⟨s1, s2⟩ := connect_spec { c2 with nt := none }
  refine ⟨rfl, ?_, fun hn he => hle.noNew he hn, fun c' hc' => ?_⟩
  · rw [s1]; simp [Conn.busy]
  · obtain ⟨t1, t2, t3, -, t5, -⟩ := s2 c' hc'
    obtain ⟨t5a, t5b⟩ := t5 rfl
    exact ⟨t5a, t5b, t1, t2, t3⟩

/-- The deferred `IOError` of the write phase, l.617-625, 645-653: when the
write phase of an iteration ends with an `IOError` `e0`, exactly one of three things happens in
that iteration of `_run`: (1) the read phase lets another exception `e1` escape — `e1`, not `e0`,
enters the chain; (2) nothing escapes and `e0` is still pending — it is raised at the end of the
iteration (`deferred e0` is the last event) and enters the chain; (3) nothing escapes and `e0` was
forgiven — then a packet with `packet_name == "disconnect"` was read and dispatched in this very
iteration, and `_run` simply goes on with the next iteration.  The pending error is never replaced
by anything else. -/
theorem write_error_fate (S : Setup) (n : Nat) (e0 : Exc) (ws : List WRes) (rs : List RdRes)
    (c : Conn) (hi : c.selfIntr = false) :
    ((readLoop (pyCode S) rs n (some e0) c).pend = some e0 ∨
      (readLoop (pyCode S) rs n (some e0) c).pend = none) ∧
    (∀ e1, (readLoop (pyCode S) rs n (some e0) c).exc = some e1 →
      (runLoop (pyCode S) (.ioError n e0 :: ws) rs c).res = .raised e1 ∧
      (runLoop (pyCode S) (.ioError n e0 :: ws) rs c).log =
        .write (.ioError n e0) :: (readLoop (pyCode S) rs n (some e0) c).log) ∧
    ((readLoop (pyCode S) rs n (some e0) c).exc = none →
      (readLoop (pyCode S) rs n (some e0) c).pend = some e0 →
      (runLoop (pyCode S) (.ioError n e0 :: ws) rs c).res = .raised e0 ∧
      (runLoop (pyCode S) (.ioError n e0 :: ws) rs c).log =
        .write (.ioError n e0) :: (readLoop (pyCode S) rs n (some e0) c).log ++ [.deferred e0] ∧
      TEv.forgiven e0 ∉ (readLoop (pyCode S) rs n (some e0) c).log) ∧
    ((readLoop (pyCode S) rs n (some e0) c).exc = none →
      (readLoop (pyCode S) rs n (some e0) c).pend = none →
      (runLoop (pyCode S) (.ioError n e0 :: ws) rs c).res =
        (runLoop (pyCode S) ws (readLoop (pyCode S) rs n (some e0) c).rest
          (readLoop (pyCode S) rs n (some e0) c).conn).res ∧
      TEv.forgiven e0 ∈ (readLoop (pyCode S) rs n (some e0) c).log) ∧
    (∀ e, TEv.forgiven e ∈ (readLoop (pyCode S) rs n (some e0) c).log →
      e = e0 ∧ ∃ a cls b, (readLoop (pyCode S) rs n (some e0) c).log =
        a ++ TEv.read (.packet cls true) :: b) := by
  obtain ⟨p1, p2⟩ := readLoop_pend (pyCode S) (pyCode_ok S) rs n (some e0) c
  rw [runLoop]
  simp only [hi, Bool.false_eq_true, ↓reduceIte]
  refine ⟨?_, fun e1 h1 => ?_, fun h1 h2 => ?_, fun h1 h2 => ?_, fun e he => ?_⟩
  · rcases p1 with g | ⟨g, -⟩
    · exact .inl g
    · exact .inr g
  · simp [h1]
  · simp only [h1, h2, true_and]
    intro hf
    -- still pending although forgiven: impossible, a forgiven error is gone for good
    have := (p2 e0 hf).2.1
    rw [h2] at this; cases this
  · simp only [h1, h2, true_and]
    rcases p1 with g | ⟨-, e, g1, g2⟩
    · rw [g] at h2; cases h2
    · cases g1; exact g2
  · obtain ⟨g1, -, g2⟩ := p2 e he
    exact ⟨(Option.some.inj g1).symm, g2⟩

/-! ### Non-vacuity of PART I -/

/-- 1 = `Exception`, 2 = `OSError(Exception)`, 3 = `CustomException(Exception)`,
7 = `InvalidState(Exception)`; packet classes 100 = `Packet`, 101 = `JoinGamePacket(Packet)`. -/
private def hr₀ : Hier := [(2, 1), (3, 1), (7, 1), (101, 100)]

/-- The scenario of `ExceptionReconnectTest` without its `disconnect(immediate=True)`: an ordinary
listener for `JoinGamePacket` raises `CustomException`; an early handler for `CustomException`
calls `connect()`. -/
private def S₁ : Setup where
  hier := hr₀
  inv := ⟨7, 0⟩
  early := []
  ordinary := [⟨5, [101], false, .raises ⟨3, 1⟩⟩]
  rx := fun _ => ⟨false, .ok⟩
  rh := ⟨[], .retFalse⟩
  rhNew := ⟨[], .retFalse⟩
  handlers := [⟨10, [3], [.connect], .returns⟩]
  fin := .none
  exit := none

/-- The listener's exception enters the chain; the handler's `connect()` is NOT refused (the own
flag was set at l.607); the final block spares the new connection; nothing is re-raised; the old
socket 0 was replaced by socket 1, which is open; unread input stays unread. -/
example :
    runThread S₁ [.wrote 0] [.packet 101 false, .packet 101 false] Conn.fresh =
      { log := [.write (.wrote 0), .read (.packet 101 false), .cb ⟨.reaction, false, .ok⟩,
                .cb ⟨.ordinary 5, false, .raises ⟨3, 1⟩⟩, .setIntr,
                .call (.reactor ⟨3, 1⟩ none) ⟨3, 1⟩, .call (.handler 10 ⟨3, 1⟩ none) ⟨3, 1⟩,
                .cleanup false, .slotCleared],
        conn := ⟨none, some false, some 1, true, 2, []⟩,
        rest := [.packet 101 false], ended := true, entered := some (⟨3, 1⟩, ⟨3, 1⟩),
        hx := (runThread S₁ [.wrote 0] [.packet 101 false, .packet 101 false] Conn.fresh).hx,
        reraised := none } := by decide +kernel

/-- Hypotheses of `exception_enters_chain`, `closes_unless_reconnected` (spared branch) and
`chain_is_the_c14_chain` are satisfiable together. -/
example :
    let o := runThread S₁ [.wrote 0] [.packet 101 false] Conn.fresh
    (∃ h, o.hx = some h ∧ h.effR ≠ .retTrue ∧ h.connAtCleanup.new = some false ∧
      h.cleanup = .spared) ∧ Conn.fresh.nt.isSome = true ∧ Conn.fresh.FreshNew ∧
    o.entered = some (⟨3, 1⟩, ⟨3, 1⟩) :=
  ⟨⟨_, rfl, by decide +kernel, by decide +kernel, by decide +kernel⟩, rfl,
    fun h => (by cases h), by decide +kernel⟩

/-- Without a reconnecting handler the same exception closes the connection and, with final
handler `None` and nobody catching, leaves `run`: the other branch of
`closes_unless_reconnected`, and `reconnectable_afterwards` with `connect()` possible. -/
example :
    let o := runThread { S₁ with handlers := [] } [.wrote 0] [.packet 101 false] Conn.fresh
    o.conn = ⟨none, none, none, false, 1, [0]⟩ ∧ o.reraised = some ⟨3, 1⟩ ∧ o.ended = true ∧
    o.conn.connect = some ⟨some false, none, some 1, true, 2, [0]⟩ := by decide +kernel

/-- Every origin is reachable: `read_packet` raising, the reaction raising, an early listener
raising, the write phase raising, a deferred write error (raised at the end of the iteration;
forgiven when a disconnect packet is read in the same iteration), and the exit callback. -/
example :
    (runThread S₁ [.wrote 0] [.raises ⟨2, 9⟩] Conn.fresh).entered = some (⟨2, 9⟩, ⟨2, 9⟩) ∧
    (runThread { S₁ with rx := fun _ => ⟨false, .raises ⟨2, 8⟩⟩ } [.wrote 0] [.packet 100 false]
      Conn.fresh).entered = some (⟨2, 8⟩, ⟨2, 8⟩) ∧
    (runThread { S₁ with early := [⟨4, [100], false, .raises ⟨2, 7⟩⟩] } [.wrote 0]
      [.packet 101 false] Conn.fresh).entered = some (⟨2, 7⟩, ⟨2, 7⟩) ∧
    (runThread S₁ [.raises ⟨3, 6⟩] [] Conn.fresh).entered = some (⟨3, 6⟩, ⟨3, 6⟩) ∧
    (runThread S₁ [.ioError 0 ⟨2, 5⟩] [.packet 100 false] Conn.fresh).entered =
      some (⟨2, 5⟩, ⟨2, 5⟩) ∧
    (runThread S₁ [.ioError 0 ⟨2, 5⟩, .wrote 0] [.packet 100 true] Conn.fresh).entered = none ∧
    (runThread { S₁ with rx := fun _ => ⟨true, .ok⟩, exit := some ⟨[], .raises ⟨3, 4⟩⟩ }
      [.wrote 0] [.packet 100 true] Conn.fresh).entered = some (⟨3, 4⟩, ⟨3, 4⟩) := by
  decide +kernel

/-- Hypothesis and all three cases of `write_error_fate`: superseded by a read error, raised at
the end of the iteration, forgiven by a disconnect packet. -/
example :
    Conn.fresh.selfIntr = false ∧
    (runLoop (pyCode S₁) [.ioError 0 ⟨2, 5⟩] [.raises ⟨2, 9⟩] Conn.fresh).res = .raised ⟨2, 9⟩ ∧
    (runLoop (pyCode S₁) [.ioError 0 ⟨2, 5⟩] [.packet 100 false, .none] Conn.fresh).log =
      [.write (.ioError 0 ⟨2, 5⟩), .read (.packet 100 false), .cb ⟨.reaction, false, .ok⟩,
       .read .none, .deferred ⟨2, 5⟩] ∧
    (runLoop (pyCode S₁) [.ioError 0 ⟨2, 5⟩] [.packet 100 true, .none] Conn.fresh).log =
      [.write (.ioError 0 ⟨2, 5⟩), .read (.packet 100 true), .cb ⟨.reaction, false, .ok⟩,
       .forgiven ⟨2, 5⟩, .read .none] := by decide +kernel

/-- `IgnorePacket` is not an origin: the packet's remaining callbacks are skipped and the thread
goes on reading. -/
example :
    (runThread { S₁ with early := [⟨4, [100], false, .ignore⟩] } [.wrote 0]
      [.packet 101 false, .none] Conn.fresh).log =
      [.write (.wrote 0), .read (.packet 101 false), .cb ⟨.early 4, false, .ignore⟩,
       .read .none] := by decide +kernel

/-- A second `connect()` in the same exception path IS refused (a successor exists): the handler
as it behaved raises `InvalidState`, which replaces the exception — `effHandlers` differs from the
registered handlers exactly there. -/
example :
    let o := runThread { S₁ with handlers := [⟨10, [3], [.connect], .raises ⟨3, 2⟩⟩,
                                              ⟨11, [], [.connect], .returns⟩], fin := .false }
      [.wrote 0] [.packet 101 false] Conn.fresh
    (o.hx.map fun h => (h.effHandlers, h.out.recorded, h.cleanup)) =
      some ([⟨10, [3], .raises ⟨3, 2⟩⟩, ⟨11, [], .raises ⟨7, 0⟩⟩], some ⟨7, 0⟩, .spared) := by
  decide +kernel

/-- Hypotheses of `first_callback_can_reconnect` (the `PlayingStatusReactor` fallback:
`disconnect(immediate=True); connect(); return True`). -/
example : (hx hr₀ ⟨7, 0⟩ ⟨[.disconnect, .connect], .retTrue⟩ [] .none ⟨2, 1⟩ ⟨2, 1⟩
    ⟨some true, none, some 0, true, 1, []⟩).conn = ⟨some true, some false, some 1, true, 2, [0]⟩ := by
  decide +kernel

/-! ## PART II — the same, for all schedules (`Model/Lifecycle.lean`)

`s := Life.run env (Life.init progs rl rh) sched` is an arbitrary reachable state of the
transition system; `(s.net i).pc = .exc` = networking thread `i` is at `except Exception as e:` in
`run` (an exception has just left `_run` or `_handle_exit`: a failed read, a failed write, a
refused `connect()` of a listener); `NPc.inHandler` = inside `_handle_exception`;
`NPc.onExcPath` = from the `except` clause to the death of the thread; `NPc.pastChk` = after the
final locked block; `Ev.isLoop` = events of the packet loop (flag test, write phase,
`read_packet`, exit callback). -/

/-- In every reachable state, a networking thread that is
inside `_handle_exception` (running handlers, inside a handler's `connect()`, at or after the
final locked block) has its `interrupt` flag set and occupies the `networking_thread` slot — the
hypothesis `(s.net j).intr = true` that `C16.handler_cleanup_is_atomic` assumes is a theorem. -/
theorem flag_set_inside_handle_exception (env : List Life.Beh) (progs : List (List Life.Op))
    (rl rh : Nat) (sched : List Life.Tid) (i : Nat) :
    let s := Life.run env (Life.init progs rl rh) sched
    (s.net i).pc.inHandler = true → (s.net i).intr = true ∧ s.nt = some i := by
  intro s hp
  have h := Life.reach_inv env progs rl rh sched
  refine ⟨Life.reach_hinv env progs rl rh sched i hp, (h.nt_iff i).mpr ?_⟩
  revert hp
  cases (s.net i).pc
  case call site => cases site <;> simp [Life.NPc.inHandler, Life.NPc.holds]
  case callRel site out => cases site <;> simp [Life.NPc.inHandler, Life.NPc.holds]
  all_goals simp [Life.NPc.inHandler, Life.NPc.holds]

/-- When thread `i` executes the final locked block of
`_handle_exception` in ANY reachable state, the flag it reads (`Life.cleanupFlag`, the same
decision table as `ExcFlow.Conn.cleanupFlag`) is never absent, and
* with no `new_networking_thread` it is the thread's own flag, which IS set: the block executes
  `disconnect(immediate=True)` — socket `None`, `connected` false, slots unchanged;
* with an uninterrupted successor `j` (a `connect()` by a handler or by another thread completed
  first) the block changes nothing: same socket, stream, `connected`, slots; `j` stays
  uninterrupted and owns the open socket;
* with an interrupted successor it disconnects.
Nothing is assumed about the flag: it follows from `self.interrupt = True` at the `except`
clause and from no step ever clearing a flag. -/
theorem cleanup_decision_derived (env : List Life.Beh) (progs : List (List Life.Op))
    (rl rh : Nat) (sched : List Life.Tid) (i : Nat) :
    let s := Life.run env (Life.init progs rl rh) sched
    (s.net i).pc = .hChk → ∀ s1, Life.step env s (.net i) = some s1 →
      (s.net i).intr = true ∧ s.nt = some i ∧ (s1.net i).pc = .hRel ∧
      Life.cleanupFlag s =
        (match s.newNt.map fun j => (s.net j).intr with
         | some b => some b
         | none => s.nt.map fun j => (s.net j).intr) ∧
      (s.newNt = none →
        Life.cleanupFlag s = some true ∧ s1.socket = .none ∧ s1.connected = false ∧
        s1.nt = s.nt ∧ s1.newNt = none ∧ s1.conns = s.conns) ∧
      (∀ j, s.newNt = some j → (s.net j).intr = false →
        Life.cleanupFlag s = some false ∧ s1.shared = s.shared ∧ (s1.net j).intr = false ∧
        Life.linked s1.socket s1.file = true) ∧
      (∀ j, s.newNt = some j → (s.net j).intr = true →
        Life.cleanupFlag s = some true ∧ s1.socket = .none ∧ s1.connected = false) := by
  intro s hpc s1 hs1
  have h := Life.reach_inv env progs rl rh sched
  obtain ⟨hi, hnt⟩ : (s.net i).intr = true ∧ s.nt = some i :=
    flag_set_inside_handle_exception env progs rl rh sched i (by rw [hpc]; rfl)
  have hrel : (s1.net i).pc = .hRel := (Life.hchk_step env s s1 i hpc hs1).2.2.1
  refine ⟨hi, hnt, hrel, Life.cleanupFlag_eq s, fun hnew => ?_, fun j hnew hj => ?_,
    fun j hnew hj => ?_⟩
  · have htg : Life.target s = some i := by simp [Life.target, hnew, hnt]
    obtain ⟨a1, a2, a3, a4, a5, a6, -⟩ :=
      C16.handler_cleanup_is_atomic env progs rl rh sched i i hpc htg hi s1 hs1
    exact ⟨by simp [Life.cleanupFlag, htg, hi], a1, a2, a3, a4.trans hnew, a6⟩
  · obtain ⟨a1, a2, a3, -⟩ :=
      C16.handler_cleanup_spares_new_connection env progs rl rh sched i j hpc hnew hj s1 hs1
    have h1 := Life.step_inv env s s1 _ h hs1
    have hw : (s1.net j).pc.waiting = true := by
      have e : s1.newNt = some j := by
        have : s1.shared.newNt = s.shared.newNt := by rw [a1]
        exact this.trans hnew
      exact (h1.new_iff j).mp e
    exact ⟨by simp [Life.cleanupFlag, Life.target, hnew, hj], a1, a3,
      h1.live_open j (.inr hw) a3⟩
  · have htg : Life.target s = some j := by simp [Life.target, hnew]
    obtain ⟨a1, a2, -⟩ :=
      C16.handler_cleanup_is_atomic env progs rl rh sched i j hpc htg hj s1 hs1
    exact ⟨by simp [Life.cleanupFlag, htg, hj], a1, a2⟩

/-- Clause "ends that thread": from a reachable state in which
thread `i` is at the `except` clause of `run`, under EVERY continuation of the schedule the thread
stays on the exception path (handlers, final block, `finally`, death) — it never tests its flag,
writes, reads a packet or calls the exit callback again: everything it appends to the log is
outside the packet loop; it executes at most 10 more actions; once past the `except` clause its
flag is set for good.  Some continuation of at most 48 entries kills it, and on EVERY weakly fair
infinite schedule it dies and stays dead. -/
theorem exception_path_ends_thread (env : List Life.Beh) (progs : List (List Life.Op))
    (rl rh : Nat) (sched : List Life.Tid) (i : Nat) :
    let s := Life.run env (Life.init progs rl rh) sched
    (s.net i).pc = .exc →
      (∀ more,
        ((Life.run env s more).net i).pc.onExcPath = true ∧
        ((Life.run env s more).net i).pc.rank + Life.stepsOf env s (.net i) more ≤ 10 ∧
        (((Life.run env s more).net i).pc ≠ .exc → ((Life.run env s more).net i).intr = true) ∧
        ∃ ext, (Life.run env s more).log = s.log ++ ext ∧
          ∀ e, (Life.Tid.net i, e) ∈ ext → e.isLoop = false) ∧
      (∃ more, more.length ≤ 48 ∧ ((Life.run env s more).net i).pc = .dead) ∧
      (∀ σ, Life.WeakFair env s σ →
        ∃ n, ∀ m, n ≤ m → ((Life.runN env s σ m).net i).pc = .dead) := by
  intro s hpc
  have h := Life.reach_inv env progs rl rh sched
  have hb : (s.net i).pc ≠ .unborn := by rw [hpc]; simp
  refine ⟨fun more => ?_, Life.exc_can_terminate env s h i hpc, fun σ hf => ?_⟩
  · obtain ⟨a, b⟩ := Life.onExcPath_run env i more s h (by rw [hpc]; rfl)
    have c := Life.rank_run' env more i s h hb (.inr hpc)
    rw [hpc] at c
    refine ⟨a, c, fun hne => ?_, b⟩
    rcases Life.exc_or_intr_run env i more s h hb (.inr hpc) with g | g
    · exact g
    · exact absurd g hne
  · exact Life.exc_eventually_dead env progs.length i s σ h
      (Life.UB_run env _ sched _ (Life.init_UB progs rl rh)) hpc hf

/-- Clauses "closes the connection (unless … a new one)" and "can
connect again", for all schedules: let thread `i` be at the `except` clause in a reachable state
`s0` with nobody waiting in `new_networking_thread`, and let `s` be ANY later state in which no
connection attempt has been made since (`conns` unchanged — so in particular no handler has
reconnected).  Then nobody waits in `new_networking_thread`, the slot holds `i` or nothing; as
soon as `i` is past the `except` clause `_check_connection` passes (`busy s = false`) and a
`connect()` / `status()` by ANY thread at that moment is not refused with `InvalidState` — it makes
exactly one connection attempt; and as soon as `i` is past the final locked block the socket is
`None` and `connected` is false, and stays so. -/
theorem exception_closes_and_frees (env : List Life.Beh) (progs : List (List Life.Op))
    (rl rh : Nat) (sched more : List Life.Tid) (i : Nat) :
    let s0 := Life.run env (Life.init progs rl rh) sched
    let s := Life.run env s0 more
    (s0.net i).pc = .exc → s0.newNt = none → s.conns = s0.conns →
      s.newNt = none ∧ (s.nt = some i ∨ s.nt = none) ∧
      ((s.net i).pc ≠ .exc → Life.busy s = false ∧
        ∀ t op, op.isConn = true → Life.atCall s t op → ∀ s1, Life.step env s t = some s1 →
          s1.conns = s.conns + 1 ∧ Life.pendingOut s1 t ≠ some .invalidState) ∧
      ((s.net i).pc.pastChk = true → s.socket = .none ∧ s.connected = false) := by
  intro s0 s hpc hnew hc
  have h0 := Life.reach_inv env progs rl rh sched
  have q := Life.excq_run env i s0.conns more s0 h0 (Life.excq_init s0 h0 i hpc hnew) hc
  refine ⟨q.noNew, q.slot, fun hne => ⟨Life.excq_not_busy s i _ q hne, ?_⟩, q.closed⟩
  intro t op hop hat s1 hs1
  have hint : ∀ k, s.nt = some k → (s.net k).intr = true := by
    intro k hk
    rcases q.slot with g | g
    · rw [g] at hk; cases hk; exact q.flag hne
    · rw [g] at hk; cases hk
  have key := C16.reusable_after_end env progs rl rh (sched ++ more) t op hop
  rw [Life.run_append] at key
  obtain ⟨a, b, c⟩ := key hat q.noNew hint s1 hs1
  refine ⟨a, ?_⟩
  by_cases hr : env.getD s.conns .accept = .refuse
  · rw [(b hr).1]; simp
  · rw [(c hr).1]; simp

/-- The closing clause as a predicate on the run function (`ExcClosesConn`),
the form against which the changed transition system is tested in PART III. -/
theorem exc_closes_conn : Life.ExcClosesConn Life.run := by
  intro env progs rl rh sched more i hpc hnew hc hp
  exact (exception_closes_and_frees env progs rl rh sched more i hpc hnew hc).2.2.2 hp

/-! ### Non-vacuity of PART II -/

/-- The first server lets every read fail: user 0 connects, thread 0 runs into the failing read
and stands at the `except` clause with its flag still CLEAR, the socket open and nobody waiting —
the hypotheses of `exception_path_ends_thread` and `exception_closes_and_frees`. -/
example :
    let s := Life.run [.fails] (Life.init [[.connect]] 0 0)
      ([.user 0, .user 0] ++ List.replicate 5 (.net 0))
    (s.net 0).pc = .exc ∧ (s.net 0).intr = false ∧ s.newNt = none ∧ s.socket = .open 0 ∧
    s.connected = true := by decide

/-- … five own steps later it is dead, the connection is closed, and (no connection attempt
since) a further `connect()` by the user succeeds. -/
example :
    let s := Life.run [.fails, .accept] (Life.init [[.connect, .connect]] 0 0)
      ([.user 0, .user 0] ++ List.replicate 5 (.net 0) ++ List.replicate 8 (.net 0) ++
        [.user 0, .user 0])
    (s.net 0).pc = .dead ∧ (s.usr 0).outs = [.ok, .ok] ∧ s.socket = .open 1 ∧
    (Life.Tid.net 0, Life.Ev.hchk (some true)) ∈ s.log := by decide

/-- Hypotheses of `cleanup_decision_derived`, all three cases: no successor (own flag), an
uninterrupted successor created by a user's `connect()` that slipped in, an interrupted one. -/
example :
    let s := Life.run [.fails] (Life.init [[.connect]] 0 0)
      ([.user 0, .user 0] ++ List.replicate 7 (.net 0))
    (s.net 0).pc = .hChk ∧ s.newNt = none ∧ Life.cleanupFlag s = some true := by decide

example :
    let s := Life.run [.fails, .accept] (Life.init [[.connect, .connect]] 0 0)
      ([.user 0, .user 0] ++ List.replicate 7 (.net 0) ++ [.user 0, .user 0])
    (s.net 0).pc = .hChk ∧ s.newNt = some 1 ∧ Life.cleanupFlag s = some false := by decide

example :
    let s := Life.run [.fails, .accept]
      (Life.init [[.connect, .connect, .disconnect false]] 0 0)
      ([.user 0, .user 0] ++ List.replicate 7 (.net 0) ++ List.replicate 4 (.user 0))
    (s.net 0).pc = .hChk ∧ s.newNt = some 1 ∧ Life.cleanupFlag s = some true := by decide

/-! ## PART III — three code changes are refuted

Each changed fragment is put into the same loop skeleton (`runThreadWith`) resp. transition
system (`runNoIntr`) and evaluated by the kernel on a small instance. -/

/-- A listener for every packet raises `OSError#1`; nothing handles it; final handler `False`. -/
private def S₂ : Setup where
  hier := hr₀
  inv := ⟨7, 0⟩
  early := []
  ordinary := [⟨5, [100], false, .raises ⟨2, 1⟩⟩]
  rx := fun _ => ⟨false, .ok⟩
  rh := ⟨[], .retFalse⟩
  rhNew := ⟨[], .retFalse⟩
  handlers := []
  fin := .false
  exit := none

/-- With `except IgnorePacket` → `except Exception` in `_react`, the
listener's exception is swallowed: the log contains the raising callback FOLLOWED by further reads
and callbacks, and `_handle_exception` is never entered — `escapes_enter_chain` fails.  (The real
code on the same input ends the thread there.) -/
theorem except_exception_refuted :
    ¬ EscapesEnterChain (runThreadWith (codeExceptException S₂) S₂ [.wrote 0]
        [.packet 100 false, .packet 100 false] Conn.fresh) ∧
    (runThread S₂ [.wrote 0] [.packet 100 false, .packet 100 false] Conn.fresh).entered =
      some (⟨2, 1⟩, ⟨2, 1⟩) := by
  refine ⟨fun hC => ?_, by decide +kernel⟩
  have := (hC [.write (.wrote 0), .read (.packet 100 false), .cb ⟨.reaction, false, .ok⟩]
    (.cb ⟨.ordinary 5, false, .raises ⟨2, 1⟩⟩)
    [.read (.packet 100 false), .cb ⟨.reaction, false, .ok⟩,
      .cb ⟨.ordinary 5, false, .raises ⟨2, 1⟩⟩, .read .none]
    ⟨2, 1⟩ (by decide +kernel) rfl).1
  revert this
  decide +kernel

/-- With `read_packet` wrapped in a `try` that yields `None`, a decoding
error (`EOFError`-like `OSError#3`) is logged as raised but the loop just breaks and goes on:
`escapes_enter_chain` fails.  (The real code enters the chain with it.) -/
theorem read_swallowed_refuted :
    ¬ EscapesEnterChain (runThreadWith (codeReadSwallowed S₂) S₂ [.wrote 0, .wrote 0]
        [.raises ⟨2, 3⟩] Conn.fresh) ∧
    (runThread S₂ [.wrote 0, .wrote 0] [.raises ⟨2, 3⟩] Conn.fresh).entered =
      some (⟨2, 3⟩, ⟨2, 3⟩) := by
  refine ⟨fun hC => ?_, by decide +kernel⟩
  have := (hC [.write (.wrote 0)] (.read (.raises ⟨2, 3⟩)) [.write (.wrote 0), .read .none]
    ⟨2, 3⟩ (by decide +kernel) rfl).1
  revert this
  decide +kernel

/-- Sequential model: with `self.interrupt = True` deleted, the final
block reads a clear flag and does NOT disconnect: after the thread has ended the socket is still
open and `connected` is true — `closed_unless_reconnected` fails although its hypotheses hold
(`Conn.fresh`); and a handler's bare `connect()` is refused with `InvalidState` (it is not in the
real code, see the example after `reconnectable_afterwards`). -/
theorem no_interrupt_refuted :
    ¬ ClosedUnlessReconnected (runThreadWith (codeNoInterrupt S₂) S₂ [.wrote 0]
        [.packet 100 false] Conn.fresh) ∧
    (runThreadWith (codeNoInterrupt S₂) S₂ [.wrote 0] [.packet 100 false] Conn.fresh).conn =
      ⟨none, none, some 0, true, 1, []⟩ ∧
    (runThread S₂ [.wrote 0] [.packet 100 false] Conn.fresh).conn =
      ⟨none, none, none, false, 1, [0]⟩ ∧
    ((runThreadWith (codeNoInterrupt S₁) S₁ [.wrote 0] [.packet 101 false] Conn.fresh).hx.map
      fun h => h.effHandlers) = some [⟨10, [3], .raises ⟨7, 0⟩⟩] := by
  refine ⟨fun hC => ?_, by decide +kernel, by decide +kernel, by decide +kernel⟩
  have := hC _ rfl (by decide +kernel) (by decide +kernel)
  revert this
  decide +kernel

/-- Transition system: the same deletion in `Model/Lifecycle.lean`
(`runNoIntr`): the first connection's reads fail, thread 0 runs its exception path to its death
with nobody else doing anything — and the socket is still open, `connected` still true:
`Life.ExcClosesConn` fails for the changed system, and holds for the real one
(`exc_closes_conn`). -/
theorem no_interrupt_refuted_life : ¬ Life.ExcClosesConn Life.runNoIntr := by
  intro hC
  have := hC [.fails] [[.connect]] 0 0 ([.user 0, .user 0] ++ List.replicate 5 (.net 0))
    (List.replicate 8 (.net 0)) 0 (by decide) (by decide) (by decide) (by decide)
  revert this
  decide

/-- … concretely: the state the changed system ends in, next to the real one. -/
example :
    let sched := [Life.Tid.user 0, .user 0] ++ List.replicate 13 (.net 0)
    ((Life.runNoIntr [.fails] (Life.init [[.connect]] 0 0) sched).net 0).pc = .dead ∧
    (Life.runNoIntr [.fails] (Life.init [[.connect]] 0 0) sched).socket = .open 0 ∧
    (Life.runNoIntr [.fails] (Life.init [[.connect]] 0 0) sched).connected = true ∧
    ((Life.run [.fails] (Life.init [[.connect]] 0 0) sched).net 0).pc = .dead ∧
    (Life.run [.fails] (Life.init [[.connect]] 0 0) sched).socket = .none ∧
    (Life.run [.fails] (Life.init [[.connect]] 0 0) sched).connected = false := by decide

end PyCraft.C14Compose
