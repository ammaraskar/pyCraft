import PyCraft.Lemmas.WritersFinal
import PyCraft.Props.C12
/-!
# C12, the disconnect clause — "a non-immediate disconnect sends everything queued before it and
then closes the socket, while an immediate disconnect sends nothing further" — with its timing

Model: `Model/Writers.lean`; helper lemmas and the history invariant `HistInv`:
`Lemmas/WritersFinal.lean`.  As in `Props/C12.lean` every theorem is for ALL batch caps `cfg`, ALL
programs `progs` with pairwise distinct packet ids and ALL schedules `sched`;
`s := run cfg (init progs) sched`.

The theorems speak about positions in the event log `s.log : List (Tid × Ev)` (every atomic
action appends exactly one event).  Vocabulary (all decidable, defined in `Lemmas/WritersFinal`):

* `appsOf l` / `popsOf l` / `sndsOf l` — the packets appended to the queue / popped from the queue /
  the chunks sent in the piece of log `l`, in log order; `(u, .app p) ∈ l` = thread `u` appended `p`
  to the queue somewhere in `l`.
* `LockFree l` — no `acq`, no `rel` in `l`;  `NoMove l` — no `pop`, no `snd` in `l`;
  `NoChk l` — no `chk n` in `l`;  `NoDead l` — no `cls`, no `fail` in `l`.
* `flushes l` — some `chk n` occurs in `l`.

THE CLOSING CRITICAL SECTION.  Exactly one `disconnect` closes the socket (`cls`): the one that
acquires the lock while the socket is still open.  Once the socket is closed the log can be written
in exactly one way (`closing_section_exists`, `closing_section_unique`) as

    s.log = pre ++ (t, acq) :: (mid ++ (t, cls) :: post)      with   LockFree mid,

i.e. `pre` = everything before the closing disconnect acquired the lock, `mid` = everything that
happened while it held the lock up to the close (its own flush loop, `sti`, `shut`, and the `app`s,
`rdi`s … of threads that do not need the lock), `post` = everything after the close.  The closing
disconnect is graceful iff `flushes mid` (`closer_kind`): only a graceful disconnect looks at the
queue, and nobody else can while it holds the lock.  The theorems below are stated for EVERY such
splitting, so they talk about the closing disconnect and nothing else.
-/
namespace PyCraft.C12Final
open PyCraft PyCraft.Writers

/-- `run_hist`: the history invariant `HistInv` (wire = the `snd` events; appended = popped ++
queue; popped ⊆ sent ∪ in flight; nothing closed or failed while the socket is open; the shape of
the log inside a running disconnect and around the closing one) holds in every reachable state. -/
theorem run_hist (cfg : Cfg) (progs : List (List Op)) (hnd : (progs.flatMap pktsOf).Nodup)
    (sched : List Tid) : HistInv (run cfg (init progs) sched) :=
  reach_hist cfg progs hnd sched

/-- The wire is exactly the sequence of `snd` events of the log, and the queue is FIFO with respect
to the log: the packets appended so far are the packets popped so far followed by the queue. -/
theorem wire_and_queue_from_log (cfg : Cfg) (progs : List (List Op))
    (hnd : (progs.flatMap pktsOf).Nodup) (sched : List Tid) :
    let s := run cfg (init progs) sched
    s.wire = sndsOf s.log ∧ appsOf s.log = popsOf s.log ++ s.queue ∧ (appsOf s.log).Nodup := by
  intro s
  have h := reach_hist cfg progs hnd sched
  exact ⟨h.wire_log, h.queue_log, apps_nodup (reach_inv cfg progs hnd sched).fresh h⟩

/-- `closing_section_exists`: once the socket is closed — in particular in every final state —
the log splits around the critical section of the closing disconnect; the `cls` of that section is
the only one, and no write has `fail`ed before it. -/
theorem closing_section_exists (cfg : Cfg) (progs : List (List Op))
    (hnd : (progs.flatMap pktsOf).Nodup) (sched : List Tid) :
    let s := run cfg (init progs) sched
    ((∀ u, (s.thr u).pc.isDone = true) ∨ s.sockOpen = false) →
      ∃ t pre mid post, s.log = pre ++ (t, .acq) :: (mid ++ (t, .cls) :: post) ∧ LockFree mid ∧
        NoDead (pre ++ (t, .acq) :: mid) ∧ (∀ e ∈ post, e.2 ≠ .cls) := by
  intro s hfin
  have hc : s.sockOpen = false := by
    rcases hfin with hfin | hc
    · exact (C12.all_sent_or_dropped_after_disconnect_partial cfg progs hnd sched hfin).1
    · exact hc
  obtain ⟨t, pre, mid, post, -, -, e1, e2, e3, -, e5, -⟩ := (reach_hist cfg progs hnd sched).closed hc
  exact ⟨t, pre, mid, post, e1, e2, e3, e5⟩

/-- `closing_section_unique`: … and it splits in only one way. -/
theorem closing_section_unique (cfg : Cfg) (progs : List (List Op))
    (hnd : (progs.flatMap pktsOf).Nodup) (sched : List Tid) (t t' : Tid)
    (pre mid post pre' mid' post' : Log) :
    let s := run cfg (init progs) sched
    s.log = pre ++ (t, .acq) :: (mid ++ (t, .cls) :: post) → LockFree mid →
    s.log = pre' ++ (t', .acq) :: (mid' ++ (t', .cls) :: post') → LockFree mid' →
      t = t' ∧ pre = pre' ∧ mid = mid' ∧ post = post' := by
  intro s h1 g1 h2 g2
  have h := reach_hist cfg progs hnd sched
  have hc : s.sockOpen = false := by
    cases ho : s.sockOpen with
    | false => rfl
    | true =>
      have := (h.open_quiet ho) (t, .cls) (by rw [h1]; simp)
      exact absurd rfl this.1
  exact closed_split_unique h hc h1 g1 h2 g2

/-- `closer_kind`: the link between the log and the program.  When thread `t` is about to close the
socket (program counter `dCls c`, where by `C12.disconnect_ctx_set` / `disconnect_ctx_stable` the
ghost context `c` records the argument `imm` of the running `disconnect(imm)` and the queue and
wire at the moment it acquired the lock), the log is `pre ++ (t, acq) :: mid` with `LockFree mid`,
and: `flushes mid` iff the disconnect is graceful; the queue it found (`c.snap`) is what had been
appended but not yet popped in `pre`; the wire it found is the `snd` events of `pre`; and so far
nothing has been closed and no write has failed. -/
theorem closer_kind (cfg : Cfg) (progs : List (List Op)) (hnd : (progs.flatMap pktsOf).Nodup)
    (sched : List Tid) (t : Tid) (c : DCtx) :
    let s := run cfg (init progs) sched
    (s.thr t).pc = .user (.dCls c) →
      ∃ pre mid, s.log = pre ++ (t, .acq) :: mid ∧ LockFree mid ∧ flushes mid = !c.imm ∧
        appsOf pre = popsOf pre ++ c.snap ∧ sndsOf pre = c.wire0 ∧ NoDead s.log := by
  intro s hpc
  have hi := reach_inv cfg progs hnd sched
  exact at_cls_section hi.lock hi.wire (reach_hist cfg progs hnd sched) t c hpc

/-- `all_sent_or_dropped_after_disconnect`: in every final state (all threads at `end`), for the
splitting of the log around the closing critical section, every packet `p` of every program is in
exactly one of three places:

(a) SENT — a whole frame `(p,0),(p,1)` on the wire; not in the queue, not failed;

(b) DROPPED IN THE QUEUE — not on the wire (not even its length prefix), not failed; and if the
closing disconnect is graceful, `p` was appended AFTER that disconnect last looked at the queue:
`mid = flush ++ (t, chk 0) :: tail` where `tail` contains no further `chk`, and the `app p` event
lies in `tail` or in `post` (`tail` is non-empty territory: between the last `chk 0` and the `cls`
come `sti` and `shut`, see the example at the end).  Equivalently, no packet appended before that
`chk 0` — in particular none that was queued when the disconnect acquired the lock — is left in the
queue.  For an immediate closing disconnect there is no such constraint: `p` was appended after
the `acq`, or it was already waiting in the queue at the `acq` (appended in `pre`) and has never
been popped, see `immediate_disconnect_sends_nothing_after`.

(c) FAILED — a forced write; no chunk of `p` is on the wire, `p` was never appended to the queue,
and `write_packet(p, force=True)` was entered after the `cls` event: there is a prefix of the
schedule (`sched.take k`) after which the socket is already closed, the `cls` event of the closing
disconnect is in the log, and `p` has not been issued yet.

Moreover no `fail` event occurs before the `cls`. -/
theorem all_sent_or_dropped_after_disconnect (cfg : Cfg) (progs : List (List Op))
    (hnd : (progs.flatMap pktsOf).Nodup) (sched : List Tid) (t : Tid) (pre mid post : Log) :
    let s := run cfg (init progs) sched
    (∀ u, (s.thr u).pc.isDone = true) →
    s.log = pre ++ (t, .acq) :: (mid ++ (t, .cls) :: post) → LockFree mid →
      NoDead (pre ++ (t, .acq) :: mid) ∧
      ∀ p ∈ progs.flatMap pktsOf,
        (p ∈ sentPkts s.wire ∧ (∃ w₁ w₂, s.wire = w₁ ++ [(p, 0), (p, 1)] ++ w₂) ∧
          p ∉ s.queue ∧ p ∉ s.failed) ∨
        (p ∈ s.queue ∧ p ∉ sentPkts s.wire ∧ (∀ c, (p, c) ∉ s.wire) ∧ p ∉ s.failed ∧
          (flushes mid = true → ∃ flush tail, mid = flush ++ (t, .chk 0) :: tail ∧ NoChk tail ∧
            ∃ u, (u, .app p) ∈ tail ++ post) ∧
          (flushes mid = false → (∃ u, (u, .app p) ∈ mid ++ post) ∨
            ((∃ u, (u, .app p) ∈ pre) ∧ ∀ u, (u, .pop p) ∉ s.log))) ∨
        (p ∈ s.failed ∧ p ∉ sentPkts s.wire ∧ (∀ c, (p, c) ∉ s.wire) ∧ p ∉ s.queue ∧
          (∀ u, (u, .app p) ∉ s.log) ∧
          ∃ k, (run cfg (init progs) (sched.take k)).sockOpen = false ∧
            (t, .cls) ∈ (run cfg (init progs) (sched.take k)).log ∧
            p ∉ (run cfg (init progs) (sched.take k)).issued) := by
  intro s hfin hlog hheld
  obtain ⟨hc, -, hown, hwf, -, htri, hnd3⟩ :=
    C12.all_sent_or_dropped_after_disconnect_partial cfg progs hnd sched hfin
  have hi := reach_inv cfg progs hnd sched
  have h := reach_hist cfg progs hnd sched
  have hsh := closed_shape h hc hlog hheld
  obtain ⟨d1, d2⟩ := disj3 hnd3
  refine ⟨hsh.1, fun p hp => ?_⟩
  have hchunk : p ∉ sentPkts s.wire → ∀ c, (p, c) ∉ s.wire := by
    intro hns c hcw
    rw [hwf] at hcw
    exact hns (mem_frames _ _ hcw)
  rcases htri p hp with h1 | h1 | h1
  · refine Or.inl ⟨h1, ?_, (d1 p h1).1, (d1 p h1).2⟩
    obtain ⟨w₁, w₂, hw⟩ := frames_split _ p h1
    exact ⟨w₁, w₂, by rw [← hw]; exact hwf⟩
  · have hns : p ∉ sentPkts s.wire := fun hs => (d1 p hs).1 h1
    refine Or.inr (Or.inl ⟨h1, hns, hchunk hns, d2 p h1, fun hg => ?_,
      fun hg => ?_⟩)
    · obtain ⟨flush, tail, e1, -, e3, -, e5, -⟩ := closed_graceful hi.wire h hc hlog hheld hg
      refine ⟨flush, tail, e1, e3, ?_⟩
      rw [e5, ← appsOf_append] at h1
      exact (mem_appsOf _ _).mp h1
    · obtain ⟨-, -, -, -, snap, e5, e6, e7⟩ := closed_immediate h hc hlog hheld hg
      rw [e7, List.append_assoc, ← appsOf_append] at h1
      rcases List.mem_append.mp h1 with h2 | h2
      · refine Or.inr ⟨(mem_appsOf _ _).mp (by rw [e5]; exact List.mem_append_right _ h2), ?_⟩
        intro u hu
        have hpop : p ∈ popsOf pre := by rw [← e6]; exact (mem_popsOf _ _).mpr ⟨u, hu⟩
        have hnd' : (appsOf s.log).Nodup := apps_nodup hi.fresh h
        rw [hlog, appsOf_append, e5] at hnd'
        exact ((disj3 hnd').1 p hpop).1 h2
      · exact Or.inl ((mem_appsOf _ _).mp h2)
  · have hns : p ∉ sentPkts s.wire := fun hs => (d1 p hs).2 h1
    refine Or.inr (Or.inr ⟨h1, hns, hchunk hns, fun hq => d2 p hq h1, ?_, ?_⟩)
    · intro u hu
      exact (failed_untouched hi.wire h p h1).1 ((mem_appsOf _ _).mpr ⟨u, hu⟩)
    · have hd : Doomed (run cfg (init progs) (sched.take sched.length)) p := by
        rw [List.take_length]; exact Or.inl h1
      obtain ⟨k, -, k1, k2⟩ := doomed_late cfg progs hnd sched p sched.length hd
      refine ⟨k, k1, ?_, k2⟩
      obtain ⟨t', pre', mid', post', -, -, e1, -⟩ := (reach_hist cfg progs hnd (sched.take k)).closed k1
      have hmem : (t', Ev.cls) ∈ (run cfg (init progs) (sched.take k)).log := by rw [e1]; simp
      have hpre : (run cfg (init progs) (sched.take k)).log <+: s.log := by
        have := run_log_prefix cfg (sched.drop k) (run cfg (init progs) (sched.take k))
        rwa [← run_append, List.take_append_drop] at this
      have := closed_cls_unique h hc hlog hheld t' (hpre.subset hmem)
      rw [← this]; exact hmem

/-- `graceful_disconnect_sends_all_queued_before`: the clause as the property states it.  In a
final state, if the disconnect that closes the socket is graceful (`flushes mid`), every packet
appended to the queue before that disconnect acquired the lock (`app p` in `pre`) has a whole frame
on the wire, and is neither in the queue nor failed. -/
theorem graceful_disconnect_sends_all_queued_before (cfg : Cfg) (progs : List (List Op))
    (hnd : (progs.flatMap pktsOf).Nodup) (sched : List Tid) (t : Tid) (pre mid post : Log) :
    let s := run cfg (init progs) sched
    (∀ u, (s.thr u).pc.isDone = true) →
    s.log = pre ++ (t, .acq) :: (mid ++ (t, .cls) :: post) → LockFree mid → flushes mid = true →
      ∀ u p, (u, .app p) ∈ pre →
        p ∈ sentPkts s.wire ∧ (∃ w₁ w₂, s.wire = w₁ ++ [(p, 0), (p, 1)] ++ w₂) ∧
        p ∉ s.queue ∧ p ∉ s.failed := by
  intro s hfin hlog hheld hg u p hu
  obtain ⟨hc, -, -, hwf, -, -, hnd3⟩ :=
    C12.all_sent_or_dropped_after_disconnect_partial cfg progs hnd sched hfin
  have hi := reach_inv cfg progs hnd sched
  have h := reach_hist cfg progs hnd sched
  obtain ⟨flush, tail, -, -, -, -, -, -, e7⟩ := closed_graceful hi.wire h hc hlog hheld hg
  have h1 : p ∈ sentPkts s.wire := by
    apply e7
    rw [appsOf_append]
    exact List.mem_append_left _ ((mem_appsOf _ _).mpr ⟨u, hu⟩)
  obtain ⟨w₁, w₂, hw⟩ := frames_split _ p h1
  exact ⟨h1, ⟨w₁, w₂, by rw [← hw]; exact hwf⟩, ((disj3 hnd3).1 p h1).1, ((disj3 hnd3).1 p h1).2⟩

/-- `graceful_disconnect_queue_exact`: the exact bookkeeping of a graceful closing disconnect, in
every state in which the socket is closed (in particular every final state).  The critical section
is `mid = flush ++ (t, chk 0) :: tail`, where `chk 0` is the last time anybody looked at the queue
before the close; after it nothing is popped or sent any more (neither in `tail` nor in `post`);
the wire is what had been sent up to that `chk 0` and consists of whole frames; every packet
appended before that `chk 0` is on the wire; and the packets left in the queue are EXACTLY the
packets appended after it, in the order of their `app` events. -/
theorem graceful_disconnect_queue_exact (cfg : Cfg) (progs : List (List Op))
    (hnd : (progs.flatMap pktsOf).Nodup) (sched : List Tid) (t : Tid) (pre mid post : Log) :
    let s := run cfg (init progs) sched
    s.sockOpen = false →
    s.log = pre ++ (t, .acq) :: (mid ++ (t, .cls) :: post) → LockFree mid → flushes mid = true →
      ∃ flush tail, mid = flush ++ (t, .chk 0) :: tail ∧ NoChk tail ∧
        NoMove (tail ++ (t, .cls) :: post) ∧
        s.wire = sndsOf (pre ++ (t, .acq) :: flush) ∧ s.wire = frames (sentPkts s.wire) ∧
        (∀ p ∈ appsOf (pre ++ (t, .acq) :: flush), p ∈ sentPkts s.wire) ∧
        s.queue = appsOf (tail ++ post) := by
  intro s hc hlog hheld hg
  have hi := reach_inv cfg progs hnd sched
  have h := reach_hist cfg progs hnd sched
  obtain ⟨flush, tail, e1, e2, e3, e4, e5, e6, e7⟩ := closed_graceful hi.wire h hc hlog hheld hg
  refine ⟨flush, tail, e1, e3, ?_, e6, closed_wire_frames hi.wire hc, e7, by rw [appsOf_append]; exact e5⟩
  intro e he
  rcases List.mem_append.mp he with h1 | h1
  · exact e2 e h1
  · rcases List.mem_cons.mp h1 with h2 | h2
    · rw [h2]; rfl
    · exact e4 e h2

/-- `immediate_disconnect_sends_nothing_after`: the exact truth about an immediate closing
disconnect, in every state in which the socket is closed (in particular every final state).  From
its `acq` on, NO `snd` and NO `pop` event occurs at all — there is no "completion of an open frame":
the lock can only be acquired when no frame is open, so the wire at the `acq` (`sndsOf pre`) already
consists of whole frames, and it is the final wire.  Every packet popped before the `acq` is framed
on the wire; the queue at the `acq` (`snap`: appended in `pre`, not popped in `pre`) is never
touched again and ends up in the final queue, followed by everything appended later. -/
theorem immediate_disconnect_sends_nothing_after (cfg : Cfg) (progs : List (List Op))
    (hnd : (progs.flatMap pktsOf).Nodup) (sched : List Tid) (t : Tid) (pre mid post : Log) :
    let s := run cfg (init progs) sched
    s.sockOpen = false →
    s.log = pre ++ (t, .acq) :: (mid ++ (t, .cls) :: post) → LockFree mid → flushes mid = false →
      NoMove ((t, .acq) :: (mid ++ (t, .cls) :: post)) ∧
      s.wire = sndsOf pre ∧ sndsOf pre = frames (sentPkts (sndsOf pre)) ∧
      (∀ p ∈ popsOf pre, p ∈ sentPkts s.wire) ∧
      ∃ snap, appsOf pre = popsOf pre ++ snap ∧ s.queue = snap ++ appsOf (mid ++ post) := by
  intro s hc hlog hheld hg
  have hi := reach_inv cfg progs hnd sched
  have h := reach_hist cfg progs hnd sched
  obtain ⟨e1, -, e3, e4, snap, e5, e6, e7⟩ := closed_immediate h hc hlog hheld hg
  refine ⟨?_, e4, by rw [← e4]; exact closed_wire_frames hi.wire hc, ?_, snap, e5,
    by rw [appsOf_append, ← List.append_assoc]; exact e7⟩
  · intro e he
    rcases List.mem_cons.mp he with h1 | h1
    · rw [h1]; rfl
    · rcases List.mem_append.mp h1 with h2 | h2
      · exact e1 e h2
      · rcases List.mem_cons.mp h2 with h3 | h3
        · rw [h3]; rfl
        · exact e3 e h3
  · intro p hp
    exact pops_all_sent h (closed_popped hi.wire hc) p (by rw [e6]; exact hp)

/-! ### Non-vacuity -/

/-- THE EDGE CASE.  Thread 1 queues 1 and disconnects gracefully; thread 2 queues 2 and then forces
3.  In `schedEdge` thread 2 appends packet 2 after thread 1's flush loop has seen the queue empty
(`chk 0`) but BEFORE the `cls`; it then forces 3 after the close. -/
def progsEdge : List (List Op) := [[.queued 1, .disconnect false], [.queued 2, .forced 3]]

def schedEdge : List Tid := [1, 1, 1, 1, 1, 1, 1, 2, 1, 1, 1, 1, 2, 2, 2, 2, 1, 0, 0, 0, 0]

def preEdge : Log := [(1, .app 1)]
def midEdge : Log :=
  [(1, .chk 1), (1, .pop 1), (1, .snd 1 0), (1, .snd 1 1), (1, .chk 0), (2, .app 2), (1, .sti),
   (1, .shut)]
def postEdge : Log :=
  [(1, .rel), (2, .acq), (2, .fail), (2, .rel), (2, .fin), (1, .fin), (0, .rdi true), (0, .acq),
   (0, .rel), (0, .fin)]

example : (progsEdge.flatMap pktsOf).Nodup := by decide

/-- The run is complete (all three threads at `end`, no schedule entry skipped); the log splits as
the theorems require, the closing disconnect is graceful; packet 1 (appended before the `acq`) is
sent; packet 2, appended BEFORE the close (its `app` is in `mid`, not in `post`) but after the last
`chk 0`, is left in the queue — so clause (b) cannot be strengthened to "appended after the close";
packet 3 failed. -/
example :
    let s := run ⟨300, 50⟩ (init progsEdge) schedEdge
    allDoneUpTo s 2 = true ∧ skipped ⟨300, 50⟩ (init progsEdge) schedEdge = 0 ∧
    s.log = preEdge ++ (1, .acq) :: (midEdge ++ (1, .cls) :: postEdge) ∧ LockFree midEdge ∧
    flushes midEdge = true ∧
    midEdge = [(1, .chk 1), (1, .pop 1), (1, .snd 1 0), (1, .snd 1 1)] ++ (1, .chk 0) ::
      [(2, .app 2), (1, .sti), (1, .shut)] ∧
    (2, Ev.app 2) ∈ midEdge ∧ (2, Ev.app 2) ∉ postEdge ∧ s.sockOpen = false ∧
    s.wire = [(1, 0), (1, 1)] ∧ s.queue = [2] ∧ s.failed = [3] := by decide +kernel

/-- All threads other than 0, 1, 2 are finished from the start, so the run above is final in the
sense of the theorems. -/
example : ∀ u, ((run ⟨300, 50⟩ (init progsEdge) schedEdge).thr u).pc.isDone = true :=
  final_of_allDoneUpTo _ progsEdge schedEdge 2 (by decide) (by decide) (by decide +kernel)

/-- The failed forced write 3 was entered after the close: after 12 schedule entries the socket is
closed, the `cls` is logged and 3 has not been issued. -/
example :
    let sk := run ⟨300, 50⟩ (init progsEdge) (schedEdge.take 12)
    sk.sockOpen = false ∧ (1, Ev.cls) ∈ sk.log ∧ 3 ∉ sk.issued := by decide +kernel

/-- The hypothesis of `closer_kind` is satisfiable: after 10 entries thread 1 is about to close. -/
example :
    ((run ⟨300, 50⟩ (init progsEdge) (schedEdge.take 10)).thr 1).pc
      = .user (.dCls ⟨false, [1], [], true⟩) := by decide +kernel

/-- The splitting of the log of `C12.exProgsImm` / `C12.exSchedImm` (thread 1 queues 1, disconnects
immediately, then forces 2; thread 2 queues 3). -/
def preImm : Log := [(1, .app 1), (0, .rdi false), (2, .app 3)]
def midImm : Log := [(2, .fin), (1, .sti), (1, .shut)]
def postImm : Log :=
  [(1, .rel), (0, .acq), (0, .rdi true), (0, .chk 2), (0, .rel), (1, .acq), (0, .rdi true),
   (1, .fail), (0, .rdi true), (1, .rel), (0, .acq), (1, .fin), (0, .rel), (0, .fin)]

/-- An immediate closing disconnect: the run is complete, the log splits, `flushes mid = false`,
nothing is ever sent, and the queue at the `acq` — packet 1, appended BEFORE the `acq`, and packet
3 — is left in the queue.  So for an immediate disconnect "left in the queue ⇒ appended after the
`acq`" is false. -/
example :
    let s := run ⟨300, 50⟩ (init C12.exProgsImm) C12.exSchedImm
    allDoneUpTo s 2 = true ∧ s.sockOpen = false ∧
    s.log = preImm ++ (1, .acq) :: (midImm ++ (1, .cls) :: postImm) ∧ LockFree midImm ∧
    flushes midImm = false ∧ (1, Ev.app 1) ∈ preImm ∧
    s.wire = [] ∧ s.queue = [1, 3] ∧ s.failed = [2] := by decide +kernel

example : ∀ u, ((run ⟨300, 50⟩ (init C12.exProgsImm) C12.exSchedImm).thr u).pc.isDone = true :=
  final_of_allDoneUpTo _ C12.exProgsImm C12.exSchedImm 2 (by decide) (by decide) (by decide +kernel)

/-- The theorems applied to the edge case: packet 2 is in clause (b), and its `app` event is found
after the last `chk 0` of the closing disconnect. -/
example : ∃ flush tail, midEdge = flush ++ (1, .chk 0) :: tail ∧ NoChk tail ∧
    ∃ u, (u, Ev.app 2) ∈ tail ++ postEdge := by
  have hfin := final_of_allDoneUpTo ⟨300, 50⟩ progsEdge schedEdge 2 (by decide) (by decide)
    (by decide +kernel)
  have hlog : (run ⟨300, 50⟩ (init progsEdge) schedEdge).log
      = preEdge ++ (1, .acq) :: (midEdge ++ (1, .cls) :: postEdge) := by decide +kernel
  have hq : 2 ∈ (run ⟨300, 50⟩ (init progsEdge) schedEdge).queue := by decide +kernel
  have hnd : (progsEdge.flatMap pktsOf).Nodup := by decide
  obtain ⟨-, h⟩ := all_sent_or_dropped_after_disconnect ⟨300, 50⟩ progsEdge hnd schedEdge 1
    preEdge midEdge postEdge hfin hlog (by decide)
  rcases h 2 (by decide) with h | h | h
  · exact absurd hq h.2.2.1
  · exact h.2.2.2.2.1 (by decide)
  · exact absurd hq h.2.2.2.1

end PyCraft.C12Final
