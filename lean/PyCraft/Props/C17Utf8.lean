import PyCraft.Lemmas.C17Utf8
import PyCraft.Props.C17
import PyCraft.Props.C10
import PyCraft.Props.C17Utf8Live
/-!
# C17, audit gap 24 — "SHA-1 of the server id (UTF-8)" and "the string passed to `join`"

`Props/C17.lean` starts from three BYTE strings; that the first of them is the UTF-8 encoding of the
server id appeared only in a comment (changing `encryption.py:38` to `.encode('utf-16-le')` left every
theorem true), and `C10.join_iff` spoke about an uninterpreted `P.hash`.  Here:

* **encoding** — `generateVerificationHash` takes the server id as a STRING.  Lean's `String.toUTF8`,
  the literal mirror of CPython's encoder (`pyUtf8Encode`, with its failure on lone surrogates) and an
  independent RFC 3629 reference (`utf8Ref`, table of §3; `utf8DecodeRef`, grammar of §4) agree:
  `sid_utf8`, `utf8_decodes_back`, `utf8_length_classes`, `utf8_injective`, `encode_mirror`,
  `encode_fails_iff`;
* **the hash** — `hash_is_sha1_of_utf8` (`HashSpec generateVerificationHash`), `hash_cps`,
  `hash_full_spec`; the changed code is refuted concretely: `utf16_violates`, `swapped_violates`;
* **join** — `join_is_mcHash`, `join_single_request`: what `auth_token.join` receives is this hash of
  (server id, the secret, the server's key);
* **SHA-1 padding** — `sha1_padding`, `sha1_block_count` (FIPS 180-4 §5.1.1), and vectors on the
  padding boundaries: published ones and `live_sha1_lengths`;
* **live tables** (`Generated/C17Utf8.lean`, regenerated from /repo on every run by
  `harness/gen/c17utf8.py`): `live_encode`, `live_hash`, `live_sha1_lengths`, `live_join` in
  `Props/C17Utf8Live.lean` (same namespace), and
  `live_hash_string` here.

Definitions used in the statements (`utf8Ref`, `utf8RefCp`, `utf8DecodeRef`, `IsScalar`, `HashSpec`,
`expectedJoinReal`, `strOfCps`, `C17Pad.beNat`, `C17Pad.digestOf`) are in `Lemmas/C17Utf8.lean`, the
model in `Model/C17Utf8.lean`.
-/
namespace PyCraft.C17Utf8
open PyCraft PyCraft.Utf8 PyCraft.McHash PyCraft.Login

/-! ## The encoding -/

/-- The bytes of a string are, character by character, the RFC 3629 encoding of its characters
(reference encoder written from the table of §3, independent of Lean's and of CPython's). -/
theorem sid_utf8 (s : String) : s.toUTF8.toList = s.toList.flatMap utf8Ref :=
  toUTF8_eq_ref s

/-- … and an independent strict decoder (grammar of RFC 3629 §4: shortest form only, no surrogates,
nothing above U+10FFFF) reads those bytes back as exactly the code points of the string.  So the
encoding is well-formed UTF-8 and denotes the string. -/
theorem utf8_decodes_back (s : String) : utf8DecodeRef s.toUTF8.toList = some (codePoints s) := by
  rw [sid_utf8, ← flatMap_codePoints]
  exact decode_roundtrip _ (codePoints_scalar s)

/-- Length classes of RFC 3629: one octet below U+0080, two below U+0800, three below U+10000, four
otherwise. -/
theorem utf8_length_classes (c : Char) :
    (utf8Ref c).length =
      if c.toNat < 0x80 then 1 else if c.toNat < 0x800 then 2 else if c.toNat < 0x10000 then 3 else 4 :=
  utf8RefCp_length c.toNat

/-- Different server ids are hashed as different byte strings. -/
theorem utf8_injective (s t : String) (h : s.toUTF8.toList = t.toUTF8.toList) : s = t := by
  have hs := utf8_decodes_back s
  rw [h, utf8_decodes_back t] at hs
  exact (codePoints_injective s t (Option.some.inj hs).symm)

/-- The literal mirror of CPython's `str.encode('utf-8')` (shifts and masks of `utf8_encoder`),
applied to the code points of a string, succeeds and yields exactly `String.toUTF8`. -/
theorem encode_mirror (s : String) : pyUtf8Encode (codePoints s) = .ok s.toUTF8.toList :=
  pyUtf8Encode_string s

/-- On an arbitrary Python `str` (any code points): the encoder raises — always `ValueError`
(`UnicodeEncodeError`), never anything else — exactly when some code point is not a Unicode scalar
value (a lone surrogate `U+D800 … U+DFFF`; numbers above `0x10FFFF` cannot occur in a `str`);
otherwise it yields the concatenation of the reference encodings. -/
theorem encode_fails_iff (cps : List Nat) :
    (pyUtf8Encode cps = .error .value ↔ ∃ c ∈ cps, ¬ IsScalar c) ∧
    ((∀ c ∈ cps, IsScalar c) → pyUtf8Encode cps = .ok (cps.flatMap utf8RefCp)) ∧
    (∀ e, pyUtf8Encode cps = .error e → e = .value) := by
  by_cases h : ∃ c ∈ cps, ¬ IsScalar c
  · have hb := pyUtf8Encode_bad cps h
    refine ⟨⟨fun _ => h, fun _ => hb⟩, fun hall => ?_, fun e he => ?_⟩
    · obtain ⟨c, hc, hn⟩ := h
      exact absurd (hall c hc) hn
    · rw [hb] at he
      exact (Except.error.inj he).symm
  · have hall : ∀ c ∈ cps, IsScalar c := fun c hc => Decidable.not_not.mp fun hs => h ⟨c, hc, hs⟩
    have ho := pyUtf8Encode_scalars cps hall
    refine ⟨⟨fun he => ?_, fun hh => absurd hh h⟩, fun _ => ho, fun e he => ?_⟩
    · rw [ho] at he
      cases he
    · rw [ho] at he
      cases he

/-! ## The hash -/

/-- **The server hash is the signed hex of the SHA-1 of: the UTF-8 encoding of the server id, then
the secret, then the key** — for every server id, secret and key. -/
theorem hash_is_sha1_of_utf8 : HashSpec generateVerificationHash := by
  intro sid secret key
  show mcHash sid.toUTF8.toList secret key = _
  rw [sid_utf8]
  rfl

/-- `generate_verification_hash` on an arbitrary Python `str`: it raises `ValueError`
(`UnicodeEncodeError`) exactly when the id contains a lone surrogate, and otherwise returns the
signed hex of the SHA-1 of (reference UTF-8 of the id ++ secret ++ key); on the code points of a
Lean string it is `generateVerificationHash`. -/
theorem hash_cps (cps : List Nat) (secret key : Bytes) :
    ((∃ c ∈ cps, ¬ IsScalar c) → generateVerificationHashCps cps secret key = .error .value) ∧
    ((∀ c ∈ cps, IsScalar c) → generateVerificationHashCps cps secret key =
        .ok (signedHex (sha1 (cps.flatMap utf8RefCp ++ secret ++ key)))) ∧
    (∀ s : String, generateVerificationHashCps (codePoints s) secret key =
        .ok (generateVerificationHash s secret key)) := by
  refine ⟨fun h => ?_, fun h => ?_, fun s => ?_⟩
  · unfold generateVerificationHashCps
    rw [pyUtf8Encode_bad cps h]
    rfl
  · unfold generateVerificationHashCps
    rw [pyUtf8Encode_scalars cps h]
    rfl
  · unfold generateVerificationHashCps
    rw [pyUtf8Encode_string s]
    rfl

/-- Everything `Props/C17.lean` says about `mcHash`, now about the function of the STRING: the
digest of (UTF-8 id ++ secret ++ key) has 20 bytes; the hash, read back by an independent parser, is
its two's-complement value, which lies in `[-2^159, 2^159)`; the hash is the one canonical signed
lower-case numeral of that value (Java's `BigInteger.toString(16)`). -/
theorem hash_full_spec (sid : String) (secret key : Bytes) :
    let d := sha1 (sid.toList.flatMap utf8Ref ++ secret ++ key)
    d.length = 20 ∧
    parseSignedHex (generateVerificationHash sid secret key) = some (fromBytesSigned d) ∧
    -((2 : Int) ^ 159) ≤ fromBytesSigned d ∧ fromBytesSigned d < (2 : Int) ^ 159 ∧
    CanonSigned (generateVerificationHash sid secret key).toList ∧
    ∀ s : String, CanonSigned s.toList → parseSignedHex s = some (fromBytesSigned d) →
      generateVerificationHash sid secret key = s := by
  intro d
  have h := C17.mcHash_spec (sid.toList.flatMap utf8Ref) secret key
  have e : generateVerificationHash sid secret key = signedHex d := hash_is_sha1_of_utf8 sid secret key
  rw [e]
  exact ⟨h.1, C17.hex_parses_back d, h.2.2.1, h.2.2.2.1, (C17.canonical_unique d).1,
    (C17.canonical_unique d).2⟩

/-! ### The changed code is refuted -/

/-- `encryption.py:38` changed to `server_id.encode('utf-16-le')` — which satisfies every theorem of
`Props/C17.lean` — violates `hash_is_sha1_of_utf8` (already on the id `"a"`). -/
theorem utf16_violates : ¬ HashSpec generateVerificationHashUtf16 := by
  intro h
  exact absurd (h "a" [] []) (by decide +kernel)

/-- Hashing the secret before the id (lines 38 and 39 swapped) violates it as well. -/
theorem swapped_violates : ¬ HashSpec generateVerificationHashSwapped := by
  intro h
  exact absurd (h "a" [0x01] []) (by decide +kernel)

/-! ## The string passed to `join` -/

/-- With the real hash function plugged into the login model: for EVERY run (any packets, any
placement of the write phases) `auth_token.join` is called exactly for the reached encryption
requests whose server id is not `"-"` while a token is present — once each, in order — and the
argument is `mcHash (UTF-8 of the id) secret key`, i.e. the signed hex of the SHA-1 of
(UTF-8 id ++ the client's secret ++ the server's public key). -/
theorem join_is_mcHash (P : LoginParams) (steps : List Step) :
    (exec (realHash P) .init steps).joins =
      (processed (events steps)).filterMap (expectedJoinReal P.secret P.hasToken) ∧
    (∀ sid pk tok h, expectedJoinReal P.secret P.hasToken (.encRequest sid pk tok) = some h ↔
      (sid ≠ "-" ∧ P.hasToken = true ∧
        h = signedHex (sha1 (sid.toList.flatMap utf8Ref ++ P.secret ++ pk)))) ∧
    (∀ e, e.isEncRequest = false → expectedJoinReal P.secret P.hasToken e = none) := by
  have hj := (C10.join_iff (realHash P) steps).1
  rw [expectedJoin_realHash] at hj
  refine ⟨hj, fun sid pk tok h => ?_, fun e he => ?_⟩
  · have hs : mcHash sid.toUTF8.toList P.secret pk =
        signedHex (sha1 (sid.toList.flatMap utf8Ref ++ P.secret ++ pk)) :=
      hash_is_sha1_of_utf8 sid P.secret pk
    show (if sid ≠ "-" ∧ P.hasToken = true then some (mcHash sid.toUTF8.toList P.secret pk) else none)
      = some h ↔ _
    rw [hs]
    generalize signedHex (sha1 (sid.toList.flatMap utf8Ref ++ P.secret ++ pk)) = x
    by_cases h1 : sid = "-" <;> by_cases h2 : P.hasToken = true <;> simp [h1, h2, eq_comm]
  · cases e <;> simp_all [expectedJoinReal, LoginEv.isEncRequest]

/-- One reached encryption request, spelled out: if no login-success / disconnect packet came
before it, the id is not `"-"` and a token is present, then reacting to it calls `join` exactly once
more, with the signed hex of SHA-1(UTF-8 id ++ secret ++ key); with id `"-"` or without a token no
call is made. -/
theorem join_single_request (P : LoginParams) (pre : List Step) (sid : String) (pk tok : Bytes)
    (hpre : ∀ e ∈ events pre, e.isTerminal = false) :
    let s0 := exec (realHash P) .init pre
    let s1 := exec (realHash P) .init (pre ++ [.recv (.encRequest sid pk tok)])
    (sid ≠ "-" ∧ P.hasToken = true →
      s1.joins = s0.joins ++ [signedHex (sha1 (sid.toList.flatMap utf8Ref ++ P.secret ++ pk))]) ∧
    (sid = "-" ∨ P.hasToken = false → s1.joins = s0.joins) := by
  intro s0 s1
  have hal : s0.alive = true := exec_alive (realHash P) .init pre init_alive hpre
  have h1 : s1 = react (realHash P) s0 (.encRequest sid pk tok) := by
    show exec (realHash P) .init (pre ++ [_]) = _
    rw [exec_snoc, step_recv_alive _ _ _ hal]
  rw [h1]
  have hh : (realHash P).hash sid (realHash P).secret pk =
      signedHex (sha1 (sid.toList.flatMap utf8Ref ++ P.secret ++ pk)) :=
    hash_is_sha1_of_utf8 sid P.secret pk
  generalize signedHex (sha1 (sid.toList.flatMap utf8Ref ++ P.secret ++ pk)) = x at hh
  have ht0 : (realHash P).hasToken = P.hasToken := rfl
  constructor
  · rintro ⟨hne, ht⟩
    simp [react, ClientState.writeNow, hne, ht0, ht, hh]
  · intro h
    rcases h with h | h
    · simp [react, ClientState.writeNow, h]
    · by_cases hne : sid = "-" <;> simp [react, ClientState.writeNow, hne, ht0, h]

/-! ## SHA-1 padding (FIPS 180-4 §5.1.1) -/

/-- The padded message is: the message, the octet `0x80` (bit "1" and seven zero bits), `z` zero
octets and an 8-octet field `L`, where `z` is the SMALLEST number making the total a multiple of 64
octets (512 bits), and `L` is the message length in BITS as a big-endian 64-bit number (read by an
independent big-endian evaluator).  Hence the total is the least multiple of 64 that is
`≥ length + 9`. -/
theorem sha1_padding (m : List Nat) :
    ∃ z L, Sha1.pad m = m ++ 0x80 :: (List.replicate z 0 ++ L) ∧
      L.length = 8 ∧ (∀ x ∈ L, x < 256) ∧ C17Pad.beNat L = (m.length * 8) % 2 ^ 64 ∧
      z < 64 ∧ (m.length + 1 + z + 8) % 64 = 0 ∧
      (∀ k, (m.length + 1 + k + 8) % 64 = 0 → z ≤ k) ∧
      (Sha1.pad m).length % 64 = 0 ∧ m.length + 9 ≤ (Sha1.pad m).length ∧
      (Sha1.pad m).length < m.length + 9 + 64 := by
  refine ⟨C17Pad.zeros m.length, Sha1.lenBytes 8 (m.length * 8), C17Pad.pad_eq m,
    C17Pad.lenBytes_length _ _, C17Pad.lenBytes_lt _ _, ?_, (C17Pad.zeros_spec _).1,
    (C17Pad.zeros_spec _).2.1, (C17Pad.zeros_spec _).2.2, ?_, ?_, ?_⟩
  · rw [C17Pad.beNat_lenBytes]
  · rw [C17Pad.pad_length]
    omega
  · rw [C17Pad.pad_length]
    omega
  · rw [C17Pad.pad_length]
    omega

/-- `sha1` runs the compression function over ALL of the padded message: exactly
`(length + 8) / 64 + 1` blocks of 64 octets (one block up to 55 bytes, two up to 119, … — a login
input of 198 bytes takes four), starting from the initial hash value, and the digest is the final
chaining value, big-endian. -/
theorem sha1_block_count (msg : Bytes) :
    sha1 msg = C17Pad.digestOf
      (Sha1.blocks ((msg.length + 8) / 64 + 1) (Sha1.pad (msg.map UInt8.toNat)) Sha1.init) ∧
    (Sha1.pad (msg.map UInt8.toNat)).length = 64 * ((msg.length + 8) / 64 + 1) := by
  refine ⟨C17Pad.sha1_eq_blocks msg, ?_⟩
  rw [C17Pad.pad_length, List.length_map]

/-! ## Vectors on the padding boundaries (kernel-checked) -/

/-- FIPS 180 two-block example: 112 bytes (896 bits), padding fills a third block. -/
theorem sha1_112 :
    hexOfBytes (sha1 ("abcdefghbcdefghicdefghijdefghijkefghijklfghijklmghijklmnhijklmnoijklmnopjklmnopq" ++
      "klmnopqrlmnopqrsmnopqrstnopqrstu").toUTF8.toList)
      = "a49b2446a02c645bf419f995b67091253a04a259" := by
  decide +kernel

/-- RFC 3174 TEST4: 640 bytes — an exact multiple of the block size, eleven blocks. -/
theorem sha1_640 :
    hexOfBytes (sha1 ((List.replicate 80 "01234567".toUTF8.toList).flatten))
      = "dea356a2cddd90c7a7ecedc5ebb563934f460452" := by
  decide +kernel

/-! ## Live tables

`Props/C17Utf8Live.lean` (same namespace) holds the kernel-checked statements over the tables
generated from /repo: `live_sha1_lengths`, `live_encode`, `live_hash`, `live_join`. -/

/-- Live, String level: on every tabulated triple where the real `generate_verification_hash`
returned a value (published vectors, non-ASCII ids with 16-byte secrets and real DER keys, inputs on
the padding boundaries), that value is `generateVerificationHash` of the Lean string with those code
points.  (Consequence of `live_hash` and `hash_cps`; nothing is re-evaluated.) -/
theorem live_hash_string :
    ∀ r ∈ Gen.C17Utf8.hashRows, r.hash ≠ none →
      r.hash = some (generateVerificationHash (strOfCps r.cps) r.secret r.key) := by
  intro r hr hne
  obtain ⟨h1, h2⟩ := live_hash r hr
  rcases h2 with h2 | h2
  · exact absurd h2 hne
  · have h3 := (hash_cps r.cps r.secret r.key).2.2 (strOfCps r.cps)
    rw [h2, h1] at h3
    cases hh : r.hash with
    | none => exact absurd hh hne
    | some x =>
      rw [hh] at h3
      exact congrArg some (Except.ok.inj h3)

/-! ## Examples / non-vacuity -/

-- a non-ASCII id: "é€😀" is 2 + 3 + 4 bytes
example : "é€😀".toUTF8.toList = [0xc3, 0xa9, 0xe2, 0x82, 0xac, 0xf0, 0x9f, 0x98, 0x80] := by
  decide +kernel
example : "é€😀".toList.flatMap utf8Ref = [0xc3, 0xa9, 0xe2, 0x82, 0xac, 0xf0, 0x9f, 0x98, 0x80] := by
  decide +kernel
example : pyUtf8Encode [0xe9, 0x20ac, 0x1f600] =
    .ok [0xc3, 0xa9, 0xe2, 0x82, 0xac, 0xf0, 0x9f, 0x98, 0x80] := by decide +kernel
example : utf8DecodeRef [0xc3, 0xa9, 0xe2, 0x82, 0xac, 0xf0, 0x9f, 0x98, 0x80] =
    some [0xe9, 0x20ac, 0x1f600] := by decide +kernel
-- the decoder is strict: overlong, surrogate, too large, truncated, stray tail
example : utf8DecodeRef [0xc0, 0x80] = none := by decide +kernel
example : utf8DecodeRef [0xe0, 0x9f, 0xbf] = none := by decide +kernel
example : utf8DecodeRef [0xed, 0xa0, 0x80] = none := by decide +kernel
example : utf8DecodeRef [0xf4, 0x90, 0x80, 0x80] = none := by decide +kernel
example : utf8DecodeRef [0xe2, 0x82] = none := by decide +kernel
example : utf8DecodeRef [0x80] = none := by decide +kernel
-- the failure point exists and is reached
example : pyUtf8Encode [0x41, 0xD800] = .error .value := by decide +kernel
example : generateVerificationHashCps [0x41, 0xD800] [1] [2] = .error .value := by decide +kernel
example : ¬ IsScalar 0xD800 ∧ IsScalar 0xD7FF ∧ IsScalar 0xE000 ∧ IsScalar 0x10FFFF ∧
    ¬ IsScalar 0x110000 := by decide
-- a non-ASCII hash (cross-checked with the real function, see also `live_hash`)
example : generateVerificationHash "Nötch€😀" [1, 2, 3] [4, 5] =
    "-7edaddfe70747b87ea5fe57914d4e33c490ac7dc" := by decide +kernel
-- the UTF-16 variant agrees with nothing, not even on ASCII
example : generateVerificationHashUtf16 "Notch" [] [] ≠ generateVerificationHash "Notch" [] [] := by
  decide +kernel
-- `join` in a run with the real hash: one call, with the hash of (id, secret, key)
example : (runLogin (realHash demoParams) 1
      [.setCompression 256, .encRequest "Nö" [7, 8] [9], .success]).joins =
    [generateVerificationHash "Nö" [1, 2, 3] [7, 8]] := by decide +kernel
example : (runLogin (realHash demoParams) 1 [.encRequest "-" [7, 8] [9], .success]).joins = [] := by
  decide +kernel
-- hypotheses of `join_single_request` are satisfiable
example : ∀ e ∈ events [.flush, .recv (.setCompression 256), .flush], e.isTerminal = false := by
  decide
-- padding instances: 55 bytes fit one block, 56 need two; the length field counts bits
example : (Sha1.pad (List.replicate 55 0x61)).length = 64 ∧
    (Sha1.pad (List.replicate 56 0x61)).length = 128 ∧
    (Sha1.pad (List.replicate 198 0x61)).length = 256 := by decide +kernel
example : (Sha1.pad [0x61, 0x62, 0x63]).drop 56 = [0, 0, 0, 0, 0, 0, 0, 24] := by decide +kernel
example : C17Pad.beNat [0, 0, 0, 0, 0, 0, 6, 0x30] = 198 * 8 := by decide +kernel

end PyCraft.C17Utf8
