import PyCraft.Lemmas.C01Dispatch
import PyCraft.Props.C01
/-!
# C01, clause 9 at dispatch level, and the connection-state mapping

(rank 22 of `docs/audit_report.md`)

`Props/C01.lean` proves the round trip of `(id, field bytes)` through `read_packet` WITHOUT the id
table (`readPacketK` returns `(id, rest)` for every id) and with the reader's compression flag
hard-wired to `thr.isSome`.  Here (`Model/C01Dispatch.lean`):

* `read_packet` complete with the branch `if packet_id in self.clientbound_packets`
  (`connection.py:707-714`): a known id is decoded by ITS class's `read` (an exception ends the
  networking loop), an unknown id becomes a bare `Packet` — `readAllD`, `readAllDEnc`;
* `connection.options` as the two variables `compression_enabled` / `compression_threshold`
  (`ConnOpts`), the writer's use of them (`writerThr`, `_write_packet`, `connection.py:340-343`),
  the reader's (`readerFlag`, `connection.py:690`) and the three places that assign them.

A `Delivered.known id vals []` means: the class registered for `id` was instantiated, its `read`
returned `vals` and consumed the payload exactly; `Delivered.bare id fields`: a bare `Packet` with
that id, `fields` (all bytes behind the id) left unread and discarded with the frame.

`dispatch_unknown_interleaved` is stated over `WItem`s (`typed p` | `raw id fields`), not over
`TPacket`s: a packet the reader does not know need not have been produced from any `definition` —
its payload is arbitrary bytes (an unknown `TPacket` is the case `raw p.id (its field bytes)`).  It
is preceded by table-generic versions (`dispatch_stream`, any `BodyReader`s, hand-written `read`s
included) phrased against the relational specification `Dispatches`.

Only property theorems, refutations of changed code, and non-vacuity examples live here.
-/
namespace PyCraft.C01Dispatch
open PyCraft

/-! ## the dispatching reader against the raw reader (any stream) -/

/-- For ANY byte stream (well-formed or not), any segmentation, any inflate function, compression
on or off, any id table: what the complete `read_packet` loop delivers is what the raw loop of
`Props/C01.lean` delivers, dispatched packet by packet in order, cut at the first packet whose
`read` raises — whose exception then ends the loop in place of the raw loop's. -/
theorem dispatch_is_cut_of_raw {α : Type} (z : ZlibOps) (c : Bool) (table : IdTable α)
    (segs : Segs) :
    readAllD z c table segs =
      cutDispatch (dispatchBody table) (readAll z c segs).1 (readAll z c segs).2 :=
  readAllWithK_cut idXform z c (dispatchBody table) (Sock.plain segs)

/-- The same through a decrypting file object. -/
theorem dispatch_is_cut_of_raw_encrypted {σ α : Type} (dec : StreamXform σ) (s0 : σ) (z : ZlibOps)
    (c : Bool) (table : IdTable α) (segs : Segs) :
    readAllDEnc dec s0 z c table segs =
      cutDispatch (dispatchBody table) (readAllEnc dec s0 z c segs).1
        (readAllEnc dec s0 z c segs).2 :=
  readAllWithK_cut dec z c (dispatchBody table) (Sock.enc s0 segs)

/-- Read segmentation stays invisible at dispatch level: two segmentations of the same byte
stream give the same deliveries (known and bare) and the same final exception — plain or through
any decryptor. -/
theorem dispatch_segmentation_invariant {σ α : Type} (dec : StreamXform σ) (s0 : σ) (z : ZlibOps)
    (c : Bool) (table : IdTable α) (s1 s2 : Segs) (h : s1.flatten = s2.flatten) :
    readAllD z c table s1 = readAllD z c table s2 ∧
    readAllDEnc dec s0 z c table s1 = readAllDEnc dec s0 z c table s2 := by
  rw [dispatch_is_cut_of_raw, dispatch_is_cut_of_raw, dispatch_is_cut_of_raw_encrypted,
    dispatch_is_cut_of_raw_encrypted, (C01.read_segmentation_invariant z c s1 s2 h).2.2.2,
    C01.read_segmentation_invariant_encrypted dec s0 z c s1 s2 h]
  exact ⟨rfl, rfl⟩

/-! ## clause 9: known and unknown ids interleaved -/

/-- Table-generic round trip.  `pds` pairs every framed `(id, field bytes)` with what the
specification `Dispatches` says must be handed on for it (bare packet for an id outside the table;
the class's decoded instance for an id inside).  For every zlib, every threshold, every table (any
`read` functions), every segmentation of the concatenated frames: the reader hands on exactly that
list — known and unknown ids in any interleaving, ids may repeat — and then raises end-of-stream. -/
theorem dispatch_stream {α : Type} (z : Zlib) (thr : Option Int) (table : IdTable α)
    (pds : List ((Nat × Bytes) × Delivered α))
    (hok : ∀ pd ∈ pds, FrameOK z.toZlibOps thr pd.1)
    (hd : ∀ pd ∈ pds, Dispatches table pd.1 pd.2) (segs : Segs)
    (hseg : segs.flatten = ((pds.map (·.1)).map (packetFrame z.toZlibOps thr)).flatten) :
    readAllD z.toZlibOps thr.isSome table segs = (pds.map (·.2), .eof) := by
  rw [dispatch_is_cut_of_raw,
    C01.roundtrip_stream z thr (pds.map (·.1))
      (List.forall_mem_map.2 hok) segs hseg]
  exact cutDispatch_all_ok _ _ pds fun pd hpd => dispatchBody_of_dispatches table _ _ (hd pd hpd)

/-- … through any cipher pair, the writer's bytes cut into `send` calls in any way, the cipher
text arriving in any segmentation. -/
theorem dispatch_stream_encrypted {σ α : Type} (cp : CipherPair σ) (s0 : σ) (z : Zlib)
    (thr : Option Int) (table : IdTable α) (pds : List ((Nat × Bytes) × Delivered α))
    (hok : ∀ pd ∈ pds, FrameOK z.toZlibOps thr pd.1)
    (hd : ∀ pd ∈ pds, Dispatches table pd.1 pd.2) (sends : List Bytes)
    (hsends : sends.flatten = ((pds.map (·.1)).map (packetFrame z.toZlibOps thr)).flatten)
    (segs : Segs) (hseg : segs.flatten = (encSends cp.enc s0 sends).2.flatten) :
    readAllDEnc cp.dec s0 z.toZlibOps thr.isSome table segs = (pds.map (·.2), .eof) := by
  rw [dispatch_is_cut_of_raw_encrypted,
    C01.roundtrip_encrypted cp s0 z thr (pds.map (·.1))
      (List.forall_mem_map.2 hok)
      sends hsends segs hseg]
  exact cutDispatch_all_ok _ _ pds fun pd hpd => dispatchBody_of_dispatches table _ _ (hd pd hpd)

/-- Clause 9 literally.  A packet whose id is NOT in the table (`table id = none`; ANY field bytes),
framed between any packets `before` and `after` (each known or unknown): it is handed on as a bare
packet with that id, all its field bytes unread; every predecessor and every successor is handed on
exactly as specified; and the deliveries are exactly those of the stream WITHOUT the unknown frame,
plus the bare packet at its position — the successors are not disturbed. -/
theorem unknown_skipped_without_disturbing {α : Type} (z : Zlib) (thr : Option Int)
    (table : IdTable α) (before after : List ((Nat × Bytes) × Delivered α))
    (hok : ∀ pd ∈ before ++ after, FrameOK z.toZlibOps thr pd.1)
    (hd : ∀ pd ∈ before ++ after, Dispatches table pd.1 pd.2)
    (id : Nat) (fields : Bytes) (hunk : table id = none)
    (hfr : FrameOK z.toZlibOps thr (id, fields)) (segsWith segsWithout : Segs)
    (hw : segsWith.flatten =
      ((before.map (·.1)).map (packetFrame z.toZlibOps thr)).flatten ++
        (packetFrame z.toZlibOps thr (id, fields) ++
          ((after.map (·.1)).map (packetFrame z.toZlibOps thr)).flatten))
    (hwo : segsWithout.flatten =
      ((before.map (·.1)).map (packetFrame z.toZlibOps thr)).flatten ++
        ((after.map (·.1)).map (packetFrame z.toZlibOps thr)).flatten) :
    readAllD z.toZlibOps thr.isSome table segsWith =
      (before.map (·.2) ++ .bare id fields :: after.map (·.2), .eof) ∧
    readAllD z.toZlibOps thr.isSome table segsWithout =
      (before.map (·.2) ++ after.map (·.2), .eof) := by
  obtain ⟨hokb, hoka⟩ := List.forall_mem_append.1 hok
  obtain ⟨hdb, hda⟩ := List.forall_mem_append.1 hd
  constructor
  · have := dispatch_stream z thr table (before ++ ((id, fields), .bare id fields) :: after)
      (List.forall_mem_append.2 ⟨hokb, List.forall_mem_cons.2 ⟨hfr, hoka⟩⟩)
      (List.forall_mem_append.2 ⟨hdb, List.forall_mem_cons.2 ⟨.inl ⟨hunk, rfl⟩, hda⟩⟩)
      segsWith (by rw [hw]; simp)
    rw [this]; simp
  · have := dispatch_stream z thr table (before ++ after) hok hd segsWithout (by rw [hwo]; simp)
    rw [this]; simp

/-- A KNOWN packet whose `read` raises ends the networking loop with that exception: exactly the
packets before it are handed on, nothing behind it is read (`connection.py:710` is inside
`read_packet`; the exception leaves the loop).  This is where `readDispatch` of
`Model/TypedStream.lean` (decode after the fact) was unfaithful. -/
theorem known_read_error_ends_loop {α : Type} (z : Zlib) (thr : Option Int) (table : IdTable α)
    (before : List ((Nat × Bytes) × Delivered α)) (bad : Nat × Bytes)
    (after : List (Nat × Bytes))
    (hok : ∀ pd ∈ before, FrameOK z.toZlibOps thr pd.1)
    (hd : ∀ pd ∈ before, Dispatches table pd.1 pd.2)
    (hokb : FrameOK z.toZlibOps thr bad) (hoka : ∀ p ∈ after, FrameOK z.toZlibOps thr p)
    (rd : BodyReader α) (e : Err) (hknown : table bad.1 = some rd) (hraise : rd bad.2 = .error e)
    (segs : Segs)
    (hseg : segs.flatten =
      ((before.map (·.1) ++ bad :: after).map (packetFrame z.toZlibOps thr)).flatten) :
    readAllD z.toZlibOps thr.isSome table segs = (before.map (·.2), e) := by
  rw [dispatch_is_cut_of_raw,
    C01.roundtrip_stream z thr (before.map (·.1) ++ bad :: after)
      (List.forall_mem_append.2 ⟨List.forall_mem_map.2 hok, List.forall_mem_cons.2 ⟨hokb, hoka⟩⟩)
      segs hseg]
  exact cutDispatch_first_error _ _ e bad after (dispatchBody_error_of table bad rd e hknown hraise)
    before fun pd hpd => dispatchBody_of_dispatches table _ _ (hd pd hpd)

/-- The typed statement, over items.  For ANY list of
items — `typed p`: a packet with a declarative definition, values in the domains of its fields,
whose id the reader's table maps to that definition; `raw id fields`: arbitrary bytes under an id
the table does not contain — in any interleaving, for any zlib and any threshold: writing succeeds,
and for ANY segmentation of the written stream the reader (looking the class up BY THE ID READ FROM
THE WIRE) hands on, in order, the values of every known packet with its payload consumed exactly,
and a bare packet for every unknown one; then end-of-stream. -/
theorem dispatch_unknown_interleaved (z : Zlib) (thr : Option Int) (t : Nat → Option Layout)
    (items : List WItem) (hok : ∀ i ∈ items, i.OK z.toZlibOps thr t) :
    ∃ stream, writeItems realCustom z.toZlibOps thr items = .ok stream ∧
      ∀ segs : Segs, segs.flatten = stream →
        readAllD z.toZlibOps thr.isSome (layoutTable realCustom t) segs =
          (items.map WItem.expected, .eof) := by
  have hf := fun i hi => item_facts z.toZlibOps thr t i (hok i hi)
  refine ⟨_, writeItems_of_ok realCustom z.toZlibOps thr items (fun i hi => (hf i hi).1),
    fun segs hseg => ?_⟩
  have := dispatch_stream z thr (layoutTable realCustom t)
    (items.map fun i => (i.rawOf realCustom, i.expected))
    (List.forall_mem_map.2 fun i hi => (hf i hi).2.1)
    (List.forall_mem_map.2 fun i hi => dispatches_of_dispatchBody _ _ _ (hf i hi).2.2)
    segs (by rw [hseg]; simp [Function.comp_def])
  rw [this]; simp [Function.comp_def]

/-- ALL of C01's dimensions at once, at dispatch level and over the connection's REAL state: any
options `o` (both variables free), the writer using `writerThr o` (`_write_packet`), the reader
using `readerFlag o` (`read_packet`, `connection.py:690`), any cipher pair, the written bytes cut
into `send` calls in any way, the cipher text arriving in any segmentation, known and unknown ids
interleaved. -/
theorem dispatch_unknown_interleaved_conn {σ : Type} (cp : CipherPair σ) (s0 : σ) (z : Zlib)
    (o : ConnOpts) (t : Nat → Option Layout) (items : List WItem)
    (hok : ∀ i ∈ items, i.OK z.toZlibOps (writerThr o) t) :
    ∃ stream, writeItems realCustom z.toZlibOps (writerThr o) items = .ok stream ∧
      (∀ segs : Segs, segs.flatten = stream →
        readAllD z.toZlibOps (readerFlag o) (layoutTable realCustom t) segs =
          (items.map WItem.expected, .eof)) ∧
      ∀ (sends : List Bytes) (segs : Segs), sends.flatten = stream →
        segs.flatten = (encSends cp.enc s0 sends).2.flatten →
        readAllDEnc cp.dec s0 z.toZlibOps (readerFlag o) (layoutTable realCustom t) segs =
          (items.map WItem.expected, .eof) := by
  have hf := fun i hi => item_facts z.toZlibOps (writerThr o) t i (hok i hi)
  refine ⟨_, writeItems_of_ok realCustom z.toZlibOps (writerThr o) items (fun i hi => (hf i hi).1),
    fun segs hseg => ?_, fun sends segs hsends hseg => ?_⟩
  · obtain ⟨stream, h1, h2⟩ := dispatch_unknown_interleaved z (writerThr o) t items hok
    rw [writeItems_of_ok realCustom z.toZlibOps (writerThr o) items (fun i hi => (hf i hi).1)] at h1
    injection h1 with h1
    rw [← writerThr_isSome]
    exact h2 segs (by rw [hseg, h1])
  · have := dispatch_stream_encrypted cp s0 z (writerThr o) (layoutTable realCustom t)
      (items.map fun i => (i.rawOf realCustom, i.expected))
      (List.forall_mem_map.2 fun i hi => (hf i hi).2.1)
      (List.forall_mem_map.2 fun i hi => dispatches_of_dispatchBody _ _ _ (hf i hi).2.2)
      sends (by rw [hsends]; simp [Function.comp_def]) segs hseg
    rw [← writerThr_isSome, this]; simp [Function.comp_def]

/-! ## the connection-state mapping -/

/-- The collapse used by `Props/C01.lean` is legitimate for the code as it is: the reader's flag is
on exactly when the writer passes a threshold. -/
theorem reader_flag_iff_writer_threshold (o : ConnOpts) :
    (writerThr o).isSome = readerFlag o ∧
    (o.enabled = false → writerThr o = none ∧ readerFlag o = false) ∧
    (o.enabled = true → writerThr o = some o.threshold ∧ readerFlag o = true) := by
  refine ⟨writerThr_isSome o, fun h => ?_, fun h => ?_⟩ <;> simp [writerThr, readerFlag, h]

/-- Which threshold is in force, for ANY history of the two variables: starting from any options
and applying any sequence of `connect` / "set compression" events, the writer's threshold is the one
of the independently phrased one-variable machine (`none` after a connect, `some t` after a
"set compression t" — also `t = -1`, `0`, negative), and the reader's flag is its `isSome`.  In
particular a fresh `_ConnectionOptions` and every state right after `_connect` frame plainly,
whatever was negotiated on an earlier connection. -/
theorem options_history (o : ConnOpts) (evs : List OptEv) :
    writerThr (o.run evs) = evs.foldl thrSpecStep (writerThr o) ∧
    readerFlag (o.run evs) = (evs.foldl thrSpecStep (writerThr o)).isSome ∧
    writerThr ConnOpts.init = none ∧
    writerThr (o.run (evs ++ [.connect])) = none ∧
    ∀ t, writerThr (o.run (evs ++ [.setCompression t])) = some t := by
  refine ⟨writerThr_run evs o, ?_, rfl, ?_, fun t => ?_⟩
  · rw [← writerThr_isSome, writerThr_run]
  · rw [writerThr_run, List.foldl_append]; rfl
  · rw [writerThr_run, List.foldl_append]; rfl

/-- `roundtrip_stream` over the two variables: for ANY values of `compression_enabled` and
`compression_threshold` (e.g. enabled with threshold `-1`; disabled with a stale threshold `256`),
what `_write_packet` frames under these options, `read_packet` under the same options recovers
exactly, for any segmentation. -/
theorem roundtrip_conn (z : Zlib) (o : ConnOpts) (ps : List (Nat × Bytes))
    (hok : ∀ p ∈ ps, FrameOK z.toZlibOps (writerThr o) p) (segs : Segs)
    (hseg : segs.flatten = (ps.map (packetFrame z.toZlibOps (writerThr o))).flatten) :
    readAll z.toZlibOps (readerFlag o) segs = (ps, .eof) := by
  rw [← writerThr_isSome]
  exact C01.roundtrip_stream z (writerThr o) ps hok segs hseg

/-- … and through any cipher pair. -/
theorem roundtrip_conn_encrypted {σ : Type} (cp : CipherPair σ) (s0 : σ) (z : Zlib) (o : ConnOpts)
    (ps : List (Nat × Bytes)) (hok : ∀ p ∈ ps, FrameOK z.toZlibOps (writerThr o) p)
    (sends : List Bytes)
    (hsends : sends.flatten = (ps.map (packetFrame z.toZlibOps (writerThr o))).flatten)
    (segs : Segs) (hseg : segs.flatten = (encSends cp.enc s0 sends).2.flatten) :
    readAllEnc cp.dec s0 z.toZlibOps (readerFlag o) segs = (ps, .eof) := by
  rw [← writerThr_isSome]
  exact C01.roundtrip_encrypted cp s0 z (writerThr o) ps hok sends hsends segs hseg

/-- Why the two sides MUST consult the same variable (a negative witness, for every packet): if the
writer passes the threshold `-1` while the reader's flag is off (which is what dropping
`if self.options.compression_enabled` at `connection.py:340` does right after every connect), then
EVERY packet `(id, fields)` is misread: the reader hands on id `0`, and the real id
leaks into the field bytes — never the packet that was written. -/
theorem writer_threshold_while_reader_off_misreads (z : Zlib) (id : Nat) (fields : Bytes)
    (hlen : (packetPayload id fields).length + 1 < 2 ^ 42) (segs : Segs)
    (hseg : segs.flatten = packetFrame z.toZlibOps (some (-1)) (id, fields)) :
    readAll z.toZlibOps false segs = ([(0, encVarInt id ++ fields)], .eof) ∧
    readAll z.toZlibOps false segs ≠ ([(id, fields)], .eof) := by
  have hfr : packetFrame z.toZlibOps (some (-1)) (id, fields) =
      packetFrame z.toZlibOps none (0, packetPayload id fields) := by
    have h0 : encVarInt 0 = [0x00] := by decide +kernel
    simp [packetFrame, frame, frameBody, packetPayload, h0]
  have hlen0 : (packetPayload 0 (packetPayload id fields)).length
      = (packetPayload id fields).length + 1 := by
    have h0 : encVarInt 0 = [0x00] := by decide +kernel
    simp [packetPayload, h0]
  have h1 := C01.roundtrip_stream z none [(0, packetPayload id fields)]
    (fun p hp => by
      rw [List.mem_singleton.mp hp]
      refine ⟨by omega, ?_, ?_⟩
      · rw [hlen0]; omega
      · show (packetPayload 0 (packetPayload id fields)).length < 2 ^ 42
        rw [hlen0]; omega)
    segs (by rw [hseg, hfr]; simp)
  have h1' : readAll z.toZlibOps false segs = ([(0, encVarInt id ++ fields)], .eof) := h1
  refine ⟨h1', ?_⟩
  rw [h1']
  intro h
  injection h with h _
  injection h with h _
  injection h with _ h2
  have := congrArg List.length h2
  rw [List.length_append] at this
  have := enc_length_pos id
  omega

/-! ## refutations: models of CHANGED code violate the theorems above -/

/-- CHANGE 1: the unknown branch calls `packet.read(packet_data)` on the bare
`Packet` — its `definition` is `None`, so `for field in self.definition` raises `TypeError`. -/
def dispatchMutRead {α : Type} (table : IdTable α) (raw : Nat × Bytes) :
    Except Err (Delivered α) :=
  match table raw.1 with
  | some rd =>
    match rd raw.2 with
    | .error e => .error e
    | .ok (v, rest) => .ok (.known raw.1 v rest)
  | none => .error .type

/-- the table, the items and the stream of the refutations and examples: login-state ids 0
(`json_data : String`) and 3 (`threshold : VarInt`) known; 5 and 0x7f unknown -/
def exTable : Nat → Option Layout := fun id =>
  if id = 0 then some [("json_data", .string)] else if id = 3 then some [("threshold", .varint)]
  else none

def exItems : List WItem :=
  [ .typed { id := 0, layout := [("json_data", .string)], vals := [.str "hi"] },
    .raw 5 [0xaa, 0xbb],
    .typed { id := 3, layout := [("threshold", .varint)], vals := [.int 300] },
    .raw 0x7f [] ]

def exStream : Bytes :=
  [0x04, 0x00, 0x02, 0x68, 0x69,  0x03, 0x05, 0xaa, 0xbb,  0x03, 0x03, 0xac, 0x02,  0x01, 0x7f]

/-- `dispatch_unknown_interleaved` with CHANGE 1 plugged in is FALSE: on the example stream the
changed reader hands on one packet and dies with `TypeError` at the first unknown id. -/
theorem mutant_unknown_calls_read_refuted :
    ¬ ∀ (z : Zlib) (thr : Option Int) (t : Nat → Option Layout) (items : List WItem),
      (∀ i ∈ items, i.OK z.toZlibOps thr t) →
      ∃ stream, writeItems realCustom z.toZlibOps thr items = .ok stream ∧
        ∀ segs : Segs, segs.flatten = stream →
          (readAllWithK idXform z.toZlibOps thr.isSome
            (dispatchMutRead (layoutTable realCustom t)) (Sock.plain segs)).1 =
            (items.map WItem.expected, .eof) := by
  intro h
  obtain ⟨stream, h1, h2⟩ := h Zlib.ident none exTable exItems (by decide +kernel)
  have e : writeItems realCustom Zlib.ident.toZlibOps none exItems = .ok exStream := by
    decide +kernel
  rw [e] at h1; injection h1 with h1
  have := h2 [exStream] (by rw [← h1]; simp)
  have bad : (readAllWithK idXform Zlib.ident.toZlibOps (none : Option Int).isSome
      (dispatchMutRead (layoutTable realCustom exTable)) (Sock.plain [exStream])).1
      = ([.known 0 [.str "hi"] []], .type) := by decide +kernel
  rw [bad] at this
  exact absurd (congrArg Prod.snd this) (by decide)

/-- … and the library's branch on the same stream, evaluated (not via the theorem): all four handed
on, the two unknown ones bare, then end-of-stream. -/
example : readAllD Zlib.ident.toZlibOps false (layoutTable realCustom exTable) [exStream] =
    ([.known 0 [.str "hi"] [], .bare 5 [0xaa, 0xbb], .known 3 [.int 300] [], .bare 0x7f []], .eof) := by
  decide +kernel

/-- CHANGE 2: `_write_packet` without `if self.options.compression_enabled` — always
`packet.write(self.socket, self.options.compression_threshold)`. -/
def writerThrMutAlways (o : ConnOpts) : Option Int := some o.threshold

/-- `roundtrip_conn` with CHANGE 2 plugged in is FALSE, already for the options of a fresh
connection and a one-byte packet. -/
theorem mutant_writer_ignores_enabled_refuted :
    ¬ ∀ (z : Zlib) (o : ConnOpts) (ps : List (Nat × Bytes)),
      (∀ p ∈ ps, FrameOK z.toZlibOps (writerThrMutAlways o) p) → ∀ segs : Segs,
        segs.flatten = (ps.map (packetFrame z.toZlibOps (writerThrMutAlways o))).flatten →
        readAll z.toZlibOps (readerFlag o) segs = (ps, .eof) := by
  intro h
  have := h Zlib.ident ConnOpts.init [(5, [0x61])] (by decide +kernel) [[0x03, 0x00, 0x05, 0x61]]
    (by decide +kernel)
  revert this
  decide +kernel

/-- CHANGE 3: `read_packet` tests the threshold instead of the flag
(`if self.connection.options.compression_threshold >= 0`). -/
def readerFlagMutThreshold (o : ConnOpts) : Bool := decide (0 ≤ o.threshold)

/-- `roundtrip_conn` with CHANGE 3 plugged in is FALSE: after a "set compression" announcing `-1`
the writer frames with the data-length byte, the changed reader does not expect it. -/
theorem mutant_reader_tests_threshold_refuted :
    ¬ ∀ (z : Zlib) (o : ConnOpts) (ps : List (Nat × Bytes)),
      (∀ p ∈ ps, FrameOK z.toZlibOps (writerThr o) p) → ∀ segs : Segs,
        segs.flatten = (ps.map (packetFrame z.toZlibOps (writerThr o))).flatten →
        readAll z.toZlibOps (readerFlagMutThreshold o) segs = (ps, .eof) := by
  intro h
  have := h Zlib.ident (ConnOpts.init.setCompression (-1)) [(5, [0x61])] (by decide +kernel)
    [[0x03, 0x00, 0x05, 0x61]] (by decide +kernel)
  revert this
  decide +kernel

/-- CHANGE 4: `_connect` resets only the threshold (`connection.py:453` dropped). -/
def connectResetMut (o : ConnOpts) : ConnOpts := { o with threshold := -1 }

/-- `options_history` ("plain framing after every connect") with CHANGE 4 plugged in is FALSE:
reconnecting after a session that negotiated compression keeps the data-length framing. -/
theorem mutant_connect_keeps_enabled_refuted :
    ¬ ∀ o : ConnOpts, writerThr (connectResetMut o) = none := by
  intro h
  exact absurd (h (ConnOpts.init.setCompression 256)) (by decide)

/-! ## non-vacuity -/

-- the hypotheses of `dispatch_unknown_interleaved` hold for the example (compression off, and
-- threshold 3: the first item is compressed), and its conclusion read off a segmentation that
-- cuts inside the unknown frame
example : ∀ i ∈ exItems, i.OK Zlib.ident.toZlibOps none exTable := by decide +kernel
example : ∀ i ∈ exItems, i.OK Zlib.ident.toZlibOps (some 3) exTable := by decide +kernel
example : writeItems realCustom Zlib.ident.toZlibOps none exItems = .ok exStream := by
  decide +kernel
example :
    readAllD Zlib.ident.toZlibOps false (layoutTable realCustom exTable)
      [exStream.take 6, [], exStream.drop 6 |>.take 1, exStream.drop 7] =
    (exItems.map WItem.expected, .eof) := by
  obtain ⟨stream, h1, h2⟩ := dispatch_unknown_interleaved Zlib.ident none exTable exItems
    (by decide +kernel)
  have e : writeItems realCustom Zlib.ident.toZlibOps none exItems = .ok exStream := by
    decide +kernel
  rw [e] at h1; injection h1 with h1
  exact h2 _ (by rw [← h1]; decide +kernel)

-- `Dispatches` is satisfiable in both branches, and not by everything
example : Dispatches (layoutTable realCustom exTable) (5, [0xaa, 0xbb]) (.bare 5 [0xaa, 0xbb]) :=
  .inl ⟨rfl, rfl⟩
example : Dispatches (layoutTable realCustom exTable) (3, [0xac, 0x02, 0x09])
    (.known 3 [.int 300] [0x09]) :=
  .inr ⟨_, _, _, rfl, by decide +kernel, rfl⟩
example : ¬ Dispatches (layoutTable realCustom exTable) (3, [0xac, 0x02]) (.bare 3 [0xac, 0x02]) := by
  rintro (⟨h, -⟩ | ⟨_, _, _, -, -, h⟩)
  · exact absurd h (by decide +kernel)
  · cases h

-- `known_read_error_ends_loop`: id 3 with a truncated VarInt between a good packet and a successor
example :
    readAllD Zlib.ident.toZlibOps false (layoutTable realCustom exTable)
      [[0x03, 0x05, 0xaa, 0xbb,  0x02, 0x03, 0xac,  0x01, 0x7f]] =
    ([.bare 5 [0xaa, 0xbb]], .eof) :=
  known_read_error_ends_loop Zlib.ident none (layoutTable realCustom exTable)
    [((5, [0xaa, 0xbb]), .bare 5 [0xaa, 0xbb])] (3, [0xac]) [(0x7f, [])]
    (by decide +kernel) (fun pd hpd => by rw [List.mem_singleton.mp hpd]; exact .inl ⟨rfl, rfl⟩)
    (by decide +kernel) (by decide +kernel) (decodeFields realCustom [("threshold", .varint)]) .eof
    rfl (by decide +kernel) _ (by decide +kernel)

-- `roundtrip_conn` / `options_history`: enabled with threshold -1; disabled with a stale 256
example : readAll Zlib.ident.toZlibOps true [[0x03], [0x00, 0x05, 0x61]] = ([(5, [0x61])], .eof) :=
  roundtrip_conn Zlib.ident (ConnOpts.init.setCompression (-1)) [(5, [0x61])] (by decide +kernel) _
    (by decide +kernel)
example : readAll Zlib.ident.toZlibOps false [[0x02, 0x05, 0x61]] = ([(5, [0x61])], .eof) :=
  roundtrip_conn Zlib.ident ((ConnOpts.init.setCompression 256).connectReset) [(5, [0x61])]
    (by decide +kernel) _ (by decide +kernel)
example : ConnOpts.init.run [.setCompression 256, .connect, .setCompression (-1)]
    = { enabled := true, threshold := -1 } := by decide +kernel
-- `writer_threshold_while_reader_off_misreads`
example : readAll Zlib.ident.toZlibOps false [[0x03, 0x00, 0x05, 0x61]]
    = ([(0, encVarInt 5 ++ [0x61])], .eof) :=
  (writer_threshold_while_reader_off_misreads Zlib.ident 5 [0x61] (by decide +kernel)
    [[0x03, 0x00, 0x05, 0x61]] (by decide +kernel)).1
example : encVarInt 5 ++ [0x61] = [0x05, 0x61] := by decide +kernel

end PyCraft.C01Dispatch
