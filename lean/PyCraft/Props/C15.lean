import PyCraft.Lemmas.FrameViews
/-!
# C15 (core) — a stream that ends at any byte offset: the reader terminates, delivers exactly the
complete frames, raises end-of-stream, and issues a bounded number of reads after the end

Model: `PyCraft/Model/Frame.lean` (`readPacketK`, `readAllK` = `PacketReactor.read_packet` in a
loop, over a socket that counts `read` calls and `read` calls that returned `b''`).

**Termination is by construction**: `readVarIntK`, `readMoreK` (the reassembly loop) and
`readAllFuel` are total Lean functions; Lean's termination checker accepted the measures
`max_bytes + 1 - bytes_encountered`, `length - len(data)` (it strictly decreases because an empty
chunk raises `EOFError` — exactly the argument the loop lacked before the `fix:` commit) and the
fuel `bytes + 1` of `readAllK`, which is never exhausted (`readAll_total`).
Only property theorems and non-vacuity examples live here.
-/
namespace PyCraft.C15
open PyCraft

/-- Cut the byte stream of a conversation `ps` after ANY number `k` of bytes, deliver those bytes in
ANY segmentation, then end of stream: the reader delivers exactly the first `n` packets, where `n`
is the number of frames lying wholly inside the first `k` bytes (`n` frames fit, `n + 1` do not),
then raises `EOFError` — never another exception, never a partial packet.  Any zlib, any
threshold (compression on or off). -/
theorem prefix_delivers_complete_only (z : Zlib) (thr : Option Int) (ps : List (Nat × Bytes))
    (hok : ∀ p ∈ ps, FrameOK z.toZlibOps thr p) (k : Nat)
    (hk : k ≤ (ps.map (packetFrame z.toZlibOps thr)).flatten.length) (segs : Segs)
    (hseg : segs.flatten = (ps.map (packetFrame z.toZlibOps thr)).flatten.take k) :
    ∃ n, n ≤ ps.length ∧
      readAll z.toZlibOps thr.isSome segs = (ps.take n, .eof) ∧
      (((ps.take n).map (packetFrame z.toZlibOps thr)).flatten).length ≤ k ∧
      (n < ps.length →
        k < (((ps.take (n + 1)).map (packetFrame z.toZlibOps thr)).flatten).length) := by
  rw [readAll_spec, hseg]
  exact parseAll_take z thr ps hok k hk

/-- The same on an encrypted connection: the cipher text of the conversation (encrypted from
context `s0` by any cipher pair) is cut after `k` bytes and arrives in any segmentation. -/
theorem prefix_delivers_complete_only_encrypted {σ : Type} (cp : CipherPair σ) (s0 : σ)
    (z : Zlib) (thr : Option Int) (ps : List (Nat × Bytes))
    (hok : ∀ p ∈ ps, FrameOK z.toZlibOps thr p) (k : Nat)
    (hk : k ≤ (ps.map (packetFrame z.toZlibOps thr)).flatten.length) (segs : Segs)
    (hseg : segs.flatten =
      (cp.enc.update s0 (ps.map (packetFrame z.toZlibOps thr)).flatten).2.take k) :
    ∃ n, n ≤ ps.length ∧
      readAllEnc cp.dec s0 z.toZlibOps thr.isSome segs = (ps.take n, .eof) ∧
      (((ps.take n).map (packetFrame z.toZlibOps thr)).flatten).length ≤ k ∧
      (n < ps.length →
        k < (((ps.take (n + 1)).map (packetFrame z.toZlibOps thr)).flatten).length) := by
  rw [readAllEnc_spec, hseg, xform_take, (cp.inv s0 _).1]
  exact parseAll_take z thr ps hok k hk

/-- Reads after the end of the stream are bounded, for ANY stream content (well-formed or not),
any cipher, compression on or off:
* a `read` issued when nothing is left to arrive returns `b''`, so it is counted in `empties`;
* one `read_packet` call sees at most TWO empty reads;
* a call that delivers a packet sees none;
* the whole loop until the exception sees at most two. -/
theorem reads_after_eof_le_two {σ : Type} (x : StreamXform σ) (z : ZlibOps) (c : Bool)
    (k : Sock σ) :
    (∀ n, k.segs.flatten = [] → (k.read x n).1 = []) ∧
    (readPacketK x z c k).2.empties ≤ k.empties + 2 ∧
    (∀ p, (readPacketK x z c k).1 = .ok p → (readPacketK x z c k).2.empties = k.empties) ∧
    (readAllK x z c k).2.empties ≤ k.empties + 2 := by
  refine ⟨fun n h => ?_, readPacketK_empties_le x z c k, readPacketK_ok_empties x z c k,
    (readAllFuel_tally x z c _ k).2⟩
  exact Sock.read_exhausted x k n (by unfold Sock.rem; rw [h]; rfl)

/-
The statement planned in DESIGN.md,

  theorem reads_after_eof_le_one : (readPacketK x z c k).2.empties ≤ k.empties + 1

is FALSE for the code as written (see the last `example` below): when the stream ends exactly
behind a length prefix whose value is > 0, `stream.read(length)` returns `b''` and the `while`
loop then issues `stream.read(length)` once more before raising `EOFError`.  What holds:
-/

/-- At most ONE empty read per `read_packet` call — unless what is left of the stream is exactly a
VarInt length prefix with a value `> 0` and nothing behind it (then, and only then, two). -/
theorem reads_after_eof_le_one_partial {σ : Type} (x : StreamXform σ) (z : ZlibOps) (c : Bool)
    (k : Sock σ)
    (h : ¬ ∃ len, 0 < len ∧ decVarInt 5 (x.update k.st k.segs.flatten).2 = .ok (len, [])) :
    (readPacketK x z c k).2.empties ≤ k.empties + 1 := by
  rcases Nat.lt_or_ge (k.empties + 1) (readPacketK x z c k).2.empties with hlt | hge
  · exact absurd (readPacketK_two_empties x z c k (by omega)) h
  · exact hge

/-- Called when the stream is already exhausted, `read_packet` issues at most one `read` and
raises `EOFError`. -/
theorem read_packet_on_exhausted {σ : Type} (x : StreamXform σ) (z : ZlibOps) (c : Bool)
    (k : Sock σ) (h : k.segs.flatten = []) :
    (readPacketK x z c k).1 = .error .eof ∧ (readPacketK x z c k).2.reads ≤ k.reads + 1 := by
  have ha := ahead_eq_nil x k h
  constructor
  · obtain ⟨k', e1⟩ := readPacketK_nil x z c k ha
    rw [e1]
  · obtain ⟨m1, m2, m3⟩ := readPacketK_mono x z c k
    have hrem : k.rem = 0 := by unfold Sock.rem; rw [h]; rfl
    have : (readPacketK x z c k).2.empties ≤ k.empties + 1 := by
      rcases Nat.lt_or_ge (k.empties + 1) (readPacketK x z c k).2.empties with hlt | hge
      · obtain ⟨len, _, hd⟩ := readPacketK_two_empties x z c k (by omega)
        rw [ha] at hd; simp [decVarInt, decVarIntAux] at hd
      · exact hge
    omega

/-- Progress: a `read_packet` call that delivers a packet has consumed at least one byte of the
stream (cipher text or plain) — the measure that makes the loop of `readAllK` terminate. -/
theorem read_packet_consumes {σ : Type} (x : StreamXform σ) (z : ZlibOps) (c : Bool) (k : Sock σ)
    (p : Nat × Bytes) (h : (readPacketK x z c k).1 = .ok p) :
    (readPacketK x z c k).2.segs.flatten.length < k.segs.flatten.length :=
  readPacketK_consumes x z c k p h

/-- Explicit bound on the work of the whole loop on ANY stream of `N` bytes (any content, any
segmentation, any cipher): at most `N + 2` reads in total, at most two of them empty; giving the
loop more fuel than `N + 1` calls changes nothing (the fuel is never the reason to stop), and the
exception that ends the loop is one of `EOFError`, the VarInt `ValueError`, `zlib.error`,
`AssertionError`. -/
theorem readAll_total {σ : Type} (x : StreamXform σ) (s0 : σ) (z : ZlibOps) (c : Bool)
    (segs : Segs) :
    (readAllK x z c (Sock.enc s0 segs)).2.reads ≤ segs.flatten.length + 2 ∧
    (readAllK x z c (Sock.enc s0 segs)).2.empties ≤ 2 ∧
    (∀ fuel, segs.flatten.length < fuel →
      (readAllFuel x z c fuel (Sock.enc s0 segs)).1 = (readAllK x z c (Sock.enc s0 segs)).1) ∧
    ((readAllK x z c (Sock.enc s0 segs)).1.2 = .eof ∨
     (readAllK x z c (Sock.enc s0 segs)).1.2 = .tooLong ∨
     (readAllK x z c (Sock.enc s0 segs)).1.2 = .zlib ∨
     (readAllK x z c (Sock.enc s0 segs)).1.2 = .assertion) := by
  obtain ⟨⟨m1, m2, m3⟩, h2⟩ := readAllFuel_tally x z c (segs.flatten.length + 1) (Sock.enc s0 segs)
  have hrem : (Sock.enc s0 segs).rem = segs.flatten.length := rfl
  have hr : (Sock.enc s0 segs).reads = 0 := rfl
  have he : (Sock.enc s0 segs).empties = 0 := rfl
  refine ⟨?_, ?_, ?_, ?_⟩
  · show (readAllFuel x z c (segs.flatten.length + 1) (Sock.enc s0 segs)).2.reads ≤ _
    omega
  · show (readAllFuel x z c (segs.flatten.length + 1) (Sock.enc s0 segs)).2.empties ≤ _
    omega
  · intro fuel hf
    exact readAllK_fuel_free x z c _ fuel (by rw [hrem]; exact hf)
  · rw [readAllK_spec]
    exact parseAll_errs z c _

-- non-vacuity: a two-packet conversation (threshold 1, both compressed by the identity zlib) cut
-- inside the second frame; and the stream `05` (a length prefix, then end of stream) on which
-- `read_packet` sees TWO empty reads — the counterexample to the `≤ 1` statement.
example := prefix_delivers_complete_only Zlib.ident (some 1) [(5, [0x61, 0x62]), (7, [])]
  (by decide +kernel) 7 (by decide +kernel) [[0x04, 0x03], [0x05, 0x61, 0x62, 0x02], [0x00]]
  (by decide +kernel)
example : readAll Zlib.ident.toZlibOps true [[0x04, 0x03], [0x05, 0x61, 0x62, 0x02], [0x00]]
    = ([(5, [0x61, 0x62])], .eof) := by decide +kernel
example : (readPacketK idXform Zlib.ident.toZlibOps false (Sock.plain [[0x05]])).2.empties = 2 := by
  decide +kernel
example : (readPacketK idXform Zlib.ident.toZlibOps false (Sock.plain [[0x05, 0x61]])).2.empties = 1
    ∧ (readPacketK idXform Zlib.ident.toZlibOps false (Sock.plain [[0x05, 0x61]])).1 = .error .eof := by
  decide +kernel
example : ¬ ∃ len, 0 < len ∧
    decVarInt 5 (idXform.update () ([[0x05, 0x61]] : Segs).flatten).2 = .ok (len, []) := by
  intro ⟨len, _, h⟩
  have : decVarInt 5 (idXform.update () ([[0x05, 0x61]] : Segs).flatten).2 = .ok (5, [0x61]) := by
    decide +kernel
  rw [this] at h; cases h

end PyCraft.C15
