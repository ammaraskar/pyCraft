import PyCraft.Lemmas.HandshakeWire
import PyCraft.Props.C09
import PyCraft.Props.C01
/-!
# C09 on the wire — handshake, status and login-start frames, byte by byte

Refines property C09 ("status queries and version negotiation pick the right version …") from the
abstract frames `Neg.firstFrames` / `Neg.session` / `Neg.runStatus` (`Props/C09.lean`) to the BYTES
the socket is handed (`HsWire.firstBytes`, `HsWire.clientWrites`, `Model/HandshakeWire.lean`) and
to what an independent reference server (`HsWire.serverRecv`: C01's `read_packet` model plus field
decoders written without reference to the encoders) gets out of them; and, in the other direction,
from the status packets `Neg.StatusPkt` to the bytes of `ResponsePacket` / `PingResponsePacket`
and the client's reading of them (`HsWire.clientRecvStatus`).

Everything is quantified over ALL connection parameters (any host string, any port, any user
name), ALL plans (in particular every plan `connectPlan` produces), every login-start id `lsId`
(0x00 in the releases, 0x01 on the snapshots 385..390) and ALL segmentations of the byte stream
into arrivals.  The guards are explicit and decidable: `StrOK s` (UTF-8 byte length `< 2^31`),
`port < 65536` (`struct.pack('>H')`), VarInts `< 2^32`, `IntT.i64.inDom t` (`struct.pack('>q')`);
`FirstOK lsId p plan` bundles them for the first frames of a plan and additionally asks for a login
name on a direct login (`String.send(None)` raises).  Outside the guards the Python raises, and so
does the model (`client_writes_first_bytes`, `ping_out_of_range_raises`).

Only property theorems and non-vacuity examples live here; helper lemmas and the concrete example
parameters are in `Lemmas/HandshakeWire.lean`.
-/
namespace PyCraft.C09Wire
open PyCraft PyCraft.Neg PyCraft.HsWire

/-- The reference server and the client's status reader see only the concatenation of the arrival
segments: two segmentations of the same bytes — well-formed or not — give the same result
(handshake record, frames, final exception — for the client's reader always an exception, `EOFError`
when the stream is exhausted). -/
theorem segmentation_invariant (s1 s2 : Segs) (h : s1.flatten = s2.flatten) :
    serverRecv s1 = serverRecv s2 ∧ clientRecvStatus s1 = clientRecvStatus s2 := by
  constructor
  · rw [serverRecv_spec, serverRecv_spec, h]
  · rw [clientRecvStatus_spec, clientRecvStatus_spec, h]

/-- What the client really writes.  When the port is in `0..65535` and (for a direct login) a
login name exists, the networking thread writes exactly `firstBytes` and raises nothing.  With a
port `≥ 65536` `UnsignedShort.send` raises `struct.error` while the handshake is still being
buffered: NOTHING reaches the socket.  With a good port but neither user name nor auth token, the
handshake (next state 2) is sent and then `String.send(None)` raises: the server sees a handshake
that is never followed by a login start. -/
theorem client_writes_first_bytes (lsId : Nat) (p : ConnParams) (plan : Plan) :
    (p.port < 65536 → (∀ v, plan = .direct v → loginName p ≠ none) →
      clientWrites lsId ((firstFrames p plan).map .first) = (firstBytes lsId p plan, none)) ∧
    (65536 ≤ p.port →
      clientWrites lsId ((firstFrames p plan).map .first) = ([], some .struct)) ∧
    (p.port < 65536 → ∀ v, plan = .direct v → loginName p = none →
      clientWrites lsId ((firstFrames p plan).map .first) =
        (plainFrame 0 (handshakeFields ⟨v, p.host, p.port, 2⟩), some .other)) := by
  refine ⟨?_, ?_, ?_⟩
  · exact clientWrites_first lsId p plan
  · intro hp
    cases plan with
    | query v =>
      simp only [firstFrames, List.map_cons, clientWrites,
        writeFrame_handshake_err lsId ⟨v, p.host, p.port, STATE_STATUS⟩ hp]
    | direct v =>
      simp only [firstFrames, List.map_cons, clientWrites,
        writeFrame_handshake_err lsId ⟨v, p.host, p.port, STATE_PLAYING⟩ hp]
  · intro hp v hv hn
    subst hv
    simp only [firstFrames, hn, List.map_cons, List.map_nil, clientWrites, STATE_PLAYING,
      writeFrame_handshake lsId ⟨v, p.host, p.port, 2⟩ hp, writeFrame_loginStart_none,
      List.append_nil]

/-- (a) The server recovers the first frames.  Let the bytes `connect()` produces for ANY
parameters and ANY plan within the guards arrive in ANY segmentation: the reference server reads
exactly the handshake record — the plan's protocol number, the configured host and port, next
state 2 for a direct login and 1 for a status query — followed by exactly one frame, which is the
login start with the login name (id `lsId`) resp. the empty status request (id 0); the stream then
ends at a frame boundary (`err = none`): no byte is left over, nothing is raised. -/
theorem server_recovers_first_frames (lsId : Nat) (p : ConnParams) (plan : Plan) (segs : Segs)
    (hok : FirstOK lsId p plan) (hseg : segs.flatten = firstBytes lsId p plan) :
    ∃ r : Received, serverRecv segs = .ok r ∧ r.err = none ∧
      r.hs = ⟨planProto plan, p.host, p.port, planNext plan⟩ ∧
      (∀ v, plan = .direct v → ∃ name, loginName p = some name ∧
        r.frames = [(lsId, encString name)] ∧ r.decoded lsId = [.loginStart name]) ∧
      (∀ v, plan = .query v → r.frames = [(0, [])] ∧ r.decoded lsId = [.request]) := by
  rw [serverRecv_spec, hseg]
  cases plan with
  | direct v =>
    obtain ⟨h1, h2, h3, h4, name, hn, hs⟩ := firstOK_direct lsId p v hok
    refine ⟨_, serverParse_direct lsId p v name h1 h2 h3 h4 hn hs, rfl, rfl,
      fun _ _ => ⟨name, hn, rfl, ?_⟩, fun _ hv => by cases hv⟩
    simp only [Received.decoded, List.map_cons, List.map_nil, decode_loginStart lsId name hs]
  | query v =>
    obtain ⟨h1, h2, h3⟩ := firstOK_query lsId p v hok
    refine ⟨_, serverParse_query lsId p v h1 h2 h3, rfl, rfl, (fun _ hv => by cases hv),
      fun _ _ => ⟨rfl, ?_⟩⟩
    simp only [Received.decoded, List.map_cons, List.map_nil, decode_request]

/-- (b) The encoding of one handshake record is unambiguous: two records within the guards whose
frames are the same bytes are the same record (protocol, host, port, next state). -/
theorem handshake_frame_injective (lsId : Nat) (a b : Handshake) (ha : HsOK a) (hb : HsOK b)
    (h : frameBytes lsId (.first (.handshake a)) = frameBytes lsId (.first (.handshake b))) :
    a = b := by
  rw [frameBytes_of_ok lsId (writeFrame_handshake lsId a ha.2.2.1),
    frameBytes_of_ok lsId (writeFrame_handshake lsId b hb.2.2.1)] at h
  refine handshake_of_prefix ha hb (r1 := []) (r2 := []) ?_
  rw [h]
  exact List.prefix_refl _

/-- (b) The first bytes determine the parameters.  Two parameter sets / plans within the guards
that produce the same byte stream have the same host, the same port, the same plan (kind and
protocol number) and — for a direct login — the same login name. -/
theorem handshake_bytes_injective (lsId : Nat) (p1 p2 : ConnParams) (pl1 pl2 : Plan)
    (h1 : FirstOK lsId p1 pl1) (h2 : FirstOK lsId p2 pl2)
    (h : firstBytes lsId p1 pl1 = firstBytes lsId p2 pl2) :
    p1.host = p2.host ∧ p1.port = p2.port ∧ pl1 = pl2 ∧
      (∀ v, pl1 = .direct v → loginName p1 = loginName p2) := by
  -- the reference server reads the same record and the same frame from equal bytes
  obtain ⟨f1, e1, g1⟩ := serverParse_first lsId p1 pl1 h1
  obtain ⟨f2, e2, g2⟩ := serverParse_first lsId p2 pl2 h2
  rw [h, e2] at e1
  injection e1 with e1
  injection e1 with k1 k2 _
  injection k1 with kv kh kp kn
  -- protocol number and next state determine the plan
  have hpl : pl1 = pl2 := by
    cases pl1 <;> cases pl2 <;> first | exact congrArg _ kv.symm | cases kn
  refine ⟨kh.symm, kp.symm, hpl, fun v hv => ?_⟩
  subst hpl hv
  obtain ⟨n1, a1, s1, rfl⟩ := g1 v rfl
  obtain ⟨n2, a2, s2, rfl⟩ := g2 v rfl
  simp only [List.cons.injEq, Prod.mk.injEq, true_and, and_true] at k2
  rw [a1, a2, encString_inj n2 n1 (by unfold StrOK at s2; omega) (by unfold StrOK at s1; omega) k2]

/-- (b) A status query can never be mistaken for a login, whatever the parameters: the byte stream
of a status plan is neither a prefix of nor equal to the byte stream of a login plan, nor the other
way round (for ANY two parameter sets and protocol numbers within the guards); and for the same
protocol, host and port the two handshake frames are byte-for-byte equal except for their last
byte, which is the next state (1 resp. 2). -/
theorem status_and_login_streams_diverge (lsId : Nat) (p p' : ConnParams) (v w : Nat)
    (h1 : FirstOK lsId p (.query v)) (h2 : FirstOK lsId p' (.direct w)) :
    ¬ firstBytes lsId p (.query v) <+: firstBytes lsId p' (.direct w) ∧
    ¬ firstBytes lsId p' (.direct w) <+: firstBytes lsId p (.query v) ∧
    ∃ pre, frameBytes lsId (.first (.handshake ⟨v, p.host, p.port, 1⟩)) = pre ++ [1] ∧
      frameBytes lsId (.first (.handshake ⟨v, p.host, p.port, 2⟩)) = pre ++ [2] := by
  obtain ⟨a1, a2, a3⟩ := firstOK_query lsId p v h1
  obtain ⟨b1, b2, b3, b4, name, bn, bs⟩ := firstOK_direct lsId p' w h2
  have hq : HsOK ⟨v, p.host, p.port, 1⟩ := ⟨a3, a1, a2, by show (1 : Nat) < 2 ^ 32; omega⟩
  have hd : HsOK ⟨w, p'.host, p'.port, 2⟩ := ⟨b3, b1, b2, by show (2 : Nat) < 2 ^ 32; omega⟩
  rw [firstBytes_query lsId p v a2, firstBytes_direct lsId p' w name b2 bn]
  -- a prefix either way would make the two handshake records equal, but their next states differ
  refine ⟨fun hpre => ?_, fun hpre => ?_, ?_⟩
  · cases congrArg Handshake.next (handshake_of_prefix hq hd hpre)
  · cases congrArg Handshake.next (handshake_of_prefix hd hq hpre)
  · rw [frameBytes_of_ok lsId (writeFrame_handshake lsId ⟨v, p.host, p.port, 1⟩ a2),
      frameBytes_of_ok lsId (writeFrame_handshake lsId ⟨v, p.host, p.port, 2⟩ a2)]
    exact handshake_frames_differ_last v p.host p.port

/-- (c) The protocol number in the BYTES is the negotiated one (composition with C09).  Whenever
`connect()`'s whole exchange (`session`) ends with "log in with version `v`", the LAST connection
it opened carries bytes from which the reference server — under any segmentation — reads a
handshake with protocol number exactly `v`, the configured host and port and next state 2,
followed by the login start with the login name and nothing else; and `v` is: the single allowed
version, or — with several allowed versions — the version the server's status named (which is
allowed), or the configured default when the status had no version / no protocol key / the status
query stayed unanswered. -/
theorem handshake_protocol_is_negotiated (env : VEnv) (p : ConnParams) (allowed : List Nat)
    (dflt : Nat) (r : StatusReply) (s : Session) (lsId v : Nat) (name : String) (segs : Segs)
    (h : session env p allowed dflt r = .ok s) (hv : s.outcome = .connect v)
    (hname : loginName p = some name) (hh : StrOK p.host) (hp : p.port < 65536)
    (hv32 : v < 2 ^ 32) (hl : lsId < 2 ^ 32) (hs : StrOK name) :
    ∃ conn, s.conns.getLast? = some conn ∧
      (segs.flatten = connBytes lsId conn →
        ∃ rcv, serverRecv segs = .ok rcv ∧ rcv.hs = ⟨v, p.host, p.port, 2⟩ ∧
          rcv.decoded lsId = [.loginStart name] ∧ rcv.err = none) ∧
      (allowed = [v] ∨
        (2 ≤ allowed.length ∧
          ((∃ n nm, r = .proto n nm ∧ n = (v : Int) ∧ v ∈ allowed) ∨
           ((r = .noVersion ∨ r = .noProtocolKey ∨ r = .closedBeforeReply) ∧ v = dflt)))) := by
  obtain ⟨-, hlast, -, -⟩ := C09.handshake_fields env p allowed dflt r s h
  refine ⟨_, hlast v hv, ?_, ?_⟩
  · intro hseg
    have hb : connBytes lsId [.handshake ⟨v, p.host, p.port, 2⟩, .loginStart (loginName p)] =
        firstBytes lsId p (.direct v) := rfl
    rw [serverRecv_spec, hseg, hb, serverParse_direct lsId p v name hh hp hv32 hl hname hs]
    refine ⟨_, rfl, rfl, ?_, rfl⟩
    simp only [Received.decoded, List.map_cons, List.map_nil, decode_loginStart lsId name hs]
  · rcases C09.session_outcome env p allowed dflt r s h with ⟨w, hw, how, -⟩ | ⟨h2, ho, -⟩
    · left
      rw [hv] at how
      injection how with how
      rw [how]
      exact hw
    · right
      rw [hv] at ho
      exact ⟨h2, C09.negotiate_sound env allowed dflt r v ho.symm⟩

/-- (c) … the status reply names an allowed version.  Several allowed versions (all ranked), the
server's status carries the allowed protocol number `n`: the exchange is two connections; the
bytes of the first parse to a handshake with the LATEST allowed version `q`, next state 1, and the
status request; the bytes of the second to a handshake with protocol number `n` — the server's —
next state 2, and the login start. -/
theorem negotiated_reply_in_bytes (env : VEnv) (p : ConnParams) (allowed : List Nat)
    (dflt n lsId : Nat) (nm : Option String) (name : String) (segsQ segsL : Segs)
    (h2 : 2 ≤ allowed.length) (hr : ∀ a ∈ allowed, a ∈ env.knownOrder) (hn : n ∈ allowed)
    (h32 : ∀ a ∈ allowed, a < 2 ^ 32)
    (hname : loginName p = some name) (hh : StrOK p.host) (hp : p.port < 65536)
    (hl : lsId < 2 ^ 32) (hs : StrOK name) :
    ∃ q s, latest env allowed = .ok q ∧ session env p allowed dflt (.proto (n : Int) nm) = .ok s ∧
      s.outcome = .connect n ∧
      s.conns.map (connBytes lsId) = [firstBytes lsId p (.query q), firstBytes lsId p (.direct n)] ∧
      (segsQ.flatten = firstBytes lsId p (.query q) →
        serverRecv segsQ = .ok ⟨⟨q, p.host, p.port, 1⟩, [(0, [])], none⟩) ∧
      (segsL.flatten = firstBytes lsId p (.direct n) →
        serverRecv segsL = .ok ⟨⟨n, p.host, p.port, 2⟩, [(lsId, encString name)], none⟩) := by
  obtain ⟨q, hq, hsess⟩ := session_many env p allowed dflt h2 hr
  have hqm := (latest_spec env allowed q hq).1
  have he := (C09.negotiate_complete env allowed dflt).1 n nm hn
  refine ⟨q, _, hq, hsess _, he, by rw [he]; rfl, ?_, ?_⟩
  · intro hseg
    rw [serverRecv_spec, hseg, serverParse_query lsId p q hh hp (h32 q hqm)]
  · intro hseg
    rw [serverRecv_spec, hseg, serverParse_direct lsId p n name hh hp (h32 n hn) hl hname hs]

/-- (c) … the status query stays unanswered.  Several allowed versions, the server closes the
status connection without a reply: again two connections, and the bytes of the second parse to a
handshake carrying the configured DEFAULT version `dflt` (which need not be an allowed one), next
state 2, and the login start. -/
theorem negotiated_default_in_bytes (env : VEnv) (p : ConnParams) (allowed : List Nat)
    (dflt lsId : Nat) (name : String) (segsL : Segs)
    (h2 : 2 ≤ allowed.length) (hr : ∀ a ∈ allowed, a ∈ env.knownOrder) (hd : dflt < 2 ^ 32)
    (hname : loginName p = some name) (hh : StrOK p.host) (hp : p.port < 65536)
    (hl : lsId < 2 ^ 32) (hs : StrOK name) :
    ∃ q s, latest env allowed = .ok q ∧ session env p allowed dflt .closedBeforeReply = .ok s ∧
      s.outcome = .connect dflt ∧
      s.conns.map (connBytes lsId) =
        [firstBytes lsId p (.query q), firstBytes lsId p (.direct dflt)] ∧
      (segsL.flatten = firstBytes lsId p (.direct dflt) →
        serverRecv segsL = .ok ⟨⟨dflt, p.host, p.port, 2⟩, [(lsId, encString name)], none⟩) := by
  obtain ⟨q, hq, hsess⟩ := session_many env p allowed dflt h2 hr
  refine ⟨q, _, hq, hsess _, rfl, rfl, ?_⟩
  intro hseg
  rw [serverRecv_spec, hseg, serverParse_direct lsId p dflt name hh hp hd hl hname hs]

/-- (c) Plain `status()`.  On a connection object built by `Connection(…)` (`ctor`), the bytes a
plain status query writes (handshake + request, no ping) are those of the status plan for
`context.protocol_version`; the reference server reads from them a handshake whose protocol number
is `cfg.ctx` — the LATEST allowed version (a member of the allowed set, strictly later-ranked than
every other member), NOT `initial_version` unless none was given — with the configured host and
port and next state 1, then the status request, and nothing else. -/
theorem status_handshake_bytes (env : VEnv) (allowed : Option (List VReq))
    (initial : Option VReq) (cfg : Cfg) (p : ConnParams) (lsId : Nat) (segs : Segs)
    (h : ctor env allowed initial = .ok cfg) (hh : StrOK p.host) (hp : p.port < 65536)
    (hc : cfg.ctx < 2 ^ 32)
    (hseg : segs.flatten = (clientWrites lsId (statusFrames p cfg.ctx none)).1) :
    clientWrites lsId (statusFrames p cfg.ctx none) = (firstBytes lsId p (.query cfg.ctx), none) ∧
    serverRecv segs = .ok ⟨⟨cfg.ctx, p.host, p.port, 1⟩, [(0, [])], none⟩ ∧
    cfg.ctx ∈ cfg.allowed ∧
    (∀ a ∈ cfg.allowed, a ≠ cfg.ctx → rankOf env a < rankOf env cfg.ctx) ∧
    (initial = none → cfg.default = cfg.ctx) := by
  have hw : clientWrites lsId (statusFrames p cfg.ctx none) =
      (firstBytes lsId p (.query cfg.ctx), none) := by
    have := (client_writes_first_bytes lsId p (.query cfg.ctx)).1 hp (fun v hv => by cases hv)
    simpa [statusFrames] using this
  obtain ⟨-, -, -, -, -, -, hm, hmax, hd, -⟩ := C09.ctor_ok_spec env allowed initial cfg h
  refine ⟨hw, ?_, hm, hmax, hd⟩
  rw [hw] at hseg
  rw [serverRecv_spec, hseg, serverParse_query lsId p cfg.ctx hh hp hc]

/-- (d) The ping is echoed byte for byte.  For EVERY `Long` `t` (all `2^64` values, signed as
Python's `struct '>q'`): the client's ping frame is `09 01` followed by 8 payload bytes `b`; the
status stream handshake + request + ping is written without an exception and the reference server
— under any segmentation — reads from it next state 1, the request and a ping that decodes to `t`;
the pong it answers with (the `Long` it decoded, re-encoded) is `09 01` followed by THE SAME 8
bytes `b`; and the client — under any segmentation — decodes that pong to the `t` it sent, then end
of stream (`EOFError`: nothing follows the pong). -/
theorem ping_echo_bytes (lsId : Nat) (p : ConnParams) (ctx : Nat) (t : Int) (json : String)
    (segsC segsS : Segs) (ht : IntT.i64.inDom t) (hh : StrOK p.host) (hp : p.port < 65536)
    (hc : ctx < 2 ^ 32)
    (hC : segsC.flatten = (clientWrites lsId (statusFrames p ctx (some t))).1) :
    ∃ b, b.length = 8 ∧ IntT.i64.pack t = .ok b ∧
      frameBytes lsId (.ping t) = [0x09, 0x01] ++ b ∧
      (clientWrites lsId (statusFrames p ctx (some t))).2 = none ∧
      (∃ rcv, serverRecv segsC = .ok rcv ∧ rcv.hs = ⟨ctx, p.host, p.port, 1⟩ ∧
        rcv.frames = [(0, []), (1, b)] ∧ rcv.decoded lsId = [.request, .ping t] ∧
        rcv.err = none) ∧
      serverReply json (.ping t) = .ok ([0x09, 0x01] ++ b) ∧
      (segsS.flatten = [0x09, 0x01] ++ b → clientRecvStatus segsS = ([.pong t], .eof)) := by
  obtain ⟨b, hb, hpack, hun⟩ := i64_roundtrip t ht
  have hq : HsOK ⟨ctx, p.host, p.port, 1⟩ := ⟨hc, hh, hp, by show (1 : Nat) < 2 ^ 32; omega⟩
  have hw : clientWrites lsId (statusFrames p ctx (some t)) =
      (plainFrame 0 (handshakeFields ⟨ctx, p.host, p.port, 1⟩) ++
        ([(0, []), (1, b)].map (packetFrame noZlib none)).flatten, none) := by
    simp only [statusFrames, firstFrames, List.map_cons, List.map_nil, List.cons_append,
      List.nil_append, clientWrites, STATE_STATUS,
      writeFrame_handshake lsId ⟨ctx, p.host, p.port, 1⟩ hp, writeFrame_request,
      writeFrame_ping lsId t b hpack, plainFrame, List.flatten_cons, List.flatten_nil]
  have hok : ∀ q ∈ [((0 : Nat), ([] : Bytes)), (1, b)], FrameOK noZlib none q := by
    intro q hq'
    simp only [List.mem_cons, List.not_mem_nil, or_false] at hq'
    rcases hq' with rfl | rfl
    · exact frameOK_fixed 0 [] (by omega) (by simp)
    · exact frameOK_fixed 1 b (by omega) (by omega)
  refine ⟨b, hb, hpack, ?_, by rw [hw], ?_, ?_, ?_⟩
  · rw [frameBytes_of_ok lsId (writeFrame_ping lsId t b hpack), plainFrame_long b hb]
  · rw [hw] at hC
    rw [serverRecv_spec, hC, serverParse_ok _ _ hq hok]
    refine ⟨_, rfl, rfl, rfl, ?_, rfl⟩
    simp only [Received.decoded, List.map_cons, List.map_nil, decode_request,
      decode_ping lsId t b hun]
  · show pongBytes t = _
    rw [pongBytes_ok t b hpack, plainFrame_long b hb]
  · exact clientRecvStatus_pong t b segsS hb (by simpa using hun [])

/-- (d) … and the other way round: ANY 8 payload bytes a server puts into a pong are a `Long` the
client decodes — one `pong` packet, then `EOFError` on the exhausted stream — and re-encoding that
`Long` gives the same 8 bytes (no two byte patterns collapse, `-0`/sign included). -/
theorem pong_payload_is_a_long (b : Bytes) (hb : b.length = 8) (segs : Segs)
    (hseg : segs.flatten = [0x09, 0x01] ++ b) :
    ∃ t, IntT.i64.inDom t ∧ clientRecvStatus segs = ([.pong t], .eof) ∧
      IntT.i64.pack t = .ok b := by
  obtain ⟨t, hun, hpack⟩ := i64_unpack_pack b [] hb
  obtain ⟨v, e1, e2, -, -⟩ := IntT.unpack_spec .i64 b [] hb
  rw [hun] at e1
  injection e1 with e1
  injection e1 with e1 _
  subst e1
  refine ⟨t, e2, ?_, hpack⟩
  rw [List.append_nil] at hun
  exact clientRecvStatus_pong t b segs hb hun hseg

/-- (d) A ping time outside the signed 64-bit range cannot be written: `Long.send` raises
`struct.error` and nothing reaches the socket.  (`int(1000 * timeit.default_timer())` stays in
range for the next 292 million years.) -/
theorem ping_out_of_range_raises (lsId : Nat) (t : Int) (h : ¬ IntT.i64.inDom t) :
    writeFrame lsId (.ping t) = .error .struct ∧ frameBytes lsId (.ping t) = [] := by
  have := writeFrame_ping_err lsId t h
  exact ⟨this, by rw [frameBytes, this]⟩

/-- (e) The status response survives the wire.  For any JSON text (an opaque string; UTF-8 byte
length within the VarInt range — `String.read` imposes no limit of its own), the bytes of the
`ResponsePacket` a server writes are decoded by the client, under ANY segmentation, to exactly one
`response` packet carrying the same text, THEN END OF STREAM: the next `read_packet` finds the stream
exhausted and raises `EOFError` (`.eof`), which is what ends the networking loop. -/
theorem status_response_roundtrip (json : String) (segs : Segs) (hj : StrOK json)
    (hseg : segs.flatten = responseBytes json) :
    clientRecvStatus segs = ([.response json], .eof) := by
  have hfr : segs.flatten =
      ([((0 : Nat), encString json)].map (packetFrame noZlib none)).flatten := by
    rw [hseg]
    simp [responseBytes, plainFrame]
  rw [clientRecvStatus_frames [(0, encString json)] segs
    (fun q hq => by
      simp only [List.mem_singleton] at hq
      subst hq
      exact frameOK_string 0 json (by omega) hj) hfr]
  simp only [decodeStatusAll, decode_response json hj]
  rfl

/-- (e) The whole status exchange, bytes in, C09 out.  If the server's byte stream is the response
for `json` followed by the pong for the time `t₁` the client stamped its ping with, then under any
segmentation the client's reader hands `[response json, pong t₁]` to the reactor, then end of stream
(`EOFError` on the exhausted stream), and the reactor
(`runStatus`, property C09) reports the status once, sends one ping, reports the latency
`t₂ − t₁ ≥ 0` once, disconnects once and runs the exit callback once. -/
theorem status_exchange_bytes (json : String) (t₁ t₂ : Nat) (clock : List Nat) (pong : Bytes)
    (segs : Segs) (hj : StrOK json) (hmono : t₁ ≤ t₂) (hpong : pongBytes (t₁ : Int) = .ok pong)
    (hseg : segs.flatten = responseBytes json ++ pong) :
    clientRecvStatus segs = ([.response json, .pong (t₁ : Int)], .eof) ∧
    runStatus true (clientRecvStatus segs).1 (t₁ :: t₂ :: clock) =
      some ⟨[.sendPing t₁, .handleStatus json, .disconnect, .handlePing ((t₂ : Int) - t₁)],
        true, 1⟩ ∧
    (0 : Int) ≤ (t₂ : Int) - t₁ := by
  have hdom : IntT.i64.inDom (t₁ : Int) := by
    by_cases hd : IntT.i64.inDom (t₁ : Int)
    · exact hd
    · rw [pongBytes, IntT.pack_err .i64 _ hd] at hpong
      cases hpong
  obtain ⟨b, hb, hpack, hun⟩ := i64_roundtrip _ hdom
  rw [pongBytes_ok _ b hpack] at hpong
  injection hpong with hpong
  have hfr : segs.flatten =
      ([((0 : Nat), encString json), (1, b)].map (packetFrame noZlib none)).flatten := by
    rw [hseg, ← hpong]
    simp [responseBytes, plainFrame]
  have hrecv : clientRecvStatus segs = ([.response json, .pong (t₁ : Int)], .eof) := by
    rw [clientRecvStatus_frames [(0, encString json), (1, b)] segs
      (fun q hq => by
        simp only [List.mem_cons, List.not_mem_nil, or_false] at hq
        rcases hq with rfl | rfl
        · exact frameOK_string 0 json (by omega) hj
        · exact frameOK_fixed 1 b (by omega) (by omega)) hfr]
    simp only [decodeStatusAll, decode_response json hj, decode_pong _ b hun]
    rfl
  refine ⟨hrecv, ?_, by omega⟩
  rw [hrecv]
  exact (C09.status_once_ping json [] t₁ t₂ clock hmono).1

/-- (f) Negative witness: the statements are sensitive to the encoding details.  On the concrete
handshake (protocol 757, host "play.é世.example" — 15 characters, 18 UTF-8 bytes — port 25565 =
0x63DD, next state 2) followed by the login start of "u", the reference server recovers the record
from the client's encoding; but from a variant that writes the port LITTLE-endian it reads port
56675 (0xDD63), and from a variant that prefixes the host with its CHARACTER count instead of its
byte count it reads the host "play.é世.exam", takes "pl" for the port and "e" for the next state,
finds bytes left over and refuses the frame.  On an all-ASCII host with a byte-palindromic port
(257 = 0x0101) both faults are invisible — which is why the witness uses these values. -/
theorem wrong_encoding_detected :
    serverRecv [streamWith handshakeFields demoHs] =
        .ok ⟨demoHs, [(0, encString "u")], none⟩ ∧
      serverRecv [streamWith handshakeFieldsLE demoHs] =
        .ok ⟨{ demoHs with port := 56675 }, [(0, encString "u")], none⟩ ∧
      serverRecv [streamWith handshakeFieldsChars demoHs] = .error .other ∧
      serverParseHandshake (handshakeFieldsChars demoHs) =
        .ok (⟨757, "play.é世.exam", 0x706c, 0x65⟩, [0x63, 0xdd, 0x02]) ∧
      streamWith handshakeFieldsLE ⟨757, "localhost", 257, 2⟩ =
        streamWith handshakeFields ⟨757, "localhost", 257, 2⟩ ∧
      streamWith handshakeFieldsChars ⟨757, "localhost", 257, 2⟩ =
        streamWith handshakeFields ⟨757, "localhost", 257, 2⟩ := by
  decide +kernel

/-! ### Non-vacuity: concrete parameters (kernel-evaluated) -/

/-- The guards hold for the example parameters, for both kinds of plan and both login-start ids. -/
example : FirstOK 0 demoParams (.direct 757) ∧ FirstOK 0 demoParams (.query 757) ∧
    FirstOK 1 demoParamsU (.direct 389) ∧ HsOK demoHs ∧ StrOK "{\"version\":{\"protocol\":757}}" ∧
    IntT.i64.inDom (-2) ∧ ¬ IntT.i64.inDom (2 ^ 63) := by decide +kernel

/-- `connect()` with one allowed version, "localhost":25565, user "u", protocol 757:
`10 | 00 | f5 05 | 09 "localhost" | 63 dd | 02` is the handshake (length 16, id 0, VarInt 757,
the host behind its byte length, the port big-endian, next state 2), `03 | 00 | 01 "u"` the login
start. -/
example : firstBytes 0 demoParams (.direct 757) =
    [0x10, 0x00, 0xf5, 0x05, 0x09, 0x6c, 0x6f, 0x63, 0x61, 0x6c, 0x68, 0x6f, 0x73, 0x74, 0x63, 0xdd,
     0x02, 0x03, 0x00, 0x01, 0x75] := by decide +kernel

/-- The status query for the same parameters: the handshake differs in its last byte only, then
the empty request `01 | 00`. -/
example : firstBytes 0 demoParams (.query 757) =
    [0x10, 0x00, 0xf5, 0x05, 0x09, 0x6c, 0x6f, 0x63, 0x61, 0x6c, 0x68, 0x6f, 0x73, 0x74, 0x63, 0xdd,
     0x01, 0x01, 0x00] := by decide +kernel

/-- A non-ASCII host: the length prefix is the BYTE count 18 (0x12), not the character count 15;
login start with id 1 (snapshot numbering). -/
example : firstBytes 1 demoParamsU (.direct 389) =
    [0x19, 0x00, 0x85, 0x03, 0x12] ++ utf8 "play.é世.example" ++ [0x63, 0xdd, 0x02] ++
      [0x03, 0x01, 0x01, 0x75] ∧
    (utf8 "play.é世.example").length = 18 ∧ "play.é世.example".length = 15 := by decide +kernel

/-- `server_recovers_first_frames` on a segmentation cutting through the length prefix, the host
and the port. -/
example : ∃ r, serverRecv [[0x19], [0x00, 0x85], [0x03, 0x12, 0x70, 0x6c, 0x61, 0x79, 0x2e, 0xc3],
      [0xa9, 0xe4, 0xb8], [0x96, 0x2e, 0x65, 0x78, 0x61, 0x6d, 0x70, 0x6c, 0x65, 0x63],
      [0xdd, 0x02, 0x03], [], [0x01, 0x01, 0x75]] = .ok r ∧ r.err = none ∧
    r.hs = ⟨389, "play.é世.example", 25565, 2⟩ ∧
    ∃ name, loginName demoParamsU = some name ∧ r.frames = [(1, encString name)] ∧
      r.decoded 1 = [.loginStart name] := by
  obtain ⟨r, h1, h2, h3, h4, -⟩ := server_recovers_first_frames 1 demoParamsU (.direct 389)
    [[0x19], [0x00, 0x85], [0x03, 0x12, 0x70, 0x6c, 0x61, 0x79, 0x2e, 0xc3],
      [0xa9, 0xe4, 0xb8], [0x96, 0x2e, 0x65, 0x78, 0x61, 0x6d, 0x70, 0x6c, 0x65, 0x63],
      [0xdd, 0x02, 0x03], [], [0x01, 0x01, 0x75]] (by decide +kernel) (by decide +kernel)
  exact ⟨r, h1, h2, h3, h4 389 rfl⟩

/-- The failure modes of `client_writes_first_bytes`: port 65536 — nothing is sent; no user name
— the handshake is sent, the login start is not. -/
example : clientWrites 0 ((firstFrames ⟨"localhost", 65536, some "u", none⟩ (.direct 757)).map
      .first) = ([], some .struct) ∧
    clientWrites 0 ((firstFrames ⟨"a", 25565, none, none⟩ (.direct 47)).map .first) =
      ([0x07, 0x00, 0x2f, 0x01, 0x61, 0x63, 0xdd, 0x02], some .other) := by decide +kernel

/-- A truncated stream is not mistaken for a clean one: cut inside the login start, the server has
the handshake but reports `eof`; cut inside the handshake, it has nothing. -/
example : serverRecv [(firstBytes 0 demoParams (.direct 757)).take 19] =
      .ok ⟨⟨757, "localhost", 25565, 2⟩, [], some .eof⟩ ∧
    serverRecv [(firstBytes 0 demoParams (.direct 757)).take 16] = .error .eof := by
  decide +kernel

/-- Hypotheses of `negotiated_reply_in_bytes` / `negotiated_default_in_bytes` with the C09 example
environment, and the two connections' bytes. -/
example : (2 ≤ [47, 340].length) ∧ (∀ a ∈ [47, 340], a ∈ C09.envEx.knownOrder) ∧
    (∀ a ∈ [47, 340], a < 2 ^ 32) ∧
    (session C09.envEx demoParams [47, 340] 340 (.proto 47 none)).map
        (fun s => s.conns.map (connBytes 0)) =
      .ok [firstBytes 0 demoParams (.query 340), firstBytes 0 demoParams (.direct 47)] ∧
    (firstBytes 0 demoParams (.direct 47)).take 3 = [0x0f, 0x00, 0x2f] ∧
    (firstBytes 0 demoParams (.query 340)).take 4 = [0x10, 0x00, 0xd4, 0x02] := by
  decide +kernel

/-- Hypotheses of `status_handshake_bytes`: a constructed connection whose default (754) is not
what `status()` puts into the handshake (340, the latest ALLOWED version). -/
example : ctor C09.envEx (some [.num 340, .num 47]) (some (.num 754)) = .ok ⟨[47, 340], 754, 340⟩ ∧
    (clientWrites 0 (statusFrames demoParams 340 none)).1 =
      [0x10, 0x00, 0xd4, 0x02, 0x09, 0x6c, 0x6f, 0x63, 0x61, 0x6c, 0x68, 0x6f, 0x73, 0x74, 0x63,
       0xdd, 0x01, 0x01, 0x00] := by decide +kernel

/-- `ping_echo_bytes` for `t = -2` (`ff … fe`): the client's stream, what the server reads, its
pong, and the client reading the pong one byte at a time. -/
example :
    (clientWrites 0 (statusFrames demoParams 757 (some (-2)))).1 =
      firstBytes 0 demoParams (.query 757) ++
        [0x09, 0x01, 0xff, 0xff, 0xff, 0xff, 0xff, 0xff, 0xff, 0xfe] ∧
    (serverRecv [(clientWrites 0 (statusFrames demoParams 757 (some (-2)))).1]).map
        (fun r => r.decoded 0) = .ok [.request, .ping (-2)] ∧
    serverReply "{}" (.ping (-2)) =
      .ok [0x09, 0x01, 0xff, 0xff, 0xff, 0xff, 0xff, 0xff, 0xff, 0xfe] ∧
    clientRecvStatus ([0x09, 0x01, 0xff, 0xff, 0xff, 0xff, 0xff, 0xff, 0xff, 0xfe].map
        fun x => [x]) = ([.pong (-2)], .eof) := by decide +kernel

/-- `status_response_roundtrip` / `status_exchange_bytes` on a non-ASCII JSON text, the response
cut inside the two-byte character. -/
example : responseBytes "{\"é\":1}" = [0x0a, 0x00, 0x08, 0x7b, 0x22, 0xc3, 0xa9, 0x22, 0x3a, 0x31, 0x7d] ∧
    clientRecvStatus [[0x0a, 0x00, 0x08, 0x7b, 0x22, 0xc3], [0xa9, 0x22, 0x3a, 0x31, 0x7d]] =
      ([.response "{\"é\":1}"], .eof) ∧
    pongBytes 1000 = .ok [0x09, 0x01, 0, 0, 0, 0, 0, 0, 0x03, 0xe8] := by decide +kernel

example : runStatus true
    (clientRecvStatus [responseBytes "{}" ++ [0x09, 0x01, 0, 0, 0, 0, 0, 0, 0x03, 0xe8]]).1
    [1000, 1042] =
    some ⟨[.sendPing 1000, .handleStatus "{}", .disconnect, .handlePing 42], true, 1⟩ :=
  (status_exchange_bytes "{}" 1000 1042 [] [0x09, 0x01, 0, 0, 0, 0, 0, 0, 0x03, 0xe8] _
    (by decide +kernel) (by decide) (by decide +kernel) (by simp)).2.1

/-- What the client's reader does with bytes that are not a status packet it knows, invalid UTF-8
or a short `Long`: an unknown id is delivered as `other`, the rest raises. -/
example : clientRecvStatus [[0x02, 0x07, 0xaa]] = ([.other], .eof) ∧
    clientRecvStatus [[0x03, 0x00, 0x01, 0xc3]] = ([], .decode) ∧
    clientRecvStatus [[0x03, 0x01, 0x00, 0x00]] = ([], .struct) ∧
    clientRecvStatus [[0x03, 0x00, 0x05, 0x61]] = ([], .eof) := by decide +kernel

/-- An EXHAUSTED stream is `EOFError` for the client's reader, never a silent clean end: no byte at
all, only empty arrivals, a clean end behind a complete frame, and a cut inside a frame all end the
run with `.eof` (the reference SERVER, `recvFrames`, is the one that tells a clean end — `none` —
from a cut). -/
example : clientRecvStatus [] = ([], .eof) ∧ clientRecvStatus [[], []] = ([], .eof) ∧
    clientRecvStatus [responseBytes "{}"] = ([.response "{}"], .eof) ∧
    clientRecvStatus [(responseBytes "{}").take 3] = ([], .eof) ∧
    recvFrames 1 (Sock.plain []) = ([], none) := by decide +kernel

end PyCraft.C09Wire
