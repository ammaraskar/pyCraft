import PyCraft.Lemmas.Lifecycle
/-!
# C16 — connection lifecycle: one active thread, clean refusal, always reusable

Model: `Model/Lifecycle.lean` (a deterministic transition system driven by a schedule; one atomic
action per step).  Every theorem below is for ALL server behaviour lists `env`, ALL user programs
`progs` (any number of user threads, any API calls), ALL reconnect budgets `rl`, `rh` of the
listener / exception handler, and ALL schedules `sched : List Tid` of any length (entries that are
not enabled are skipped).

Vocabulary: `s := run env (init progs rl rh) sched` is an arbitrary reachable state;
`atCall s t op` = thread `t` (a user thread, or a networking thread inside a reaction, listener or
exception handler) is about to acquire the lock and execute the body of the API call `op`
(the final `disconnect(immediate=True)` of `_handle_exception` is NOT such a call: it is part of the
locked check-and-cleanup block `hChk`, see `handler_cleanup_spares_new_connection`);
`pendingOut s1 t` = the outcome of the call whose body `t` has just executed;
`s.shared` = the attributes `(networking_thread, new_networking_thread, socket, file_object,
connected, #connection attempts, #thread objects)`; `SameThreads s s1 t` = no thread object was
created, interrupted or moved except that `t` itself advanced; `NPc.ioPhase` = the phases
io / handling / epilogue; `target s` = `new_networking_thread or networking_thread`.

Only property theorems and non-vacuity examples live here; helper lemmas are in `Lemmas/`.
-/
namespace PyCraft.C16
open PyCraft PyCraft.Life

/-- `step_inv`: the invariant `LInv` (lock discipline, slot ownership, predecessor chain, open
socket for the uninterrupted thread) is preserved by every atomic step of every thread. -/
theorem step_inv (env : List Beh) (s s' : Sys) (t : Tid) (h : LInv s)
    (hs : step env s t = some s') : LInv s' :=
  Life.step_inv env s s' t h hs

/-- `run_inv`: hence it holds in every reachable state. -/
theorem run_inv (env : List Beh) (progs : List (List Op)) (rl rh : Nat) (sched : List Tid) :
    LInv (run env (init progs rl rh) sched) :=
  reach_inv env progs rl rh sched

/-- `at_most_one_io_thread`: in every reachable state at most one networking thread is in an
I/O-performing phase (io, handling, epilogue); that thread is the one in the
`networking_thread` slot, unless it is just releasing the lock at the end of its epilogue. -/
theorem at_most_one_io_thread (env : List Beh) (progs : List (List Op)) (rl rh : Nat)
    (sched : List Tid) :
    let s := run env (init progs rl rh) sched
    (∀ i j, (s.net i).pc.ioPhase = true → (s.net j).pc.ioPhase = true → i = j) ∧
    (∀ i, (s.net i).pc.ioPhase = true → s.nt = some i ∨ (s.net i).pc = .epRel) := by
  intro s
  have h := reach_inv env progs rl rh sched
  exact ⟨io_unique s h, fun i hi => (ioPhase_cases _ hi).imp (h.nt_iff i).mpr id⟩

/-- `waiting_thread_no_io`: a networking thread that is still waiting for its predecessor, or is
taking over the slot, has no I/O event in the log. -/
theorem waiting_thread_no_io (env : List Beh) (progs : List (List Op)) (rl rh : Nat)
    (sched : List Tid) (i : Nat) (e : Ev) :
    let s := run env (init progs rl rh) sched
    (Tid.net i, e) ∈ s.log → e.isIO = true →
      (s.net i).pc.phase ≠ .unborn ∧ (s.net i).pc.phase ≠ .waitingPrev ∧
      (s.net i).pc.phase ≠ .takeOver := by
  intro s hm he
  have := (reach_loginv env progs rl rh sched).no_io_pre i e hm he
  revert this
  cases (s.net i).pc
  case call site => cases site <;> simp [NPc.preIO, NPc.phase]
  case callRel site out => cases site <;> simp [NPc.preIO, NPc.phase]
  all_goals simp [NPc.preIO, NPc.phase]

/-- `io_events_separated`: any two I/O events in the log of a reachable state that were performed
by different networking threads are separated by the `fin` event of the first thread (the event
with which it leaves its `finally` block and enters phase `done`). -/
theorem io_events_separated (env : List Beh) (progs : List (List Op)) (rl rh : Nat)
    (sched : List Tid) (l1 l2 l3 : List (Tid × Ev)) (i j : Nat) (e1 e2 : Ev) :
    let s := run env (init progs rl rh) sched
    s.log = l1 ++ (Tid.net i, e1) :: l2 ++ (Tid.net j, e2) :: l3 →
    e1.isIO = true → e2.isIO = true → i ≠ j → (Tid.net i, Ev.fin) ∈ l2 := by
  intro s hs h1 h2 hij
  exact (reach_loginv env progs rl rh sched).sep l1 l2 l3 i j e1 e2 hs h1 h2 hij

/-- `active_refuses`: if `connect()` / `status()` is called (by any thread) in a reachable state
where `networking_thread` is an uninterrupted thread or `new_networking_thread` is set, then the
body of the call returns `InvalidState` without touching the connection (no socket replaced, no
connection attempt, no thread created, interrupted or moved); the caller then releases the lock
(always enabled) and everything except the caller's own progress is as before the call. -/
theorem active_refuses (env : List Beh) (progs : List (List Op)) (rl rh : Nat)
    (sched : List Tid) (t : Tid) (op : Op) :
    let s := run env (init progs rl rh) sched
    op.isConn = true → atCall s t op →
    ((∃ i, s.nt = some i ∧ (s.net i).intr = false) ∨ s.newNt ≠ none) →
    ∀ s1, step env s t = some s1 →
      pendingOut s1 t = some .invalidState ∧ s1.shared = s.shared ∧ SameThreads s s1 t ∧
      ∃ s2, step env s1 t = some s2 ∧ s2.shared = s.shared ∧ SameThreads s s2 t ∧
        s2.owner = none ∧ s2.depth = 0 ∧
        (∀ u, t = .user u → (s2.usr u).outs = (s.usr u).outs ++ [.invalidState]) := by
  intro s hop hat hbusy s1 hs1
  have h := reach_inv env progs rl rh sched
  have hb : busy s = true := (busy_iff s).mpr hbusy
  obtain ⟨-, hp, hsh, -, -, hst, -, -, -, houts⟩ := call_step env s s1 t op hat hs1
  have hbody : body env s op = (s, .invalidState) := by
    cases op with
    | disconnect imm => cases hop
    | connect | status => simp [body, doConnect, hb]
  rw [hbody] at hp hsh hst
  obtain ⟨s2, hs2, hsh2, ho2, hd2, hst2, hu2, -⟩ :=
    release_step env s1 t .invalidState (Life.step_inv env s s1 t h hs1) hp
  refine ⟨hp, hsh, hst, s2, hs2, hsh2.trans hsh, hst.trans hst2, ho2, hd2, ?_⟩
  intro u hu
  rw [(hu2 u hu).1, houts u hu]

/-- `reusable_after_end`: if `connect()` / `status()` is called — by a user thread or by the
networking thread itself from a listener or exception handler — in a reachable state where the
connection has ended (`new_networking_thread` is empty and the thread in the
`networking_thread` slot, if any, is interrupted), the call is NOT refused with `InvalidState`:
it makes exactly one connection attempt; if the server refuses, the caller gets the refusal, the
socket is left unconnected and no thread is created; otherwise the call succeeds, the new socket
and stream are installed and EXACTLY ONE thread object is created (uninterrupted; directly in the
slot if the slot was empty, else as the successor of the interrupted holder), all other threads
being untouched. -/
theorem reusable_after_end (env : List Beh) (progs : List (List Op)) (rl rh : Nat)
    (sched : List Tid) (t : Tid) (op : Op) :
    let s := run env (init progs rl rh) sched
    op.isConn = true → atCall s t op →
    s.newNt = none → (∀ i, s.nt = some i → (s.net i).intr = true) →
    ∀ s1, step env s t = some s1 →
      s1.conns = s.conns + 1 ∧
      (env.getD s.conns .accept = .refuse →
        pendingOut s1 t = some .refused ∧ s1.socket = .unconnected ∧
        s1.nthreads = s.nthreads ∧ s1.nt = s.nt ∧ s1.newNt = none ∧ SameThreads s s1 t) ∧
      (env.getD s.conns .accept ≠ .refuse →
        pendingOut s1 t = some .ok ∧ s1.socket = .open s.conns ∧ s1.file = .open s.conns ∧
        s1.connected = true ∧ s1.nthreads = s.nthreads + 1 ∧
        (s.net s.nthreads).pc = .unborn ∧ (s1.net s.nthreads).intr = false ∧
        (∀ j, j ≠ s.nthreads → (s1.net j).intr = (s.net j).intr ∧
          (s1.net j).prev = (s.net j).prev ∧ (t ≠ .net j → (s1.net j).pc = (s.net j).pc)) ∧
        ((s.nt = none ∧ s1.nt = some s.nthreads ∧ s1.newNt = none ∧
            (s1.net s.nthreads).pc = .loopChk ∧ (s1.net s.nthreads).prev = none) ∨
         (∃ p, s.nt = some p ∧ s1.nt = some p ∧ s1.newNt = some s.nthreads ∧
            (s1.net s.nthreads).pc = .waitPrev ∧ (s1.net s.nthreads).prev = some p))) := by
  intro s hop hat hnew hnt s1 hs1
  exact connects_afresh (reach_inv env progs rl rh sched) hop hat ((not_busy s).mpr
    ⟨fun j hj => hj.elim (hnt j) (fun hc => nomatch hnew.symm.trans hc), hnew⟩) hs1

/-- `disconnect_total`: `disconnect(immediate)` called by any thread in ANY reachable state (any
number of times: the statement is about an arbitrary reachable state) is enabled as soon as the
lock is available, and its outcome is a normal return — it never raises.  Afterwards the socket
is `None`, `connected` is false, the slots and counters are unchanged, the thread selected by
`new_networking_thread or networking_thread` is interrupted, nobody else's flag changes, and
EVERY thread occupying a slot is interrupted. -/
theorem disconnect_total (env : List Beh) (progs : List (List Op)) (rl rh : Nat)
    (sched : List Tid) (t : Tid) (imm : Bool) :
    let s := run env (init progs rl rh) sched
    atCall s t (.disconnect imm) →
    (canAcq s t = true → ∃ s1, step env s t = some s1) ∧
    ∀ s1, step env s t = some s1 →
      pendingOut s1 t = some .ok ∧ s1.socket = .none ∧ s1.connected = false ∧
      s1.nt = s.nt ∧ s1.newNt = s.newNt ∧ s1.nthreads = s.nthreads ∧ s1.conns = s.conns ∧
      (∀ j, target s = some j → (s1.net j).intr = true) ∧
      (∀ j, target s ≠ some j → (s1.net j).intr = (s.net j).intr) ∧
      (∀ j, s1.nt = some j ∨ s1.newNt = some j → (s1.net j).intr = true) := by
  intro s hat
  have h := reach_inv env progs rl rh sched
  refine ⟨call_enabled env s t _ hat, fun s1 hs1 => ?_⟩
  obtain ⟨-, hp, hsh, -, -, hst, -, -, -, -⟩ := call_step env s s1 t _ hat hs1
  simp only [Sys.shared, Shared.mk.injEq] at hsh
  obtain ⟨e1, e2, e3, e4, e5, e6, e7⟩ := hsh
  have hbody : body env s (.disconnect imm) = (discSt s, .ok) := by
    simp [body, doDisconnect_discSt]
  rw [hbody] at e1 e2 e3 e4 e5 e6 e7 hst hp
  have hI : ∀ j, target s = some j → (s1.net j).intr = true := by
    intro j hj; rw [(hst j).1]; simp [discSt, dnet, hj]
  have hK : ∀ j, target s ≠ some j → (s1.net j).intr = (s.net j).intr := by
    intro j hj; rw [(hst j).1]; simp [discSt, dnet, hj]
  refine ⟨hp, e3, e5, e1, e2, e7, e6, hI, hK, ?_⟩
  intro j hj
  have e1' : s1.nt = s.nt := e1
  have e2' : s1.newNt = s.newNt := e2
  rw [e1', e2'] at hj
  rw [(hst j).1]
  exact h.disc_intr j (hj.imp (h.nt_iff j).mp (h.new_iff j).mp)

/-- `interrupt_is_permanent_and_bounds_steps`: once a thread object is interrupted, then under ANY
continuation of the schedule it stays interrupted, and it executes at most `rank ≤ 23` more
actions (`stepsOf` counts its executed schedule entries); `rank = 0` means dead. -/
theorem interrupt_is_permanent_and_bounds_steps (env : List Beh) (progs : List (List Op))
    (rl rh : Nat) (sched more : List Tid) (j : Nat) :
    let s := run env (init progs rl rh) sched
    (s.net j).pc ≠ .unborn → (s.net j).intr = true →
      ((run env s more).net j).intr = true ∧
      ((run env s more).net j).pc.rank + stepsOf env s (.net j) more ≤ (s.net j).pc.rank ∧
      (s.net j).pc.rank ≤ 23 ∧
      (((run env s more).net j).pc.rank = 0 ↔ ((run env s more).net j).pc = .dead) := by
  intro s hb hi
  obtain ⟨a, -, c⟩ := rank_run env more j s (reach_inv env progs rl rh sched) hb hi
  exact ⟨a, c, rank_le _, rank_zero _⟩

/-- `never_stuck`: in a reachable state, a live networking thread that is not enabled is blocked
either by the lock holder — who is enabled, and whose step frees the lock — or, being a waiting
successor, by its predecessor, which is a different, existing, interrupted, not yet dead thread
(to which this theorem and the previous one apply again; the predecessor itself is not waiting). -/
theorem never_stuck (env : List Beh) (progs : List (List Op)) (rl rh : Nat)
    (sched : List Tid) (j : Nat) :
    let s := run env (init progs rl rh) sched
    (s.net j).pc ≠ .unborn → (s.net j).pc ≠ .dead → step env s (.net j) = none →
      (∃ t, s.owner = some t ∧ t ≠ .net j ∧ ∃ s', step env s t = some s' ∧ s'.owner = none) ∨
      ((s.net j).pc = .waitPrev ∧ ∃ p, (s.net j).prev = some p ∧ p ≠ j ∧
        (s.net p).pc ≠ .dead ∧ (s.net p).pc ≠ .unborn ∧ (s.net p).pc.waiting = false ∧
        (s.net p).intr = true) := by
  intro s hb hd hst
  have h := reach_inv env progs rl rh sched
  rcases blocked_cases env s h j hb hd hst with ⟨t, h1, h2⟩ | ⟨h1, p, h2, h3, h4, h5, h6⟩
  · exact Or.inl ⟨t, h1, h2, owner_enabled env s h t h1⟩
  · refine Or.inr ⟨h1, p, h2, h3, h4, h5, ?_, h6⟩
    cases hw : (s.net p).pc.waiting with
    | false => rfl
    | true =>
      have e1 := (h.new_iff p).mpr hw
      have e2 := (h.new_iff j).mpr (by rw [h1]; rfl)
      rw [e1] at e2; cases e2; exact absurd rfl h3

/-- `can_always_terminate`: from every reachable state there is a continuation of at most 47
schedule entries after which a given interrupted thread is dead. -/
theorem can_always_terminate (env : List Beh) (progs : List (List Op)) (rl rh : Nat)
    (sched : List Tid) (j : Nat) :
    let s := run env (init progs rl rh) sched
    (s.net j).pc ≠ .unborn → (s.net j).intr = true →
      ∃ more, more.length ≤ 47 ∧ ((run env s more).net j).pc = .dead := by
  intro s hb hi
  exact can_terminate env s (reach_inv env progs rl rh sched) j hb hi

/-
The full statement — after a `disconnect()` call completes, on every weakly fair infinite
continuation of the schedule the networking thread(s) that occupied the slots reach `dead` — needs
infinite schedules and a fairness assumption; it is `C16Live.disconnect_leads_to_termination`
(over `Model/LifecycleFair.lean`).

The part that needs neither (`…_partial`): after the body of a `disconnect()` call, every thread
`j` occupying a slot (1) is interrupted and stays so under ANY finite continuation `more`,
(2) executes at most `rank ≤ 23` further actions in `more`, is dead iff its rank is 0, (3) in every
later state can be driven to its death by some continuation of at most 47 entries; together with
`never_stuck` (whenever it is not enabled, a specific enabled thread — the lock holder — or its
interrupted, live, non-waiting predecessor is what it waits for).
-/
/-- `disconnect_leads_to_termination_partial`: what `disconnect()` guarantees about the threads in
the slots without any fairness assumption. -/
theorem disconnect_leads_to_termination_partial (env : List Beh) (progs : List (List Op))
    (rl rh : Nat) (sched : List Tid) (t : Tid) (imm : Bool) :
    let s := run env (init progs rl rh) sched
    atCall s t (.disconnect imm) → ∀ s1, step env s t = some s1 →
    ∀ j, s1.nt = some j ∨ s1.newNt = some j →
      (s1.net j).intr = true ∧ (s1.net j).pc.rank ≤ 23 ∧
      ∀ more,
        ((run env s1 more).net j).intr = true ∧
        ((run env s1 more).net j).pc.rank + stepsOf env s1 (.net j) more ≤ (s1.net j).pc.rank ∧
        (((run env s1 more).net j).pc.rank = 0 ↔ ((run env s1 more).net j).pc = .dead) ∧
        ∃ more', more'.length ≤ 47 ∧
          ((run env (run env s1 more) more').net j).pc = .dead := by
  intro s hat s1 hs1 j hj
  have h := reach_inv env progs rl rh sched
  have h1 := Life.step_inv env s s1 t h hs1
  obtain ⟨-, -, -, -, -, -, -, -, -, hslots⟩ :=
    (disconnect_total env progs rl rh sched t imm hat).2 s1 hs1
  have hi := hslots j hj
  have hb := h1.slot_born hj
  refine ⟨hi, rank_le _, fun more => ?_⟩
  obtain ⟨a, b, c⟩ := rank_run env more j s1 h1 hb hi
  exact ⟨a, c, rank_zero _, can_terminate env _ (Life.run_inv env s1 h1 more) j b a⟩

/-- `write_never_fails`: in a reachable state, an uninterrupted thread in the slot (in particular
one about to execute its write phase) finds a connected socket together with its own stream, and
`_handle_exception` never finds both slots empty (no `AttributeError` on `None.interrupt`). -/
theorem write_never_fails (env : List Beh) (progs : List (List Op)) (rl rh : Nat)
    (sched : List Tid) (i : Nat) :
    let s := run env (init progs rl rh) sched
    (s.nt = some i → (s.net i).intr = false → ∃ c, s.socket = .open c ∧ s.file = .open c) ∧
    ((s.net i).pc = .hChk → target s ≠ none) := by
  intro s
  have h := reach_inv env progs rl rh sched
  refine ⟨fun hn hi => ?_, fun hpc => ?_⟩
  · have := h.live_open i (Or.inl ((h.nt_iff i).mp hn)) hi
    revert this
    cases s.socket <;> cases s.file <;> simp [linked]
    exact fun hc => hc.symm
  · have hni : s.nt = some i := (h.nt_iff i).mpr (by rw [hpc]; rfl)
    cases hn : s.newNt <;> simp [target, hn, hni]

/-- `handler_cleanup_spares_new_connection`: in every reachable state (i.e. for all schedules), if
a `connect()` — by another thread, or by an exception handler — has completed before the failing
thread `i` executes the final block of `_handle_exception` (so `new_networking_thread` is the new,
uninterrupted thread `j`), then that block does NOT disconnect: the socket, the stream,
`connected`, the slots and the counters are unchanged, the new thread is not interrupted, no
thread is created, interrupted or moved; thread `i` merely proceeds to the end of the block. -/
theorem handler_cleanup_spares_new_connection (env : List Beh) (progs : List (List Op))
    (rl rh : Nat) (sched : List Tid) (i j : Nat) :
    let s := run env (init progs rl rh) sched
    (s.net i).pc = .hChk → s.newNt = some j → (s.net j).intr = false →
    ∀ s1, step env s (.net i) = some s1 →
      s1.shared = s.shared ∧ SameThreads s s1 (.net i) ∧ (s1.net j).intr = false ∧
      (s1.net i).pc = .hRel ∧ s1.owner = some (.net i) := by
  intro s hpc hnew hj s1 hs1
  have htg : target s = some j := by simp [target, hnew]
  obtain ⟨-, ho, hp, h | h | h⟩ := hchk_step env s s1 i hpc hs1
  · obtain ⟨k, hk, hki, -⟩ := h
    rw [htg] at hk; cases hk; rw [hj] at hki; cases hki
  · obtain ⟨k, -, -, hsh, hst⟩ := h
    exact ⟨hsh, hst, by rw [(hst j).1]; exact hj, hp, ho⟩
  · rw [htg] at h; cases h.1

/-- `handler_cleanup_is_atomic`: the final block of `_handle_exception` reads the flag of
`new_networking_thread or networking_thread` and, exactly when it is set, executes the body of
`disconnect(immediate=True)` in the SAME action (under the lock, which a concurrent `connect()`
holds throughout): afterwards the socket is `None`, `connected` is false, the slots are unchanged
and the selected thread is interrupted.  Nothing can happen between the test and the cleanup. -/
theorem handler_cleanup_is_atomic (env : List Beh) (progs : List (List Op))
    (rl rh : Nat) (sched : List Tid) (i j : Nat) :
    let s := run env (init progs rl rh) sched
    (s.net i).pc = .hChk → target s = some j → (s.net j).intr = true →
    ∀ s1, step env s (.net i) = some s1 →
      s1.socket = .none ∧ s1.connected = false ∧ s1.nt = s.nt ∧ s1.newNt = s.newNt ∧
      s1.nthreads = s.nthreads ∧ s1.conns = s.conns ∧ (s1.net j).intr = true ∧
      (s1.net i).pc = .hRel ∧ s1.owner = some (.net i) := by
  intro s hpc htg hj s1 hs1
  obtain ⟨-, ho, hp, h | h | h⟩ := hchk_step env s s1 i hpc hs1
  · obtain ⟨k, hk, -, hsh, hst⟩ := h
    simp only [Sys.shared, Shared.mk.injEq, discSt] at hsh
    obtain ⟨e1, e2, e3, -, e5, e6, e7⟩ := hsh
    refine ⟨e3, e5, e1, e2, e7, e6, ?_, hp, ho⟩
    rw [(hst j).1]; simp [discSt, dnet, htg]
  · obtain ⟨k, hk, hki, -⟩ := h
    rw [htg] at hk; cases hk; rw [hj] at hki; cases hki
  · rw [htg] at h; cases h.1

/-! ### Non-vacuity -/

/-- Two user threads: `A` = user 0 runs connect, disconnect, connect; `B` = user 1 runs connect,
disconnect. -/
def exProgs : List (List Op) :=
  [[.connect, .disconnect false, .connect], [.connect, .disconnect false]]

/-- `A` runs its three calls before the first networking thread notices anything, `B`'s connect is
refused, and the first networking thread then leaves through its epilogue. -/
def exSched : List Tid :=
  [.user 0, .user 0, .user 0, .user 0, .user 0, .user 0, .user 1, .user 1,
   .net 0, .net 0, .net 0, .net 0]

/-- The schedule reaches a state with TWO networking threads alive: thread 0 in phase `done`
(after its `finally` block, not yet dead), thread 1 still waiting for it; `A` got ok, ok, ok and
`B` was refused with `InvalidState`; no schedule entry was skipped. -/
example :
    let s := run [] (init exProgs 0 0) exSched
    (s.net 0).pc.phase = .done ∧ (s.net 1).pc.phase = .waitingPrev ∧
    (s.net 0).pc.alive = true ∧ (s.net 1).pc.alive = true ∧ s.nthreads = 2 ∧
    (s.usr 0).outs = [.ok, .ok, .ok] ∧ (s.usr 1).outs = [.invalidState] ∧
    skipped [] (init exProgs 0 0) exSched = 0 := by decide

/-- … and the continuation lets thread 0 die, thread 1 take over, `B` disconnect and thread 1 run
to its death: everything terminates, the slot is empty, the socket closed. -/
example :
    let s := run [] (init exProgs 0 0)
      (exSched ++ [.net 0, .net 1, .net 1, .net 1, .user 1, .user 1] ++ List.replicate 6 (.net 1))
    (s.net 0).pc = .dead ∧ (s.net 1).pc = .dead ∧ s.nt = none ∧ s.newNt = none ∧
    s.socket = .none ∧ s.connected = false ∧ (s.usr 1).outs = [.invalidState, .ok] ∧
    s.owner = none := by decide

/-- Hypotheses of `active_refuses`: after `A`'s first connect (`exSched.take 2`) `B` is at its
`connect()` call and the slot holds an uninterrupted thread. -/
example :
    let s := run [] (init exProgs 0 0) (exSched.take 2)
    atCall s (.user 1) .connect ∧ (∃ i, s.nt = some i ∧ (s.net i).intr = false) :=
  ⟨⟨by decide, _, rfl⟩, 0, by decide, by decide⟩

/-- Hypotheses of `reusable_after_end` for a USER thread: after `A`'s disconnect
(`exSched.take 4`) `A` is at its second `connect()`, the successor slot is empty and the slot
holder is interrupted — the call creates thread 1 as a waiting successor. -/
example :
    let s := run [] (init exProgs 0 0) (exSched.take 4)
    atCall s (.user 0) .connect ∧ s.newNt = none ∧ s.nt = some 0 ∧ (s.net 0).intr = true :=
  ⟨⟨by decide, _, rfl⟩, by decide, by decide, by decide⟩

/-- Hypotheses of `reusable_after_end` for the NETWORKING thread itself: the first server sends a
disconnect packet, the reaction disconnects, and the listener (budget `rl = 1`) is about to call
`connect()` from inside the networking thread; after that step a second connection is open and
thread 1 waits for thread 0. -/
example :
    let s := run [.disconnects, .accept] (init [[.connect]] 1 0)
      ([.user 0, .user 0] ++ List.replicate 7 (.net 0))
    atCall s (.net 0) .connect ∧ s.newNt = none ∧ s.nt = some 0 ∧ (s.net 0).intr = true ∧
    (∃ s1, step [.disconnects, .accept] s (.net 0) = some s1 ∧ s1.socket = .open 1 ∧
      s1.newNt = some 1 ∧ (s1.net 1).pc = .waitPrev ∧ pendingOut s1 (.net 0) = some .ok) :=
  ⟨⟨.listen, by decide, rfl⟩, by decide, by decide, by decide, _, rfl, by decide, by decide,
    by decide, by decide⟩

/-- The exception handler reconnecting (budget `rh = 1`) against a server whose first two
connections fail: two connections, two threads, everything ends cleanly. -/
example :
    let s := run [.fails, .fails, .accept] (init [[.connect]] 0 1)
      ([.user 0, .user 0] ++ List.replicate 14 (.net 0) ++ List.replicate 16 (.net 1))
    s.conns = 2 ∧ s.nthreads = 2 ∧ (s.net 0).pc = .dead ∧ (s.net 1).pc = .dead ∧
    s.nt = none ∧ s.socket = .none := by decide

/-- Hypotheses of `disconnect_total` / `disconnect_leads_to_termination_partial`: `A` at its
`disconnect()` call with an uninterrupted thread in the slot; and a refused connect
(`ConnectionRefusedError`) followed by `disconnect()` and a successful `connect()`. -/
example :
    let s := run [] (init exProgs 0 0) (exSched.take 2)
    atCall s (.user 0) (.disconnect false) ∧ s.nt = some 0 ∧ (s.net 0).intr = false :=
  ⟨⟨by decide, _, rfl⟩, by decide, by decide⟩

example :
    let s := run [.refuse, .accept] (init [[.connect, .disconnect false, .connect]] 0 0)
      (List.replicate 6 (.user 0))
    (s.usr 0).outs = [.refused, .ok, .ok] ∧ s.conns = 2 ∧ s.nthreads = 1 ∧ s.nt = some 0 ∧
    s.socket = .open 1 := by decide

/-! ### Findings (behaviour of the Python code that the model reproduces)

These are reachable behaviours of the model that were also reproduced on the real code. -/

/-- FINDING 1 (transient refusal after `disconnect()`): one thread calling connect, disconnect,
connect, disconnect, connect faster than the first networking thread notices its interrupt gets
`InvalidState` from the last `connect()` although it has just disconnected: the hypothesis
`newNt = none` of `reusable_after_end` is necessary. -/
example :
    let s := run [] (init [[.connect, .disconnect false, .connect, .disconnect false, .connect]] 0 0)
      (List.replicate 10 (.user 0))
    (s.usr 0).outs = [.ok, .ok, .ok, .ok, .invalidState] ∧ s.connected = false ∧
    s.socket = .none := by decide

/-- A reconnect is not killed by the old thread's cleanup: the test of
`(new_networking_thread or networking_thread).interrupt` and the `disconnect(immediate=True)` form
one locked block (`handler_cleanup_spares_new_connection`).  The critical schedule: the first
connection fails, the networking thread runs its handlers and is about to execute the final
block (`hChk`); a user thread's `connect()` succeeds first; the old thread then executes the
block.  The state before that step satisfies the hypotheses of the theorem, and afterwards the
new connection is intact: socket open, `connected`, the new thread uninterrupted; it takes over
once the old thread is dead and runs. -/
example :
    let s := run [.fails, .accept] (init [[.connect, .connect]] 0 0)
      ([.user 0, .user 0] ++ List.replicate 7 (.net 0) ++ [.user 0, .user 0])
    (s.net 0).pc = .hChk ∧ s.newNt = some 1 ∧ (s.net 1).intr = false ∧
    (s.usr 0).outs = [.ok, .ok] := by decide

example :
    let s := run [.fails, .accept] (init [[.connect, .connect]] 0 0)
      ([.user 0, .user 0] ++ List.replicate 7 (.net 0) ++ [.user 0, .user 0] ++
        List.replicate 5 (.net 0) ++ List.replicate 6 (.net 1))
    (s.usr 0).outs = [.ok, .ok] ∧ s.conns = 2 ∧ (s.net 0).pc = .dead ∧ s.nt = some 1 ∧
    s.newNt = none ∧ (s.net 1).intr = false ∧ (s.net 1).pc = .rChk ∧ s.socket = .open 1 ∧
    s.connected = true ∧ (Tid.net 1, Ev.wr (some 1)) ∈ s.log := by decide

/-- Hypotheses of `handler_cleanup_is_atomic`: without a reconnect the failing thread finds its
own flag set and the block disconnects. -/
example :
    let s := run [.fails] (init [[.connect]] 0 0) ([.user 0, .user 0] ++ List.replicate 7 (.net 0))
    (s.net 0).pc = .hChk ∧ target s = some 0 ∧ (s.net 0).intr = true ∧ s.socket = .open 0 := by
  decide

/-- FINDING 3 (`disconnect()` while the networking thread is inside `read_packet`): a thread that
has passed the `not self.interrupt` test reads from a closed stream, takes the EXCEPTION path
(handlers are called, `_handle_exit` is not) — it still terminates. -/
example :
    let s := run [] (init [[.connect, .disconnect false]] 0 0)
      ([.user 0, .user 0] ++ List.replicate 4 (.net 0) ++ [.user 0, .user 0] ++
        List.replicate 10 (.net 0))
    (Tid.net 0, Ev.rd none .error) ∈ s.log ∧ (Tid.net 0, Ev.exc) ∈ s.log ∧
    (Tid.net 0, Ev.exit) ∉ s.log ∧ (s.net 0).pc = .dead := by decide

/-- FINDING 4 (stale read): a thread that has passed the `not self.interrupt` test evaluates
`self.connection.file_object` only afterwards; if a disconnect and a connect happen in between,
the OLD thread reads a packet of the NEW connection (here: connection 1's disconnect packet) and
its reaction tears the new connection down, while the new thread is still waiting. -/
example :
    let s := run [.accept, .disconnects]
      (init [[.connect, .disconnect false, .connect]] 0 0)
      ([.user 0, .user 0] ++ List.replicate 4 (.net 0) ++ List.replicate 4 (.user 0) ++
        List.replicate 3 (.net 0))
    (Tid.net 0, Ev.rd (some 1) .packet) ∈ s.log ∧ (s.net 1).pc = .waitPrev ∧
    (s.net 1).intr = true ∧ s.socket = .none ∧ (s.usr 0).outs = [.ok, .ok, .ok] := by decide

end PyCraft.C16
