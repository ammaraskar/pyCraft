import PyCraft.Lemmas.C08Live
import PyCraft.Props.C08
import PyCraft.Generated.Versions
import PyCraft.Generated.C08Live
/-!
# C08 — what the title promises about the LIVE data and about sharing (audit gap 25)

Property C08: "Protocol versions are totally ordered by publication; derived tables agree".
`Props/C08.lean` proves the order and projection laws for ALL record lists.  Four things do not
follow from those laws; this file states and proves them.

(a) **The name tables agree.**  `SUPPORTED[id] = KNOWN[id]` is not a consequence of the projection
    laws: a list that re-uses an id for a different protocol number breaks it (`C08.sample`).  The
    missing hypothesis is `IdsFunctional recs` (an id always carries the same number); it is
    EQUIVALENT to "`KNOWN[r.id] = r.protocol` for every record" (`ids_functional_iff`), it gives
    agreement of all three name tables with the records and with each other (`records_agree`,
    `tables_agree`), and under it all five derived tables are first-occurrence projections of the
    RECORDS themselves, not merely of one another (`projections_of_records`).  The live records
    satisfy it (`live_ids_functional`, checked by the kernel on the regenerated data), hence
    `live_tables_agree`.
(b) **Numeric order for ordinary numbers** as a statement about `protocol_earlier` and the four
    other predicates (`numeric_on_sorted_class`, `live_ordinary_numeric`, `live_pre_numeric`).
(c) **The release list is chronological** on the live data (`live_release_chronological`), again
    composed with `protocol_earlier`; the three number lists are nested sublists.
(d) **Sharing by reference** (`Model/C08Live.lean`): for every history of run-time edits and
    re-initialisations the real code keeps every module looking at the same objects and these show
    the value model's tables (`by_reference_transparent`); after a rebuild every context, old or
    new, answers by the rebuilt order (`rebuild_after_history`, `context_answers_current`).  The two
    seeded changes that passed every earlier theorem are refuted on small instances.  Insertion in
    the middle of the list: comparisons between versions other than the inserted ones never change
    (`insert_order_unchanged`); with new numbers the old list is kept with the new block spliced in
    and the later indices shift by its length (`insert_fresh`) — which is exactly what a remembered
    index gets wrong.  `model_eq_live_runs` ties the by-reference model to histories observed on the
    live code.

Only property theorems and non-vacuity examples live here.
-/
namespace PyCraft.C08Live
open PyCraft PyCraft.VerRef

/-! ## (a) The name tables agree -/

/-- An id is used for one protocol number only  ⇔  the known-names table gives every record's id
the record's own number. -/
theorem ids_functional_iff (recs : List Rec) :
    IdsFunctional recs ↔
      ∀ r ∈ recs, odGet (initKnown recs).knownVersions r.id = some r.protocol := by
  constructor
  · intro h r hr
    rw [knownVersions_eq, odGet_odFromList]
    exact lastVal_of_functional (recPairs recs) h.pairs (r.id, r.protocol)
      (List.mem_map.2 ⟨r, hr, rfl⟩)
  · intro h r hr s hs e
    have h1 := h r hr
    have h2 := h s hs
    rw [e, h2] at h1
    exact (Option.some.inj h1).symm

/-- With functional ids every table agrees with every record: `KNOWN[r.id] = r.protocol`; for a
supported record also `SUPPORTED[r.id] = r.protocol` and the number is in
`SUPPORTED_PROTOCOL_VERSIONS`; for a supported record with a release name also
`RELEASE[r.id] = r.protocol` and the number is in `RELEASE_PROTOCOL_VERSIONS`. -/
theorem records_agree (recs : List Rec) (h : IdsFunctional recs) :
    ∀ r ∈ recs,
      odGet (initKnown recs).knownVersions r.id = some r.protocol ∧
      (r.supported = true →
        odGet (initKnown recs).supportedVersions r.id = some r.protocol ∧
        r.protocol ∈ (initKnown recs).supportedProtocols) ∧
      (r.supported = true → isRelease r.id = true →
        odGet (initKnown recs).releaseVersions r.id = some r.protocol ∧
        r.protocol ∈ (initKnown recs).releaseProtocols) := by
  intro r hr
  have hsup : r.supported = true →
      odGet (initKnown recs).supportedVersions r.id = some r.protocol := by
    intro hs
    rw [supportedVersions_eq, odGet_odFromList]
    exact lastVal_of_functional _ (h.filter _).pairs (r.id, r.protocol)
      (List.mem_map.2 ⟨r, List.mem_filter.2 ⟨hr, hs⟩, rfl⟩)
  have hnd := supportedVersions_keys_nodup recs
  have hrel : r.supported = true → isRelease r.id = true →
      odGet (initKnown recs).releaseVersions r.id = some r.protocol := by
    intro hs hrl
    rw [releaseVersions_eq, odGet_filter _ hnd]
    exact ⟨hsup hs, hrl⟩
  refine ⟨(ids_functional_iff recs).1 h r hr, fun hs => ⟨hsup hs, ?_⟩,
    fun hs hrl => ⟨hrel hs hrl, ?_⟩⟩
  · rw [supportedProtocols_eq, mem_dedup]
    exact List.mem_map.2 ⟨(r.id, r.protocol), (mem_iff_odGet _ hnd _ _).2 (hsup hs), rfl⟩
  · rw [releaseProtocols_eq, mem_dedup]
    have hnd' : ((initKnown recs).releaseVersions.map (·.1)).Nodup := by
      rw [releaseVersions_eq]; exact (List.filter_sublist.map _).nodup hnd
    exact List.mem_map.2 ⟨(r.id, r.protocol), (mem_iff_odGet _ hnd' _ _).2 (hrel hs hrl), rfl⟩

/-- The derived tables agree with each other.  With functional ids `SUPPORTED ⊆ KNOWN` as maps
(`SUPPORTED[id] = KNOWN[id]` wherever the left side exists), also item by item.  `RELEASE ⊆
SUPPORTED` as maps holds for every record list. -/
theorem tables_agree (recs : List Rec) :
    (IdsFunctional recs →
      (∀ k v, odGet (initKnown recs).supportedVersions k = some v →
        odGet (initKnown recs).knownVersions k = some v) ∧
      (∀ e ∈ (initKnown recs).supportedVersions, e ∈ (initKnown recs).knownVersions)) ∧
    (∀ k v, odGet (initKnown recs).releaseVersions k = some v →
      odGet (initKnown recs).supportedVersions k = some v) := by
  have hnd := supportedVersions_keys_nodup recs
  have hndk := knownVersions_keys_nodup recs
  refine ⟨fun h => ?_, ?_⟩
  · have key : ∀ k v, odGet (initKnown recs).supportedVersions k = some v →
        odGet (initKnown recs).knownVersions k = some v := by
      intro k v hkv
      rw [supportedVersions_eq, odGet_odFromList] at hkv
      obtain ⟨r, hr, hrk⟩ := List.mem_map.1 (lastVal_mem _ _ _ hkv)
      have := (records_agree recs h r (List.mem_filter.1 hr).1).1
      simp only [Prod.mk.injEq] at hrk
      rw [hrk.1, hrk.2] at this
      exact this
    refine ⟨key, ?_⟩
    rintro ⟨k, v⟩ he
    exact (mem_iff_odGet _ hndk k v).2 (key k v ((mem_iff_odGet _ hnd k v).1 he))
  · intro k v hkv
    rw [releaseVersions_eq, odGet_filter _ hnd] at hkv
    exact hkv.1

/-- With functional ids each derived table is the order-preserving, duplicate-free projection of
the RECORDS (first occurrences): the known names are the distinct `(id, protocol)` pairs, the
supported names those of the supported records, the release names those of the supported records
with a release name, and the supported / release number lists are the distinct protocol numbers of
those same records — not merely of the dict built before them. -/
theorem projections_of_records (recs : List Rec) (h : IdsFunctional recs) :
    (initKnown recs).knownVersions = dedup (recPairs recs) ∧
    (initKnown recs).supportedVersions = dedup (recPairs (recs.filter (·.supported))) ∧
    (initKnown recs).supportedProtocols = dedup ((recs.filter (·.supported)).map (·.protocol)) ∧
    (initKnown recs).releaseVersions
      = dedup (recPairs (recs.filter fun r => r.supported && isRelease r.id)) ∧
    (initKnown recs).releaseProtocols
      = dedup ((recs.filter fun r => r.supported && isRelease r.id).map (·.protocol)) := by
  have hk : (initKnown recs).knownVersions = dedup (recPairs recs) := by
    rw [knownVersions_eq]; exact odFromList_eq_dedup _ h.pairs
  have hs : (initKnown recs).supportedVersions = dedup (recPairs (recs.filter (·.supported))) := by
    rw [supportedVersions_eq]; exact odFromList_eq_dedup _ (h.filter _).pairs
  have hr : (initKnown recs).releaseVersions
      = dedup (recPairs (recs.filter fun r => r.supported && isRelease r.id)) := by
    rw [releaseVersions_eq, hs, ← dedup_filter]
    congr 1
    simp only [recPairs, List.filter_map, List.filter_filter]
    congr 1
    apply List.filter_congr
    intro r _
    simp [Bool.and_comm]
  refine ⟨hk, hs, ?_, hr, ?_⟩
  · rw [supportedProtocols_eq, hs, dedup_map_dedup, recPairs, List.map_map]
    rfl
  · rw [releaseProtocols_eq, hr, dedup_map_dedup, recPairs, List.map_map]
    rfl

/-! ## (b) Numeric order, as a statement about the predicates -/

/-- If the known versions selected by `p` appear in strictly increasing numeric order, then on
them all five predicates are the numeric comparisons: `earlier a b` is `a < b`, `earlier_eq` is
`≤`, `later` is `>`, `later_eq` is `≥`, and `in_range v start end` is `start ≤ v < end`. -/
theorem numeric_on_sorted_class (recs : List Rec) (p : Nat → Bool)
    (hs : ((initKnown recs).knownProtocols.filter p).Pairwise (· < ·)) :
    (∀ a ∈ (initKnown recs).knownProtocols, ∀ b ∈ (initKnown recs).knownProtocols,
      p a = true → p b = true →
        earlier (initKnown recs) a b = .ok (decide (a < b)) ∧
        earlierEq (initKnown recs) a b = .ok (decide (a ≤ b)) ∧
        later (initKnown recs) a b = .ok (decide (b < a)) ∧
        laterEq (initKnown recs) a b = .ok (decide (b ≤ a))) ∧
    (∀ v ∈ (initKnown recs).knownProtocols, ∀ s ∈ (initKnown recs).knownProtocols,
      ∀ e ∈ (initKnown recs).knownProtocols, p v = true → p s = true → p e = true →
        inRange (initKnown recs) v s e = .ok (decide (s ≤ v ∧ v < e))) :=
  numeric_on_sorted (indexed_initKnown recs) (p · = true) (by simpa using hs)

/-- LIVE DATA: on the ordinary protocol numbers (no 2^30 bit) of the shipped version list the
five predicates are the numeric comparisons. -/
theorem live_ordinary_numeric :
    (∀ a ∈ liveTables.knownProtocols, ∀ b ∈ liveTables.knownProtocols, a < 2 ^ 30 → b < 2 ^ 30 →
        earlier liveTables a b = .ok (decide (a < b)) ∧
        earlierEq liveTables a b = .ok (decide (a ≤ b)) ∧
        later liveTables a b = .ok (decide (b < a)) ∧
        laterEq liveTables a b = .ok (decide (b ≤ a))) ∧
    (∀ v ∈ liveTables.knownProtocols, ∀ s ∈ liveTables.knownProtocols,
      ∀ e ∈ liveTables.knownProtocols, v < 2 ^ 30 → s < 2 ^ 30 → e < 2 ^ 30 →
        inRange liveTables v s e = .ok (decide (s ≤ v ∧ v < e))) :=
  numeric_on_sorted indexed_live (· < 2 ^ 30) C08.ordinary_numbers_monotone

/-- LIVE DATA: the pre-release numbers (2^30 bit set) of the shipped list are compared by
publication order, which for them coincides with the numeric order of the flagged numbers. -/
theorem live_pre_numeric :
    (∀ a ∈ liveTables.knownProtocols, ∀ b ∈ liveTables.knownProtocols, 2 ^ 30 ≤ a → 2 ^ 30 ≤ b →
        earlier liveTables a b = .ok (decide (a < b)) ∧
        earlierEq liveTables a b = .ok (decide (a ≤ b)) ∧
        later liveTables a b = .ok (decide (b < a)) ∧
        laterEq liveTables a b = .ok (decide (b ≤ a))) ∧
    (∀ v ∈ liveTables.knownProtocols, ∀ s ∈ liveTables.knownProtocols,
      ∀ e ∈ liveTables.knownProtocols, 2 ^ 30 ≤ v → 2 ^ 30 ≤ s → 2 ^ 30 ≤ e →
        inRange liveTables v s e = .ok (decide (s ≤ v ∧ v < e))) :=
  numeric_on_sorted indexed_live (2 ^ 30 ≤ ·) C08.pre_numbers_monotone

/-! ## (c) Chronological lists -/

/-- A list of known versions whose ranks increase is chronological in the sense of
`protocol_earlier`: every element is earlier than every later element of the list. -/
theorem earlier_of_rank_sorted (recs : List Rec) (l : List Nat)
    (hsub : ∀ p ∈ l, p ∈ (initKnown recs).knownProtocols)
    (h : (l.map fun v => (initKnown recs).knownProtocols.idxOf v).Pairwise (· < ·)) :
    l.Pairwise (fun a b => earlier (initKnown recs) a b = .ok true ∧
      later (initKnown recs) b a = .ok true) :=
  (indexed_initKnown recs).earlier_of_rank_sorted l hsub h

/-- LIVE DATA: the release numbers are ordinary numbers in strictly increasing numeric order, and
the three number lists are nested as SUBLISTS (same relative order, nothing repeated). -/
theorem live_lists_nested :
    liveTables.releaseProtocols.Pairwise (· < ·) ∧
    (∀ p ∈ liveTables.releaseProtocols, p < 2 ^ 30) ∧
    liveTables.releaseProtocols.Sublist liveTables.supportedProtocols ∧
    liveTables.supportedProtocols.Sublist liveTables.knownProtocols := by
  decide +kernel

/-- LIVE DATA: `RELEASE_PROTOCOL_VERSIONS` is in chronological order (strictly increasing rank in
`KNOWN_PROTOCOL_VERSIONS`) — the twin of `C08.supported_sorted_by_index`. -/
theorem live_release_sorted_by_index :
    (liveTables.releaseProtocols.map fun v => liveTables.knownProtocols.idxOf v).Pairwise (· < ·) := by
  obtain ⟨-, -, hrs, hsk⟩ := live_lists_nested
  exact pairwise_idxOf_of_sublist (hrs.trans hsk) live_knownProtocols_nodup

/-- LIVE DATA: in both number lists every element is `protocol_earlier` than every element after
it. -/
theorem live_release_chronological :
    liveTables.releaseProtocols.Pairwise (fun a b => earlier liveTables a b = .ok true ∧
      later liveTables b a = .ok true) ∧
    liveTables.supportedProtocols.Pairwise (fun a b => earlier liveTables a b = .ok true ∧
      later liveTables b a = .ok true) :=
  ⟨indexed_live.earlier_of_rank_sorted _
      (fun _ hp => live_supportedProtocols_known (live_releaseProtocols_supported hp))
      live_release_sorted_by_index,
    indexed_live.earlier_of_rank_sorted _ (fun _ hp => live_supportedProtocols_known hp)
      live_supported_sorted⟩

/-! ## (a) on the live data -/

/-- LIVE DATA: no id of the shipped record list is used for two protocol numbers (the list does
repeat an id: `'14w29a'` occurs twice with the same number). -/
theorem live_ids_functional : IdsFunctional liveRecords := by
  rw [ids_functional_iff, C08.model_eq_live]
  exact (checkTables_sound liveRecords liveTables liveTables_checked).2

/-- LIVE DATA: the shipped tables agree: `SUPPORTED[id] = KNOWN[id]` and `RELEASE[id] =
SUPPORTED[id]` wherever the left side exists, every supported item is a known item, and every
record's id maps to the record's own number. -/
theorem live_tables_agree :
    (∀ k v, odGet liveTables.supportedVersions k = some v →
      odGet liveTables.knownVersions k = some v) ∧
    (∀ e ∈ liveTables.supportedVersions, e ∈ liveTables.knownVersions) ∧
    (∀ k v, odGet liveTables.releaseVersions k = some v →
      odGet liveTables.supportedVersions k = some v) ∧
    (∀ r ∈ liveRecords, odGet liveTables.knownVersions r.id = some r.protocol) := by
  have h := tables_agree liveRecords
  have h2 := (ids_functional_iff liveRecords).1 live_ids_functional
  rw [C08.model_eq_live] at h h2
  exact ⟨(h.1 live_ids_functional).1, (h.1 live_ids_functional).2, h.2, h2⟩

/-- LIVE DATA: the five derived name/number tables are the first-occurrence projections of the
shipped records themselves. -/
theorem live_projections :
    liveTables.knownVersions = dedup (recPairs liveRecords) ∧
    liveTables.supportedVersions = dedup (recPairs (liveRecords.filter (·.supported))) ∧
    liveTables.supportedProtocols = dedup ((liveRecords.filter (·.supported)).map (·.protocol)) ∧
    liveTables.releaseVersions
      = dedup (recPairs (liveRecords.filter fun r => r.supported && isRelease r.id)) ∧
    liveTables.releaseProtocols
      = dedup ((liveRecords.filter fun r => r.supported && isRelease r.id).map (·.protocol)) := by
  have h := projections_of_records liveRecords live_ids_functional
  rw [C08.model_eq_live] at h
  exact h

/-! ## (d) Sharing by reference -/

/-- THE REAL CODE IS TRANSPARENT.  After ANY history `ops` of record edits, in-place edits of the
supported dict, re-initialisations in either mode, and context actions, started from an import with
ANY record list:
1. every module still has the bindings it got at import time and no object was created;
2. `utility` and `connection` name the very objects `minecraft` names;
3. the seven tables `minecraft` shows, and the record list, are those of the value model of
   `Props/C08.lean` run over the same history;
4. the dict `utility.protocol_earlier` subscripts, and the four tables `connection` uses, are those
   same tables. -/
theorem by_reference_transparent (recs0 : List Rec) (ops : List Op) :
    let w := runW Code.real (boot Code.real recs0) ops
    (w.mc = (boot Code.real recs0).mc ∧ w.utilIdx = (boot Code.real recs0).utilIdx ∧
      w.conn = (boot Code.real recs0).conn ∧
      w.heap.ods.length = 3 ∧ w.heap.lsts.length = 3 ∧ w.heap.idxs.length = 1) ∧
    (w.utilIdx = w.mc.indices ∧
      w.conn = ⟨w.mc.knownVersions, w.mc.supportedVersions, w.mc.supportedProtocols,
                w.mc.indices⟩) ∧
    (tablesOf w = (valRun recs0 ops).tables ∧ w.records = (valRun recs0 ops).records) ∧
    (utilDict w = (valRun recs0 ops).tables.indices ∧
      w.heap.od w.conn.knownVersions = (valRun recs0 ops).tables.knownVersions ∧
      w.heap.od w.conn.supportedVersions = (valRun recs0 ops).tables.supportedVersions ∧
      w.heap.lst w.conn.supportedProtocols = (valRun recs0 ops).tables.supportedProtocols ∧
      w.heap.idx w.conn.indices = (valRun recs0 ops).tables.indices) := by
  intro w
  obtain ⟨hw, ht, hr⟩ := runW_real (boot Code.real recs0) (wf_boot recs0) ops
  rw [tablesOf_boot, records_boot] at ht hr
  have hv := views_of_wf w hw
  have hb := wf_boot recs0
  refine ⟨⟨hw.mc.trans hb.mc.symm, hw.util.trans hb.util.symm, hw.conn.trans hb.conn.symm,
    hw.ods, hw.lsts, hw.idxs⟩, ⟨?_, ?_⟩, ⟨ht, hr⟩, ?_⟩
  · rw [hw.util, hw.mc]; rfl
  · rw [hw.conn, hw.mc]; rfl
  · have ht' : tablesOf w = (valRun recs0 ops).tables := ht
    rw [← ht']
    exact hv

/-- In the real code a context answers — at ANY point of ANY history, however long ago it was
created and whatever it was asked before — exactly what the value model says for its CURRENT
version on the tables as they are NOW; the call changes nothing.  The same holds for the two
functions of `utility` called directly. -/
theorem context_answers_current (recs0 : List Rec) (ops : List Op) :
    let w := runW Code.real (boot Code.real recs0) ops
    (∀ c cx, w.ctxs[c]? = some cx → ∀ p a b,
      step Code.real w (.call c p a b)
        = (w, some (predVal (valRun recs0 ops).tables cx.pv p a b))) ∧
    (∀ a b, utilEarlier w a b = earlier (valRun recs0 ops).tables a b ∧
      utilEarlierEq w a b = earlierEq (valRun recs0 ops).tables a b) := by
  intro w
  obtain ⟨hw, ht, _⟩ := runW_real (boot Code.real recs0) (wf_boot recs0) ops
  rw [tablesOf_boot, records_boot] at ht
  have ht' : tablesOf w = (valRun recs0 ops).tables := ht
  refine ⟨fun c cx hc p a b => ?_, fun a b => ?_⟩
  · rw [← ht']; exact call_real w hw c cx hc p a b
  · have h1 := ctxCallReal_eq (tablesOf w) (some a) .earlier b 0
    have h2 := ctxCallReal_eq (tablesOf w) (some a) .earlierEq b 0
    rw [← (views_of_wf w hw).1, ht'] at h1 h2
    exact ⟨h1, h2⟩

/-- EXTENSION AT RUN TIME, END TO END.  Whatever happened before (`ops`), once the user has put
`recs` into the record list and called `initglobals(use_known_records=True)`, and whatever context
actions follow (`tail`): `minecraft` shows exactly `initKnown recs` — so every theorem of
`Props/C08.lean` applies —, `utility` compares by it, and EVERY context that exists, including all
those created during `ops` (they are all still there), answers by it. -/
theorem rebuild_after_history (recs0 : List Rec) (ops : List Op) (recs : List Rec)
    (tail : List Op) (htail : ∀ op ∈ tail, Op.isCtx op = true) :
    let w := runW Code.real (boot Code.real recs0) (ops ++ .setRecords recs :: .init true :: tail)
    tablesOf w = initKnown recs ∧
    utilDict w = (initKnown recs).indices ∧
    (∀ a b, utilEarlier w a b = earlier (initKnown recs) a b ∧
      utilEarlierEq w a b = earlierEq (initKnown recs) a b) ∧
    (∀ c cx, w.ctxs[c]? = some cx → ∀ p a b,
      step Code.real w (.call c p a b) = (w, some (predVal (initKnown recs) cx.pv p a b))) ∧
    (runW Code.real (boot Code.real recs0) (ops ++ [.setRecords recs, .init true])).ctxs
      = (runW Code.real (boot Code.real recs0) ops).ctxs := by
  intro w
  have hval : (valRun recs0 (ops ++ .setRecords recs :: .init true :: tail)).tables
      = initKnown recs := by
    unfold valRun
    rw [List.foldl_append, List.foldl_cons, List.foldl_cons, foldl_valStep_ctx _ tail htail]
    show initKnownFrom _ recs = initKnown recs
    rw [initKnownFrom_eq_spec, initKnown_eq_spec]
  have h1 := by_reference_transparent recs0 (ops ++ .setRecords recs :: .init true :: tail)
  have h2 := context_answers_current recs0 (ops ++ .setRecords recs :: .init true :: tail)
  simp only [hval] at h1 h2
  obtain ⟨-, -, ⟨htab, -⟩, hidx, -⟩ := h1
  refine ⟨htab, hidx, h2.2, h2.1, ?_⟩
  rw [runW_append]
  rfl

/-- For the real code, replacing the records and re-initialising produces LITERALLY the state of
an import with those records (same heap, same bindings): nothing of the earlier list survives
anywhere. -/
theorem restart_is_import (recs0 recs : List Rec) :
    runW Code.real (boot Code.real recs0) [.setRecords recs, .init true] = boot Code.real recs :=
  restart_eq_boot recs0 recs

/-- Why seeded change C08-m2 passed every earlier check: at import time it is invisible — for EVERY
record list the state after import shows the same tables to every module as the real code
does. -/
theorem m2_invisible_at_import (recs : List Rec) :
    tablesOf (boot Code.m2 recs) = initKnown recs ∧
    utilDict (boot Code.m2 recs) = (initKnown recs).indices ∧
    (boot Code.m2 recs).heap.idx (boot Code.m2 recs).conn.indices = (initKnown recs).indices ∧
    (boot Code.m2 recs).utilIdx = (boot Code.m2 recs).mc.indices := by
  have h : initglobals true recs (deref ⟨[[], [], []], [[], [], []], [[]]⟩ ⟨0, 0, 1, 0, 1, 2, 2⟩)
      = initKnown recs := rfl
  have hf := fresh_idx_eq recs
  simp only [boot, initCore, Code.m2, Bool.and_self, if_true, h, hf]
  exact ⟨rfl, rfl, rfl, trivial⟩

/-! ### Insertion in the middle of the record list -/

/-- Inserting records anywhere in the list never changes a comparison between two versions that
are not among the inserted numbers — as results, `KeyError` included — and hence no `in_range`
among three such versions. -/
theorem insert_order_unchanged (pre ins post : List Rec) (a b : Nat)
    (ha : a ∉ ins.map (·.protocol)) (hb : b ∉ ins.map (·.protocol)) :
    earlier (initKnown (pre ++ ins ++ post)) a b = earlier (initKnown (pre ++ post)) a b ∧
    earlierEq (initKnown (pre ++ ins ++ post)) a b = earlierEq (initKnown (pre ++ post)) a b ∧
    (∀ c, c ∉ ins.map (·.protocol) →
      inRange (initKnown (pre ++ ins ++ post)) a b c = inRange (initKnown (pre ++ post)) a b c) := by
  have key : ∀ x y, x ∉ ins.map (·.protocol) → y ∉ ins.map (·.protocol) →
      earlier (initKnown (pre ++ ins ++ post)) x y = earlier (initKnown (pre ++ post)) x y ∧
      earlierEq (initKnown (pre ++ ins ++ post)) x y
        = earlierEq (initKnown (pre ++ post)) x y := by
    intro x y hx hy
    -- drop the inserted numbers from both known lists: `x` and `y` are not among them
    refine earlier_congr (indexed_initKnown _) (indexed_initKnown _)
      (fun z => decide (z ∉ ins.map (·.protocol))) (decide_eq_true hx) (decide_eq_true hy) ?_
    have : (ins.map (·.protocol)).filter (fun z => decide (z ∉ ins.map (·.protocol))) = [] :=
      List.filter_eq_nil_iff.2 fun z hz => by simpa using hz
    simp only [knownProtocols_eq, ← dedup_filter, List.map_append, List.filter_append, this,
      List.append_nil]
  refine ⟨(key a b ha hb).1, (key a b ha hb).2, fun c hc => ?_⟩
  unfold inRange
  rw [(key a c ha hc).1, (key b a hb ha).2]

/-- Inserting records whose protocol numbers are all NEW (`fresh`): with `A` the known list of the
records before the insertion point, the old known list is `A ++ X` and the new one is
`A ++ N ++ X` with `N` the distinct inserted numbers; every comparison and `in_range` among
previously known versions is unchanged; and the index of a previously known version is unchanged
inside `A` and grows by `|N|` after it. -/
theorem insert_fresh (pre ins post : List Rec)
    (fresh : ∀ p ∈ ins.map (·.protocol), p ∉ (initKnown (pre ++ post)).knownProtocols) :
    (∃ X, (initKnown (pre ++ post)).knownProtocols = (initKnown pre).knownProtocols ++ X ∧
      (initKnown (pre ++ ins ++ post)).knownProtocols
        = (initKnown pre).knownProtocols ++ dedup (ins.map (·.protocol)) ++ X) ∧
    (∀ a ∈ (initKnown (pre ++ post)).knownProtocols,
      ∀ b ∈ (initKnown (pre ++ post)).knownProtocols,
      earlier (initKnown (pre ++ ins ++ post)) a b = earlier (initKnown (pre ++ post)) a b ∧
      earlierEq (initKnown (pre ++ ins ++ post)) a b = earlierEq (initKnown (pre ++ post)) a b ∧
      (∀ c ∈ (initKnown (pre ++ post)).knownProtocols,
        inRange (initKnown (pre ++ ins ++ post)) a b c
          = inRange (initKnown (pre ++ post)) a b c)) ∧
    (∀ a i, index (initKnown (pre ++ post)) a = some i →
      index (initKnown (pre ++ ins ++ post)) a
        = some (if i < (initKnown pre).knownProtocols.length then i
                else i + (dedup (ins.map (·.protocol))).length)) := by
  have hfresh : ∀ p ∈ ins.map (·.protocol),
      p ∉ pre.map (·.protocol) ∧ p ∉ post.map (·.protocol) := by
    intro p hp
    have := fresh p hp
    rw [knownProtocols_eq, mem_dedup, List.map_append, List.mem_append, not_or] at this
    exact this
  have hnot : ∀ a ∈ (initKnown (pre ++ post)).knownProtocols, a ∉ ins.map (·.protocol) :=
    fun a ha hm => fresh a hm ha
  obtain ⟨c1, c2⟩ := dedup_insert_fresh (pre.map (·.protocol)) (ins.map (·.protocol))
    (post.map (·.protocol)) hfresh
  have hold : (initKnown (pre ++ post)).knownProtocols = (initKnown pre).knownProtocols ++
      (dedup (post.map (·.protocol))).filter
        (fun y => decide (y ∉ dedup (pre.map (·.protocol)))) := by
    rw [knownProtocols_eq, knownProtocols_eq, List.map_append]; exact c1
  have hnew : (initKnown (pre ++ ins ++ post)).knownProtocols = (initKnown pre).knownProtocols ++
      dedup (ins.map (·.protocol)) ++ (dedup (post.map (·.protocol))).filter
        (fun y => decide (y ∉ dedup (pre.map (·.protocol)))) := by
    rw [knownProtocols_eq, knownProtocols_eq, List.map_append, List.map_append]; exact c2
  refine ⟨⟨_, hold, hnew⟩, ?_, ?_⟩
  · intro a ha b hb
    have h := insert_order_unchanged pre ins post a b (hnot a ha) (hnot b hb)
    exact ⟨h.1, h.2.1, fun c hc => h.2.2 c (hnot c hc)⟩
  · intro a i hi
    rw [(indexed_initKnown _).index] at hi
    by_cases ha : a ∈ (initKnown (pre ++ post)).knownProtocols
    · rw [if_pos ha] at hi
      have hi' := Option.some.inj hi
      have hanew : a ∈ (initKnown (pre ++ ins ++ post)).knownProtocols := by
        rw [hnew]; rw [hold] at ha
        rcases List.mem_append.1 ha with h | h
        · exact List.mem_append_left _ (List.mem_append_left _ h)
        · exact List.mem_append_right _ h
      rw [(indexed_initKnown _).index, if_pos hanew, hnew, ← hi', hold]
      congr 1
      exact idxOf_insert_shift _ _ _ a (fun h => hnot a ha ((mem_dedup _ _).1 h))
    · rw [if_neg ha] at hi; cases hi

/-! ## Non-vacuity and the refutations of the changed code -/

/-- a list with a repeated id and a repeated protocol that IS functional -/
def good : List Rec :=
  [⟨"1.17", 755, true⟩, ⟨"21w44a", 1073741872, false⟩, ⟨"1.18", 757, true⟩, ⟨"1.18.1", 757, true⟩,
   ⟨"1.18", 757, false⟩, ⟨"1.19", 759, true⟩]

example : IdsFunctional good ∧ ¬ IdsFunctional C08.sample := by decide +kernel

-- the agreement theorems are not vacuous: `good` has supported and release entries …
example : odGet (initKnown good).supportedVersions "1.18" = some 757 ∧
    odGet (initKnown good).knownVersions "1.18" = some 757 ∧
    odGet (initKnown good).releaseVersions "1.18.1" = some 757 ∧
    (initKnown good).supportedProtocols = [755, 757, 759] := by decide +kernel

-- … and the hypothesis cannot be dropped.  THE CHANGE THE AUDIT DESCRIBES (a supported id listed
-- again later with another number, `C08.sample`) passes every theorem of `Props/C08.lean`, but
-- violates the conclusions of `records_agree`, `tables_agree` and `projections_of_records`:
example :
    ¬ (∀ k v, odGet (initKnown C08.sample).supportedVersions k = some v →
        odGet (initKnown C08.sample).knownVersions k = some v) :=
  fun h => absurd (h "1.18" 757 (by decide +kernel)) (by decide +kernel)

example : ¬ (∀ r ∈ C08.sample, odGet (initKnown C08.sample).knownVersions r.id = some r.protocol) := by
  decide +kernel

example : (initKnown C08.sample).supportedVersions
    ≠ dedup (recPairs (C08.sample.filter (·.supported))) := by decide +kernel

-- (b) hypotheses satisfiable, and the predicates are NOT numeric across the two classes
example : 47 ∈ liveTables.knownProtocols ∧ 757 ∈ liveTables.knownProtocols ∧
    1073741825 ∈ liveTables.knownProtocols ∧ 1073741884 ∈ liveTables.knownProtocols := by
  decide +kernel
example : earlier liveTables 1073741825 754 = .ok true ∧ earlier liveTables 754 1073741825 = .ok false ∧
    earlier liveTables 47 757 = .ok true ∧ inRange liveTables 340 47 757 = .ok true := by
  decide +kernel
-- a list on which the selected class is NOT increasing fails the conclusion
example : earlier (initKnown [⟨"b", 20, true⟩, ⟨"a", 10, true⟩]) 10 20 = .ok false := by
  decide +kernel

-- (c) non-trivial lists
example : liveTables.releaseProtocols.length = 32 ∧ 100 ≤ liveTables.supportedProtocols.length := by
  decide +kernel
-- a (made-up) list whose release numbers come out of chronological order exists, so (c) is a fact
-- about the data, not about `initglobals`
example : (initKnown [⟨"x", 5, true⟩, ⟨"1.1", 6, true⟩, ⟨"1.0", 5, true⟩]).releaseProtocols = [6, 5] ∧
    (initKnown [⟨"x", 5, true⟩, ⟨"1.1", 6, true⟩, ⟨"1.0", 5, true⟩]).supportedProtocols = [5, 6] := by
  decide +kernel

/-! ### (d): the two seeded changes -/

def r2 : List Rec := [⟨"1.17", 755, true⟩, ⟨"1.18", 757, true⟩]
def r2' : List Rec := r2 ++ [⟨"1.19", 759, true⟩]

/-- the history of `rebuild_after_history` with a context made before and one made after -/
def h2 : List Op := [.newCtx (some 757)] ++ .setRecords r2' :: .init true :: [.newCtx (some 759)]

-- the real code on this instance: as the theorems say
example :
    let w := runW Code.real (boot Code.real r2) h2
    tablesOf w = initKnown r2' ∧ utilDict w = (initKnown r2').indices ∧
    utilEarlier w 757 759 = .ok true ∧
    (step Code.real w (.call 0 .earlier 759 0)).2 = some (.ok true) ∧
    (step Code.real w (.call 1 .later 757 0)).2 = some (.ok true) ∧
    w.utilIdx = w.mc.indices := by decide +kernel

/-- SEEDED CHANGE C08-m2 (index dict rebound instead of updated in place) violates
`by_reference_transparent` (2., 4.) and `rebuild_after_history`: all seven tables of `minecraft`
are right, but `utility` still holds the import-time dict, so comparisons with the new version
raise `KeyError` — for the old context and for a context created after the rebuild. -/
example :
    let w := runW Code.m2 (boot Code.m2 r2) h2
    tablesOf w = initKnown r2' ∧
    utilDict w ≠ (initKnown r2').indices ∧
    w.utilIdx ≠ w.mc.indices ∧
    utilEarlier w 757 759 = .error .other ∧ earlier (initKnown r2') 757 759 = .ok true ∧
    (step Code.m2 w (.call 0 .earlier 759 0)).2 = some (.error .other) ∧
    predVal (initKnown r2') (some 757) .earlier 759 0 = .ok true ∧
    (step Code.m2 w (.call 1 .later 757 0)).2 = some (.error .other) ∧
    predVal (initKnown r2') (some 759) .later 757 0 = .ok true := by decide +kernel

def r3 : List Rec := [⟨"a", 10, true⟩, ⟨"b", 20, true⟩, ⟨"c", 30, false⟩, ⟨"d", 40, true⟩]
def r3' : List Rec :=
  [⟨"a", 10, true⟩, ⟨"x", 15, false⟩, ⟨"b", 20, true⟩, ⟨"c", 30, false⟩, ⟨"d", 40, true⟩]

/-- a context for version 20 is created and USED, then 15 is inserted before it and the tables
are rebuilt -/
def h3 : List Op :=
  [.newCtx (some 20), .call 0 .earlier 30 0] ++ .setRecords r3' :: .init true :: []

example :
    let w := runW Code.real (boot Code.real r3) h3
    (step Code.real w (.call 0 .earlier 20 0)).2 = some (.ok false) ∧
    (step Code.real w (.call 0 .laterEq 20 0)).2 = some (.ok true) ∧
    (step Code.real w (.call 0 .later 15 0)).2 = some (.ok true) := by decide +kernel

/-- SEEDED CHANGE C08-m3 (a context remembers the index of its own version) violates
`context_answers_current` / `rebuild_after_history`: the old context says 20 is earlier than 20,
not later-or-equal to 20, and both earlier-or-equal and later-or-equal to 15, where the rebuilt
order (`predVal (initKnown r3')`) says the opposite.  `insert_fresh` explains the off-by-one: the
index of 20 moved from 1 to 2. -/
example :
    let w := runW Code.m3 (boot Code.m3 r3) h3
    (step Code.m3 w (.call 0 .earlier 20 0)).2 = some (.ok true) ∧
    predVal (initKnown r3') (some 20) .earlier 20 0 = .ok false ∧
    (step Code.m3 w (.call 0 .laterEq 20 0)).2 = some (.ok false) ∧
    predVal (initKnown r3') (some 20) .laterEq 20 0 = .ok true ∧
    (step Code.m3 w (.call 0 .earlierEq 15 0)).2 = some (.ok true) ∧
    predVal (initKnown r3') (some 20) .earlierEq 15 0 = .ok false ∧
    index (initKnown r3) 20 = some 1 ∧ index (initKnown r3') 20 = some 2 := by decide +kernel

-- `insert_fresh` / `insert_order_unchanged`: hypotheses satisfiable (15 is new), conclusion
-- non-trivial (an index does move); and freshness is needed for the closed form: inserting a number
-- that occurs LATER in the list moves that version forward
example : (∀ p ∈ ([⟨"x", 15, false⟩] : List Rec).map (·.protocol),
      p ∉ (initKnown ([⟨"a", 10, true⟩] ++ [⟨"b", 20, true⟩, ⟨"c", 30, false⟩])).knownProtocols) ∧
    index (initKnown ([⟨"a", 10, true⟩] ++ [⟨"x", 15, false⟩] ++ [⟨"b", 20, true⟩])) 20 = some 2 := by
  decide +kernel
example : earlier (initKnown ([⟨"a", 10, true⟩] ++ [⟨"y", 30, false⟩] ++
      [⟨"b", 20, true⟩, ⟨"c", 30, false⟩])) 30 20 = .ok true ∧
    earlier (initKnown ([⟨"a", 10, true⟩] ++ [⟨"b", 20, true⟩, ⟨"c", 30, false⟩])) 30 20
      = .ok false := by decide +kernel

/-! ### The by-reference model against the live code

`Generated/C08Live.lean` (written by `harness/gen/c08live.py`) holds histories that were performed
on the REAL library, each on a fresh interpreter: import (shipped records), then
`KNOWN_MINECRAFT_VERSION_RECORDS[:] = recs; initglobals(True)`, then the listed actions; and what
the three modules showed at the end (answers of the calls, `KeyError` included; all tables as
`minecraft`, `utility` and `connection` see them; the `is` tests between their objects). -/

/-- The by-reference model of the real code, started from an import with the shipped records and
run over each recorded history, reproduces exactly what the live code showed — re-established on
every run from the regenerated table.  (A library with C08-m2 or C08-m3 applied yields a table
on which this fails.) -/
theorem model_eq_live_runs :
    ∀ h ∈ Gen.C08Live.liveRuns,
      observe Code.real liveRecords (.setRecords h.1 :: .init true :: h.2.1) = h.2.2 := by
  decide +kernel

example : Gen.C08Live.liveRuns.length ≥ 20 := by decide +kernel

-- the same table is NOT reproduced by the models of the two seeded changes (for C08-m2 the model is
-- imported with the history's own records instead of the 450 shipped ones, to keep the kernel
-- evaluation short; for the real code that makes no difference, `restart_is_import`)
example : ¬ ∀ h ∈ Gen.C08Live.liveRuns,
    observe Code.m2 h.1 (.setRecords h.1 :: .init true :: h.2.1) = h.2.2 := by
  decide +kernel
example : ¬ ∀ h ∈ Gen.C08Live.liveRuns,
    observe Code.m3 liveRecords (.setRecords h.1 :: .init true :: h.2.1) = h.2.2 := by
  decide +kernel

end PyCraft.C08Live
