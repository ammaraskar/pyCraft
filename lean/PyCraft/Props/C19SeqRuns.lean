import PyCraft.Generated.C19Seq
import PyCraft.Lemmas.C19Seq
/-!
# C19 — the model of `Model/C19Seq.lean` against observed PROGRAM RUNS of the live code

`Generated/C19Seq.lean` (written by `harness/gen/c19seq.py` from whatever `/repo` contains when it
runs) holds six whole program runs of the real `AuthenticationToken`: several tokens, every
operation, success and error replies, transport failures, members of unexpected JSON types, with
every HTTP exchange intercepted inside `requests` AFTER the request was prepared.  The theorems
below say the model predicts every entry.  A change of the code that alters what is sent (method,
URL, headers, body, timeout), what is returned or raised (including the text of the exception),
what is stored, or that makes tokens share state, makes one of them fail at the next regeneration.
-/
namespace PyCraft.C19Seq
open PyCraft PyCraft.Json PyCraft.AuthSeq PyCraft.Gen.C19Seq

/-- Every observed program run is predicted by the model: per call the outcome (return value, or
exception class with `status_code`, `yggdrasil_error`, `yggdrasil_message`, `yggdrasil_cause` and
the text `args[0]`) and the request as `requests` prepared it (method, URL, non-default headers,
body, timeout) or its absence; and the five attributes of every token at the end. -/
theorem live_run1_agrees : liveRun1.check = true := LiveRun.check_of _ (by decide +kernel)
theorem live_run2_agrees : liveRun2.check = true := LiveRun.check_of _ (by decide +kernel)
theorem live_run3_agrees : liveRun3.check = true := LiveRun.check_of _ (by decide +kernel)
theorem live_run4_agrees : liveRun4.check = true := LiveRun.check_of _ (by decide +kernel)
theorem live_run5_agrees : liveRun5.check = true := LiveRun.check_of _ (by decide +kernel)
theorem live_run6_agrees : liveRun6.check = true := LiveRun.check_of _ (by decide +kernel)

/-- All of them (the list the generator wrote, whatever its length). -/
theorem live_runs_agree : ∀ r ∈ liveRuns, r.check = true := by
  intro r hr
  simp only [liveRuns, List.mem_cons, List.not_mem_nil, or_false] at hr
  rcases hr with rfl | rfl | rfl | rfl | rfl | rfl
  · exact live_run1_agrees
  · exact live_run2_agrees
  · exact live_run3_agrees
  · exact live_run4_agrees
  · exact live_run5_agrees
  · exact live_run6_agrees

/-- The table is not trivial: 6 runs, 44 calls, 35 of which sent a request. -/
example : liveRuns.length = 6 ∧ (liveRuns.map (·.steps.length)).sum = 44 ∧
    (liveRuns.map fun r => (r.seen.filter fun s => match s with
      | some (_, _, some _) => true
      | _ => false).length).sum = 35 := by decide +kernel

end PyCraft.C19Seq
