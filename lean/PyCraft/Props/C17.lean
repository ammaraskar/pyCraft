import PyCraft.Lemmas.McHash
/-!
# C17 — Session server hash equals Java's signed-hex SHA-1 for all inputs

`mcHash sid secret key = signedHex (sha1 (sid ++ secret ++ key))`, and for EVERY byte string `d`
(in particular every 20-byte digest) `signedHex d` is the canonical signed lower-case base-16
numeral of the two's-complement value of `d` — which is what Java's
`new BigInteger(d).toString(16)` prints.  The Lean SHA-1 is anchored to the outside world by
kernel-checked published vectors.

Only property theorems and examples live here; definitions used in the statements
(`beValue`, `parseSignedHex`, `stripMinus`, `isLowerHex`, `CanonSigned`) and all helper lemmas are in
`Lemmas/McHash.lean` (namespace `PyCraft.McHash`).  Strings are talked about through `String.toList`.
-/
namespace PyCraft.C17
open PyCraft PyCraft.McHash

/-! ## Value: the numeral denotes the two's-complement value of the digest -/

/-- Reading `signedHex d` back as a signed base-16 numeral (independent parser: optional `-`, then
one or more digits from `0-9a-f`) gives exactly the signed big-endian value of `d`. -/
theorem hex_parses_back (d : Bytes) : parseSignedHex (signedHex d) = some (fromBytesSigned d) :=
  parseSignedHex_formatHex _

/-- The signed value is the two's-complement reading: the unsigned big-endian value
(Σ byte·256^position, defined independently of the model) minus `2^(8·len)` exactly when the top bit
of the first byte is set. -/
theorem fromBytesSigned_spec (d : Bytes) :
    fromBytesSigned d =
      (beValue d : Int) - (if 128 ≤ (d.headD 0).toNat then (2 : Int) ^ (8 * d.length) else 0) := by
  cases d with
  | nil => simp [fromBytesSigned, beValue]
  | cons b rest =>
    rw [fromBytesSigned_cons]
    simp only [List.headD_cons, List.length_cons, Int.natCast_pow]
    rfl

/-- … and it lies in the two's-complement range `[-2^(8·len-1), 2^(8·len-1))`; together with
`fromBytesSigned_spec` (congruent to the unsigned value modulo `2^(8·len)`) this determines it. -/
theorem fromBytesSigned_range (d : Bytes) (h : d ≠ []) :
    -((2 : Int) ^ (8 * d.length - 1)) ≤ fromBytesSigned d ∧
      fromBytesSigned d < (2 : Int) ^ (8 * d.length - 1) := by
  cases d with
  | nil => exact absurd rfl h
  | cons b rest =>
    have := fromBytesSigned_range_cons b rest
    simp only [Int.natCast_pow] at this
    exact this

/-! ## Shape: sign, digits, no leading zeros -/

/-- The string starts with `-` exactly when the first byte of the digest is `≥ 0x80`. -/
theorem minus_iff_top_bit (d : Bytes) (h : d ≠ []) :
    (signedHex d).toList.head? = some '-' ↔ 128 ≤ (d.head h).toNat := by
  cases d with
  | nil => exact absurd rfl h
  | cons b rest =>
    rw [signedHex, formatHex_toList, formatHexChars_head_minus_iff, fromBytesSigned_neg_iff]
    rfl

/-- After removing the optional `-`, the digit string is `"0"` or does not start with `0`. -/
theorem no_leading_zero (d : Bytes) :
    stripMinus (signedHex d).toList = ['0'] ∨
      ∃ c cs, stripMinus (signedHex d).toList = c :: cs ∧ c ≠ '0' := by
  rw [signedHex, formatHex_toList, stripMinus_formatHexChars]
  exact toDigits16_no_leading_zero _

/-- There is no `"-0"`: a minus sign is never followed by the single digit `0`. -/
theorem no_negative_zero (d : Bytes) : (signedHex d).toList ≠ ['-', '0'] := by
  intro h
  have hc := (formatHexChars_canon (fromBytesSigned d)).2
  rw [signedHex, formatHex_toList] at h
  rw [h] at hc
  exact hc rfl rfl

/-- After the optional `-` there is at least one character and every character is in `0-9a-f`
(lower case only). -/
theorem lowercase_hex_only (d : Bytes) :
    stripMinus (signedHex d).toList ≠ [] ∧
      ∀ c ∈ stripMinus (signedHex d).toList, ('0' ≤ c ∧ c ≤ '9') ∨ ('a' ≤ c ∧ c ≤ 'f') := by
  rw [signedHex, formatHex_toList, stripMinus_formatHexChars]
  refine ⟨toDigits16_ne_nil _, fun c hc => ?_⟩
  have := toDigits16_all_hex _ c hc
  simpa [isLowerHex] using this

/-- The output is a canonical signed numeral, and it is the ONLY canonical signed numeral
(optional `-`, ≥ 1 lower-case hex digits, no leading zero, no `-0`) that denotes the
two's-complement value of `d`: any such string equals `signedHex d`.  Hence the string is exactly
`new BigInteger(d).toString(16)`. -/
theorem canonical_unique (d : Bytes) :
    CanonSigned (signedHex d).toList ∧
      ∀ s : String, CanonSigned s.toList → parseSignedHex s = some (fromBytesSigned d) →
        signedHex d = s := by
  refine ⟨?_, fun s hc hp => ?_⟩
  · rw [signedHex, formatHex_toList]
    exact formatHexChars_canon _
  · rw [← String.ofList_toList (s := s)] at hp
    have := formatHexChars_unique s.toList _ hc hp
    rw [signedHex, formatHex, this, String.ofList_toList]

/-! ## What is hashed -/

/-- The hashed message is server id, then secret, then key: the three pieces sit at offsets `0`,
`|sid|`, `|sid|+|secret|` of the SHA-1 input, and `mcHash` is `signedHex` of the SHA-1 of that. -/
theorem input_order (sid secret key : Bytes) :
    hashInput sid secret key = sid ++ secret ++ key ∧
    (hashInput sid secret key).take sid.length = sid ∧
    ((hashInput sid secret key).drop sid.length).take secret.length = secret ∧
    (hashInput sid secret key).drop (sid.length + secret.length) = key ∧
    mcHash sid secret key = signedHex (sha1 (sid ++ secret ++ key)) :=
  ⟨rfl, (hashInput_layout sid secret key).1, (hashInput_layout sid secret key).2.1,
    (hashInput_layout sid secret key).2.2, rfl⟩

/-- All of the above applied to the real thing: for every server id, secret and key the digest has
20 bytes, the server hash parses back to its two's-complement value, which lies in
`[-2^159, 2^159)`, and the hash is the canonical numeral of that value. -/
theorem mcHash_spec (sid secret key : Bytes) :
    (sha1 (sid ++ secret ++ key)).length = 20 ∧
    parseSignedHex (mcHash sid secret key) = some (fromBytesSigned (sha1 (sid ++ secret ++ key))) ∧
    -((2 : Int) ^ 159) ≤ fromBytesSigned (sha1 (sid ++ secret ++ key)) ∧
    fromBytesSigned (sha1 (sid ++ secret ++ key)) < (2 : Int) ^ 159 ∧
    CanonSigned (mcHash sid secret key).toList := by
  have hl := sha1_length (sid ++ secret ++ key)
  have hne : sha1 (sid ++ secret ++ key) ≠ [] := by
    intro h
    rw [h] at hl
    simp at hl
  have hr := fromBytesSigned_range _ hne
  rw [hl] at hr
  exact ⟨hl, hex_parses_back _, hr.1, hr.2, (canonical_unique _).1⟩

/-! ## Published vectors (checked by the kernel) -/

/-- FIPS 180 / RFC 3174 vectors for SHA-1 itself. -/
theorem sha1_empty : hexOfBytes (sha1 []) = "da39a3ee5e6b4b0d3255bfef95601890afd80709" := by
  decide +kernel

theorem sha1_abc :
    hexOfBytes (sha1 "abc".toUTF8.toList) = "a9993e364706816aba3e25717850c26c9cd0d89d" := by
  decide +kernel

/-- Two-block message (448 bits → padding spills into a second block). -/
theorem sha1_two_blocks :
    hexOfBytes (sha1 "abcdbcdecdefdefgefghfghighijhijkijkljklmklmnlmnomnopnopq".toUTF8.toList)
      = "84983e441c3bd26ebaae4aa1f95129e5e54670f1" := by
  decide +kernel

/-- The three server-hash examples published with the protocol documentation
(wiki.vg "Protocol Encryption"): positive, negative, and positive with a dropped leading zero. -/
theorem vector_Notch :
    mcHash "Notch".toUTF8.toList [] [] = "4ed1f46bbe04bc756bcb17c0c7ce3e4632f06a48" := by
  decide +kernel

theorem vector_jeb :
    mcHash "jeb_".toUTF8.toList [] [] = "-7c9d5b0044c130109a5d7b5fb5c317c02b4e28c1" := by
  decide +kernel

theorem vector_simon :
    mcHash "simon".toUTF8.toList [] [] = "88e16a1019277b15d58faf0541e11910eb756f6" := by
  decide +kernel

/-! ## Examples / non-vacuity -/

-- the UTF-8 bytes used above are the ASCII codes
example : "Notch".toUTF8.toList = [0x4e, 0x6f, 0x74, 0x63, 0x68] := by decide +kernel

-- order matters: swapping secret and key changes the hash
example : mcHash [0x61] [0x01] [0x02] ≠ mcHash [0x61] [0x02] [0x01] := by decide +kernel
-- … while only the concatenation matters (three `update` calls = one)
example : mcHash [0x61] [0x01] [0x02] = mcHash [] [0x61, 0x01] [0x02] := rfl

-- small instances of every shape
example : signedHex [0xff] = "-1" := by decide +kernel
example : signedHex [0x80, 0x00] = "-8000" := by decide +kernel
example : signedHex [0x00, 0x80] = "80" := by decide +kernel
example : signedHex [0x00, 0x00] = "0" := by decide +kernel
example : signedHex [0x0a, 0xbc] = "abc" := by decide +kernel
example : fromBytesSigned [0xff, 0x7f] = -129 := by decide +kernel
example : parseSignedHex "-7c9d" = some (-31901) := by decide +kernel
example : parseSignedHex "7C" = none := by decide +kernel
example : parseSignedHex "-" = none := by decide +kernel
example : parseSignedHex "" = none := by decide +kernel
-- hypotheses of `minus_iff_top_bit` / `fromBytesSigned_range` / `canonical_unique` are satisfiable
example : ([0x80, 0x01] : Bytes) ≠ [] := by decide
example : CanonSigned "-7c9d".toList ∧
    parseSignedHex "-7c9d" = some (fromBytesSigned [0x83, 0x63]) := by
  refine ⟨⟨⟨by decide +kernel, by decide +kernel, by decide +kernel⟩, by decide +kernel⟩,
    by decide +kernel⟩

end PyCraft.C17
