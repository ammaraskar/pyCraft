import PyCraft.Props.C01Buffer
/-!
# C01 (extension) — the exact operation sequences `read_packet` and `Packet.write` issue

`Props/C01Buffer` gives the two disciplines on a fresh buffer.  Here are the complete sequences of
the real callers, with every intermediate `get_writable` of the reassembly loop (two per further segment) and the
compressed path's second episode (`reset`, `send(decompressed)`, `reset_cursor`), so that the byte
lists the frame model (`Model/Frame.lean`) computes with are what the real buffer returns.
-/
namespace PyCraft.C01BufferFrame
open PyCraft PyCraft.PBuf PyCraft.C01Buffer

/-- The operations of `packet_data.send(stream.read(length))` followed by the reassembly loop
`while len(packet_data.get_writable()) < length: data = stream.read(length - len(packet_data.get_writable())); …;
packet_data.send(data)`: the first segment `v` is sent unconditionally, then every further segment
costs TWO `get_writable` calls (loop test, size of the next read), the `send`, and the loop test
that follows.  (The correspondence run compares exactly this sequence with the operations recorded
on the live buffer.) -/
def tailOps (vs : List Bytes) : List Op := vs.flatMap (fun v => [.getw, .send v, .getw])
def loopOps (v : Bytes) (vs : List Bytes) : List Op := .send v :: .getw :: tailOps vs

/-- What the `get_writable` calls of the loop return: before and after every further segment. -/
def seen (acc : Bytes) : List Bytes → List Bytes
  | [] => []
  | v :: vs => acc :: (acc ++ v) :: seen (acc ++ v) vs

theorem tail_sees (vs : List Bytes) : ∀ s, s.pos = s.buf.length →
    run s (tailOps vs) =
      (⟨s.buf ++ vs.flatten, s.buf.length + vs.flatten.length⟩, seen s.buf vs) := by
  induction vs with
  | nil => intro s h; cases s; simp_all [run, tailOps, seen]
  | cons v vs ih =>
    intro s h
    have ih' := ih ⟨s.buf ++ v, s.buf.length + v.length⟩ (by simp)
    simp only [tailOps, List.flatMap_cons, List.cons_append, List.nil_append, run] at ih' ⊢
    simp only [step]
    rw [show List.flatMap (fun v => [Op.getw, Op.send v, Op.getw]) vs = tailOps vs from rfl] at ih' ⊢
    simp only [tailOps] at ih'
    simp only [tailOps, h, List.take_length, Nat.le_add_right, List.drop_eq_nil_of_le, List.append_nil]
    rw [ih']
    simp [seen, List.append_assoc, Nat.add_assoc]

/-- The loop on a fresh buffer: the buffer ends as the concatenation of all segments with the cursor
at the end, and the loop saw the running concatenations. -/
theorem loop_sees_prefixes (v : Bytes) (vs : List Bytes) :
    run init (loopOps v vs) =
      (⟨v ++ vs.flatten, v.length + vs.flatten.length⟩, v :: seen v vs) := by
  have h := tail_sees vs ⟨v, v.length⟩ rfl
  simp only [loopOps, run, step, init, List.take_zero, List.nil_append, Nat.zero_add, List.drop_nil,
    List.append_nil, h]

/-- The uncompressed path of `read_packet` on a fresh buffer: reassembly loop, `reset_cursor`, then
the sized reads of the packet parser — the parser reads the consecutive pieces of the frame body. -/
theorem read_packet_plain (v : Bytes) (vs : List Bytes) (ns : List Nat) :
    (run init (loopOps v vs ++ [.rewind] ++ ns.map (fun n => .read (some n)))).2
      = (v :: seen v vs) ++ chunks (v ++ vs.flatten) ns := by
  rw [List.append_assoc, run_append, loop_sees_prefixes]
  simp only [List.cons_append, List.nil_append, run, step]
  rw [(reads_chunk ns ⟨v ++ vs.flatten, 0⟩).1]
  simp

/-- Where sized reads leave the cursor: advanced by exactly the number of bytes returned. -/
theorem reads_state (ns : List Nat) : ∀ s,
    (run s (ns.map (fun n => .read (some n)))).1
      = ⟨s.buf, s.pos + (chunks (s.buf.drop s.pos) ns).flatten.length⟩ := by
  induction ns with
  | nil => intro s; simp [run, chunks]
  | cons n ns ih =>
    intro s
    simp only [List.map_cons, run, step, chunks]
    rw [ih]
    simp only [List.flatten_cons, List.length_append]
    rw [← List.drop_drop, drop_take_length, Nat.add_assoc]

/-- The compressed path: after the loop and `reset_cursor`, `k` one-byte reads (the data-length
VarInt), `read()` for the deflated rest, then `reset`, `send(d)`, `reset_cursor` and the parser's
reads.  The VarInt reader sees the first `k` bytes one at a time, zlib gets exactly the rest, and the
parser reads the consecutive pieces of the inflated packet `d` — nothing of the compressed body
survives the `reset`. -/
theorem read_packet_compressed (v : Bytes) (vs : List Bytes) (k : Nat) (d : Bytes) (ns : List Nat) :
    (run init (loopOps v vs ++ [.rewind] ++ (List.replicate k 1).map (fun n => .read (some n))
        ++ [.read none, .reset, .send d, .rewind] ++ ns.map (fun n => .read (some n)))).2
      = (v :: seen v vs) ++ chunks (v ++ vs.flatten) (List.replicate k 1)
          ++ [((v ++ vs.flatten).drop ((chunks (v ++ vs.flatten) (List.replicate k 1)).flatten.length))]
          ++ chunks d ns := by
  have e1 : loopOps v vs ++ [Op.rewind] ++ (List.replicate k 1).map (fun n => Op.read (some n))
        ++ [Op.read none, Op.reset, Op.send d, Op.rewind] ++ ns.map (fun n => Op.read (some n))
      = loopOps v vs ++ ([Op.rewind] ++ ((List.replicate k 1).map (fun n => Op.read (some n))
        ++ ([Op.read none, Op.reset, Op.send d, Op.rewind] ++ ns.map (fun n => Op.read (some n))))) := by
    simp [List.append_assoc]
  rw [e1, run_append, loop_sees_prefixes]
  simp only [List.cons_append, List.nil_append, run, step]
  rw [run_append, reads_state, (reads_chunk (List.replicate k 1) ⟨v ++ vs.flatten, 0⟩).1]
  simp only [List.drop_zero, Nat.zero_add, run, step, init, List.take_zero, List.nil_append,
    List.drop_nil]
  rw [(reads_chunk ns ⟨d ++ [], 0⟩).1]
  simp [List.append_assoc]

/-- The COMPLETE operation sequence `read_packet` issues on its buffer, as one definition (the driver
prints it — `pbuf.rp` — and the harness compares it token by token with the operations recorded on
the live buffer): loop, `reset_cursor`, the compressed episode if a data length `k` bytes long and an
inflated packet `d` occur, then the parser's reads (`none` = `read()`). -/
def readPacketOps (v : Bytes) (vs : List Bytes) (comp : Option (Nat × Bytes))
    (rs : List (Option Nat)) : List Op :=
  loopOps v vs ++ [.rewind] ++
    (match comp with
     | none => []
     | some (k, d) =>
       (List.replicate k 1).map (fun n => .read (some n)) ++ [.read none, .reset, .send d, .rewind])
    ++ rs.map .read

/-- … and it is the sequence the two theorems above speak about. -/
theorem readPacketOps_plain (v : Bytes) (vs : List Bytes) (ns : List Nat) :
    readPacketOps v vs none (ns.map some)
      = loopOps v vs ++ [.rewind] ++ ns.map (fun n => .read (some n)) := by
  simp [readPacketOps, List.map_map, Function.comp_def]

theorem readPacketOps_compressed (v : Bytes) (vs : List Bytes) (k : Nat) (d : Bytes) (ns : List Nat) :
    readPacketOps v vs (some (k, d)) (ns.map some)
      = loopOps v vs ++ [.rewind] ++ (List.replicate k 1).map (fun n => .read (some n))
        ++ [.read none, .reset, .send d, .rewind] ++ ns.map (fun n => .read (some n)) := by
  simp [readPacketOps, List.map_map, Function.comp_def, List.append_assoc]

/-- The writer (`Packet.write` → `_write_buffer` with a threshold): the fields are sent into a fresh
buffer, `get_writable` fetches the payload, `reset`, the header and body pieces `hs` (data length,
then the deflated or the plain payload) are sent, and `get_writable` is asked twice (for the length
prefix and for the bytes handed to the socket).  The payload is exactly the fields' concatenation,
and both later calls return exactly the new pieces — nothing of the payload survives the `reset`. -/
theorem write_packet_ops (fs hs : List Bytes) :
    (run init (fs.map .send ++ [.getw, .reset] ++ hs.map .send ++ [.getw, .getw])).2
      = [fs.flatten, hs.flatten, hs.flatten] := by
  have e : fs.map Op.send ++ [Op.getw, Op.reset] ++ hs.map Op.send ++ [Op.getw, Op.getw]
      = fs.map Op.send ++ ([Op.getw, Op.reset] ++ (hs.map Op.send ++ [Op.getw, Op.getw])) := by
    simp [List.append_assoc]
  rw [e, run_append, sends_append fs init rfl]
  simp only [init, List.nil_append, List.length_nil, Nat.zero_add, List.cons_append, run, step]
  rw [run_append, sends_append hs ⟨[], 0⟩ rfl]
  simp [run, step]

-- non-vacuity: a frame arriving in three segments, plain and compressed
example : (run init (loopOps [5, 1] [[2], [3, 4]] ++ [.rewind] ++ [1, 2, 9].map (fun n => .read (some n)))).2
    = [[5, 1], [5, 1], [5, 1, 2], [5, 1, 2], [5, 1, 2, 3, 4], [5], [1, 2], [3, 4]] := by decide
example : (run init (loopOps [0x81] [[0x01, 7, 8]] ++ [.rewind]
      ++ (List.replicate 2 1).map (fun n => .read (some n))
      ++ [.read none, .reset, .send [9, 9, 9], .rewind] ++ [1, 5].map (fun n => .read (some n)))).2
    = [[0x81], [0x81], [0x81, 0x01, 7, 8], [0x81], [0x01], [7, 8], [9], [9, 9]] := by decide
example : (run init ([[5], [1, 2]].map .send ++ [.getw, .reset] ++ [[0], [5, 1, 2]].map .send
    ++ [.getw, .getw])).2 = [[5, 1, 2], [0, 5, 1, 2], [0, 5, 1, 2]] := by decide

end PyCraft.C01BufferFrame
