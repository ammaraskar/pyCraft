import PyCraft.Lemmas.Wire
/-!
# C02 — Primitive wire types encode and decode exactly as the protocol prescribes

Model: `Model/Wire.lean` (`encode` / `decode` of every type of `types/basic.py`, arbitrarily nested
`PrefixedArray`s included) and `Model/Scaled.lean` (exact arithmetic of `Angle` / `FixedPoint`).
Only property theorems and non-vacuity examples live here; helper lemmas are in `Lemmas/Wire.lean`.

The theorems are stated for an arbitrary custom codec `cc` with domain `cw` satisfying `CustomLaw`
(the instances for `Position`, records, … are proved with their models), and are instantiated
(`…_basic`) for `noCustomCodec` / `noCustomDom`, where they hold unconditionally for the library's
own basic types.
-/
namespace PyCraft.C02
open PyCraft

/-! ## big-endian integers -/

/-- Big-endian placement: `beBytes w n` is `w` bytes long and denotes `n mod 256^w`; every `w`-byte
string is the `beBytes` of its value (so `beBytes`/`beValue` are mutually inverse on `w`-byte strings
and `[0, 256^w)`); a byte string's value is below `256^length`. -/
theorem be_roundtrip (w n : Nat) (bs : Bytes) :
    beValue (beBytes w n) = n % 256 ^ w ∧ (beBytes w n).length = w ∧
    (bs.length = w → beBytes w (beValue bs) = bs) ∧ beValue bs < 256 ^ bs.length :=
  ⟨beValue_beBytes w n, beBytes_length w n, fun h => h ▸ beBytes_beValue bs, beValue_lt bs⟩

/-- The value domains of the nine fixed-width codes are the usual machine ranges. -/
theorem int_domains (v : Int) :
    (IntT.u8.inDom v ↔ 0 ≤ v ∧ v ≤ 255) ∧ (IntT.i8.inDom v ↔ -128 ≤ v ∧ v ≤ 127) ∧
    (IntT.i16.inDom v ↔ -32768 ≤ v ∧ v ≤ 32767) ∧ (IntT.u16.inDom v ↔ 0 ≤ v ∧ v ≤ 65535) ∧
    (IntT.i32.inDom v ↔ -2147483648 ≤ v ∧ v ≤ 2147483647) ∧
    (IntT.i64.inDom v ↔ -9223372036854775808 ≤ v ∧ v ≤ 9223372036854775807) ∧
    (IntT.u64.inDom v ↔ 0 ≤ v ∧ v ≤ 18446744073709551615) ∧
    (IntT.f32.inDom v ↔ 0 ≤ v ∧ v ≤ 4294967295) ∧
    (IntT.f64.inDom v ↔ 0 ≤ v ∧ v ≤ 18446744073709551615) := by
  simp only [IntT.inDom, IntT.signed, IntT.width]
  refine ⟨?_, ?_, ?_, ?_, ?_, ?_, ?_, ?_, ?_⟩ <;> simp <;> omega

/-- `struct.pack('>x', v)` / `struct.unpack`: for an in-domain `v` packing yields exactly `width`
bytes whose big-endian value is `v mod 256^width` (two's complement for negative `v`), stated without
reference to `packS`/`packU`; an out-of-domain `v` is `struct.error`; unpacking any `width` bytes
followed by anything returns the UNIQUE in-domain integer with that residue and leaves the rest. -/
theorem int_spec (t : IntT) :
    (∀ v, t.inDom v → ∃ bs, t.pack v = .ok bs ∧ bs.length = t.width ∧
        (beValue bs : Int) = v % (256 : Int) ^ t.width) ∧
    (∀ v, ¬ t.inDom v → t.pack v = .error .struct) ∧
    (∀ bs rest, bs.length = t.width → ∃ v, t.unpack (bs ++ rest) = .ok (v, rest) ∧ t.inDom v ∧
        v % (256 : Int) ^ t.width = (beValue bs : Int) ∧
        ∀ v', t.inDom v' → v' % (256 : Int) ^ t.width = (beValue bs : Int) → v' = v) ∧
    (∀ p, p.length < t.width → t.unpack p = .error .struct) :=
  ⟨t.pack_spec, t.pack_err, t.unpack_spec, t.unpack_short⟩

/-- Fixed-width round trip: an in-domain integer packs, and unpacking the bytes followed by anything
returns it and leaves exactly the rest. -/
theorem int_roundtrip (t : IntT) (v : Int) (h : t.inDom v) :
    ∃ bs, t.pack v = .ok bs ∧ bs.length = t.width ∧
      ∀ rest, t.unpack (bs ++ rest) = .ok (v, rest) := t.unpack_pack v h

/-! ## every wire type, arbitrarily nested arrays included -/

section generic
variable {cc : CustomCodec} {cw : CustomT → Value → Prop}

/-- Encoding never fails for an in-domain value — of ANY type, `trailing` and arrays of anything
included. -/
theorem enc_total (law : CustomLaw cc cw) (t : WType) (v : Value) (hw : WellTyped cw t v) :
    ∃ bs, encode cc t v = .ok bs := encode_total law t v hw

/-- Round trip: for a self-delimiting type, decoding the encoding of an in-domain value followed by
ANY other bytes returns exactly that value and leaves exactly those other bytes (so it consumed
exactly the encoding). -/
theorem dec_enc (law : CustomLaw cc cw) (t : WType) (hs : t.selfDelimiting = true) (v : Value)
    (hw : WellTyped cw t v) (rest : Bytes) :
    ∃ bs, encode cc t v = .ok bs ∧ decode cc t (bs ++ rest) = .ok (v, rest) := by
  obtain ⟨bs, h1, _, h2, _⟩ := item_main law t hs v hw
  exact ⟨bs, h1, h2 rest⟩

/-- `TrailingByteArray` round-trips when it is last: the encoding is the bytes themselves and the
reader returns everything up to the end of the buffer. -/
theorem dec_enc_trailing (v : Value) (hw : WellTyped cw .trailing v) :
    ∃ bs, encode cc .trailing v = .ok bs ∧ v = .bytes bs ∧
      decode cc .trailing bs = .ok (v, []) := by
  cases v <;> simp [WellTyped] at hw
  exact ⟨_, rfl, rfl, rfl⟩

/-- The encoding of an in-domain value of a self-delimiting type is never empty. -/
theorem enc_nonempty (law : CustomLaw cc cw) (t : WType) (hs : t.selfDelimiting = true)
    (v : Value) (hw : WellTyped cw t v) (bs : Bytes) (he : encode cc t v = .ok bs) : bs ≠ [] := by
  obtain ⟨bs', h1, h2, _⟩ := item_main law t hs v hw
  rw [he] at h1; cases h1; exact h2

/-- Truncation is detected: decoding ANY strict prefix of the encoding of an in-domain value of a
self-delimiting type raises an error — it never returns a value. -/
theorem dec_prefix_err (law : CustomLaw cc cw) (t : WType) (hs : t.selfDelimiting = true)
    (v : Value) (hw : WellTyped cw t v) (bs : Bytes) (he : encode cc t v = .ok bs)
    (p : Bytes) (hp : p <+: bs) (hne : p ≠ bs) : ∃ e, decode cc t p = .error e := by
  obtain ⟨bs', h1, _, _, h3⟩ := item_main law t hs v hw
  rw [he] at h1; cases h1; exact h3 p hp hne

end generic

/-! ### the library's own basic types, unconditionally (no custom codec plugged in) -/

theorem enc_total_basic (t : WType) (v : Value) (hw : WellTyped noCustomDom t v) :
    ∃ bs, encode noCustomCodec t v = .ok bs := enc_total noCustomLaw t v hw

theorem dec_enc_basic (t : WType) (hs : t.selfDelimiting = true) (v : Value)
    (hw : WellTyped noCustomDom t v) (rest : Bytes) :
    ∃ bs, encode noCustomCodec t v = .ok bs ∧ decode noCustomCodec t (bs ++ rest) = .ok (v, rest) :=
  dec_enc noCustomLaw t hs v hw rest

theorem enc_nonempty_basic (t : WType) (hs : t.selfDelimiting = true) (v : Value)
    (hw : WellTyped noCustomDom t v) (bs : Bytes) (he : encode noCustomCodec t v = .ok bs) :
    bs ≠ [] := enc_nonempty noCustomLaw t hs v hw bs he

theorem dec_prefix_err_basic (t : WType) (hs : t.selfDelimiting = true) (v : Value)
    (hw : WellTyped noCustomDom t v) (bs : Bytes) (he : encode noCustomCodec t v = .ok bs)
    (p : Bytes) (hp : p <+: bs) (hne : p ≠ bs) : ∃ e, decode noCustomCodec t p = .error e :=
  dec_prefix_err noCustomLaw t hs v hw bs he p hp hne

/-! ## the prescribed bytes, kind by kind -/

/-- Boolean: one byte, `01` for true and `00` for false. -/
theorem spec_bytes_bool (cc : CustomCodec) :
    encode cc .bool (.bool true) = .ok [1] ∧ encode cc .bool (.bool false) = .ok [0] := ⟨rfl, rfl⟩

/-- Fixed-width integers (and float bit patterns): `width` bytes, big-endian, two's complement. -/
theorem spec_bytes_int (cc : CustomCodec) (t : IntT) (v : Int) (h : t.inDom v) :
    ∃ bs, encode cc (.int t) (.int v) = .ok bs ∧ bs.length = t.width ∧
      (beValue bs : Int) = v % (256 : Int) ^ t.width := t.pack_spec v h

/-- VarInt / VarLong: the canonical base-128 little-endian groups of C03 (`encVarInt`); negative
values are rejected with `ValueError`. -/
theorem spec_bytes_varint (cc : CustomCodec) (v : Int) :
    (0 ≤ v → encode cc .varint (.int v) = .ok (encVarInt v.toNat) ∧
             encode cc .varlong (.int v) = .ok (encVarInt v.toNat)) ∧
    (v < 0 → encode cc .varint (.int v) = .error .value ∧
             encode cc .varlong (.int v) = .error .value) := by
  simp only [encode, encVarIntZ]
  constructor <;> intro h
  · have : ¬ v < 0 := by omega
    simp [this]
  · simp [h]

/-- `utf8` really is an encoding that the strict decoder inverts. -/
theorem utf8_roundtrip (s : String) : utf8Decode (utf8 s) = some s := PyCraft.utf8_roundtrip s

/-- String: VarInt byte count, then the UTF-8 bytes. -/
theorem spec_bytes_string (cc : CustomCodec) (s : String) :
    encode cc .string (.str s) = .ok (encVarInt (utf8 s).length ++ utf8 s) := rfl

/-- UUID: exactly the 16 bytes (anything else is `ValueError`). -/
theorem spec_bytes_uuid (cc : CustomCodec) (b : Bytes) :
    (b.length = 16 → encode cc .uuid (.bytes b) = .ok b) ∧
    (b.length ≠ 16 → encode cc .uuid (.bytes b) = .error .value) := by
  simp only [encode]
  constructor <;> intro h <;> simp [h]

/-- Angle: the step `0..255` as one unsigned byte. Fixed point: the wire integer in the base type's
big-endian form. -/
theorem spec_bytes_angle_fixed (cc : CustomCodec) (v : Int) :
    (0 ≤ v ∧ v < 256 → encode cc .angle (.int v) = .ok [UInt8.ofNat v.toNat]) ∧
    (∀ base bits, encode cc (.fixed base bits) (.int v) = encode cc (.int base) (.int v)) := by
  refine ⟨fun h => ?_, fun _ _ => rfl⟩
  have hd : (0 ≤ v ∧ v < (256 : Int) ^ 1) := by omega
  have h1 : v.toNat / 256 ^ 0 % 256 = v.toNat := by omega
  simp only [encode, IntT.pack, IntT.signed, IntT.width, packU, if_pos hd, beBytes, h1]
  rfl

/-- Byte arrays: VarInt length then the bytes; big-endian signed 16-bit length then the bytes; the
bare bytes for a trailing array. -/
theorem spec_bytes_bytearrays (cc : CustomCodec) (b : Bytes) :
    encode cc .bytesVarint (.bytes b) = .ok (encVarInt b.length ++ b) ∧
    (b.length < 2 ^ 15 → ∃ h, h.length = 2 ∧ beValue h = b.length ∧
        encode cc .bytesShort (.bytes b) = .ok (h ++ b)) ∧
    encode cc .trailing (.bytes b) = .ok b := by
  refine ⟨rfl, fun hb => ?_, rfl⟩
  obtain ⟨h, hp, hl, hv⟩ := IntT.i16.pack_natCast b.length ((LenT.inDom_int _).2.1 hb)
  exact ⟨h, hl, hv, by rw [encode, hp]; rfl⟩

/-- Array length prefix: the VarInt of the count, or the count as a 4/2/1-byte big-endian integer. -/
theorem spec_bytes_len (lt : LenT) (n : Nat) (h : lt.inDom n) :
    match lt with
    | .varint => encLen lt n = .ok (encVarInt n)
    | .i32 => ∃ hb, encLen lt n = .ok hb ∧ hb.length = 4 ∧ beValue hb = n
    | .i16 => ∃ hb, encLen lt n = .ok hb ∧ hb.length = 2 ∧ beValue hb = n
    | .u8 => ∃ hb, encLen lt n = .ok hb ∧ hb.length = 1 ∧ beValue hb = n := by
  cases lt
  · rfl
  · exact IntT.i32.pack_natCast n ((LenT.inDom_int n).1 h)
  · exact IntT.i16.pack_natCast n ((LenT.inDom_int n).2.1 h)
  · exact IntT.u8.pack_natCast n ((LenT.inDom_int n).2.2 h)

/-- Array: the length prefix followed by the concatenation of the element encodings, in order
(`g v` names the encoding of element `v`). -/
theorem spec_bytes_array (cc : CustomCodec) (lt : LenT) (t : WType) (vs : List Value)
    (hb : Bytes) (g : Value → Bytes) (hl : encLen lt vs.length = .ok hb)
    (he : ∀ v ∈ vs, encode cc t v = .ok (g v)) :
    encode cc (.array lt t) (.list vs) = .ok (hb ++ (vs.map g).flatten) := by
  rw [encode, hl, encEach_flatten _ g vs he]; rfl

/-! ## scaled types: `Angle` and `FixedPoint` (value = `p / q`, `q > 0`, exact arithmetic) -/

/-- Python's `round(N / D)`: the result is a nearest integer (`|R − N/D| ≤ 1/2`, cross-multiplied by
`2·D`), and an exact tie goes to the even neighbour. -/
theorem roundHalfEven_spec (N D : Int) (hD : 0 < D) :
    (-D ≤ 2 * roundHalfEven N D * D - 2 * N ∧ 2 * roundHalfEven N D * D - 2 * N ≤ D) ∧
    (2 * (N % D) = D → roundHalfEven N D % 2 = 0) :=
  ⟨roundHalfEven_near N D hD, roundHalfEven_tie N D⟩

/-- The byte handed to `UnsignedByte.send` by `Angle.send` is always in `[0, 256)`, so the pack never
fails; the rounding BEFORE the final `% 256` ranges over `[0, 256]`, 256 included. -/
theorem angle_step_range (p q : Int) (hq : 0 < q) :
    (0 ≤ angleStep p q ∧ angleStep p q < 256) ∧
    (0 ≤ roundHalfEven (256 * (p % (360 * q))) (360 * q) ∧
      roundHalfEven (256 * (p % (360 * q))) (360 * q) ≤ 256) :=
  ⟨angleStep_range p q, angle_raw_range p q hq⟩

/-- … and 256 is attained: for 359.9° the un-reduced rounding is 256 (which `'>B'` cannot pack);
the final `% 256` maps it to step 0. -/
example : roundHalfEven (256 * (3599 % (360 * 10))) (360 * 10) = 256 ∧ angleStep 3599 10 = 0 ∧
    IntT.u8.pack 256 = .error .struct := by decide

/-- Angle quantisation.  With `r = p mod 360q` (so `value mod 360 = r / q ∈ [0, 360)`), `s` the step
sent and `a.1 / a.2` the angle `Angle.read` returns for `s`: the decoded angle is within half a
quantum, `360/512` degrees, of `value mod 360` measured circularly — either directly (`k = 0`) or,
only when the step wrapped to `0`, after adding one full turn (`k = 1`).  The inequality
`|a.1/a.2 + 360·k − r/q| ≤ 360/512` is written cross-multiplied by `512 · a.2 · q > 0`. -/
theorem angle_quantum (p q : Int) (hq : 0 < q) :
    let r := p % (360 * q)
    let s := angleStep p q
    let a := angleOfStep s
    (0 ≤ r ∧ r < 360 * q) ∧ 0 < a.2 ∧
    ∃ k : Int, (k = 0 ∨ (k = 1 ∧ s = 0)) ∧
      -(360 * (a.2 * q)) ≤ 512 * (a.1 * q + 360 * k * (a.2 * q) - a.2 * r) ∧
      512 * (a.1 * q + 360 * k * (a.2 * q) - a.2 * r) ≤ 360 * (a.2 * q) := by
  intro r s a
  refine ⟨⟨Int.emod_nonneg p (by omega), Int.emod_lt_of_pos p (by omega)⟩,
    by show (0 : Int) < 256; omega, ?_⟩
  obtain ⟨k, hk, h1, h2⟩ := angle_near p q hq
  refine ⟨k, hk, ?_, ?_⟩ <;> simp only [a, s, r, angleOfStep] <;> grind

/-- Fixed point, sending: the wire integer `w = int(value · 2^bits)` is strictly within one quantum
of the exact scaled value (`|w − value·2^bits| < 1`, cross-multiplied by `q`; equivalently
`|w/2^bits − value| < 2^-bits` for what `read` returns), and truncation is toward zero: `w` has the
sign of the value or is 0, and never exceeds it in magnitude. -/
theorem fixed_quantum (bits : Nat) (p q : Int) (hq : 0 < q) :
    let w := fixedWire bits p q
    (-q < w * q - p * 2 ^ bits ∧ w * q - p * 2 ^ bits < q) ∧
    (0 ≤ p → 0 ≤ w ∧ w * q ≤ p * 2 ^ bits) ∧ (p ≤ 0 → w ≤ 0 ∧ p * 2 ^ bits ≤ w * q) ∧
    (fixedOfWire bits w).1 = w ∧ (fixedOfWire bits w).2 = 2 ^ bits := by
  obtain ⟨t1, t2, t3⟩ := fixed_trunc bits p q hq
  exact ⟨t1, t2, t3, rfl, rfl⟩

/-- Values that are exact multiples of the quantum `2^-bits` are sent exactly. -/
theorem fixed_exact (bits : Nat) (p q : Int) (h : q ∣ p * 2 ^ bits) :
    fixedWire bits p q * q = p * 2 ^ bits := Int.tdiv_mul_cancel h

/-- End to end for `Angle`: the step computed by `Angle.send` is always encodable (one byte) and
reads back as that step, whatever follows — no value, however large or negative, makes it fail. -/
theorem angle_wire_roundtrip (cc : CustomCodec) (p q : Int) (rest : Bytes) :
    ∃ bs, encode cc .angle (.int (angleStep p q)) = .ok bs ∧ bs.length = 1 ∧
      decode cc .angle (bs ++ rest) = .ok (.int (angleStep p q), rest) := by
  have hd : IntT.u8.inDom (angleStep p q) := by
    have := angleStep_range p q
    simp [IntT.inDom, IntT.signed, IntT.width]; omega
  obtain ⟨bs, h1, h2, h3⟩ := IntT.u8.unpack_pack _ hd
  exact ⟨bs, h1, h2, by rw [decode, h3]; rfl⟩

/-- End to end for `FixedPoint`: the wire integer is sent and read back exactly when it fits the base
integer type, and is `struct.error` (never a wrapped value) when it does not. -/
theorem fixed_wire_roundtrip (cc : CustomCodec) (base : IntT) (bits : Nat) (p q : Int)
    (rest : Bytes) :
    (base.inDom (fixedWire bits p q) →
      ∃ bs, encode cc (.fixed base bits) (.int (fixedWire bits p q)) = .ok bs ∧
        decode cc (.fixed base bits) (bs ++ rest) = .ok (.int (fixedWire bits p q), rest)) ∧
    (¬ base.inDom (fixedWire bits p q) →
      encode cc (.fixed base bits) (.int (fixedWire bits p q)) = .error .struct) := by
  refine ⟨fun hd => ?_, fun hd => base.pack_err _ hd⟩
  obtain ⟨bs, h1, _, h3⟩ := base.unpack_pack _ hd
  exact ⟨bs, h1, by rw [decode, h3]; rfl⟩

/-! ## non-vacuity: concrete instances of every hypothesis -/

/-- a nested array type, a value of it, its encoding and a strict prefix of that -/
private def exT : WType := .array .varint (.array .i32 .string)
private def exV : Value := .list [.list [.str "hi", .str ""], .list [], .list [.str "é"]]
private def exB : Bytes :=
  [3, 0, 0, 0, 2, 2, 0x68, 0x69, 0, 0, 0, 0, 0, 0, 0, 0, 1, 2, 0xc3, 0xa9]

private theorem exW : WellTyped noCustomDom exT exV := by
  simp [exT, exV, WellTyped]; decide
private theorem exE : encode noCustomCodec exT exV = .ok exB := by decide +kernel

example : exT.selfDelimiting = true := rfl
example : ∃ bs, encode noCustomCodec exT exV = .ok bs := enc_total_basic exT exV exW
example : ∃ bs, encode noCustomCodec exT exV = .ok bs ∧
    decode noCustomCodec exT (bs ++ [0xde, 0xad]) = .ok (exV, [0xde, 0xad]) :=
  dec_enc_basic exT rfl exV exW _
example : exB ≠ [] := enc_nonempty_basic exT rfl exV exW exB exE
example : ∃ e, decode noCustomCodec exT (exB.take 7) = .error e :=
  dec_prefix_err_basic exT rfl exV exW exB exE _ (List.take_prefix _ _) (by decide)
example : ∃ e, decode noCustomCodec exT [] = .error e :=
  dec_prefix_err_basic exT rfl exV exW exB exE _ List.nil_prefix (by decide)
example : WellTyped noCustomDom .trailing (.bytes [1, 2, 3]) := by simp [WellTyped]
example : IntT.i16.inDom (-2) ∧ ¬ IntT.u8.inDom 256 := by decide
example : IntT.i16.pack (-2) = .ok [0xff, 0xfe] := by decide
example : (4 : Int) ∣ 3 * 2 ^ 5 ∧ fixedWire 5 3 4 = 24 := by decide
example : fixedWire 5 (-7) 3 = -74 ∧ fixedWire 5 7 3 = 74 := by decide
example : IntT.i8.inDom (fixedWire 5 3 4) ∧ ¬ IntT.i8.inDom (fixedWire 5 5 1) := by decide
example : (2 : Int) * (5 % 2) = 2 ∧ roundHalfEven 5 2 = 2 ∧ roundHalfEven 7 2 = 4 := by decide
example : angleStep 90 1 = 64 ∧ angleStep (-90) 1 = 192 ∧ angleStep 3599 10 = 0 := by decide
/-- a custom codec satisfying `CustomLaw` on a non-empty domain exists (one tag byte for `secpos`) -/
example : ∃ cc cw, CustomLaw cc cw ∧ cw .secpos (.int 7) :=
  ⟨⟨fun _ v => match v with | .int 7 => .ok [7] | _ => .error .type,
    fun _ bs => match bs with | 7 :: r => .ok (.int 7, r) | _ => .error .eof⟩,
   fun _ v => v = .int 7,
   ⟨fun _ _ rest h => by subst h; exact ⟨[7], rfl, by simp, rfl⟩,
    fun _ _ bs h he p hp hne => by
      subst h
      cases he
      have : p = [] := by
        rcases p with _ | ⟨x, p'⟩
        · rfl
        · rw [List.cons_prefix_cons] at hp
          obtain ⟨rfl, hp'⟩ := hp
          rw [List.prefix_nil.mp hp'] at hne
          exact absurd rfl hne
      subst this
      exact ⟨.eof, rfl⟩⟩,
   rfl⟩

end PyCraft.C02
