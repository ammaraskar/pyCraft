import PyCraft.Lemmas.Play
/-!
# C11 — in play, keep-alives and teleports are always answered; unknown packets pass

Only property theorems and non-vacuity examples live here; helper lemmas are in `Lemmas/Play.lean`.

`runLoop newer107 peerOpen capW capR inbox` runs the model of `NetworkingThread.run` on the
server's packets `inbox` with write cap `capW` (300 in the code) and read cap `capR` (50 in the
code); it returns `none` exactly when the loop makes no progress. All theorems hold for EVERY
`capW` (even 0: the code tests the cap after the write, so 0 behaves like 1) and EVERY `capR ≥ 1`,
including `capR ≤ capW`, where a busy write phase makes the loop skip the read phase of that
iteration (the counter is shared) — the next iteration then has less to write, so progress is
kept. `capR ≥ 1` is necessary: see `capR_zero_never_reads`.

`peerOpen = false` models the server having closed its end by the time the client reacts to the
server's disconnect packet (the flush inside `disconnect()` then raises and the `except IOError`
branch runs). Statements about the COMPLETE wire need `peerOpen = true` or an inbox without a
disconnect; everything else holds for both.
-/
namespace PyCraft.C11
open PyCraft PyCraft.Play

/-- The loop terminates for all caps with `capR ≥ 1`: it stops after the first server disconnect
or once the inbox is exhausted and the queue is drained. -/
theorem loop_terminates (newer po : Bool) (capW capR : Nat) (hR : 1 ≤ capR) (inbox : List PlayEv) :
    (runLoop newer po capW capR inbox).isSome = true := by
  obtain ⟨w, -, -, h⟩ := runLoop_spec newer po capW capR hR inbox
  simp [h]

/-- The side condition is sharp: with a read cap of 0 the loop never reads, so a non-empty inbox is
never served (the Python thread would spin for ever). -/
theorem capR_zero_never_reads (newer po : Bool) (capW : Nat) (inbox : List PlayEv)
    (h : inbox ≠ []) : runLoop newer po capW 0 inbox = none := by
  simp [runLoop, loop_capR_zero newer po capW _ inbox h]

/-- The keep-alive responses on the wire are exactly the ids of the keep-alive packets received
before any server disconnect: same order, each exactly once. (If the peer is already closed at
the disconnect, the wire holds a prefix of them: the rest could not be delivered.) -/
theorem keepalive_echo (newer po : Bool) (capW capR : Nat) (hR : 1 ≤ capR) (inbox : List PlayEv) :
    ∃ r, runLoop newer po capW capR inbox = some r ∧
      (r.wire.filterMap Reply.keepAliveId? <+: (beforeDisc inbox).filterMap PlayEv.keepAliveId?) ∧
      ((po = true ∨ hasDisc inbox = false) →
        r.wire.filterMap Reply.keepAliveId? = (beforeDisc inbox).filterMap PlayEv.keepAliveId?) := by
  obtain ⟨w, hp, he, h⟩ := runLoop_spec newer po capW capR hR inbox
  refine ⟨_, h, ?_, fun hc => ?_⟩
  · rw [← keepAlive_of_flatMap newer]; exact hp.filterMap _
  · show w.filterMap _ = _
    rw [he hc, fullWire, keepAlive_of_flatMap]

/-- Every position-and-look packet received before any server disconnect is acknowledged, in
order, exactly once: from protocol 107 on by a teleport confirm with the same teleport id, before
that by a position packet echoing x, y (as feet_y), z, yaw, pitch with on_ground = true; these are
the only non-keep-alive packets the client writes. The client is marked as spawned iff at least
one such packet was processed. -/
theorem teleport_ack (newer po : Bool) (capW capR : Nat) (hR : 1 ≤ capR) (inbox : List PlayEv) :
    ∃ r, runLoop newer po capW capR inbox = some r ∧
      ((po = true ∨ hasDisc inbox = false) →
        r.wire.filter (fun p => !p.isKeepAlive) = (beforeDisc inbox).filterMap (expectedAck newer)) ∧
      (r.spawned = true ↔ ∃ e ∈ beforeDisc inbox, e.isPosLook = true) ∧
      (∀ x y z yaw pitch f tid,
        expectedAck true (.posLook x y z yaw pitch f tid) = some (.teleportConfirm tid) ∧
        expectedAck false (.posLook x y z yaw pitch f tid) = some (.positionEcho x y z yaw pitch true)) ∧
      (∀ e, e.isPosLook = false → expectedAck newer e = none) := by
  obtain ⟨w, -, he, h⟩ := runLoop_spec newer po capW capR hR inbox
  refine ⟨_, h, fun hc => ?_, ?_, fun _ _ _ _ _ _ _ => ⟨rfl, rfl⟩, ?_⟩
  · show w.filter _ = _
    rw [he hc, fullWire, acks_of_flatMap]
  · simp [resultWith]
  · intro e hpl; cases e <;> simp_all [expectedAck, PlayEv.isPosLook]

/-- The wire is the in-order concatenation of the replies to the individual packets: keep-alive
responses and teleport acknowledgements are never reordered relative to each other, whatever the
caps. -/
theorem wire_order (newer po : Bool) (capW capR : Nat) (hR : 1 ≤ capR) (inbox : List PlayEv)
    (hc : po = true ∨ hasDisc inbox = false) :
    ∃ r, runLoop newer po capW capR inbox = some r ∧
      r.wire = (beforeDisc inbox).flatMap (replyTo newer) := by
  obtain ⟨w, -, he, h⟩ := runLoop_spec newer po capW capR hR inbox
  exact ⟨_, h, he hc⟩

/-- Packets with unknown ids (and every other packet up to and including the first disconnect) are
delivered to the listeners, in order, an unknown one as a generic packet carrying its id (the
payload is dropped); they produce no reply, and deleting all of them from the inbox changes
neither the wire nor any other observable except the delivery list itself. -/
theorem unknown_passthrough (newer po : Bool) (capW capR : Nat) (hR : 1 ≤ capR)
    (inbox : List PlayEv) (hc : po = true ∨ hasDisc inbox = false) :
    ∃ r r', runLoop newer po capW capR inbox = some r ∧
      runLoop newer po capW capR (inbox.filter (fun e => !e.isUnknown)) = some r' ∧
      r.delivered = (beforeDisc inbox ++ if hasDisc inbox then [PlayEv.disconnect] else []).map
        PlayEv.asSeen ∧
      (∀ pid d, PlayEv.unknown pid d ∈ beforeDisc inbox → PlayEv.unknown pid [] ∈ r.delivered) ∧
      (∀ pid d, replyTo newer (.unknown pid d) = []) ∧
      r'.wire = r.wire ∧ r'.spawned = r.spawned ∧ r'.closed = r.closed ∧
      r'.exitCalls = r.exitCalls ∧ r'.errors = r.errors := by
  obtain ⟨w, -, he, h⟩ := runLoop_spec newer po capW capR hR inbox
  obtain ⟨w', -, he', h'⟩ :=
    runLoop_spec newer po capW capR hR (inbox.filter (fun e => !e.isUnknown))
  obtain ⟨hb, hh⟩ := beforeDisc_filter (fun e => !e.isUnknown) rfl inbox
  refine ⟨_, _, h, h', rfl, ?_, fun _ _ => rfl, ?_, ?_, ?_, ?_, rfl⟩
  · intro pid d hm
    simp only [resultWith, List.map_append, List.mem_append]
    exact .inl (List.mem_map.2 ⟨_, hm, rfl⟩)
  · show w' = w
    rw [he' (by rw [hh]; exact hc), he hc, fullWire, fullWire, hb]
    exact flatMap_filter_noreply newer _ (fun e hne => by cases e <;> first | rfl | cases hne) _
  · simp only [resultWith, hb, List.any_filter]
    congr 1
    funext e
    cases e <;> rfl
  · simp only [resultWith, hh]
  · simp only [resultWith, hh]

/-- A server disconnect packet: the connection is closed, the exit callback runs exactly once and
no error is reported — also when the peer has already gone away. The packets up to and including
the disconnect are delivered and nothing after it is (later packets are not processed: the result
is the same as if they had never been sent). If the peer is still open, every reply queued before
is flushed first; otherwise the wire holds a prefix of them. -/
theorem server_disconnect_clean (newer po : Bool) (capW capR : Nat) (hR : 1 ≤ capR)
    (pre post : List PlayEv) (hpre : PlayEv.disconnect ∉ pre) :
    ∃ r, runLoop newer po capW capR (pre ++ PlayEv.disconnect :: post) = some r ∧
      r.closed = true ∧ r.exitCalls = 1 ∧ r.errors = 0 ∧
      r.delivered = (pre ++ [PlayEv.disconnect]).map PlayEv.asSeen ∧
      r.spawned = pre.any PlayEv.isPosLook ∧
      r.wire <+: pre.flatMap (replyTo newer) ∧
      (po = true → r.wire = pre.flatMap (replyTo newer) ∧
        runLoop newer po capW capR (pre ++ [PlayEv.disconnect]) = some r) := by
  obtain ⟨w, hp, he, h⟩ :=
    runLoop_spec newer po capW capR hR (pre ++ PlayEv.disconnect :: post)
  obtain ⟨hb, hh⟩ := beforeDisc_append_disc pre post hpre
  rw [fullWire, hb] at hp he
  refine ⟨_, h, hh, by simp [resultWith, hh], rfl, by simp [resultWith, hb, hh],
    by simp [resultWith, hb], hp, fun hpo => ⟨he (Or.inl hpo), ?_⟩⟩
  obtain ⟨w2, -, he2, h2⟩ := runLoop_spec newer po capW capR hR (pre ++ [PlayEv.disconnect])
  obtain ⟨hb2, hh2⟩ := beforeDisc_append_disc pre [] hpre
  rw [fullWire, hb2] at he2
  rw [h2, he2 (Or.inl hpo), he (Or.inl hpo)]
  simp only [resultWith, hb, hh, hb2, hh2]

/-- Without a server disconnect the loop serves the whole inbox, drains the queue and leaves the
connection open: no exit callback, no error. -/
theorem no_disconnect_stays_open (newer po : Bool) (capW capR : Nat) (hR : 1 ≤ capR)
    (inbox : List PlayEv) (hno : PlayEv.disconnect ∉ inbox) :
    ∃ r, runLoop newer po capW capR inbox = some r ∧
      r.closed = false ∧ r.exitCalls = 0 ∧ r.errors = 0 ∧
      r.delivered = inbox.map PlayEv.asSeen ∧ r.wire = inbox.flatMap (replyTo newer) := by
  obtain ⟨w, -, he, h⟩ := runLoop_spec newer po capW capR hR inbox
  obtain ⟨hb, hh⟩ := beforeDisc_of_no_disc inbox hno
  refine ⟨_, h, hh, by simp [resultWith, hh], rfl, by simp [resultWith, hb, hh], ?_⟩
  show w = _
  rw [he (Or.inr hh), fullWire, hb]

/-- The batch caps do not matter: for all `capW, capW'` and all `capR, capR' ≥ 1` the result (wire,
delivered packets, spawned, closed, exit calls, errors) is the same. If the peer is closed at a
disconnect the caps only decide how much of the reply list had already been written (the wire may
differ); everything else is still the same. -/
theorem caps_irrelevant (newer po : Bool) (capW capR capW' capR' : Nat) (hR : 1 ≤ capR)
    (hR' : 1 ≤ capR') (inbox : List PlayEv) :
    ∃ r r', runLoop newer po capW capR inbox = some r ∧
      runLoop newer po capW' capR' inbox = some r' ∧
      r.delivered = r'.delivered ∧ r.spawned = r'.spawned ∧ r.closed = r'.closed ∧
      r.exitCalls = r'.exitCalls ∧ r.errors = r'.errors ∧
      ((po = true ∨ hasDisc inbox = false) → r = r') := by
  obtain ⟨w, -, he, h⟩ := runLoop_spec newer po capW capR hR inbox
  obtain ⟨w', -, he', h'⟩ := runLoop_spec newer po capW' capR' hR' inbox
  exact ⟨_, _, h, h', rfl, rfl, rfl, rfl, rfl, fun hc => by rw [he hc, he' hc]⟩

/-! ### Non-vacuity: concrete runs (kernel-evaluated) -/

private def demoInbox : List PlayEv :=
  [.keepAlive 1, .posLook 10 64 (-3) 90 0 0 7, .unknown 200 [0xaa], .other "chat message",
   .keepAlive 2, .disconnect, .keepAlive 3]

/-- The real caps, protocol ≥ 107. -/
example : runLoop true true 300 50 demoInbox =
    some { wire := [.keepAlive 1, .teleportConfirm 7, .keepAlive 2],
           delivered := [.keepAlive 1, .posLook 10 64 (-3) 90 0 0 7, .unknown 200 [],
                         .other "chat message", .keepAlive 2, .disconnect],
           spawned := true, closed := true, exitCalls := 1, errors := 0 } := by decide +kernel

/-- Tiny caps with `capR ≤ capW` (read phases get skipped), protocol < 107. -/
example : runLoop false true 2 1 demoInbox =
    some { wire := [.keepAlive 1, .positionEcho 10 64 (-3) 90 0 true, .keepAlive 2],
           delivered := [.keepAlive 1, .posLook 10 64 (-3) 90 0 0 7, .unknown 200 [],
                         .other "chat message", .keepAlive 2, .disconnect],
           spawned := true, closed := true, exitCalls := 1, errors := 0 } := by decide +kernel

/-- Peer already closed at the disconnect: clean exit, but the three queued replies are lost. -/
example : runLoop true false 300 50 demoInbox =
    some { wire := [],
           delivered := [.keepAlive 1, .posLook 10 64 (-3) 90 0 0 7, .unknown 200 [],
                         .other "chat message", .keepAlive 2, .disconnect],
           spawned := true, closed := true, exitCalls := 1, errors := 0 } := by decide +kernel

/-- No disconnect: everything answered, connection stays open. -/
example : runLoop true true 1 3 [.keepAlive 5, .keepAlive 6, .keepAlive 7, .keepAlive 8] =
    some { wire := [.keepAlive 5, .keepAlive 6, .keepAlive 7, .keepAlive 8],
           delivered := [.keepAlive 5, .keepAlive 6, .keepAlive 7, .keepAlive 8],
           spawned := false, closed := false, exitCalls := 0, errors := 0 } := by decide +kernel

example : runLoop true true 300 0 [.keepAlive 5] = none := by decide +kernel

/-- The hypotheses are satisfiable. -/
example : PlayEv.disconnect ∉ [PlayEv.keepAlive 1, .posLook 10 64 (-3) 90 0 0 7] := by decide
example : hasDisc [PlayEv.keepAlive 1, .unknown 3 []] = false := by decide

end PyCraft.C11
