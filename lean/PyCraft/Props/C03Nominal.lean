import PyCraft.Lemmas.C03Nominal
import PyCraft.Props.C03
import PyCraft.Model.Wire
import PyCraft.Generated.C03Nominal
/-!
# C03 (rank 19 of `docs/audit_report.md`) — the NOMINAL maxima 5 / 10, an exact characterisation of the reader's three
outcomes, and one instrumented reader

`Props/C03.lean` is `∀ mx`.  Here the two classes and their `max_bytes` are named
(`VarKind.maxBytes`, pinned to the LIVE class attributes through `Generated/C03Nominal.lean`), the
reader's outcome is characterised by an `iff` for each exception and by acceptance of EVERY
terminated run (canonical or zero-padded), the characterisation is shown to determine the decoder
completely, the read bound is shown to determine `max_bytes` (`nominal_iff`), and the read counter and
the decoder are shown to be the two projections of one instrumented reader on ALL inputs.

Only property theorems and non-vacuity examples live here; helpers are in `Lemmas/C03Nominal.lean`
and `Lemmas/VarIntDec.lean`.
-/
namespace PyCraft.C03Nominal
open PyCraft

/-! ## One instrumented reader -/

/-- The literal, instrumented `VarInt.read` (`readInstr`, basic.py:147-166) started as Python starts
it (`number = 0`, `bytes_encountered = 0`) returns, on EVERY input — failures included — exactly the
pair (outcome of `decVarInt`, count of `decVarIntReads`).  So the decoder and the read counter used
throughout C03 are two projections of one function, not two hand-written twins. -/
theorem instr_projections (mx : Nat) (bs : Bytes) :
    readInstr mx 0 0 bs = (decVarInt mx bs, decVarIntReads mx 0 bs) :=
  readInstr_eq mx bs 0 0

/-- … in particular for the two classes: `cls.read` = (`cls` decoder, `cls` read count). -/
theorem kind_projections (k : VarKind) (bs : Bytes) : k.read bs = (k.dec bs, k.reads bs) :=
  readInstr_eq k.maxBytes bs 0 0

/-! ## Exact characterisation of the outcomes -/

/-- `dec_iff`: for every `max_bytes = mx` the reader satisfies the decoder-independent specification
`ReaderSpec mx`:
* it raises "too long" IF AND ONLY IF the stream holds at least `mx + 1` bytes and the first `mx + 1`
  all carry the continuation bit;
* it raises end-of-stream IF AND ONLY IF the stream holds at most `mx` bytes and all of them carry the
  continuation bit;
* EVERY run of at most `mx` continuation bytes closed by a terminator is accepted — whether or not it
  is the canonical encoding (zero-padded `80 00` included) — the value is the little-endian base-128
  value of the consumed bytes and the unread rest starts right after the terminator. -/
theorem dec_iff (mx : Nat) : ReaderSpec mx (decVarInt mx) where
  tooLong_iff := decVarInt_tooLong_iff mx
  eof_iff := decVarInt_eof_iff mx
  accepts pre last rest h1 h2 h3 := (decVarInt_accepts mx pre last rest h1 h2 h3).1

/-- The specification is COMPLETE: any decoder whatsoever that satisfies `ReaderSpec mx` agrees with
the model of `VarInt.read` on every byte string (so `dec_iff` leaves no behaviour undetermined). -/
theorem dec_unique (mx : Nat) (D : Bytes → Except Err (Nat × Bytes)) (h : ReaderSpec mx D)
    (bs : Bytes) : D bs = decVarInt mx bs := by
  have m := dec_iff mx
  rcases shape_cases mx bs with ⟨pre, last, rest, e, h1, h2, h3⟩ | h2 | h3
  · subst e; rw [h.accepts pre last rest h1 h2 h3, m.accepts pre last rest h1 h2 h3]
  · rw [(h.tooLong_iff bs).mpr h2, (m.tooLong_iff bs).mpr h2]
  · rw [(h.eof_iff bs).mpr h3, (m.eof_iff bs).mpr h3]

/-- The reader succeeds IF AND ONLY IF the stream starts with at most `mx` continuation bytes followed
by a terminator. -/
theorem dec_ok_iff (mx : Nat) (bs : Bytes) :
    (∃ v rest, decVarInt mx bs = .ok (v, rest)) ↔
      ∃ pre last rest, bs = pre ++ last :: rest ∧ pre.length ≤ mx ∧ AllCont pre ∧
        last.toNat < 128 := by
  constructor
  · intro ⟨v, rest, h⟩
    obtain ⟨pre, last, e, hl, hall, hlast, _⟩ := C03.dec_ok mx bs v rest h
    exact ⟨pre, last, rest, e, by omega, hall, hlast⟩
  · intro ⟨pre, last, rest, e, h1, h2, h3⟩
    exact ⟨_, rest, by rw [e]; exact (dec_iff mx).accepts pre last rest h1 h2 h3⟩

/-- "raises on end of stream or an over-long encoding" as an `iff` (strengthens
`C03.dec_error_kinds`): the reader fails with `e` exactly when `e` is "too long" and the input is
over-long, or `e` is end-of-stream and the input is an unterminated short run. -/
theorem dec_error_iff (mx : Nat) (bs : Bytes) (e : Err) :
    decVarInt mx bs = .error e ↔
      (e = .tooLong ∧ mx + 1 ≤ bs.length ∧ AllCont (bs.take (mx + 1))) ∨
      (e = .eof ∧ bs.length ≤ mx ∧ AllCont bs) := by
  have m := dec_iff mx
  constructor
  · intro h
    rcases C03.dec_error_kinds mx bs e h with he | he
    · subst he; exact Or.inr ⟨rfl, (m.eof_iff bs).mp h⟩
    · subst he; exact Or.inl ⟨rfl, (m.tooLong_iff bs).mp h⟩
  · rintro (⟨he, h⟩ | ⟨he, h⟩)
    · subst he; exact (m.tooLong_iff bs).mpr h
    · subst he; exact (m.eof_iff bs).mpr h

/-- Exact number of `read(1)` calls on the two failure paths: an over-long encoding costs exactly
`mx + 1` reads (one more than the nominal maximum — the bound is attained), end of stream costs exactly
one read more than the bytes that exist.  (The success path is `C03.dec_ok`: prefix length + 1.) -/
theorem reads_on_failure (mx : Nat) (bs : Bytes) :
    (decVarInt mx bs = .error .tooLong → decVarIntReads mx 0 bs = mx + 1) ∧
    (decVarInt mx bs = .error .eof → decVarIntReads mx 0 bs = bs.length + 1) := by
  rcases decVarInt_cases mx bs with ⟨_, _, _, -, -, -, -, hd, -⟩ | ⟨-, -, hd, hr⟩ | ⟨-, -, hd, hr⟩
  · rw [hd]; exact ⟨nofun, nofun⟩
  · rw [hd]; exact ⟨fun _ => hr, nofun⟩
  · rw [hd]; exact ⟨nofun, fun _ => hr⟩

/-! ## The read bound determines `max_bytes` -/

/-- A reader with `max_bytes = mx` stays within `k + 1` reads on every stream IF AND ONLY IF
`mx ≤ k`: raising `max_bytes` above the nominal value breaks the bound. -/
theorem reads_bound_iff (mx k : Nat) : (∀ bs, decVarIntReads mx 0 bs ≤ k + 1) ↔ mx ≤ k := by
  constructor
  · intro h
    have := h (contRun (mx + 1))
    rw [contRun_reads] at this; omega
  · intro h bs
    have := (C03.dec_reads_le mx bs).1; omega

/-- "At most one byte more than the nominal maximum `k`", read as a TIGHT bound (never more than
`k + 1` reads, and `k + 1` reads do occur), holds IF AND ONLY IF `max_bytes = k`.  So the property's
"5 or 10" pins the class attribute exactly. -/
theorem nominal_iff (mx k : Nat) :
    ((∀ bs, decVarIntReads mx 0 bs ≤ k + 1) ∧ ∃ bs, decVarIntReads mx 0 bs = k + 1) ↔ mx = k := by
  constructor
  · intro ⟨h1, bs, h2⟩
    have a := (reads_bound_iff mx k).mp h1
    have b := (C03.dec_reads_le mx bs).1
    omega
  · intro h; subst h
    exact ⟨(reads_bound_iff mx mx).mpr (Nat.le_refl _), contRun (mx + 1), contRun_reads mx⟩

/-! ## The two classes at their nominal maxima -/

/-- `VarInt.read` issues at most 6 = 5 + 1 one-byte reads on ANY stream, and at most one read beyond
the bytes that exist. -/
theorem varint_reads (bs : Bytes) :
    VarKind.varInt.reads bs ≤ 6 ∧ VarKind.varInt.reads bs ≤ bs.length + 1 :=
  C03.dec_reads_le 5 bs

/-- `VarLong.read` issues at most 11 = 10 + 1 one-byte reads on ANY stream, and at most one read beyond
the bytes that exist. -/
theorem varlong_reads (bs : Bytes) :
    VarKind.varLong.reads bs ≤ 11 ∧ VarKind.varLong.reads bs ≤ bs.length + 1 :=
  C03.dec_reads_le 10 bs

/-- `VarInt.read` satisfies the outcome specification with nominal maximum 5. -/
theorem varint_spec : ReaderSpec 5 readVarInt := dec_iff 5

/-- `VarLong.read` satisfies the outcome specification with nominal maximum 10. -/
theorem varlong_spec : ReaderSpec 10 readVarLong := dec_iff 10

/-- Round trip through the named readers on the property's ranges. -/
theorem varint_roundtrip (n : Nat) (rest : Bytes) (h : n < 2 ^ 32) :
    readVarInt (encVarInt n ++ rest) = .ok (n, rest) := C03.dec_enc_varint n rest h

theorem varlong_roundtrip (n : Nat) (rest : Bytes) (h : n < 2 ^ 64) :
    readVarLong (encVarInt n ++ rest) = .ok (n, rest) := C03.dec_enc_varlong n rest h

/-- The wire-type decoder (`Model/Wire.lean`, used by every packet layout) reads `VarInt` fields,
string / byte-array / array length prefixes with the `VarInt` class reader and `VarLong` fields with
the `VarLong` class reader — the literals 5 and 10 there are the class attributes named here. -/
theorem decode_uses_class_readers (cc : CustomCodec) (bs : Bytes) :
    decode cc .varint bs = (do let (n, r) ← readVarInt bs; pure (.int n, r)) ∧
    decode cc .varlong bs = (do let (n, r) ← readVarLong bs; pure (.int n, r)) ∧
    decLen .varint bs = readVarInt bs :=
  ⟨rfl, rfl, rfl⟩

/-! ## Tie to the live code (re-generated and re-checked on every run) -/

/-- The class attributes of the code as it is NOW: `VarInt.max_bytes` and `VarLong.max_bytes`, read
off the live classes by `harness/gen/c03nominal.py`, are the model's `maxBytes`, i.e. 5 and 10. -/
theorem live_max_bytes :
    Gen.c03MaxBytes = [("VarInt", VarKind.varInt.maxBytes), ("VarLong", VarKind.varLong.maxBytes)] ∧
    Gen.c03MaxBytes = [("VarInt", 5), ("VarLong", 10)] := by decide +kernel

/-- `VarLong` inherits `read` from `VarInt` unchanged (same function object), so one reader
parameterised by `max_bytes` is the right model for both. -/
theorem live_shared_read : Gen.c03SharedRead = true := by decide

/-- On every probed boundary input (runs of 0…13 continuation bytes with all-ones and all-zero
payloads, unterminated / terminated by 00, 01, 7f / followed by a trailing byte, padded zeros), for
BOTH classes, the live `cls.read` on a call-counting stream did exactly what the model says: same
outcome (value, `EOFError`, or the "too long" `ValueError`), same value, same `tell()` afterwards, same
number of `read(1)` calls. -/
theorem live_probes_agree : ∀ ch ∈ Gen.c03ProbeChunks, ∀ row ∈ ch, probeAgrees row = true := by
  decide +kernel

/-! ## Changed code is caught -/

/-- CHANGED CODE (a) `VarInt.max_bytes = 7` (passes every `∀ mx` theorem of `Props/C03.lean`):
violates the VarInt read bound (`varint_reads`) — 8 reads on eight `ff` bytes — and the over-long
clause of the nominal specification (`varint_spec`): six continuation bytes are no longer rejected. -/
theorem changed_max_bytes_caught :
    ¬ (∀ bs, decVarIntReads (VarKind.maxBytesChanged .varInt) 0 bs ≤ 6) ∧
    ¬ ReaderSpec 5 (decVarInt (VarKind.maxBytesChanged .varInt)) := by
  constructor
  · intro h
    exact absurd (h [0xff, 0xff, 0xff, 0xff, 0xff, 0xff, 0xff, 0xff]) (by decide +kernel)
  · intro h
    have := (h.tooLong_iff [0xff, 0xff, 0xff, 0xff, 0xff, 0xff, 0x01]).mpr (by decide +kernel)
    exact absurd this (by decide +kernel)

/-- CHANGED CODE (b) a reader that rejects zero-padded encodings such as `80 00` (passes every theorem
of `Props/C03.lean`, which prove acceptance only for canonical encodings): violates the acceptance
clause of the specification. -/
theorem changed_strict_caught : ¬ ReaderSpec 5 (decStrict 5) := by
  intro h
  have := h.accepts [0x80] 0x00 [] (by decide) (by decide +kernel) (by decide)
  exact absurd this (by decide +kernel)

/-! ## Non-vacuity -/

-- the instrumented reader on a success, an end of stream and an over-long input
example : readInstr 5 0 0 [0xac, 0x02, 0x07] = (.ok (300, [0x07]), 2) := by decide +kernel
example : VarKind.varInt.read [0xff, 0xff] = (.error .eof, 3) := by decide +kernel
example : VarKind.varInt.read [0xff, 0xff, 0xff, 0xff, 0xff, 0xff, 0x01] = (.error .tooLong, 6) := by
  decide +kernel
example : VarKind.varLong.read [0xff, 0xff, 0xff, 0xff, 0xff, 0xff, 0x01] = (.ok (2 ^ 43 - 1, []), 7) := by
  decide +kernel
-- each clause of the specification has inhabitants
example : 5 + 1 ≤ (contRun 6).length ∧ AllCont ((contRun 6).take (5 + 1)) := by decide +kernel
example : ([0xff, 0x80] : Bytes).length ≤ 5 ∧ AllCont [0xff, 0x80] := by decide +kernel
example : readVarInt [0x80, 0x00, 0x09] = .ok (0, [0x09]) := by decide +kernel   -- padded zero accepted
example : readVarInt [0xff, 0xff, 0xff, 0xff, 0xff, 0x7f] = .ok (2 ^ 42 - 1, []) := by decide +kernel
-- the bounds are attained: 6 reads for VarInt, 11 for VarLong
example : VarKind.varInt.reads (contRun 6) = 6 := contRun_reads 5
example : VarKind.varLong.reads (contRun 11) = 11 := contRun_reads 10
example : VarKind.varInt.reads [0xff, 0xff, 0xff, 0xff, 0xff, 0x01] = 6 := by decide +kernel
-- a nominal maximum that is too SMALL is caught by the round trip on the property's range
example : decVarInt 3 (encVarInt (2 ^ 32 - 1)) = .error .tooLong := by decide +kernel
-- the live table is not empty and exercises all three outcomes for both classes
example : (Gen.c03ProbeChunks.flatten.length ≥ 200) := by decide +kernel
example : ("VarInt", [255, 255, 255, 255, 255, 255], "tooLong", 0, 6, 6) ∈ Gen.c03ProbeChunks.flatten := by
  decide +kernel
example : ("VarLong", [255, 255, 255, 255, 255, 255, 255, 255, 255, 255, 255], "tooLong", 0, 11, 11)
    ∈ Gen.c03ProbeChunks.flatten := by decide +kernel
example : ("VarInt", [128, 0], "ok", 0, 2, 2) ∈ Gen.c03ProbeChunks.flatten := by decide +kernel
-- the changed readers really differ from the original only where claimed
example : decStrict 5 [0x80, 0x00] = .error .value ∧ decVarInt 5 [0x80, 0x00] = .ok (0, []) := by
  decide +kernel
example : decStrict 5 [0xac, 0x02, 0x07] = decVarInt 5 [0xac, 0x02, 0x07] := by decide +kernel

end PyCraft.C03Nominal
