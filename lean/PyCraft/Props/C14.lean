import PyCraft.Lemmas.Handlers
/-!
# C14 — Networking-thread exceptions are contained and routed like try/except

Model: `PyCraft/Model/Handlers.lean` — `handleException` mirrors `Connection._handle_exception`
(reactor handler first, then the `for … else` loop over the registered handlers written as a left
fold with explicit state `(exc, calls, broke)`, then the final handler, record, conditional
re-raise); `tryExceptChain` is the independent reference semantics (nested `try/except`, structural
recursion).  Specification vocabulary (`lastExc`, `argsChained`, `RBeh.replace`, `finExc`, …) and
helper lemmas: `PyCraft/Lemmas/Handlers.lean`.

Every statement is for ALL exception-class hierarchies, ALL handler chains, ALL behaviours of the
reactor handler and final handler, and ALL exceptions.
-/
namespace PyCraft.C14
open PyCraft

/-- The handler loop IS a try/except chain: the fold-with-break loop of `_handle_exception` ends in
exactly the state the nested-`try` reference semantics predicts (same handlers run with the same
arguments and results, same final exception, `caught` ⇔ some clause caught).  Consequently, when the
reactor's handler returns a false value the handler part of the outcome equals the chain on the
original exception, and when it raises `e'` it equals the chain on `e'`. -/
theorem chain_equiv (hier : Hier) (hs : List Handler) (fin : Final) (e : Exc) :
    handlerLoop hier hs e =
      { exc := (tryExceptChain hier hs e).2.exc, calls := (tryExceptChain hier hs e).1,
        broke := (tryExceptChain hier hs e).2.isCaught } ∧
    ((handleException hier .retFalse hs fin e).trace.filter CallEv.isHandler =
        (tryExceptChain hier hs e).1 ∧
      (handleException hier .retFalse hs fin e).caught = (tryExceptChain hier hs e).2.isCaught ∧
      (handleException hier .retFalse hs fin e).loopExc = some (tryExceptChain hier hs e).2.exc) ∧
    (∀ e', (handleException hier (.raises e') hs fin e).trace.filter CallEv.isHandler =
        (tryExceptChain hier hs e').1 ∧
      (handleException hier (.raises e') hs fin e).caught =
        (tryExceptChain hier hs e').2.isCaught ∧
      (handleException hier (.raises e') hs fin e).loopExc =
        some (tryExceptChain hier hs e').2.exc) := by
  refine ⟨handlerLoop_eq_chain hier hs e, ?_, ?_⟩
  · refine ⟨handlerCalls_eq _ _ _ _ _ (by simp), ?_⟩
    rw [handleException_of_ne _ _ _ _ _ (by simp)]
    exact ⟨rfl, rfl⟩
  · intro e'
    refine ⟨handlerCalls_eq _ _ _ _ _ (by simp), ?_⟩
    rw [handleException_of_ne _ _ _ _ _ (by simp)]
    exact ⟨rfl, rfl⟩

/-- The first handler called is the first one, in list order, whose types match the exception in
play after the reactor's handler (the original one, or the one the reactor's handler raised), and
it receives exactly that exception; if none matches no handler is called.  Moreover every handler
call in the trace is a call of a registered handler whose types match the exception it was given.
(`find?` is the independent specification.) -/
theorem first_match_receives (hier : Hier) (r : RBeh) (hs : List Handler) (fin : Final) (e : Exc)
    (hr : r ≠ .retTrue) :
    ((handleException hier r hs fin e).trace.filter CallEv.isHandler).head? =
      (hs.find? (fun h => h.handles hier (r.replace e))).map
        (fun h => CallEv.handler h.id (r.replace e) h.beh.raised) ∧
    (∀ ev ∈ (handleException hier r hs fin e).trace.filter CallEv.isHandler,
      ∃ h ∈ hs, h.handles hier ev.arg = true ∧ ev = CallEv.handler h.id ev.arg h.beh.raised) := by
  rw [handlerCalls_eq _ _ _ _ _ hr]
  exact ⟨chain_head hier hs _, chain_sound hier hs _⟩

/-- The final handler always runs: unless the reactor's handler returned a true value, a callable
final handler is called exactly once, as the LAST call of the trace, with the last exception in
play (`lastExc` of everything before it = the exception the handler loop ended with); if it raises,
its exception is the one recorded, otherwise the one it was given is. -/
theorem final_always_runs (hier : Hier) (r : RBeh) (hs : List Handler) (b : Beh) (e : Exc)
    (hr : r ≠ .retTrue) :
    ∃ pre x, (handleException hier r hs (.fn b) e).trace = pre ++ [CallEv.final x b.raised] ∧
      (∀ ev ∈ pre, ev.isFinal = false) ∧
      x = lastExc e pre ∧
      (handleException hier r hs (.fn b) e).loopExc = some x ∧
      (handleException hier r hs (.fn b) e).recorded = some (b.raised.getD x) ∧
      (handleException hier r hs (.fn b) e).finalCalled = true := by
  rw [handleException_of_ne _ _ _ _ _ hr]
  refine ⟨CallEv.reactor e r.raisedExc :: (tryExceptChain hier hs (r.replace e)).1,
    (tryExceptChain hier hs (r.replace e)).2.exc, ?_, ?_, ?_, rfl, rfl, ?_⟩
  · simp [finCalls]
  · intro ev hev
    simp only [List.mem_cons] at hev
    rcases hev with hev | hev
    · subst hev; rfl
    · exact not_isFinal_of_isHandler (chain_all_handler hier hs _ ev hev)
  · rw [lastExc_cons]
    simp only [CallEv.raised, replace_eq]
    exact (chain_argsChained hier hs _).2.symm
  · simp [Outcome.finalCalled, finCalls, CallEv.isFinal]

/-- Without a callable final handler (`None` or `False`) no final call appears in the trace, and
when the reactor's handler returns a true value NOTHING else happens: no handler, no final handler,
nothing recorded, nothing re-raised. -/
theorem final_absent (hier : Hier) (r : RBeh) (hs : List Handler) (fin : Final) (e : Exc) :
    ((fin = .none ∨ fin = .false) →
      (handleException hier r hs fin e).finalCalled = false) ∧
    handleException hier .retTrue hs fin e =
      { trace := [CallEv.reactor e none], caught := false, loopExc := none, recorded := none,
        reraised := none, swallowedByReactor := true } := by
  refine ⟨?_, rfl⟩
  intro hfin
  by_cases hr : r = .retTrue
  · subst hr; simp [handleException_retTrue, Outcome.finalCalled, CallEv.isFinal]
  · rw [handleException_of_ne _ _ _ _ _ hr]
    have hc : ∀ ev ∈ (tryExceptChain hier hs (r.replace e)).1, ev.isFinal = false :=
      fun ev hev => not_isFinal_of_isHandler (chain_all_handler hier hs _ ev hev)
    have hany : (tryExceptChain hier hs (r.replace e)).1.any CallEv.isFinal = false := by
      rw [Bool.eq_false_iff]; intro h
      obtain ⟨ev, hev, h2⟩ := List.any_eq_true.mp h
      rw [hc ev hev] at h2; cases h2
    rcases hfin with h | h <;> subst h <;>
      simp [Outcome.finalCalled, finCalls, CallEv.isFinal, hany]

/-- The recorded exception is the last exception in play: unless the reactor's handler swallowed
the exception, `connection.exception` = the original exception replaced successively by whatever
the reactor's handler, the user handlers and the final handler raised (`lastExc`); and every call
in the trace — reactor handler, each user handler, final handler — was offered the last exception
in play at that moment. -/
theorem recorded_is_last (hier : Hier) (r : RBeh) (hs : List Handler) (fin : Final) (e : Exc)
    (hr : r ≠ .retTrue) :
    (handleException hier r hs fin e).recorded =
      some (lastExc e (handleException hier r hs fin e).trace) ∧
    (∀ a ev b, (handleException hier r hs fin e).trace = a ++ ev :: b →
      ev.arg = lastExc e a) := by
  have hc := chain_argsChained hier hs (r.replace e)
  have hA : argsChained e (handleException hier r hs fin e).trace := by
    rw [handleException_of_ne _ _ _ _ _ hr]
    simp only []
    rw [argsChained_append, lastExc_cons]
    simp only [argsChained, CallEv.arg, CallEv.raised, replace_eq, true_and, hc.2]
    exact ⟨hc.1, argsChained_finCalls _ _⟩
  refine ⟨?_, fun a ev b h => argsChained_split hA a ev b h⟩
  rw [handleException_of_ne _ _ _ _ _ hr]
  simp only [lastExc_append, lastExc_cons, CallEv.raised, replace_eq, hc.2, lastExc_finCalls]

/-- Re-raise law: the exception is re-raised from the thread iff the final handler is `None`, no
handler caught it, and the reactor's handler did not swallow it.  With `False` (or any callable) it
is never re-raised.  What is re-raised is the recorded exception. -/
theorem reraise_iff (hier : Hier) (r : RBeh) (hs : List Handler) (fin : Final) (e : Exc) :
    ((handleException hier r hs fin e).reraised ≠ none ↔
      fin = .none ∧ (handleException hier r hs fin e).caught = false ∧
        (handleException hier r hs fin e).swallowedByReactor = false) ∧
    (fin ≠ .none → (handleException hier r hs fin e).reraised = none) ∧
    (∀ x, (handleException hier r hs fin e).reraised = some x →
      (handleException hier r hs fin e).recorded = some x) ∧
    ((handleException hier r hs fin e).caught = true ↔
      r ≠ .retTrue ∧ (tryExceptChain hier hs (r.replace e)).2.isCaught = true) := by
  by_cases hr : r = .retTrue
  · subst hr; simp [handleException_retTrue]
  · rw [handleException_of_ne _ _ _ _ _ hr]
    by_cases hc : fin = .none ∧ (tryExceptChain hier hs (r.replace e)).2.isCaught = false
    · simp [hc, hr]
    · simp only [hc, ↓reduceIte, ne_eq, not_true_eq_false, and_true,
        reduceCtorEq, false_implies, implies_true, true_and, hr, not_false_eq_true]

/-- An exception raised inside a handler is offered to LATER handlers only: if the loop reaches the
handler `h` at position `pre.length` without having been caught (`pre` did not break the loop), `h`
matches what is then in play and raises `e'`, then the rest of the run is exactly the loop over the
handlers AFTER `h` started on `e'` — neither `h` nor any handler before it is consulted about `e'`,
and every later call is a call of a handler from `post`.  Independently of any hypothesis the ids
called form a sublist of the registered ids (registration order, nobody consulted twice). -/
theorem handler_raises_offered_to_later_only (hier : Hier) (pre : List Handler) (h : Handler)
    (post : List Handler) (e e' : Exc)
    (hpre : (handlerLoop hier pre e).broke = false)
    (hh : h.handles hier (handlerLoop hier pre e).exc = true)
    (hb : h.beh = .raises e') :
    handlerLoop hier (pre ++ h :: post) e =
      { exc := (handlerLoop hier post e').exc,
        calls := (handlerLoop hier pre e).calls ++
          CallEv.handler h.id (handlerLoop hier pre e).exc (some e') ::
            (handlerLoop hier post e').calls,
        broke := (handlerLoop hier post e').broke } ∧
    (∀ ev ∈ (handlerLoop hier post e').calls,
      ∃ h' ∈ post, h'.handles hier ev.arg = true ∧
        ev = CallEv.handler h'.id ev.arg h'.beh.raised) ∧
    (∀ (r : RBeh) (fin : Final) (hs : List Handler),
      (handleException hier r hs fin e).calls.Sublist (hs.map (·.id))) := by
  simp only [handlerLoop_eq_chain] at hpre hh ⊢
  refine ⟨?_, chain_sound hier post e', ?_⟩
  · rw [chain_append_raise hier h post e' hb pre e hpre hh]
  · intro r fin hs
    by_cases hr : r = .retTrue
    · subst hr; simp [handleException_retTrue, Outcome.calls, List.filterMap_cons, CallEv.handlerId?]
    · rw [handleException_of_ne _ _ _ _ _ hr]
      have := chain_ids_sublist hier hs (r.replace e)
      cases fin <;> simpa [Outcome.calls, finCalls, List.filterMap_cons, CallEv.handlerId?] using this

/-- Registration order: `early=True` puts the handler BEFORE all existing ones (which keep their
relative order), `early=False` after them; after any sequence of registrations the list is
(early registrations, latest first) ++ initial ++ (ordinary registrations in order); and an early
handler that matches is the one that receives the exception. -/
theorem early_registration_order (hier : Hier) (hs : List Handler) (h : Handler) :
    registerHandler hs h true = h :: hs ∧
    registerHandler hs h false = hs ++ [h] ∧
    (∀ rs : List (Handler × Bool), registerHandlers hs rs =
      ((rs.filter (fun r => r.2)).map (·.1)).reverse ++ hs ++
        (rs.filter (fun r => !r.2)).map (·.1)) ∧
    (∀ (r : RBeh) (fin : Final) (e : Exc), r ≠ .retTrue →
      h.handles hier (r.replace e) = true →
      ((handleException hier r (registerHandler hs h true) fin e).trace.filter
          CallEv.isHandler).head? = some (CallEv.handler h.id (r.replace e) h.beh.raised)) := by
  refine ⟨rfl, rfl, fun rs => registerHandlers_eq rs hs, ?_⟩
  intro r fin e hr hh
  rw [handlerCalls_eq _ _ _ _ _ hr, chain_head, registerHandler_early]
  simp [hh]

/-! ## Non-vacuity -/

/-- 1 = `Exception`, 2 = `OSError(Exception)`, 3 = `ConnectionError(OSError)`,
4 = `ValueError(Exception)`. -/
private def h₀ : Hier := [(2, 1), (3, 2), (4, 1)]

private def hsA : List Handler :=
  [⟨10, [4], .returns⟩, ⟨11, [2], .raises ⟨4, 7⟩⟩, ⟨12, [4], .returns⟩, ⟨13, [], .returns⟩]

-- ConnectionError: skipped by 10, caught by 11 which raises ValueError#7; that is NOT offered to
-- 10 (earlier) but to 12 (later), which catches it; final runs with ValueError#7; nothing re-raised
example :
    handleException h₀ .retFalse hsA (.fn .returns) ⟨3, 0⟩ =
      { trace := [.reactor ⟨3, 0⟩ none, .handler 11 ⟨3, 0⟩ (some ⟨4, 7⟩), .handler 12 ⟨4, 7⟩ none,
          .final ⟨4, 7⟩ none],
        caught := true, loopExc := some ⟨4, 7⟩, recorded := some ⟨4, 7⟩, reraised := none,
        swallowedByReactor := false } := by decide
example : tryExceptChain h₀ hsA ⟨3, 0⟩ =
    ([.handler 11 ⟨3, 0⟩ (some ⟨4, 7⟩), .handler 12 ⟨4, 7⟩ none], .caughtBy 12 ⟨4, 7⟩) := by decide
-- the last handler raising: loop ends without break → uncaught; final = None → re-raised
example :
    handleException h₀ .retFalse [⟨10, [], .raises ⟨2, 9⟩⟩] .none ⟨4, 0⟩ =
      { trace := [.reactor ⟨4, 0⟩ none, .handler 10 ⟨4, 0⟩ (some ⟨2, 9⟩)],
        caught := false, loopExc := some ⟨2, 9⟩, recorded := some ⟨2, 9⟩,
        reraised := some ⟨2, 9⟩, swallowedByReactor := false } := by decide
-- final = False: recorded, never re-raised
example : (handleException h₀ .retFalse [] .false ⟨4, 0⟩).reraised = none ∧
    (handleException h₀ .retFalse [] .false ⟨4, 0⟩).recorded = some ⟨4, 0⟩ := by decide
-- reactor handler raises: replaces the exception; final handler raising replaces the recorded one
example :
    handleException h₀ (.raises ⟨4, 1⟩) hsA (.fn (.raises ⟨2, 5⟩)) ⟨3, 0⟩ =
      { trace := [.reactor ⟨3, 0⟩ (some ⟨4, 1⟩), .handler 10 ⟨4, 1⟩ none,
          .final ⟨4, 1⟩ (some ⟨2, 5⟩)],
        caught := true, loopExc := some ⟨4, 1⟩, recorded := some ⟨2, 5⟩, reraised := none,
        swallowedByReactor := false } := by decide
-- reactor handler returns True: nothing else happens
example : (handleException h₀ .retTrue hsA (.fn .returns) ⟨3, 0⟩).recorded = none ∧
    (handleException h₀ .retTrue hsA (.fn .returns) ⟨3, 0⟩).swallowedByReactor = true := by decide
-- hypotheses of `handler_raises_offered_to_later_only` are satisfiable
example : (handlerLoop h₀ [⟨10, [4], .returns⟩] ⟨3, 0⟩).broke = false ∧
    (⟨11, [2], .raises ⟨4, 7⟩⟩ : Handler).handles h₀ (handlerLoop h₀ [⟨10, [4], .returns⟩] ⟨3, 0⟩).exc
      = true := by decide
-- registration
example : registerHandlers [⟨1, [], .returns⟩]
    [(⟨2, [], .returns⟩, true), (⟨3, [], .returns⟩, false), (⟨4, [], .returns⟩, true)] =
    [⟨4, [], .returns⟩, ⟨2, [], .returns⟩, ⟨1, [], .returns⟩, ⟨3, [], .returns⟩] := by decide

end PyCraft.C14
