import PyCraft.Lemmas.VarIntDec
/-!
# C03 — VarInt/VarLong decoding is bounded and encoding terminates and is canonical

Only property theorems and non-vacuity examples live here; helper lemmas are in `Lemmas/`.
`mx = 5` is `VarInt`, `mx = 10` is `VarLong` (the reader's `max_bytes`); every statement is for all
`mx`.
-/
namespace PyCraft.C03
open PyCraft

/-- Round trip: for every `n` below the reader's bound, decoding the encoding followed by any other
bytes returns `n` and leaves exactly those other bytes. -/
theorem dec_enc (mx n : Nat) (rest : Bytes) (h : n < 2 ^ (7 * (mx + 1))) :
    decVarInt mx (encVarInt n ++ rest) = .ok (n, rest) :=
  decVarInt_encVarInt mx n rest h

/-- … in particular on the property's ranges `[0, 2^32)` for VarInt and `[0, 2^64)` for VarLong. -/
theorem dec_enc_varint (n : Nat) (rest : Bytes) (h : n < 2 ^ 32) :
    decVarInt 5 (encVarInt n ++ rest) = .ok (n, rest) :=
  dec_enc 5 n rest (Nat.lt_of_lt_of_le h (Nat.pow_le_pow_right (by omega) (by omega)))

theorem dec_enc_varlong (n : Nat) (rest : Bytes) (h : n < 2 ^ 64) :
    decVarInt 10 (encVarInt n ++ rest) = .ok (n, rest) :=
  dec_enc 10 n rest (Nat.lt_of_lt_of_le h (Nat.pow_le_pow_right (by omega) (by omega)))

/-- Bounded decoding: on ANY byte string the reader issues at most `mx + 1` one-byte reads (one
more than the nominal maximum), and at most one read beyond the bytes that exist. -/
theorem dec_reads_le (mx : Nat) (bs : Bytes) :
    decVarIntReads mx 0 bs ≤ mx + 1 ∧ decVarIntReads mx 0 bs ≤ bs.length + 1 := by
  rcases decVarInt_cases mx bs with ⟨pre, _, _, e, h1, -, -, -, hr⟩ | ⟨h1, -, -, hr⟩ | ⟨h1, -, -, hr⟩
  · rw [hr, e, List.length_append, List.length_cons]; omega
  · omega
  · omega

/-- The only failures are end-of-stream and over-long encoding. -/
theorem dec_error_kinds (mx : Nat) (bs : Bytes) (e : Err) (h : decVarInt mx bs = .error e) :
    e = .eof ∨ e = .tooLong := dec_err mx bs e h

/-- A successful decode consumed exactly a run of continuation bytes plus ONE terminator — it does
not read past the terminating byte: the remainder is returned untouched, the result is independent
of it, the number of bytes inspected is the length of that prefix, and the value is the base-128
value of the prefix (a natural number, hence non-negative). -/
theorem dec_ok (mx : Nat) (bs : Bytes) (v : Nat) (rest : Bytes)
    (h : decVarInt mx bs = .ok (v, rest)) :
    ∃ pre last, bs = pre ++ last :: rest ∧ pre.length + 1 ≤ mx + 1 ∧
      (∀ b ∈ pre, 128 ≤ b.toNat) ∧ last.toNat < 128 ∧
      decVarIntReads mx 0 bs = pre.length + 1 ∧
      v = leValue (pre ++ [last]) ∧
      (∀ rest', decVarInt mx (pre ++ last :: rest') = .ok (v, rest')) := by
  obtain ⟨pre, last, h1, h2, h3, h4, h5, h6, h7⟩ :=
    dec_ok_shape mx bs 0 0 v rest (by simp) (by omega) h
  exact ⟨pre, last, h1, by omega, h3, h4, h5, by simpa using h6, h7⟩

/-- Canonical form: the encoding of `n` is non-empty, every byte but the last carries the
continuation bit, the last does not, no trailing zero group, and its base-128 value is `n`. -/
theorem enc_canonical (n : Nat) : Canonical (encVarInt n) ∧ leValue (encVarInt n) = n :=
  ⟨enc_canonical_aux n, leValue_enc n⟩

/-- … and it is the ONLY such string: any canonical string is the encoding of its value. -/
theorem enc_canonical_unique (l : Bytes) (h : Canonical l) : encVarInt (leValue l) = l :=
  enc_unique l h

/-- The size table agrees with the encoder wherever the table is defined (`n < 2^84`), in
particular on `[0, 2^32)` and `[0, 2^64)`. -/
theorem enc_length_eq_size (n : Nat) (h : n < 2 ^ 84) :
    varintSize (n : Int) = .ok (encVarInt n).length := by
  obtain ⟨hlo, hhi⟩ := enc_length_bounds n
  exact size_bucket n _ (List.length_pos_iff.mpr (enc_ne_nil n)) (enc_length_le 11 n h) hlo hhi

/-- Above the table `size` raises (it does not return a wrong number). -/
theorem size_too_large (n : Nat) (h : 2 ^ 84 ≤ n) : varintSize (n : Int) = .error .value :=
  size_big n h

/-- Encoding any Python integer terminates: `encVarIntZ` is a total function (its termination is
checked by Lean); it yields bytes for `v ≥ 0` and `ValueError` for `v < 0`. -/
theorem encZ_total (v : Int) :
    (0 ≤ v ∧ encVarIntZ v = .ok (encVarInt v.toNat)) ∨ (v < 0 ∧ encVarIntZ v = .error .value) := by
  unfold encVarIntZ
  by_cases h : v < 0
  · right; simp [h]
  · left; simp [h]; omega

-- non-vacuity: concrete instances of the hypotheses
example : decVarInt 5 (encVarInt 300 ++ [7]) = .ok (300, [7]) := dec_enc 5 300 [7] (by omega)
example : decVarInt 5 [0xff, 0xff, 0xff, 0xff, 0xff, 0xff, 0x01] = .error .tooLong := by decide
example : decVarInt 5 [0xff, 0xff] = .error .eof := by decide
example : Canonical [0xac, 0x02] ∧ leValue [0xac, 0x02] = 300 := by simp [Canonical, leValue]
example : varintSize 300 = .ok 2 := by decide

end PyCraft.C03
