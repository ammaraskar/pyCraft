import PyCraft.Lemmas.C09Status
import PyCraft.Props.C09
import PyCraft.Props.C08
/-!
# C09 — the `status()` handler modes, the "only" of the fallback, totality
(closes item 18 of `docs/audit_report.md`)

Model: `Model/C09Status.lean` (namespace `PyCraft.NegS`), helper lemmas and the specification
vocabulary (`PingIffRequested`, `noVersion`, `FallbackOnlyWhenNoVersion`, `abstractReply`,
`ThreadShape`, …) in `Lemmas/C09Status.lean`.  Line numbers are those of
`minecraft/networking/connection.py`.

Where `Props/C09.lean` (over the model `Neg` of `Model/Negotiate.lean`) stops and this file goes on:

* there `doPing : Bool` is a free parameter.  Here the call is `statusCall p ctx hs hp exitCb …` with
  the two handler ARGUMENTS `hs hp : HArg` (`None` / callable / `False`), `do_ping` is computed from
  `hp` as in l.369, every handler invocation in the log is tagged with the callable that ran, and
  the rule `do_ping = handle_ping is not None` is refuted.
* there the status scripts are the two compliant ones; here ignorable packets may be interleaved
  anywhere, a response may fail to parse (`json.loads` raises), and three theorems hold for EVERY
  script.
* there the exit callback is a counter; here it is the action `exit` in the log and is shown to be
  last.
* there "falls back only when …" is relative to five reply shapes; here the reply is an arbitrary
  JSON value, unparsable JSON, end of stream or another socket error, `Neg.evalStatus` is shown to be
  the restriction of this model, and an exception test `isinstance(exc, Exception)` is refuted.
* there `session` is conditional on `= .ok s`; here it is total after a successful constructor, and
  the live version tables are shown to be sane.
-/
namespace PyCraft.C09Status
open PyCraft PyCraft.Neg PyCraft.NegS

/-! ## Part 1 — `Connection.status(handle_status, handle_ping)` -/

/-- The table of handler modes (l.369-380): `False` installs the no-op, a callable installs itself,
`None` leaves the printing method; latency is measured unless `handle_ping` is `False`; and the
defaults of the signature are `handle_status=None, handle_ping=False`. -/
theorem handler_callables (h : HArg) :
    (calleeOf h = .noop ↔ h = .disabled) ∧ (calleeOf h = .user ↔ h = .custom) ∧
    (calleeOf h = .printer ↔ h = .dflt) ∧ (doPingOf h = true ↔ h ≠ .disabled) ∧
    statusDefaultArgs = (.dflt, .disabled) :=
  ⟨(calleeOf_spec h).1, (calleeOf_spec h).2.1, (calleeOf_spec h).2.2, doPingOf_spec h, rfl⟩

/-- Whatever the server sends, in all nine combinations of the two arguments: every status-handler
invocation runs the callable selected by `handle_status`, every latency report runs the callable
selected by `handle_ping`, and a ping is sent or a latency reported only if `handle_ping` was not
`False`. -/
theorem handlers_invoked_are_installed {J : Type} (p : ConnParams) (ctx : Nat) (hs hp : HArg)
    (exitCb : Bool) (parse : String → Except Err J) (clock : Nat → Nat) (script : List StatusPkt) :
    (∀ w d, SAct.callStatus w d ∈ (statusCall p ctx hs hp exitCb parse clock script).acts →
      w = calleeOf hs) ∧
    (∀ w l, SAct.callPing w l ∈ (statusCall p ctx hs hp exitCb parse clock script).acts →
      w = calleeOf hp ∧ hp ≠ .disabled) ∧
    (∀ t, SAct.sendPing t ∈ (statusCall p ctx hs hp exitCb parse clock script).acts →
      hp ≠ .disabled) := by
  -- a handler call or a ping in the log is an action of the loop, and those are as `react` logs them
  have hloop := fun a (ha : a ∈ (statusCall p ctx hs hp exitCb parse clock script).acts) hl =>
    runLoopS_acts parse clock (doPingOf hp) (calleeOf hs) (calleeOf hp) script TSt.init a
      ((threadRun_loopAct_iff hl).1 ha)
  refine ⟨fun w d h => (hloop _ h rfl).status w d rfl, fun w l h => ?_, fun t h => ?_⟩
  · have := (hloop _ h rfl).ping w l rfl
    exact ⟨this.1, (doPingOf_spec hp).1 this.2⟩
  · exact (doPingOf_spec hp).1 ((hloop _ h rfl).sendPing t rfl)

/-- Pings exactly when latency was requested: as soon as a parsable response arrives (possibly
after packets the reactor ignores), a ping is sent iff `handle_ping` was `None` or a callable. -/
theorem ping_iff_requested : PingIffRequested doPingOf := by
  intro p ctx hs hp exitCb parse clock others rest j d ho hpj
  constructor
  · rintro ⟨t, ht⟩
    exact (handlers_invoked_are_installed p ctx hs hp exitCb parse clock _).2.2 t ht
  · intro hne
    have hd : doPingOf hp = true := (doPingOf_spec hp).2 hne
    refine ⟨clock 0, (threadRun_loopAct_iff rfl).2 ?_⟩
    rw [runLoopS_others ho, runLoopS_response_ok rfl hpj, hd]
    simp [TSt.init]

/-- The rule `do_ping = handle_ping is not None` (which leaves every theorem of
`Props/C09.lean` true) violates `ping_iff_requested`: with `handle_ping=False` it pings. -/
theorem changed_doPing_refuted : ¬ PingIffRequested (fun hp => hp != .dflt) := by
  intro h
  have := (h ⟨"h", 25565, none, none⟩ 0 .dflt .disabled false (fun s => .ok s) (fun _ => 7) [] []
    "{}" "{}" (by simp) rfl).1 ⟨7, by decide +kernel⟩
  exact this rfl

/-- Status query without latency, any interleaving of ignorable packets before the response and
anything at all after it, all three `handle_status` modes: the frames queued are the handshake
(protocol = context version, configured host and port, next state 1) and the request; the thread
disconnects, hands the PARSED object to the selected callable once, runs the exit callback (if there
is one) as the last action and ends; nothing else happens. -/
theorem status_noping_general {J : Type} (p : ConnParams) (ctx : Nat) (hs : HArg) (exitCb : Bool)
    (parse : String → Except Err J) (clock : Nat → Nat) (others extra : List StatusPkt) (j : String)
    (d : J) (ho : ∀ q ∈ others, IsOther q) (hpj : parse j = .ok d) :
    statusCall p ctx hs .disabled exitCb parse clock (others ++ .response j :: extra) =
      ⟨[.handshake ⟨ctx, p.host, p.port, 1⟩, .statusRequest],
       [.disconnect, .callStatus (calleeOf hs) d] ++ (if exitCb then [.exit] else []),
       false, true, none⟩ := by
  unfold statusCall statusCallWith threadRun
  rw [runLoopS_others ho, runLoopS_response_ok rfl hpj]
  cases exitCb <;> simp [doPingOf, TSt.disc, TSt.init, firstFrames, STATE_STATUS]

/-- Status query with latency (`handle_ping` `None` or a callable), ignorable packets interleaved
before the response and between response and pong, anything after the pong: one ping stamped with
the first clock reading, the parsed object handed to the selected status callable once, then — on the
pong — one disconnect, one latency report `second reading − time in the pong` to the selected ping
callable, the exit callback last.  (Second conjunct, plain arithmetic on that value: if the pong
echoes the ping's time and the clock did not go backwards, it is non-negative.) -/
theorem status_ping_general {J : Type} (p : ConnParams) (ctx : Nat) (hs hp : HArg) (exitCb : Bool)
    (parse : String → Except Err J) (clock : Nat → Nat) (o₁ o₂ extra : List StatusPkt) (j : String)
    (d : J) (t : Int) (hne : hp ≠ .disabled) (h₁ : ∀ q ∈ o₁, IsOther q) (h₂ : ∀ q ∈ o₂, IsOther q)
    (hpj : parse j = .ok d) :
    statusCall p ctx hs hp exitCb parse clock (o₁ ++ .response j :: (o₂ ++ .pong t :: extra)) =
      ⟨[.handshake ⟨ctx, p.host, p.port, 1⟩, .statusRequest],
       [.sendPing (clock 0), .callStatus (calleeOf hs) d, .disconnect,
         .callPing (calleeOf hp) ((clock 1 : Int) - t)] ++ (if exitCb then [.exit] else []),
       false, true, none⟩ ∧
    (t = (clock 0 : Int) → clock 0 ≤ clock 1 → (0 : Int) ≤ (clock 1 : Int) - t) := by
  refine ⟨?_, fun h1 h2 => by omega⟩
  have hd : doPingOf hp = true := (doPingOf_spec hp).2 hne
  unfold statusCall statusCallWith threadRun
  rw [runLoopS_others h₁, runLoopS_response_ok rfl hpj, hd,
    if_pos rfl, runLoopS_others h₂, runLoopS_pong rfl, if_pos rfl]
  cases exitCb <;> simp [TSt.disc, TSt.tick, TSt.init, firstFrames, STATE_STATUS]

/-- Latency, for EVERY script and every monotone clock: a reported latency is the reading taken
when the pong arrived minus the time that pong carried, and every ping sent in this query was
stamped with an earlier-or-equal reading — so whenever the pong echoes a ping that was sent, the
reported latency is non-negative. -/
theorem latency_general {J : Type} (p : ConnParams) (ctx : Nat) (hs hp : HArg) (exitCb : Bool)
    (parse : String → Except Err J) (clock : Nat → Nat) (script : List StatusPkt)
    (hm : ∀ i k, i ≤ k → clock i ≤ clock k) (w : Callee) (l : Int)
    (h : SAct.callPing w l ∈ (statusCall p ctx hs hp exitCb parse clock script).acts) :
    ∃ k t, StatusPkt.pong t ∈ script ∧ l = (clock k : Int) - t ∧
      (∀ t₁, SAct.sendPing t₁ ∈ (statusCall p ctx hs hp exitCb parse clock script).acts →
        t₁ ≤ clock k) ∧
      ((∃ t₁, SAct.sendPing t₁ ∈ (statusCall p ctx hs hp exitCb parse clock script).acts ∧
        t = (t₁ : Int)) → 0 ≤ l) := by
  obtain ⟨_, h2, h3⟩ := runLoopS_reads parse clock (doPingOf hp) (calleeOf hs) (calleeOf hp) script
    TSt.init
  obtain ⟨t, ht, _, hl⟩ := h3 w l ((threadRun_loopAct_iff rfl).1 h)
  have hs1 : ∀ t₁, SAct.sendPing t₁ ∈ (statusCall p ctx hs hp exitCb parse clock script).acts →
      t₁ ≤ clock ((runLoopS parse clock (doPingOf hp) (calleeOf hs) (calleeOf hp) TSt.init
        script).1.reads - 1) := by
    intro t₁ h1
    obtain ⟨i, _, hi2, rfl⟩ := h2 t₁ ((threadRun_loopAct_iff rfl).1 h1)
    exact hm _ _ (by omega)
  refine ⟨_, t, ht, hl, hs1, ?_⟩
  rintro ⟨t₁, h1, rfl⟩
  have := hs1 t₁ h1
  omega

/-- "Hands the PARSED status object": if the first response does not parse, `json.loads`'s error
goes to the exception handlers, the connection is closed immediately, no status handler runs, no
ping is sent, and the exit callback is NOT run (`_handle_exit` is skipped on the exception path). -/
theorem parse_failure {J : Type} (p : ConnParams) (ctx : Nat) (hs hp : HArg) (exitCb : Bool)
    (parse : String → Except Err J) (clock : Nat → Nat) (others extra : List StatusPkt) (j : String)
    (e : Err) (ho : ∀ q ∈ others, IsOther q) (hpj : parse j = .error e) :
    statusCall p ctx hs hp exitCb parse clock (others ++ .response j :: extra) =
      ⟨[.handshake ⟨ctx, p.host, p.port, 1⟩, .statusRequest],
       [.excHandlers e, .disconnectImmediate], false, true, some e⟩ := by
  unfold statusCall statusCallWith threadRun
  rw [runLoopS_others ho, runLoopS_response_err rfl hpj]
  simp [firstFrames, STATE_STATUS]

/-- "Finally closes the connection and runs the exit callback", for EVERY script: the thread is in
exactly one of three situations —
* still waiting (script exhausted): connected, nothing closed;
* an exception ended it: the log ends with handlers + immediate disconnect, closed, no exit callback;
* it ended normally: the log is `… , disconnect, <the one handler call of that packet>` followed by
  `exit` as the very last action iff an exit callback was given; closed; no other `disconnect`.
The handler call after the disconnect is the status handler when latency was not requested and the
latency handler when it was. -/
theorem thread_outcomes {J : Type} (p : ConnParams) (ctx : Nat) (hs hp : HArg) (exitCb : Bool)
    (parse : String → Except Err J) (clock : Nat → Nat) (script : List StatusPkt) :
    ThreadShape (doPingOf hp) (calleeOf hs) (calleeOf hp) exitCb
      [.handshake ⟨ctx, p.host, p.port, 1⟩, .statusRequest]
      (statusCall p ctx hs hp exitCb parse clock script) :=
  threadRun_shape parse clock (doPingOf hp) (calleeOf hs) (calleeOf hp) exitCb _ script

/-- The exit callback in the log, for EVERY script: `exit` occurs iff an exit callback was given
and a `disconnect` happened; when it occurs it is the LAST action, the connection is closed, the
thread has ended without error; a `disconnect` always leaves the connection closed and the thread
ended; and `exit` never occurs twice. -/
theorem exit_is_last {J : Type} (p : ConnParams) (ctx : Nat) (hs hp : HArg) (exitCb : Bool)
    (parse : String → Except Err J) (clock : Nat → Nat) (script : List StatusPkt)
    (run : StatusRunS J) (hrun : run = statusCall p ctx hs hp exitCb parse clock script) :
    (SAct.exit ∈ run.acts ↔ exitCb = true ∧ SAct.disconnect ∈ run.acts) ∧
    (SAct.exit ∈ run.acts → run.acts.getLast? = some .exit ∧ run.connected = false ∧
      run.threadEnded = true ∧ run.error = none) ∧
    (SAct.disconnect ∈ run.acts → run.connected = false ∧ run.threadEnded = true ∧
      run.error = none) ∧
    run.acts.countP SAct.isExit ≤ 1 := by
  subst hrun
  exact (thread_outcomes p ctx hs hp exitCb parse clock script).exit_last

/-- Without latency, EVERY script: nothing happens until the first response; that response either
fails to parse (error path) or is handed to the status handler exactly once, after the disconnect;
later responses, pongs and anything else are never reacted to. -/
theorem noping_any_script {J : Type} (p : ConnParams) (ctx : Nat) (hs : HArg) (exitCb : Bool)
    (parse : String → Except Err J) (clock : Nat → Nat) (script : List StatusPkt) :
    ((∀ j, StatusPkt.response j ∉ script) ∧
      (statusCall p ctx hs .disabled exitCb parse clock script).acts = [] ∧
      (statusCall p ctx hs .disabled exitCb parse clock script).threadEnded = false) ∨
    (∃ others j rest e, script = others ++ .response j :: rest ∧
      (∀ q ∈ others, ∀ j', q ≠ StatusPkt.response j') ∧ parse j = .error e ∧
      (statusCall p ctx hs .disabled exitCb parse clock script).acts =
        [.excHandlers e, .disconnectImmediate]) ∨
    (∃ others j rest d, script = others ++ .response j :: rest ∧
      (∀ q ∈ others, ∀ j', q ≠ StatusPkt.response j') ∧ parse j = .ok d ∧
      (statusCall p ctx hs .disabled exitCb parse clock script).acts =
        [.disconnect, .callStatus (calleeOf hs) d] ++ (if exitCb then [.exit] else [])) := by
  have heq := runLoopS_noping_eq parse clock (calleeOf hs) (calleeOf .disabled) script TSt.init rfl
  unfold statusCall statusCallWith threadRun
  rw [show doPingOf .disabled = false from rfl, heq]
  cases hf : script.find? StatusPkt.isResponse with
  | none =>
    refine .inl ⟨fun j hj => ?_, rfl, rfl⟩
    simpa [StatusPkt.isResponse] using List.find?_eq_none.1 hf _ hj
  | some q =>
    obtain ⟨hq, others, rest, rfl, ho⟩ := List.find?_eq_some_iff_append.1 hf
    have ho' : ∀ q ∈ others, ∀ j', q ≠ StatusPkt.response j' := fun q hq j' he => by
      subst he; simpa [StatusPkt.isResponse] using ho _ hq
    cases q with
    | other | pong _ => cases hq
    | response j =>
      cases hp : parse j with
      | error e => exact .inr (.inl ⟨others, j, rest, e, rfl, ho', hp, by simp only [hp]; rfl⟩)
      | ok d =>
        exact .inr (.inr ⟨others, j, rest, d, rfl, ho', hp, by simp only [hp]; cases exitCb <;> rfl⟩)

/-! ## Part 2 — negotiation on arbitrary replies -/

/-- "Falls back to the configured default version ONLY when the reply carries no version or the
server closes without replying", over every reply the status connection can produce (any JSON
value, unparsable JSON, end of stream, any other socket error): `handle_failure()` is what happens
— and then with the default version — exactly when `noVersion r`. -/
theorem fallback_only_when_no_version : FallbackOnlyWhenNoVersion isEOFError := by
  intro env kn allowed dflt r v
  show evalReply env kn allowed dflt r = .connect v true ↔ _
  rcases evalReply_shape env kn allowed dflt r with
    ⟨hn, h⟩ | ⟨hn, ⟨_, xk, proto, _, _, _, h⟩ | ⟨e, h, _⟩⟩ <;> rw [h, hn]
  · exact ⟨fun he => by cases he; exact ⟨rfl, rfl⟩, fun he => he.1 ▸ rfl⟩
  · -- whatever the membership test says, what follows is not `handle_failure()`
    refine ⟨fun he => ?_, fun he => by cases he.2⟩
    rcases afterProto_cases env kn allowed (.obj xk) proto with
      ⟨_, h1, _⟩ | ⟨_, h1, _⟩ | ⟨_, _, _, _, h1⟩ <;> rw [h1] at he <;> cases he
  · exact ⟨nofun, fun he => by cases he.2⟩

/-- A `handle_exception` testing `isinstance(exc, Exception)` instead of `EOFError` (or the
fallback moved to a place where every error reaches it) violates
`fallback_only_when_no_version`: a connection reset then falls back to the default version. -/
theorem changed_exception_test_refuted : ¬ FallbackOnlyWhenNoVersion (fun _ => true) := by
  intro h
  have := (h ⟨[], [47, 340], [47, 340]⟩ [] [47, 340] 340 .ioError 340).1 (by decide +kernel)
  exact absurd this.2 (by decide)

/-- Login with the server's version, exactly: `handle_proto_version(v)` is reached other than by
the fallback iff the reply is a JSON object whose `version` is an object whose `protocol` is the
integer `v` (or the JSON boolean equal to it: `True == 1`), and `v` is allowed. -/
theorem login_with_reported_version_iff (env : VEnv) (kn : List (String × Nat)) (allowed : List Nat)
    (dflt : Nat) (r : Reply) (v : Nat) :
    evalReply env kn allowed dflt r = .connect v false ↔
      ∃ kvs xk proto, r = .json (.obj kvs) ∧ lookup kvs "version" = some (.obj xk) ∧
        lookup xk "protocol" = some proto ∧ v ∈ allowed ∧
        (proto = .int (v : Int) ∨ (proto = .bool true ∧ v = 1) ∨ (proto = .bool false ∧ v = 0)) := by
  constructor
  · intro he
    rcases evalReply_shape env kn allowed dflt r with
      ⟨_, h⟩ | ⟨_, ⟨kvs, xk, proto, h1, h2, h3, h⟩ | ⟨e, h, _⟩⟩ <;> rw [h] at he
    · cases he
    · refine ⟨kvs, xk, proto, h1, h2, h3, ?_⟩
      rcases afterProto_cases env kn allowed (.obj xk) proto with
        ⟨_, g, _⟩ | ⟨_, g, _⟩ | ⟨w, h4, h5, h6, g⟩ <;> rw [g] at he <;> cases he
      refine ⟨h4, ?_⟩
      cases proto with
      | int n =>
        simp only [intKey, Option.some.injEq] at h5
        subst h5
        exact .inl rfl
      | bool b =>
        cases b with
        | true =>
          simp only [intKey, if_true, Option.some.injEq] at h5
          exact .inr (.inl ⟨rfl, by omega⟩)
        | false =>
          simp only [intKey, Bool.false_eq_true, if_false, Option.some.injEq] at h5
          exact .inr (.inr ⟨rfl, by omega⟩)
      | flt f =>
        cases f with
        | integral m => exact absurd rfl (h6 m)
        | fractional | nan | inf => cases h5
      | null | str _ | arr _ | obj _ => cases h5
    · cases he
  · rintro ⟨kvs, xk, proto, rfl, h2, h3, h4, hp⟩
    refine evalReply_of_reported env kn allowed dflt kvs xk proto v h2 h3 h4 ?_ ?_
    · rcases hp with rfl | ⟨rfl, rfl⟩ | ⟨rfl, rfl⟩ <;> rfl
    · intro m hm
      rcases hp with rfl | ⟨rfl, _⟩ | ⟨rfl, _⟩ <;> cases hm

/-- The first model (`Neg.evalStatus` on the five shapes of `Neg.StatusReply`) is this model
restricted to the replies it can express: end of stream; `{}`; a non-empty object without
`version`; `version` an object without `protocol`; `version.protocol` an integer with
`version.name` absent, `null` or a string.  So `C09.negotiate_sound`, `negotiate_complete` and the
message theorems carry over verbatim to those replies — and the error's text is the first model's. -/
theorem refines_first_model (env : VEnv) (kn : List (String × Nat)) (allowed : List Nat) (dflt : Nat)
    (r : Reply) (a : StatusReply) (h : abstractReply r = some a) :
    evalReply env kn allowed dflt r =
      embedOutcome (isFallbackShape a) (evalStatus env allowed dflt a) ∧
    (∀ n name b, evalStatus env allowed dflt a = .mismatch n name b →
      mismatchText (.int n) (nameJV name) b = some (mismatchMessage n name b)) :=
  ⟨evalReply_refines env kn allowed dflt r a h, fun n name b _ => mismatchText_int n name b⟩

/-- Replies outside the first model's vocabulary that do NOT fall back: unparsable JSON, a socket
error other than end of stream, the empty object, and a JSON scalar each deliver their own error to
the exception handlers; none of them opens a login connection. -/
theorem errors_are_delivered (env : VEnv) (kn : List (String × Nat)) (allowed : List Nat)
    (dflt : Nat) :
    evalReply env kn allowed dflt .badJson = .raised .json ∧
    evalReply env kn allowed dflt .ioError = .raised .os ∧
    evalReply env kn allowed dflt (.json (.obj [])) = .raised .invalidStatus ∧
    evalReply env kn allowed dflt (.json .null) = .raised (.py .type) ∧
    (∀ b, evalReply env kn allowed dflt (.json (.bool b)) = .raised (.py .type)) ∧
    (∀ n, evalReply env kn allowed dflt (.json (.int n)) = .raised (.py .type)) ∧
    (∀ f, evalReply env kn allowed dflt (.json (.flt f)) = .raised (.py .type)) :=
  ⟨rfl, rfl, rfl, rfl, fun _ => rfl, fun _ => rfl, fun _ => rfl⟩

/-- Every `VersionMismatch` that can be raised: its wording says "supported, but not allowed"
exactly when the protocol it names is in `SUPPORTED_PROTOCOL_VERSIONS`; it comes from a JSON object
whose `version` object has a `protocol` that is NOT (equal to) an allowed version; it records
`version.get('name')`; and it names the reported protocol itself — except when that is `null`, in
which case (l.554-555) it names the protocol that `KNOWN_MINECRAFT_VERSIONS` gives for the NAME, or
none. -/
theorem mismatch_sound (env : VEnv) (kn : List (String × Nat)) (allowed : List Nat) (dflt : Nat)
    (r : Reply) (sp sv : JV) (b : Bool)
    (h : evalReply env kn allowed dflt r = .raised (.mismatch sp sv b)) :
    (b = true ↔ ∃ p ∈ env.supportedProtocols, intKey sp = some (p : Int)) ∧
    ∃ kvs xk proto, r = .json (.obj kvs) ∧ lookup kvs "version" = some (.obj xk) ∧
      lookup xk "protocol" = some proto ∧ sv = (lookup xk "name").getD .null ∧
      (∀ v ∈ allowed, intKey proto ≠ some (v : Int)) ∧
      ((proto ≠ .null ∧ sp = proto) ∨
       (proto = .null ∧ ((sp = .null ∧ ∀ s p, sv = .str s → dictGet kn s ≠ some p) ∨
          ∃ s p, sv = .str s ∧ dictGet kn s = some p ∧ sp = .int p))) := by
  rcases evalReply_shape env kn allowed dflt r with
    ⟨_, h'⟩ | ⟨_, ⟨kvs, xk, proto, hr, hx, hp, h'⟩ | ⟨e, h', hne⟩⟩ <;> rw [h'] at h
  · cases h
  · rcases afterProto_cases env kn allowed (.obj xk) proto with
      ⟨_, g, _, horig⟩ | ⟨_, g, _⟩ | ⟨_, _, _, _, g⟩ <;> rw [g] at h <;> cases h
    obtain ⟨name, hn, hset, hvm⟩ := horig sp sv b rfl
    cases hn
    obtain ⟨h1, h2, h3⟩ := versionMismatchX_spec env kn _ _ _ _ _ hvm
    exact ⟨h2 ▸ inIntList_iff _ _, kvs, xk, proto, hr, hx, hp, h1, inIntSet_false _ _ hset, h1 ▸ h3⟩
  · cases h; exact absurd rfl (hne _ _ _)

/-- A JSON float equal to an allowed version (`"protocol": 47.0`) passes `proto in allowed` and is
handed to `handle_proto_version` as a float — observed on the real code: a second TCP connection is
opened and its first write raises `TypeError` before any byte is sent. -/
theorem float_protocol (env : VEnv) (kn : List (String × Nat)) (allowed : List Nat) (dflt : Nat)
    (kvs xk : List (String × JV)) (v : Nat)
    (h1 : lookup kvs "version" = some (.obj xk))
    (h2 : lookup xk "protocol" = some (.flt (.integral (v : Int)))) (hv : v ∈ allowed) :
    evalReply env kn allowed dflt (.json (.obj kvs)) = .connectFloat (v : Int) :=
  evalReply_of_float env kn allowed dflt kvs xk v h1 h2 hv

/-! ## Part 3 — totality of `session`, the live tables -/

/-- Once the constructor has succeeded, `connect()`'s two-connection exchange is total: for every
connection parameters and every server reply there is a session — no hypothesis on the tables is
needed (the constructor already evaluated the only `max` that can raise). -/
theorem session_total (env : VEnv) (allowed : Option (List VReq)) (initial : Option VReq) (cfg : Cfg)
    (h : ctor env allowed initial = .ok cfg) (p : ConnParams) (r : StatusReply) :
    ∃ s, session env p cfg.allowed cfg.default r = .ok s := by
  obtain ⟨_, hl, _, _⟩ := ctor_ok env allowed initial cfg h
  rw [session_eq, hl]
  exact ⟨_, rfl⟩

/-- The version tables of the running module, as the `VEnv` the negotiation model consults. -/
def liveEnv : VEnv :=
  ⟨liveTables.supportedVersions, liveTables.supportedProtocols, liveTables.knownProtocols⟩

/-- The live tables are sane: every supported protocol has a rank.  (Not by enumeration: from the
general theorem `C08.supported_projection` and the kernel-checked `C08.model_eq_live`.) -/
theorem live_sane : Sane liveEnv := by
  intro p hp
  obtain ⟨_, _, _, _, hknown, _⟩ := C08.supported_projection liveRecords
  rw [C08.model_eq_live] at hknown
  exact hknown p hp

/-- `rankOf liveEnv` is `PROTOCOL_VERSION_INDICES.get` of the running module. -/
theorem live_rank (v : Nat) (hv : v ∈ liveEnv.knownOrder) :
    index liveTables v = some (rankOf liveEnv v) := by
  obtain ⟨_, hindex, _, _⟩ := C08.indices_spec liveRecords
  rw [C08.model_eq_live] at hindex
  rw [hindex v (rankOf liveEnv v)]
  have hv' : v ∈ liveTables.knownProtocols := hv
  have hlt := List.idxOf_lt_length_of_mem hv'
  show liveTables.knownProtocols[liveTables.knownProtocols.idxOf v]? = some v
  rw [List.getElem?_eq_getElem hlt, List.getElem_idxOf hlt]

/-- With the live tables: the default constructor succeeds, and after ANY successful constructor
every session exists. -/
theorem live_session_total :
    (∃ cfg, ctor liveEnv none none = .ok cfg) ∧
    (∀ allowed initial cfg, ctor liveEnv allowed initial = .ok cfg →
      ∀ p r, ∃ s, session liveEnv p cfg.allowed cfg.default r = .ok s) :=
  ⟨C09.ctor_succeeds liveEnv live_sane none none (by decide +kernel) (fun _ h => by cases h),
   fun allowed initial cfg h p r => session_total liveEnv allowed initial cfg h p r⟩

/-! ## Non-vacuity and concrete instances -/

section Examples
open PyCraft.C09 (envEx paramsEx)

/-- A stand-in for `json.loads` in the examples: identity, except one text that raises. -/
def parseEx (s : String) : Except Err String := if s = "{bad" then .error .value else .ok s
/-- The readings of `int(1000 * timeit.default_timer())` in the examples: 1000, 1042, then 1100. -/
def clockEx (k : Nat) : Nat := [1000, 1042, 1100].getD k 1100

-- all handler modes on a script with ignorable packets interleaved
example : statusCall paramsEx 754 .dflt .custom true parseEx clockEx
    [.other, .response "{}", .other, .other, .pong 1000, .response "x"] =
    ⟨[.handshake ⟨754, "mc.example.org", 25565, 1⟩, .statusRequest],
     [.sendPing 1000, .callStatus .printer "{}", .disconnect, .callPing .user 42, .exit],
     false, true, none⟩ := by decide +kernel
example : statusCall paramsEx 754 .custom .dflt false parseEx clockEx
    [.response "{}", .pong 1000] =
    ⟨[.handshake ⟨754, "mc.example.org", 25565, 1⟩, .statusRequest],
     [.sendPing 1000, .callStatus .user "{}", .disconnect, .callPing .printer 42],
     false, true, none⟩ := by decide +kernel
example : statusCall paramsEx 754 .disabled .disabled true parseEx clockEx
    [.other, .response "{}", .pong 5] =
    ⟨[.handshake ⟨754, "mc.example.org", 25565, 1⟩, .statusRequest],
     [.disconnect, .callStatus .noop "{}", .exit], false, true, none⟩ := by decide +kernel
-- the signature's defaults: print the status, no ping
example : statusCall paramsEx 754 statusDefaultArgs.1 statusDefaultArgs.2 true parseEx clockEx
    [.response "{}"] =
    ⟨[.handshake ⟨754, "mc.example.org", 25565, 1⟩, .statusRequest],
     [.disconnect, .callStatus .printer "{}", .exit], false, true, none⟩ := by decide +kernel
-- unparsable JSON: error path, no exit callback
example : statusCall paramsEx 754 .custom .custom true parseEx clockEx [.other, .response "{bad"] =
    ⟨[.handshake ⟨754, "mc.example.org", 25565, 1⟩, .statusRequest],
     [.excHandlers .value, .disconnectImmediate], false, true, some .value⟩ := by decide +kernel
-- a server that never answers: the thread keeps waiting
example : (statusCall paramsEx 754 .custom .custom true parseEx clockEx [.other, .other]).threadEnded
    = false := by decide +kernel
-- a non-compliant server: the latency can be negative when the pong does not echo the ping
example : statusCall paramsEx 754 .custom .custom false parseEx clockEx [.response "{}", .pong 5000] =
    ⟨[.handshake ⟨754, "mc.example.org", 25565, 1⟩, .statusRequest],
     [.sendPing 1000, .callStatus .user "{}", .disconnect, .callPing .user (-3958)],
     false, true, none⟩ := by decide +kernel
-- the changed `do_ping` rule, concretely
example : (statusCallWith (fun hp => hp != .dflt) paramsEx 754 .dflt .disabled true parseEx clockEx
    [.response "{}"]).acts = [.sendPing 1000, .callStatus .printer "{}"] := by decide +kernel
-- a monotone clock (hypothesis `hm` of `latency_general`)
example : ∀ i k, i ≤ k → (fun n => 1000 + 42 * n) i ≤ (fun n => 1000 + 42 * n) k :=
  fun _ _ h => Nat.add_le_add_left (Nat.mul_le_mul_left 42 h) 1000

/-- Known version names for the examples (`KNOWN_MINECRAFT_VERSIONS`). -/
def knEx : List (String × Nat) := [("1.8.9", 47), ("1.12.2", 340), ("1.16.4", 754), ("1.14.4", 498)]

/-- A status object `{"description": "x", "version": {"protocol": proto, …rest}}`. -/
def verObj (proto : JV) (rest : List (String × JV)) : JV :=
  .obj [("description", .str "x"), ("version", .obj (("protocol", proto) :: rest))]

example : evalReply envEx knEx [47, 340] 340 (.json (verObj (.int 47) [("name", .str "1.8.9")])) =
    .connect 47 false := by decide +kernel
example : evalReply envEx knEx [47, 340] 340 (.json (verObj (.int 754) [("name", .str "1.16.4")])) =
    .raised (.mismatch (.int 754) (.str "1.16.4") true) := by decide +kernel
example : evalReply envEx knEx [47, 340] 340 (.json (verObj (.int (-3)) [])) =
    .raised (.mismatch (.int (-3)) .null false) := by decide +kernel
-- fallbacks: end of stream; objects, LISTS and STRINGS that do not contain the key
example : evalReply envEx knEx [47, 340] 340 .closed = .connect 340 true := by decide +kernel
example : evalReply envEx knEx [47, 340] 340 (.json (.obj [("description", .str "x")])) =
    .connect 340 true := by decide +kernel
example : evalReply envEx knEx [47, 340] 340 (.json (.obj [("version", .obj [("name", .str "y")])])) =
    .connect 340 true := by decide +kernel
example : evalReply envEx knEx [47, 340] 340 (.json (.arr [])) = .connect 340 true := by
  decide +kernel
example : evalReply envEx knEx [47, 340] 340 (.json (.str "")) = .connect 340 true := by
  decide +kernel
example : evalReply envEx knEx [47, 340] 340 (.json (.obj [("version", .arr [])])) =
    .connect 340 true := by decide +kernel
-- no fallback
example : evalReply envEx knEx [47, 340] 340 .badJson = .raised .json := by decide +kernel
example : evalReply envEx knEx [47, 340] 340 .ioError = .raised .os := by decide +kernel
example : evalReply envEx knEx [47, 340] 340 (.json (.obj [])) = .raised .invalidStatus := by
  decide +kernel
example : evalReply envEx knEx [47, 340] 340 (.json (.obj [("version", .null)])) =
    .raised (.py .type) := by decide +kernel
example : evalReply envEx knEx [47, 340] 340 (.json (.str "my version")) = .raised (.py .type) := by
  decide +kernel
example : evalReply envEx knEx [47, 340] 340 (.json (verObj (.str "47") [])) =
    .raised (.py .type) := by decide +kernel
example : evalReply envEx knEx [47, 340] 340 (.json (verObj (.flt .nan) [])) =
    .raised (.py .value) := by decide +kernel
-- quirks of dynamic typing, as observed on the real code
example : evalReply envEx knEx [47, 340] 340 (.json (verObj (.flt (.integral 47)) [])) =
    .connectFloat 47 := by decide +kernel
example : evalReply envEx knEx [47, 340] 340 (.json (verObj (.flt .fractional) [])) =
    .raised (.mismatch (.flt .fractional) .null false) := by decide +kernel
example : evalReply envEx knEx [47, 340] 340 (.json (verObj (.bool true) [])) =
    .raised (.mismatch (.bool true) .null false) := by decide +kernel
-- `"protocol": null`: the name decides — and an ALLOWED version is then reported as
-- "supported, but not allowed for this connection"
example : evalReply envEx knEx [47, 340] 340 (.json (verObj .null [("name", .str "1.8.9")])) =
    .raised (.mismatch (.int 47) (.str "1.8.9") true) := by decide +kernel
example : mismatchText (.int 47) (.str "1.8.9") true = some
    "Server's protocol version of 47 (1.8.9) is supported, but not allowed for this connection." := by
  decide +kernel
example : evalReply envEx knEx [47, 340] 340 (.json (verObj .null [("name", .str "zzz")])) =
    .raised (.mismatch .null (.str "zzz") false) := by decide +kernel
example : mismatchText .null (.str "zzz") false = some "Server's version of zzz is not supported." := by
  decide +kernel
example : evalReply envEx knEx [47, 340] 340 (.json (verObj .null [("name", .arr [])])) =
    .raised (.py .type) := by decide +kernel
-- the changed exception test, concretely
example : evalReplyWith (fun _ => true) envEx knEx [47, 340] 340 .ioError = .connect 340 true := by
  decide +kernel
example : evalReplyWith (fun _ => true) envEx knEx [47, 340] 340
    (.json (verObj (.int 754) [])) = .connect 340 true := by decide +kernel
-- the abstraction to the first model
example : abstractReply (.json (verObj (.int 47) [("name", .str "1.8.9")])) =
    some (.proto 47 (some "1.8.9")) := by decide +kernel
example : abstractReply (.json (.arr [])) = none := by decide +kernel
example : noVersion (.json (.arr [])) = true ∧ noVersion .ioError = false ∧
    noVersion (.json (.obj [])) = false := by decide +kernel
-- sessions after a successful constructor
example : ctor envEx (some [.num 340, .num 47]) (some (.num 754)) = .ok ⟨[47, 340], 754, 340⟩ ∧
    (session envEx paramsEx [47, 340] 754 .closedBeforeReply).toOption.map (·.outcome) =
      some (.connect 754) := by decide +kernel
example : liveEnv.supportedProtocols.length ≥ 100 ∧ 757 ∈ liveEnv.supportedProtocols := by
  decide +kernel

end Examples

end PyCraft.C09Status
