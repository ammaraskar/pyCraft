import PyCraft.Lemmas.C06DispatchTables
import PyCraft.Props.C06
import PyCraft.Lemmas.VersionsLive
/-!
# C06Dispatch — "the decoder chosen is the class whose id it is, and the choice never depends on
set iteration order", stated about the REAL tables and the REAL reactors (audit rank 20)

Relative to `Props/C06.lean`:

* `dispatch_sound`, `dispatch_defined`, `dispatch_unique_at`, `dispatch_order_independent_at` need no
  global `Nodup`: they hold for every list of registered classes, collisions or not, id by id;
  `dispatch_any_winner` / `dispatch_order_dependent` show local uniqueness is also NECESSARY;
* `tables_names` / `tables_versions` / `tables_supported` / `supported_row_iff` / `domain_complete`
  pin the domain of `idTables` to 8 names × `knownProtocols`, flags = `supportedProtocols` (250);
* `collisions_exact` states the K1 exclusion by the exact colliding CLASS SETS, not by id
  (`knownCollisionSets`); `known_collisions_real` shows each is real and makes the winner depend on
  the iteration order (a negative result with witnesses);
* `dispatch_on_tables` instantiates dispatch on every supported row of every table, including the
  non-colliding ids of the K1 rows;
* `reactor_binding`, `reactor_dicts`, `self_ids_agree` tie this to the running code: which table each
  reactor class of connection.py uses, that the dict its real `__init__` built at every supported
  version is an instance of the modelled comprehension over the tabulated row, and that the id
  `Packet.write` sends (`self.id`) is the tabulated `get_id(context)`.

Tables are regenerated from /repo on every run (`harness/extract.py`, `harness/gen/c06dispatch.py`).
-/
namespace PyCraft.C06Dispatch
open PyCraft PyCraft.Gen

/-! ### The comprehension, id by id, with no global hypothesis -/

/-- Soundness, unconditionally: whatever the iteration order `perm` of the registered classes, and
whether or not ids collide, the class the dict returns for id `i` is a registered class whose id is
`i`. -/
theorem dispatch_sound (ents perm : List (String × Int)) (hp : perm.Perm ents) (i : Int)
    (c : String) (h : dictGet (buildDict perm) i = some c) : (c, i) ∈ ents :=
  hp.mem_iff.mp (dictGet_buildDict_some h)

/-- `packet_id in self.clientbound_packets` (connection.py:706) holds exactly when some registered
class has that id — in every iteration order. -/
theorem dispatch_defined (ents perm : List (String × Int)) (hp : perm.Perm ents) (i : Int) :
    (dictGet (buildDict perm) i).isSome = true ↔ ∃ c, (c, i) ∈ ents := by
  rw [dictGet_buildDict_isSome]
  exact exists_congr fun c => hp.mem_iff

/-- Local uniqueness suffices: if at most one registered class has id `i` (other ids may collide
freely), then in every iteration order the dict maps `i` to exactly the class whose id it is. -/
theorem dispatch_unique_at (ents perm : List (String × Int)) (hp : perm.Perm ents) (i : Int)
    (hu : (ents.filter fun e => e.2 == i).length ≤ 1) (c : String) :
    dictGet (buildDict perm) i = some c ↔ (c, i) ∈ ents := by
  constructor
  · exact dispatch_sound ents perm hp i c
  · intro h
    have hs := (dispatch_defined ents perm hp i).mpr ⟨c, h⟩
    cases hd : dictGet (buildDict perm) i with
    | none => simp [hd] at hs
    | some c' =>
      have h' := dispatch_sound ents perm hp i c' hd
      have := eq_of_mem_of_length_le_one hu (List.mem_filter.mpr ⟨h, by simp⟩)
        (List.mem_filter.mpr ⟨h', by simp⟩)
      simp only [Prod.mk.injEq, and_true] at this
      rw [this]

/-- … hence at such an id the decoder chosen does not depend on the set iteration order. -/
theorem dispatch_order_independent_at (ents p₁ p₂ : List (String × Int)) (h₁ : p₁.Perm ents)
    (h₂ : p₂.Perm ents) (i : Int) (hu : (ents.filter fun e => e.2 == i).length ≤ 1) :
    dictGet (buildDict p₁) i = dictGet (buildDict p₂) i :=
  Option.ext fun c => by
    rw [dispatch_unique_at ents p₁ h₁ i hu c, dispatch_unique_at ents p₂ h₂ i hu c]

/-- Every registered class with id `i` wins in some iteration order (the one that visits it last). -/
theorem dispatch_any_winner (ents : List (String × Int)) (i : Int) (c : String)
    (h : (c, i) ∈ ents) : ∃ perm, perm.Perm ents ∧ dictGet (buildDict perm) i = some c :=
  exists_perm_dictGet h

/-- Local uniqueness is necessary: as soon as two different classes share id `i`, two iteration
orders of the same set give two different decoders for `i`. -/
theorem dispatch_order_dependent (ents : List (String × Int)) (i : Int) (c₁ c₂ : String)
    (h₁ : (c₁, i) ∈ ents) (h₂ : (c₂, i) ∈ ents) (hne : c₁ ≠ c₂) :
    ∃ p₁ p₂, p₁.Perm ents ∧ p₂.Perm ents ∧
      dictGet (buildDict p₁) i ≠ dictGet (buildDict p₂) i := by
  obtain ⟨p₁, hp₁, hd₁⟩ := exists_perm_dictGet h₁
  obtain ⟨p₂, hp₂, hd₂⟩ := exists_perm_dictGet h₂
  refine ⟨p₁, p₂, hp₁, hp₂, ?_⟩
  rw [hd₁, hd₂]; intro h; exact hne (Option.some.inj h)

/-- What "being the comprehension's result for some iteration order" gives about a dict `d`: it
returns only classes whose id is the key; it has a key exactly for the ids some class carries; and
where one class carries the id, it returns that class. -/
theorem comprehension_spec (d : List (Int × String)) (ents : List (String × Int))
    (h : IsComprehensionOf d ents) :
    (∀ i c, dictGet d i = some c → (c, i) ∈ ents) ∧
    (∀ i, (dictGet d i).isSome = true ↔ ∃ c, (c, i) ∈ ents) ∧
    (∀ i, (ents.filter fun e => e.2 == i).length ≤ 1 →
      ∀ c, dictGet d i = some c ↔ (c, i) ∈ ents) := by
  obtain ⟨perm, hp, hd⟩ := h
  refine ⟨?_, ?_, ?_⟩
  · intro i c; rw [← hd]; exact dispatch_sound ents perm hp i c
  · intro i; rw [← hd]; exact dispatch_defined ents perm hp i
  · intro i hu c; rw [← hd]; exact dispatch_unique_at ents perm hp i hu c

/-! ### The domain of the tabulated id tables -/

/-- The tabulation has exactly the eight state/direction tables, in this order. -/
theorem tables_names : idTables.map (·.1) = tableNames := by decide +kernel

/-- Every table has one row per KNOWN protocol version, in the order of the live
`KNOWN_PROTOCOL_VERSIONS`. -/
theorem tables_versions : ∀ t ∈ idTables, t.2.map (·.1) = liveTables.knownProtocols := by
  intro t ht
  have h := checkVersions_ok
  simp only [checkVersions, List.all_eq_true] at h
  simpa using h t ht

/-- … which lists no version twice (`C08`): a version names one row of a table. -/
theorem versions_nodup : ∀ t ∈ idTables, (t.2.map (·.1)).Nodup := by
  intro t ht
  rw [tables_versions t ht]
  exact live_knownProtocols_nodup

/-- In every table the rows flagged "supported" are, in order, exactly the live
`SUPPORTED_PROTOCOL_VERSIONS`. -/
theorem tables_supported :
    ∀ t ∈ idTables, (supportedRows t.2).map (·.1) = liveTables.supportedProtocols := by
  intro t ht
  have h := checkFlags_ok
  simp only [checkFlags, List.all_eq_true] at h
  simpa using h t ht

/-- A row is flagged "supported" exactly when its version is a supported protocol version. -/
theorem supported_row_iff :
    ∀ t ∈ idTables, ∀ r ∈ t.2, r.2.1 = true ↔ r.1 ∈ liveTables.supportedProtocols := by
  intro t ht r hr
  rw [← tables_supported t ht]
  constructor
  · intro hs
    obtain ⟨v, s, l⟩ := r
    simp only at hs; subst hs
    exact List.mem_map.mpr ⟨(v, l), mem_supportedRows.mpr hr, rfl⟩
  · intro hm
    obtain ⟨e, he, hev⟩ := List.mem_map.mp hm
    have he' := mem_supportedRows.mp he
    have : r = (e.1, true, e.2) :=
      eq_of_nodup_map (·.1) (versions_nodup t ht) hr he' hev.symm
    rw [this]

/-- The quantifier of the property: all 8 tables, and in each of them every one of the 250 supported
protocol versions has a row flagged supported. -/
theorem domain_complete :
    liveTables.supportedProtocols.length = 250 ∧
    ∀ n ∈ tableNames, ∃ t ∈ idTables, t.1 = n ∧
      ∀ v ∈ liveTables.supportedProtocols, ∃ r ∈ t.2, r.1 = v ∧ r.2.1 = true := by
  refine ⟨by decide +kernel, ?_⟩
  intro n hn
  rw [← tables_names] at hn
  obtain ⟨t, ht, rfl⟩ := List.mem_map.mp hn
  refine ⟨t, ht, rfl, ?_⟩
  intro v hv
  rw [← tables_supported t ht] at hv
  obtain ⟨e, he, rfl⟩ := List.mem_map.mp hv
  exact ⟨(e.1, true, e.2), mem_supportedRows.mp he, rfl, rfl⟩

/-! ### Collisions: exact class sets -/

/-- For every table, every supported version and EVERY id, at most one registered class carries the
id — unless (table, version, id) is one of the nine listed K1 collisions, and then the classes
carrying it are exactly the listed ones (a third class joining, or a different partner, breaks this). -/
theorem collisions_exact :
    ∀ t ∈ idTables, ∀ r ∈ t.2, r.2.1 = true → ∀ i : Int,
      (classesAtRow r.2.2 i).length ≤ 1 ∨
        (t.1, r.1, i, classesAtRow r.2.2 i) ∈ knownCollisionSets := by
  intro t ht r hr hs i
  exact rowOk_collisions (rowOk_of_supported t ht r hr hs) i

/-- Each listed collision is real, and really makes the decoder depend on the iteration order
(negative result with witnesses): on that supported row exactly the listed (≥ 2) classes carry the id;
every iteration order picks one of them; and each of them is picked by some iteration order. -/
theorem known_collisions_real :
    ∀ k ∈ knownCollisionSets, ∃ t ∈ idTables, t.1 = k.1 ∧ ∃ r ∈ t.2, r.1 = k.2.1 ∧ r.2.1 = true ∧
      ∃ ents, resolveRow r.2.2 = some ents ∧ classesAt ents k.2.2.1 = k.2.2.2 ∧
        2 ≤ k.2.2.2.length ∧
        (∀ perm, perm.Perm ents → ∃ c ∈ k.2.2.2, dictGet (buildDict perm) k.2.2.1 = some c) ∧
        (∀ c ∈ k.2.2.2, ∃ perm, perm.Perm ents ∧ dictGet (buildDict perm) k.2.2.1 = some c) := by
  intro k hk
  have h := checkKnownReal_ok
  simp only [checkKnownReal, List.all_eq_true] at h
  have hk' := h k hk
  cases hra : rowAt k.1 k.2.1 with
  | none => simp [hra] at hk'
  | some p =>
    obtain ⟨s, row⟩ := p
    cases s with
    | false => simp [hra] at hk'
    | true =>
      simp only [hra, Bool.and_eq_true, beq_iff_eq, decide_eq_true_eq] at hk'
      obtain ⟨t, ht, htn, hmem⟩ := lookup2_mem hra
      obtain ⟨ents, hents⟩ := rowOk_resolves (rowOk_of_supported t ht _ hmem rfl)
      have hcl : classesAt ents k.2.2.1 = k.2.2.2 := by
        rw [← classesAtRow_of_resolveRow hents]; exact hk'.1
      refine ⟨t, ht, htn, _, hmem, rfl, rfl, ents, hents, hcl, hk'.2, ?_, ?_⟩
      · intro perm hp
        obtain ⟨c0, hc0⟩ := List.exists_mem_of_length_pos (Nat.lt_of_lt_of_le Nat.zero_lt_two hk'.2)
        rw [← hcl] at hc0
        have hs := (dispatch_defined ents perm hp k.2.2.1).mpr ⟨c0, mem_classesAt.mp hc0⟩
        cases hd : dictGet (buildDict perm) k.2.2.1 with
        | none => simp [hd] at hs
        | some c =>
          refine ⟨c, ?_, rfl⟩
          rw [← hcl]
          exact mem_classesAt.mpr (dispatch_sound ents perm hp _ c hd)
      · intro c hc
        rw [← hcl] at hc
        exact exists_perm_dictGet (mem_classesAt.mp hc)

/-- `knownCollisionSets` refines the id-keyed list of `Props/C06.lean` (same keys, same order). -/
theorem collision_keys_agree :
    knownCollisionSets.map (fun k => (k.1, k.2.1, k.2.2.1)) = C06.knownCollisions :=
  C06.knownCollisions_eq.symm

/-! ### Dispatch on the real tables -/

/-- Dispatch on the real tables, no `Nodup`, K1 rows included.  For every table and every supported
version, the row resolves to non-negative integer ids (so the reactor's constructor does not raise),
and for EVERY iteration order `perm` of the registered classes, every id `i` and class `c`:
the dict built by the comprehension returns only a class registered with id `i`; and unless
(table, version, `i`) is a listed collision it returns `c` exactly when `c` is the class registered
with id `i`. -/
theorem dispatch_on_tables :
    ∀ t ∈ idTables, ∀ r ∈ t.2, r.2.1 = true →
      ∃ ents, resolveRow r.2.2 = some ents ∧ (∀ e ∈ ents, 0 ≤ e.2) ∧
        ∀ perm, perm.Perm ents → ∀ (i : Int) (c : String),
          (dictGet (buildDict perm) i = some c → (c, some i) ∈ r.2.2) ∧
          ((∀ cs, (t.1, r.1, i, cs) ∉ knownCollisionSets) →
            (dictGet (buildDict perm) i = some c ↔ (c, some i) ∈ r.2.2)) := by
  intro t ht r hr hs
  have h2 := rowOk_of_supported t ht r hr hs
  obtain ⟨ents, hents⟩ := rowOk_resolves h2
  refine ⟨ents, hents, ?_, ?_⟩
  · intro e he
    obtain ⟨i, hi, h0⟩ := rowOk_total h2 ((mem_of_resolveRow hents e.1 e.2).mp he)
    exact Option.some.inj hi ▸ h0
  · intro perm hp i c
    refine ⟨fun hd => (mem_of_resolveRow hents c i).mp (dispatch_sound ents perm hp i c hd), ?_⟩
    intro hnot
    rw [← mem_of_resolveRow hents c i]
    apply dispatch_unique_at ents perm hp i
    rcases rowOk_collisions h2 i with hle | hin
    · rw [classesAtRow_of_resolveRow hents] at hle
      simpa [classesAt] using hle
    · exact absurd hin (hnot _)

/-! ### The running reactors -/

/-- Which table each reactor class of connection.py decodes with (by identity of the live
`get_clientbound_packets` function): handshake → `PacketReactor`, login → `LoginReactor`, play →
`PlayingReactor`, status → `StatusReactor` and `PlayingStatusReactor`; and these five are all the
reactor classes. -/
theorem reactor_binding :
    reactorBinding = expectedBinding ∧ reactorDicts.map (·.1) = reactorBinding.map (·.1) := by
  decide +kernel

/-- The dicts the REAL `PacketReactor.__init__` built.  For every reactor class: it is bound to one
of the eight tables; a dict was recorded for every supported version; and every recorded entry
(version, outcome) belongs to a supported row of that table with the same version, the constructor did
not raise, and the dict it built agrees — as a map id → class — with the modelled comprehension over
the classes of that row in SOME iteration order.  (`comprehension_spec` then gives soundness,
definedness and — via `collisions_exact` — exactness at every non-colliding id.) -/
theorem reactor_dicts :
    ∀ rd ∈ reactorDicts, ∃ b ∈ reactorBinding, b.1 = rd.1 ∧ ∃ t ∈ idTables, t.1 = b.2 ∧
      (∀ v ∈ liveTables.supportedProtocols, ∃ od, (v, od) ∈ expandGroups rd.2) ∧
      ∀ e ∈ expandGroups rd.2, ∃ row, (e.1, true, row) ∈ t.2 ∧
        ∃ ents d, resolveRow row = some ents ∧ e.2 = some d ∧ IsComprehensionOf d ents := by
  intro rd hrd
  have h := checkReactors_ok
  simp only [checkReactors, List.all_eq_true] at h
  have h1 := h rd hrd
  cases hb : reactorBinding.find? (fun b => b.1 == rd.1) with
  | none => simp [hb] at h1
  | some b =>
    simp only [hb] at h1
    cases htf : idTables.find? (fun t => t.1 == b.2) with
    | none => simp [htf] at h1
    | some t =>
      simp only [htf] at h1
      have ht := List.mem_of_find?_eq_some htf
      refine ⟨b, List.mem_of_find?_eq_some hb, by simpa using List.find?_some hb, t, ht,
        by simpa using List.find?_some htf, ?_, ?_⟩
      · intro v hv
        rw [← tables_supported t ht] at hv
        obtain ⟨r, hr, rfl⟩ := List.mem_map.mp hv
        obtain ⟨e, he, hp⟩ := (zipAll_forall h1).1 r hr
        simp only [dictRowOk, Bool.and_eq_true, beq_iff_eq] at hp
        refine ⟨e.2, ?_⟩
        rw [hp.1]; exact he
      · intro e he
        obtain ⟨r, hr, hp⟩ := (zipAll_forall h1).2 e he
        simp only [dictRowOk, Bool.and_eq_true, beq_iff_eq] at hp
        obtain ⟨hv, hm⟩ := hp
        refine ⟨r.2, ?_, ?_⟩
        · rw [← hv]; exact mem_supportedRows.mp hr
        · cases hres : resolveRow r.2 with
          | none => simp [hres] at hm
          | some ents =>
            cases hd : e.2 with
            | none => simp [hres, hd] at hm
            | some d =>
              simp only [hres, hd] at hm
              exact ⟨ents, d, rfl, rfl, dictOk_realised hm⟩

/-- The id `Packet.write` puts on the wire (`self.id`, the `overridable_property` of packet.py:23-25,
read as `cls(context=ctx).id`) is, for every table, every supported version and every registered
class, the tabulated `cls.get_id(ctx)`: the two tabulations coincide. -/
theorem self_ids_agree :
    (selfIds.map fun s => (s.1, expandGroups s.2)) =
      (idTables.map fun t => (t.1, supportedRows t.2)) := by
  simpa [checkSelf] using checkSelf_ok

/-! ### Non-vacuity -/

-- `dispatch_unique_at` applies where `C06.dispatch_unique` (global Nodup) does not
example : ((([("A", 1), ("B", 1), ("C", 2)] : List (String × Int)).filter fun e => e.2 == 2).length ≤ 1) ∧
    ¬ (([("A", 1), ("B", 1), ("C", 2)] : List (String × Int)).map (·.2)).Nodup := by decide
example : dictGet (buildDict [("A", 1), ("C", 2), ("B", 1)]) 2 = some "C" ∧
    dictGet (buildDict [("A", 1), ("C", 2), ("B", 1)]) 1 = some "B" ∧
    dictGet (buildDict [("B", 1), ("C", 2), ("A", 1)]) 1 = some "A" := by decide +kernel

-- the supported row 757 of the clientbound play table is non-trivial and resolves
example : (match rowAt "cbPlay" 757 with
    | some (true, row) =>
      match resolveRow row with | some ents => decide (20 ≤ ents.length) | none => false
    | _ => false) = true := by decide +kernel

-- K1 row 389: the hypothesis "not a listed collision" of `dispatch_on_tables` holds at id 0x0E and
-- fails exactly at 0x4A
example : (∀ cs, ("cbPlay", 389, (0x0E : Int), cs) ∉ knownCollisionSets) := by
  intro cs h
  simp [knownCollisionSets] at h
example : ("cbPlay", 389, (0x4A : Int), ["PlayerListHeaderAndFooterPacket", "TimeUpdatePacket"]) ∈
    knownCollisionSets := by decide

-- the live PlayingReactor dict at 757 has more than 20 keys; at the K1 version 389 its entry for
-- 0x4A is one of the two listed classes (which one depends on the run)
example : (match liveDict "PlayingReactor" 757 with
    | some (some d) => decide (20 ≤ d.length) | _ => false) = true := by decide +kernel
example : (match liveDict "PlayingReactor" 389 with
    | some (some d) => ["PlayerListHeaderAndFooterPacket", "TimeUpdatePacket"].any
        fun c => dictGet d 0x4A == some c
    | _ => false) = true := by decide +kernel
example : reactorDicts.all (fun rd => (expandGroups rd.2).length == 250) = true := by
  decide +kernel

/-! ### Changes that the id-keyed criterion of `Props/C06.lean` accepts are refuted -/

/-- row `v` of the clientbound play table, `[]` if absent -/
private def playRow (v : Nat) : List IdEnt :=
  match rowAt "cbPlay" v with | some (_, row) => row | none => []

-- (a) a third class joins 0x4A on 389: the id-keyed check `entsInjExcept (knownFor …)` passes,
-- `rowOk` fails
example : entsInjExcept (C06.knownFor "cbPlay" 389) (playRow 389 ++ [("ZPacket", some 0x4A)]) = true ∧
    rowOk "cbPlay" 389 (playRow 389 ++ [("ZPacket", some 0x4A)]) = false ∧
    rowOk "cbPlay" 389 (playRow 389) = true := by decide +kernel

/-- (b) on 317, ChatMessagePacket collides at 0x10 with a DIFFERENT partner (BlockChangePacket moved
onto 0x10, MultiBlockChangePacket moved away to the unused 0x7E) -/
private def row317' : List IdEnt :=
  (playRow 317).map fun e =>
    if e.1 == "MultiBlockChangePacket" then (e.1, some 0x7E)
    else if e.1 == "BlockChangePacket" then (e.1, some 0x10) else e

example : entsInjExcept (C06.knownFor "cbPlay" 317) row317' = true ∧
    classesAtRow row317' 0x10 = ["BlockChangePacket", "ChatMessagePacket"] ∧
    rowOk "cbPlay" 317 row317' = false ∧ rowOk "cbPlay" 317 (playRow 317) = true := by
  decide +kernel

-- (c) the reactor ↔ table binding: a constructor that ignored `self.__class__` and always used the
-- play table (or a LoginReactor bound to `clientbound.play.get_packets`) would hand LoginReactor the
-- play dict; against the login row of the same version this is rejected
example : (match liveDict "PlayingReactor" 757, rowAt "cbLogin" 757 with
    | some (some d), some (true, row) => dictRowOk (757, row) (757, some d)
    | _, _ => true) = false := by decide +kernel
-- (d) keys computed with a stale context (e.g. the ids of version 756 used at 757)
example : (match liveDict "PlayingReactor" 756, rowAt "cbPlay" 757 with
    | some (some d), some (true, row) => dictRowOk (757, row) (757, some d)
    | _, _ => true) = false := by decide +kernel
-- (e) a dict that dropped a registered class, or maps a key to a class with another id
example : dictOk [(1, "A")] [("A", 1), ("B", 2)] = false ∧
    dictOk [(1, "A"), (2, "A")] [("A", 1), ("B", 2)] = false ∧
    dictOk [(1, "A"), (2, "B")] [("A", 1), ("B", 2)] = true := by decide +kernel

end PyCraft.C06Dispatch
