import PyCraft.Lemmas.Packets
/-!
# C05 (hand-written part) — every packet class that overrides `read` / `write_fields` round-trips
under every protocol version

Models: `Model/Packets/{Map,PlayerListItem,SpawnObject,CombatEvent,FacePlayer,PluginResponse}.lean`
(each `context.protocol_…` test is a Boolean flag; every theorem is for ALL flag combinations,
including those no real protocol version produces).  Helper lemmas: `Lemmas/Packets.lean`.

Shape of every theorem: if the packet's fields are wire-representable (`…WF`, a decidable
predicate), `write_fields` succeeds with some bytes `bs`, and `read` on `bs` followed by ANY `rest`
returns the fields and leaves exactly `rest` (so it consumed exactly `bs`; `rest = []` is the
"consumes the payload exactly" case).  Where the reader cannot reproduce what the writer was given
the result is `normalise p`, defined in the model, with a companion theorem saying where
`normalise p = p`; genuine reader/writer disagreements are exhibited by concrete counterexamples.
-/
namespace PyCraft.C05Hand
open PyCraft PyCraft.Pk

/-! ## PluginResponsePacket (serverbound login) -/

/-- `PluginResponsePacket`: a representable response is written, and reading the bytes back returns
the normalised fields and consumes everything (the data is a `TrailingByteArray`); an unsuccessful
response is self-delimiting: whatever follows is left unread. -/
theorem plugin_response_rt (p : PluginRespPkt) (h : PluginRespWF p) :
    ∃ bs, writePluginResp p = .ok bs ∧ readPluginResp bs = .ok (p.normalise, []) ∧
      (p.effSuccessful = false → ∀ rest, readPluginResp (bs ++ rest) = .ok (p.normalise, rest)) :=
  plugresp_rt p h

/-- The reader returns exactly what the writer was given iff `successful` was assigned explicitly
and an unsuccessful response carries no `data`. -/
theorem plugin_response_normalise_id (p : PluginRespPkt) :
    p.normalise = p ↔ ∃ b, p.successful = some b ∧ (b = false → p.data = none) := by
  obtain ⟨i, s, d⟩ := p
  cases s with
  | none => simp [PluginRespPkt.normalise]
  | some b => cases b <;> cases d <;> simp [PluginRespPkt.normalise, PluginRespPkt.effSuccessful]

/-- successful with data, `successful` assigned -/
example : PluginRespWF ⟨300, some true, some [1, 2, 3]⟩ ∧
    (⟨300, some true, some [1, 2, 3]⟩ : PluginRespPkt).normalise = ⟨300, some true, some [1, 2, 3]⟩ := by
  decide
/-- successful derived from `data is not None` -/
example : PluginRespWF ⟨5, none, some []⟩ ∧
    (⟨5, none, some []⟩ : PluginRespPkt).normalise = ⟨5, some true, some []⟩ := by decide
/-- unsuccessful -/
example : PluginRespWF ⟨5, none, none⟩ ∧ PluginRespWF ⟨5, some false, none⟩ := by decide
/-- data attached to an explicitly unsuccessful response is dropped by the writer -/
example : PluginRespWF ⟨5, some false, some [9]⟩ ∧
    (⟨5, some false, some [9]⟩ : PluginRespPkt).normalise = ⟨5, some false, none⟩ := by decide
/-- `successful = True` with `data = None` is NOT representable: the writer raises `TypeError` -/
example : ¬ PluginRespWF ⟨5, some true, none⟩ ∧
    writePluginResp ⟨5, some true, none⟩ = .error .type := by decide

/-! ## FacePlayerPacket -/

/-- `FacePlayerPacket`, both layouts (`v353` and the 352 layout), with or without the entity block:
round trip up to the attributes that are not on the wire (`normalise`). -/
theorem face_player_rt (f : FaceFlags) (p : FacePkt) (h : FaceWF f p) :
    ∃ bs, writeFace f p = .ok bs ∧ readFace f bs = .ok (p.normalise f, []) ∧
      ∀ rest, readFace f (bs ++ rest) = .ok (p.normalise f, rest) :=
  rt_exact (rt_face f p h)

/-- The reader returns exactly the writer's attributes iff the attributes that are not sent are
unassigned: from 353 on, `entity_origin` when `entity_id is None`; before, `origin`,
`entity_origin`, and `x`/`y`/`z` when an entity is given. -/
theorem face_player_normalise_id (f : FaceFlags) (p : FacePkt) :
    p.normalise f = p ↔
      (if f.v353 then (p.entityId = none → p.entityOrigin = none)
       else p.origin = none ∧ p.entityOrigin = none ∧
         (p.entityId ≠ none → p.x = none ∧ p.y = none ∧ p.z = none)) := by
  obtain ⟨v353⟩ := f
  obtain ⟨origin, x, y, z, eid, eo⟩ := p
  cases v353 <;> cases eid
  all_goals simp [FacePkt.normalise]
  all_goals grind

/-- with entity, ≥ 353 -/
example : FaceWF ⟨true⟩ ⟨some 1, some 0x3ff0000000000000, some 0, some 0xbff0000000000000,
    some 77, some 0⟩ := by decide
/-- without entity, ≥ 353 -/
example : FaceWF ⟨true⟩ ⟨some 0, some 1, some 2, some 3, none, none⟩ := by decide
/-- with / without entity, 352 layout -/
example : FaceWF ⟨false⟩ ⟨none, none, none, none, some 77, none⟩ ∧
    FaceWF ⟨false⟩ ⟨none, some 1, some 2, some 3, none, none⟩ := by decide
/-- an attribute the writer needs but that was never assigned is not representable -/
example : ¬ FaceWF ⟨true⟩ ⟨some 0, some 1, some 2, some 3, some 77, none⟩ ∧
    writeFace ⟨true⟩ ⟨some 0, some 1, some 2, some 3, some 77, none⟩ = .error .other := by decide

/-! ## CombatEventPacket -/

/-- `CombatEventPacket` before protocol `PRE | 15`, every event variant: exact round trip. -/
theorem combat_event_rt (f : CombatFlags) (ev : CombatEvent) (h : CombatWF f ev) :
    ∃ bs, writeCombat f ev = .ok bs ∧ readCombat f bs = .ok (ev, []) ∧
      ∀ rest, readCombat f (bs ++ rest) = .ok (ev, rest) :=
  rt_exact (rt_combat f ev h)

/-- From `PRE | 15` on both directions raise `NotImplementedError`, whatever the event / bytes. -/
theorem combat_event_deprecated (ev : CombatEvent) (bs : Bytes) :
    writeCombat ⟨true⟩ ev = .error .other ∧ readCombat ⟨true⟩ bs = .error .other := ⟨rfl, rfl⟩

example : CombatWF ⟨false⟩ .enter := by decide
example : CombatWF ⟨false⟩ (.endCombat 100 (-2)) := by decide
example : CombatWF ⟨false⟩ (.dead 7 9 "died é") := by decide +kernel
example : ¬ CombatWF ⟨false⟩ (.endCombat (-1) 0) ∧ ¬ CombatWF ⟨true⟩ .enter := by decide

/-! ## SpawnObjectPacket -/

/-- `SpawnObjectPacket`, all eight flag combinations (UUID present or not, VarInt or Byte type,
Double or Integer position, velocity present or not): round trip up to the attributes that are not
on the wire. -/
theorem spawn_object_rt (f : SpawnFlags) (p : SpawnPkt) (h : SpawnWF f p) :
    ∃ bs, writeSpawn f p = .ok bs ∧ readSpawn f bs = .ok (p.normalise f, []) ∧
      ∀ rest, readSpawn f (bs ++ rest) = .ok (p.normalise f, rest) :=
  rt_exact (rt_spawn f p h)

/-- The reader returns exactly the writer's attributes iff `object_uuid` is unassigned before
protocol 49 and the velocities are unassigned when they are not sent (before 49 with `data ≤ 0`). -/
theorem spawn_object_normalise_id (f : SpawnFlags) (p : SpawnPkt) :
    p.normalise f = p ↔
      (f.v49 = false → p.objectUuid = none) ∧
      (p.hasVelocity f = false → p.velocityX = none ∧ p.velocityY = none ∧ p.velocityZ = none) := by
  obtain ⟨a, b, c, d, e, g, h, i, j, k, l, m⟩ := p
  simp only [SpawnPkt.normalise, SpawnPkt.mk.injEq, true_and]
  cases f.v49 <;> cases SpawnPkt.hasVelocity f _
  all_goals simp
  all_goals grind

private def exUuid : Bytes := [0, 1, 2, 3, 4, 5, 6, 7, 8, 9, 10, 11, 12, 13, 14, 15]

/-- newest layout -/
example : SpawnWF ⟨true, true, true⟩
    ⟨1, some exUuid, 300, 0x4000000000000000, 0, 0xc000000000000000, 64, 255, 0,
     some 1, some (-1), some 0⟩ := by decide
/-- oldest layout without velocity (`data = 0`) and with velocity (`data = 5`) -/
example : SpawnWF ⟨false, false, false⟩ ⟨1, none, -3, 32, -32, 0, 0, 255, 0, none, none, none⟩ ∧
    SpawnWF ⟨false, false, false⟩ ⟨1, none, -3, 32, -32, 0, 0, 255, 5, some 1, some 2, some 3⟩ := by
  decide
/-- a flag combination no real version has (`v458` without `v49`) is covered too -/
example : SpawnWF ⟨false, true, false⟩ ⟨1, none, 300, 32, -32, 0, 0, 255, 0, none, none, none⟩ := by
  decide
/-- a type id above 127 is not representable before 458 -/
example : ¬ SpawnWF ⟨true, false, true⟩
    ⟨1, some exUuid, 300, 0, 0, 0, 0, 0, 0, some 0, some 0, some 0⟩ := by decide

/-! ## MapPacket -/

/-- `MapPacket`, all 32 flag combinations, any number of icons, with or without the pixel block:
for everything the WRITER accepts, the reader returns `normalise` of it and consumes exactly the
bytes written.  `normalise` (see `Model/Packets/Map.lean`): before 373 the icon type and direction
are reduced modulo 16; before 364 display names are dropped; with neither `v107` nor `pre6`
`is_tracking_position` is `True`; before 452 `is_locked` is `False`; with `width = 0` height, offset
and pixels are `0`, `None`, `None`; and the offsets, written as `UnsignedByte` but read as `Byte`,
come back reinterpreted as signed (`asSigned8`). -/
theorem map_rt (f : MapFlags) (p : MapPkt) (h : MapWF f p) :
    ∃ bs, writeMap f p = .ok bs ∧ readMap f bs = .ok (p.normalise f, []) ∧
      ∀ rest, readMap f (bs ++ rest) = .ok (p.normalise f, rest) :=
  rt_exact (rt_map f p h)

/-- An icon comes back unchanged iff, before 373, type and direction are nibbles and, before 364, it
has no display name. -/
theorem map_icon_normalise_id (f : MapFlags) (ic : MapIcon) :
    ic.normalise f = ic ↔
      (f.v373 = false → (0 ≤ ic.type ∧ ic.type < 16) ∧ (0 ≤ ic.direction ∧ ic.direction < 16)) ∧
      (f.v364 = false → ic.displayName = none) := by
  obtain ⟨t, d, x, z, n⟩ := ic
  simp only [MapIcon.normalise, MapIcon.mk.injEq, true_and]
  have m : ∀ t : Int, t % 16 = t ↔ (0 ≤ t ∧ t < 16) := fun t => by omega
  cases f.v373 <;> cases f.v364 <;> simp [m, and_assoc, @eq_comm _ none n]

/-- The sub-domain on which the whole packet comes back unchanged: the fields that are not sent hold
the reader's constants, every icon is unchanged, and both offsets are at most 127 (the intersection
of the writer's `UnsignedByte` and the reader's `Byte`). -/
theorem map_normalise_id (f : MapFlags) (p : MapPkt)
    (h1 : f.v107 = false → f.pre6 = false → p.isTrackingPosition = true)
    (h2 : f.v452 = false → p.isLocked = false)
    (h3 : ∀ ic ∈ p.icons, ic.normalise f = ic)
    (h4 : p.width = 0 → p.height = 0 ∧ p.offset = none ∧ p.pixels = none)
    (h5 : ∀ o, p.offset = some o → o.1 < 128 ∧ o.2 < 128) :
    p.normalise f = p := by
  obtain ⟨a, b, c, d, e, w, h, o, px⟩ := p
  dsimp only at h1 h2 h3 h4 h5
  simp only [MapPkt.normalise, MapPkt.mk.injEq, true_and]
  refine ⟨?_, ?_, ?_, ?_, ?_, ?_⟩
  · revert h1; cases f.v107 <;> cases f.pre6 <;> simp
  · revert h2; cases f.v452 <;> simp
  · conv => rhs; rw [← List.map_id e]
    exact List.map_congr_left h3
  · by_cases hw : w = 0
    · simp [hw, (h4 hw).1]
    · simp [hw]
  · by_cases hw : w = 0
    · simp [hw, (h4 hw).2.1]
    · simp only [ne_eq, hw, not_false_eq_true, if_true]
      cases o with
      | none => rfl
      | some o =>
        obtain ⟨g1, g2⟩ := h5 o rfl
        simp [(asSigned8_id _).mpr g1, (asSigned8_id _).mpr g2]
  · by_cases hw : w = 0
    · simp [hw, (h4 hw).2.2]
    · simp [hw]

/-- Exact round trip on that sub-domain. -/
theorem map_rt_exact (f : MapFlags) (p : MapPkt) (h : MapWF f p)
    (h1 : f.v107 = false → f.pre6 = false → p.isTrackingPosition = true)
    (h2 : f.v452 = false → p.isLocked = false)
    (h3 : ∀ ic ∈ p.icons, ic.normalise f = ic)
    (h4 : p.width = 0 → p.height = 0 ∧ p.offset = none ∧ p.pixels = none)
    (h5 : ∀ o, p.offset = some o → o.1 < 128 ∧ o.2 < 128) :
    ∃ bs, writeMap f p = .ok bs ∧ ∀ rest, readMap f (bs ++ rest) = .ok (p, rest) := by
  obtain ⟨bs, hw, _, hr⟩ := map_rt f p h
  rw [map_normalise_id f p h1 h2 h3 h4 h5] at hr
  exact ⟨bs, hw, hr⟩

private def exMapNew : MapPkt :=
  ⟨3, 1, true, false, [⟨5, 12, -1, 1, some "hi"⟩, ⟨20, 200, 0, 0, none⟩], 2, 1, some (3, 4),
   some [0xaa, 0xbb]⟩
private def exMapOld : MapPkt :=
  ⟨3, 1, true, false, [⟨5, 12, -1, 1, none⟩], 0, 0, none, none⟩

/-- newest layout, two icons (with / without display name), pixel block whose length (2) is
unrelated to `width * height` — and the packet is in the exact sub-domain -/
example : MapWF ⟨true, true, true, true, true⟩ exMapNew ∧
    exMapNew.normalise ⟨true, true, true, true, true⟩ = exMapNew := by decide +kernel
/-- oldest layout, nibble icon, no pixel block — in the exact sub-domain too -/
example : MapWF ⟨false, false, false, false, false⟩ exMapOld ∧
    exMapOld.normalise ⟨false, false, false, false, false⟩ = exMapOld := by decide +kernel
/-- a flag combination no real version has (`pre6` without `v107`) -/
example : MapWF ⟨false, true, true, false, true⟩ exMapNew := by decide +kernel

/-- DEFECT (offset signedness), protocol 107 layout: the writer accepts the offset `(200, 0)` and
the reader returns `(-56, 0)`: reader and writer are not inverse on `128..255`. -/
example :
    let f : MapFlags := ⟨true, false, false, false, false⟩
    let p : MapPkt := ⟨3, 1, false, false, [], 1, 1, some (200, 0), some []⟩
    MapWF f p ∧ writeMap f p = .ok [3, 1, 0, 0, 1, 1, 200, 0, 0] ∧
    readMap f [3, 1, 0, 0, 1, 1, 200, 0, 0] =
      .ok (⟨3, 1, false, false, [], 1, 1, some (-56, 0), some []⟩, []) ∧
    readMap f [3, 1, 0, 0, 1, 1, 200, 0, 0] ≠ .ok (p, []) := by decide +kernel

/-- … and the offsets the reader can produce below zero cannot be written back:
`UnsignedByte.send(-56)` is `struct.error`. -/
example :
    writeMap ⟨true, false, false, false, false⟩
      ⟨3, 1, false, false, [], 1, 1, some (-56, 0), some []⟩ = .error .struct := by decide +kernel

/-- Nibble packing before 373 loses range silently: type 21, direction 35 are written (no error) and
come back as 5 and 3. -/
example :
    let f : MapFlags := ⟨false, false, false, false, false⟩
    writeMap f ⟨3, 1, true, false, [⟨21, 35, -1, 1, none⟩], 0, 0, none, none⟩ =
      .ok [3, 1, 1, 0x53, 0xff, 1, 0] ∧
    readMap f [3, 1, 1, 0x53, 0xff, 1, 0] =
      .ok (⟨3, 1, true, false, [⟨5, 3, -1, 1, none⟩], 0, 0, none, none⟩, []) := by decide +kernel

/-! ## PlayerListItemPacket -/

/-- `PlayerListItemPacket`: every action kind, any number of actions, any number of properties with
or without signature, display names present or absent: exact round trip. -/
theorem player_list_item_rt (p : PliPkt) (h : PliWF p) :
    ∃ bs, writePli p = .ok bs ∧ readPli bs = .ok (p, []) ∧
      ∀ rest, readPli (bs ++ rest) = .ok (p, rest) :=
  rt_exact (rt_pli p h)

private def exAdd : PliPkt :=
  ⟨.addPlayer,
   [.addPlayer exUuid "ab" [⟨"n", "v", none⟩, ⟨"n", "v", some "s"⟩] 1 20 none,
    .addPlayer exUuid "" [] 0 0 (some "hi")]⟩

example : PliWF exAdd := by decide +kernel
example : PliWF ⟨.updateGameMode, [.updateGameMode exUuid 3]⟩ ∧
    PliWF ⟨.updateLatency, [.updateLatency exUuid 300, .updateLatency exUuid 0]⟩ ∧
    PliWF ⟨.removePlayer, [.removePlayer exUuid]⟩ ∧ PliWF ⟨.removePlayer, []⟩ := by decide +kernel
example : PliWF ⟨.updateDisplayName,
    [.updateDisplayName exUuid none, .updateDisplayName exUuid (some "")]⟩ := by decide +kernel

/-- The homogeneity condition in `PliWF` is necessary: the writer sends each action with the action's
own class, the reader parses all of them with the packet's `action_type`.  A latency action in a
game-mode packet is written without error and comes back as a game-mode action. -/
example :
    let p : PliPkt := ⟨.updateGameMode, [.updateLatency exUuid 3]⟩
    ¬ PliWF p ∧ ∃ bs, writePli p = .ok bs ∧
      readPli bs = .ok (⟨.updateGameMode, [.updateGameMode exUuid 3]⟩, []) := by
  refine ⟨by decide +kernel, _, rfl, by decide +kernel⟩

end PyCraft.C05Hand
