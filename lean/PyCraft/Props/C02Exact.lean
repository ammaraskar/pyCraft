import PyCraft.Lemmas.C02Exact
import PyCraft.Lemmas.C02ExactFloat
import PyCraft.Lemmas.C02ExactDiv
import PyCraft.Generated.WireFormats
import PyCraft.Generated.Layouts
/-!
# C02 (exactness) — fixed point, UUID and float prescriptions at the level of PYTHON values

`Props/C02.lean` proves the byte layer: there the value of `.fixed base bits` is already the wire
integer (and `encode`/`decode` ignore `bits`), the value of `.uuid` is already the 16 bytes, and the
value of `.int .f32/.f64` is already the bit pattern.  This file states them for the Python values (rank 21 of `docs/audit_report.md`):

* **FixedPoint**: one object, one `bits`: what `FixedPoint(base, bits).send` puts on the wire for the
  value `p/q`, and what `.read` returns, with the SAME `bits` on both sides — `read` is Python's
  `int / int`, a FLOAT: the binary64 nearest to `raw / 2^bits` (ties to even), which is `raw / 2^bits`
  itself for every base type of at most 32 bits and, for the 64-bit ones, whenever that quotient is a
  binary64; `FixedPointInteger`; the `(base, bits)` pairs used by the library's packets.
* **UUID**: text ↔ 16 bytes (`uuid.UUID(text).bytes`, `str(uuid.UUID(bytes=…))`).
* **Float / Double**: a Python float is a binary64 (its pattern `x`); `Double` stores it, `Float`
  rounds it to the NEAREST binary32 (ties to even), `OverflowError` exactly from `2^128 - 2^103` on.
* **live probes** (`Generated/WireFormats.lean`, regenerated from `/repo` on every run): the class →
  format map and all of the above, compared with the live code by `decide +kernel`.

Models: `Model/C02Exact.lean`; helper lemmas: `Lemmas/C02Exact.lean`, `Lemmas/C02ExactFloat.lean`,
`Lemmas/C02ExactDiv.lean`.
Magnitudes of floats are naturals in units of `2^-1074` (`f64Mag`; a binary32 magnitude `f32Mag` is
in units of `2^-149 = 2^925` such units).
-/
set_option exponentiation.threshold 2200

namespace PyCraft.C02Exact
open PyCraft PyCraft.C02X

/-! ## FixedPoint -/

/-- **Fixed point, one `bits` on both sides.**  For the object `FixedPoint(base, bits)` and the finite
float value `p/q` (`q > 0`), let `w = int(p/q · 2^bits)`:
* `w` is the truncation toward zero of `value · 2^bits` — characterised without the code:
  `|w − value·2^bits| < 1` (cross-multiplied by `q`), `w` has the sign of the value and never exceeds
  it in magnitude;
* if `w` fits the base integer type, `send` writes exactly `width` bytes whose big-endian value is
  `w mod 256^width` (two's complement), and `read` of those bytes followed by anything leaves the rest
  and returns a Python FLOAT `x` (binary64 pattern) that is finite, negative exactly when `w` is, and
  - is a binary64 NEAREST to `w / 2^bits` — the SAME `bits` —: no binary64 magnitude `m'` whatsoever
    is closer to `|w| / 2^bits` (magnitudes in units of `2^-1074`, cross-multiplied by `2^bits`), and
    if a different one is equally close, `x` is the one with even significand (roundTiesToEven);
  - IS `w / 2^bits` exactly whenever the base type has at most 32 bits, and for the 64-bit types
    whenever `|w| < 2^53` (`bits ≤ 1074`, so that the quotient is not below the subnormal spacing);
    then the value read back is within one quantum `2^-bits` of the value sent (first item).
  For a 64-bit base and `|w| ≥ 2^53` the float is exact iff `w / 2^bits` is a binary64 (by the nearest
  clause: distance 0 cannot be beaten); otherwise it is off by at most half a unit in the 53rd place;
* otherwise `send` raises: `struct.error` (never a wrapped value) while `|value · 2^bits| < 2^1024`,
  and `OverflowError` from there on (the float product is `inf`). -/
theorem fixed_same_bits (cc : CustomCodec) (base : IntT) (bits : Nat) (p q : Int) (hq : 0 < q)
    (rest : Bytes) :
    let fp := FixedPointT.init base bits
    let w := Int.tdiv (p * 2 ^ bits) q
    let overflow := (2 : Int) ^ 1024 * q ≤ p * 2 ^ bits ∨ (2 : Int) ^ 1024 * q ≤ -(p * 2 ^ bits)
    ((-q < w * q - p * 2 ^ bits ∧ w * q - p * 2 ^ bits < q) ∧
      (0 ≤ p → 0 ≤ w ∧ w * q ≤ p * 2 ^ bits) ∧ (p ≤ 0 → w ≤ 0 ∧ p * 2 ^ bits ≤ w * q)) ∧
    (base.inDom w → ∃ bs x, fp.send cc p q = .ok bs ∧ bs.length = base.width ∧
        (beValue bs : Int) = w % (256 : Int) ^ base.width ∧
        fp.read cc (bs ++ rest) = .ok (x, rest) ∧
        x < 2 ^ 64 ∧ x % 2 ^ 63 / 2 ^ 52 ≠ 2047 ∧ (x / 2 ^ 63 = 1 ↔ w < 0) ∧
        (∀ m', absDiff (f64Mag (x % 2 ^ 63) * 2 ^ bits) (w.natAbs * 2 ^ 1074)
                ≤ absDiff (f64Mag m' * 2 ^ bits) (w.natAbs * 2 ^ 1074) ∧
          (absDiff (f64Mag (x % 2 ^ 63) * 2 ^ bits) (w.natAbs * 2 ^ 1074)
                = absDiff (f64Mag m' * 2 ^ bits) (w.natAbs * 2 ^ 1074) →
            f64Mag m' ≠ f64Mag (x % 2 ^ 63) → x % 2 = 0)) ∧
        ((base.width ≤ 4 ∨ w.natAbs < 2 ^ 53) → bits ≤ 1074 →
          f64Mag (x % 2 ^ 63) * 2 ^ bits = w.natAbs * 2 ^ 1074)) ∧
    (¬ base.inDom w → ¬ overflow → fp.send cc p q = .error .struct) ∧
    (overflow → ¬ base.inDom w ∧ fp.send cc p q = .error .other) := by
  dsimp only
  refine ⟨fixed_trunc bits p q hq, fun hd => ?_,
    fun hd ho => (fixed_send_eq cc base bits p q ho).trans (base.pack_err _ hd),
    fun ho => ⟨fun hd => fixed_fits_no_overflow base bits p q hq hd ho,
      fixed_send_overflow cc base bits p q ho⟩⟩
  obtain ⟨bs, h1, h2, h3, hr, hlt⟩ := fixed_read_pack cc base bits _ hd rest
  obtain ⟨s1, s2, s3, s4, s5⟩ := signed_pattern (Int.tdiv (p * 2 ^ bits) q < 0) _ hlt
  have hd2 : (0 : Nat) < 2 ^ bits := Nat.two_pow_pos _
  refine ⟨bs, _,
    (fixed_send_eq cc base bits p q (fixed_fits_no_overflow base bits p q hq hd)).trans h1,
    h2, h3, hr, s1, s3, s4, fun m' => ?_, fun hsmall hb => ?_⟩
  · rw [s2, s5]
    exact roundQuotF64_nearest _ (2 ^ bits) hd2 m'
  · rw [s2]
    refine roundQuotF64_exact _ _ hd2 (small_on_grid _ _ ?_ hb)
    rcases hsmall with hwid | h
    · have := IntT.inDom_natAbs_lt base _ 4 hwid hd
      omega
    · exact h

/-- The Python object and the existing wire code agree: short of float overflow,
`FixedPoint(base, bits).send(p/q)` is the `.fixed base bits` codec (the code the generated packet
layouts carry) applied to `fixedWire bits p q`, and `.read` is that codec followed by Python's true
division (`intTrueDiv`: the correctly rounded binary64 quotient) of the two components of the exact
fraction `fixedOfWire bits v = (v, 2^bits)` — the `bits` of the code IS the scale. -/
theorem fixed_is_fixed_code (cc : CustomCodec) (base : IntT) (bits : Nat) (p q : Int) (bs : Bytes)
    (h : ¬ ((2 : Int) ^ 1024 * q ≤ p * 2 ^ bits ∨ (2 : Int) ^ 1024 * q ≤ -(p * 2 ^ bits))) :
    (FixedPointT.init base bits).send cc p q
      = encode cc (.fixed base bits) (.int (fixedWire bits p q)) ∧
    (FixedPointT.init base bits).read cc bs
      = (do let (v, r) ← base.unpack bs
            let x ← intTrueDiv (fixedOfWire bits v).1 (fixedOfWire bits v).2.toNat
            pure (x, r)) := by
  refine ⟨fixed_send_eq cc base bits p q h, ?_⟩
  rw [fixed_read_eq]
  have : ∀ v : Int, (fixedOfWire bits v).2.toNat = 2 ^ bits := by
    intro v
    have : (fixedOfWire bits v).2 = ((2 ^ bits : Nat) : Int) := by simp [fixedOfWire]
    rw [this, Int.toNat_natCast]
  simp only [this]
  simp only [fixedOfWire]

/-- **Fixed point, reading a 64-bit base beyond `2^53`** (where the float is NOT the exact fraction).
`read` never fails on 8 bytes, and the float it returns for the wire integer `v` satisfies
`2 · |x · 2^bits − v| ≤ 2^bits · ulp`, with `ulp = 2^(⌊log2 (|v| / 2^bits)⌋ − 52)` the binary64 spacing
at the quotient (all in units of `2^-1074`; `ulp` is one unit in the subnormal range): the value
returned is within HALF a unit in the last place of `v / 2^bits`. -/
theorem fixed_read_half_ulp (cc : CustomCodec) (base : IntT) (bits : Nat) (v : Int)
    (hd : base.inDom v) (rest : Bytes) :
    ∃ bs x, base.pack v = .ok bs ∧
      (FixedPointT.init base bits).read cc (bs ++ rest) = .ok (x, rest) ∧
      2 * absDiff (f64Mag (x % 2 ^ 63) * 2 ^ bits) (v.natAbs * 2 ^ 1074)
        ≤ 2 ^ bits * 2 ^ ((v.natAbs * 2 ^ 1074 / 2 ^ bits).log2 - 52) := by
  obtain ⟨bs, h1, _, _, hr, hlt⟩ := fixed_read_pack cc base bits v hd rest
  obtain ⟨_, s2, _⟩ := signed_pattern (v < 0) _ hlt
  have hd2 : (0 : Nat) < 2 ^ bits := Nat.two_pow_pos _
  refine ⟨bs, _, h1, hr, ?_⟩
  rw [s2, roundQuotF64_value_mul _ _ hd2]
  have hG : 0 < 2 ^ bits * 2 ^ f64Quantum (v.natAbs * 2 ^ 1074 / 2 ^ bits) :=
    Nat.mul_pos hd2 (Nat.two_pow_pos _)
  obtain ⟨n1, n2⟩ := rneNat_near (v.natAbs * 2 ^ 1074) _ hG
  show _ ≤ 2 ^ bits * 2 ^ f64Quantum (v.natAbs * 2 ^ 1074 / 2 ^ bits)
  unfold absDiff
  omega

/-- Different `fractional_bits` give different objects (the scale is not ignored). -/
theorem fixed_scale_injective (base : IntT) (b1 b2 : Nat) :
    FixedPointT.init base b1 = FixedPointT.init base b2 ↔ b1 = b2 := by
  constructor
  · intro h
    have : (2 : Nat) ^ b1 = 2 ^ b2 := congrArg FixedPointT.denominator h
    have h1 := (Nat.pow_le_pow_iff_right (by omega : 1 < 2)).mp (Nat.le_of_eq this)
    have h2 := (Nat.pow_le_pow_iff_right (by omega : 1 < 2)).mp (Nat.le_of_eq this.symm)
    omega
  · rintro rfl; rfl

/-- `FixedPointInteger` is the 32-bit integer with 5 fractional bits (1/32 block — the protocol's
pre-1.9 absolute entity coordinates), and the default of `FixedPoint(t)` is 5 bits. -/
theorem fixedPointInteger_spec :
    fixedPointInteger = ⟨.i32, 32⟩ ∧ fixedPointInteger = FixedPointT.init .i32 5 ∧
    ∀ t, FixedPointT.init t = FixedPointT.init t 5 := ⟨rfl, rfl, fun _ => rfl⟩

/-- … and so says the live code: `FixedPointInteger.integer_type` is the class modelled by `.i32` and
its live `denominator` is the model's; `FixedPoint(Byte)` (default bits) has denominator `2^5`. -/
theorem fixedPointInteger_live :
    classIntT Gen.WireFormats.fixedPointInteger.1 = some fixedPointInteger.integerType ∧
    Gen.WireFormats.fixedPointInteger.2 = fixedPointInteger.denominator ∧
    classIntT Gen.WireFormats.fixedDefault.1 = some (FixedPointT.init .i8).integerType ∧
    Gen.WireFormats.fixedDefault.2 = (FixedPointT.init .i8).denominator := by decide +kernel

/-- Every fixed-point field of every packet layout of the live library (all tables, all known
protocol versions — `Generated/Layouts.lean`) is one of the three the protocol prescribes:
`Integer`/5 bits and `Byte`/5 bits (1.8: absolute and relative entity coordinates in 1/32 block),
`Short`/12 bits (1.9+: relative moves in 1/4096 block); and each of the three does occur. -/
theorem fixed_uses_prescribed :
    let used := Gen.layoutTables.flatMap fun tab => tab.2.flatMap fun row => row.2.flatMap fun var =>
      match var.1 with
      | some fields => fields.flatMap fun f => fixedCodes f.2
      | none => []
    (∀ c ∈ used, c ∈ [(IntT.i32, 5), (IntT.i8, 5), (IntT.i16, 12)]) ∧
    (∀ c ∈ [(IntT.i32, 5), (IntT.i8, 5), (IntT.i16, 12)], c ∈ used) := by decide +kernel

/-! ## UUID -/

/-- **UUID, reading.**  `UUID.read` of 16 bytes `b` followed by anything returns the text
`uuidText b` and leaves the rest; that text is canonical — 36 characters, dashes exactly at positions
8, 13, 18, 23, the other 32 characters lower-case hex digits — and, read as one hexadecimal number
(dashes dropped), it IS the big-endian value of the 16 bytes (so byte 0 is the first two digits:
network order, not `bytes_le`). -/
theorem uuid_read_spec (cc : CustomCodec) (b rest : Bytes) (hb : b.length = 16) :
    uuidRead cc (b ++ rest) = .ok (uuidText b, rest) ∧
    isCanonicalUuid (uuidText b) = true ∧
    (uuidText b).toList.length = 36 ∧
    ((uuidText b).toList[8]? = some '-' ∧ (uuidText b).toList[13]? = some '-' ∧
      (uuidText b).toList[18]? = some '-' ∧ (uuidText b).toList[23]? = some '-') ∧
    ((uuidText b).toList.filter (fun c => c != '-')).length = 32 ∧
    hexValue ((uuidText b).toList.filter (fun c => c != '-')) = beValue b := by
  have hlen : ((digitsOf 32 (beValue b)).map hexDigit).length = 32 := by
    simp [digitsOf_length]
  have htl : (uuidText b).toList = dashed ((digitsOf 32 (beValue b)).map hexDigit) := by
    simp [uuidText, uuidTextChars_eq]
  have hfil := filter_dashed_digits _ (digitsOf_all 32 (beValue b))
  have hlt := beValue_lt b
  rw [hb, pow_256_16] at hlt
  refine ⟨?_, ?_, ?_, ?_, ?_, ?_⟩
  · have h16 : 16 ≤ (b ++ rest).length := by simp [hb]
    have ht : (b ++ rest).take 16 = b := by rw [← hb]; simp
    have hd : (b ++ rest).drop 16 = rest := by rw [← hb]; simp
    simp only [uuidRead, decode, if_pos h16, ht, hd]
    rfl
  · simp only [isCanonicalUuid, htl, hfil, hlen, all_lower_digits _ (digitsOf_all _ _), beq_self_eq_true,
      Bool.and_self]
  · rw [htl]; exact dashed_length _ hlen
  · rw [htl]; exact dashed_positions _ hlen
  · rw [htl, hfil]; exact hlen
  · rw [htl, hfil, hexValue_digits _ (digitsOf_all _ _), digitsValue_digitsOf, Nat.mod_eq_of_lt hlt]

/-- **UUID, sending what was read.**  `UUID.send` of the text `UUID.read` produced for the 16 bytes
`b` writes exactly `b`. -/
theorem uuid_send_text (cc : CustomCodec) (b : Bytes) (hb : b.length = 16) :
    uuidSend cc (uuidText b) = .ok b := by
  simp only [uuidSend, uuidParse_text b hb, encode, bind, Except.bind, hb, if_true]

/-- **UUID, sending.**  For EVERY canonical text `s`, `UUID.send` writes 16 bytes whose big-endian
value is the hexadecimal number spelled by `s`, and `UUID.read` of those bytes followed by anything
returns `s` itself and leaves the rest. -/
theorem uuid_send_canonical (cc : CustomCodec) (s : String) (hs : isCanonicalUuid s = true)
    (rest : Bytes) :
    ∃ b, uuidSend cc s = .ok b ∧ b.length = 16 ∧
      beValue b = hexValue (s.toList.filter (fun c => c != '-')) ∧
      uuidRead cc (b ++ rest) = .ok (s, rest) := by
  obtain ⟨ds, hds, hl, hd⟩ := canonical_digits s hs
  have hv := digitsValue_lt ds hds
  rw [hl, ← pow_256_16] at hv
  have hparse : uuidParse s = .ok (beBytes 16 (digitsValue ds)) := by
    simp only [uuidParse, hd]; exact uuidParseChars_dashed ds hds hl
  have hblen : (beBytes 16 (digitsValue ds)).length = 16 := beBytes_length _ _
  have hbval : beValue (beBytes 16 (digitsValue ds)) = digitsValue ds := by
    rw [beValue_beBytes, Nat.mod_eq_of_lt hv]
  have hfil : s.toList.filter (fun c => c != '-') = ds.map hexDigit := by
    rw [hd]; exact filter_dashed_digits ds hds
  have htext : uuidText (beBytes 16 (digitsValue ds)) = s := by
    have : uuidTextChars (beBytes 16 (digitsValue ds)) = s.toList := by
      rw [uuidTextChars_eq, hbval, hd, ← hl, digitsOf_digitsValue ds hds]
    simp only [uuidText, this, String.ofList_toList]
  refine ⟨beBytes 16 (digitsValue ds), ?_, hblen, ?_, ?_⟩
  · simp only [uuidSend, hparse, encode, bind, Except.bind, hblen, if_true]
  · rw [hbval, hfil, hexValue_digits ds hds]
  · have := (uuid_read_spec cc (beBytes 16 (digitsValue ds)) rest hblen).1
    rw [htext] at this; exact this

/-- `UUID.send` either writes exactly 16 bytes or raises `ValueError` — nothing else; `UUID.read` of
fewer than 16 bytes raises `ValueError`. -/
theorem uuid_failure_kinds (cc : CustomCodec) (s : String) (bs : Bytes) :
    ((∃ b, uuidSend cc s = .ok b ∧ b.length = 16) ∨ uuidSend cc s = .error .value) ∧
    (bs.length < 16 → uuidRead cc bs = .error .value) := by
  constructor
  · rcases uuidParseChars_kinds s.toList with ⟨n, hn⟩ | he
    · left
      refine ⟨beBytes 16 n, ?_, beBytes_length _ _⟩
      simp only [uuidSend, uuidParse, hn, encode, bind, Except.bind, beBytes_length, if_true]
    · right
      simp only [uuidSend, uuidParse, he, bind, Except.bind]
  · intro h
    have : ¬ 16 ≤ bs.length := by omega
    simp only [uuidRead, decode, if_neg this]
    rfl

/-! ## Float and Double -/

/-- **Double.**  A Python float with binary64 pattern `x` is sent as the 8 bytes of `x`, most
significant first — sign bit, 11 exponent bits, 52 fraction bits (`f64Mag` says what they denote) —
and reading them back, followed by anything, returns the same pattern and leaves the rest. -/
theorem double_spec (cc : CustomCodec) (x : Nat) (hx : x < 2 ^ 64) (rest : Bytes) :
    ∃ bs, doubleSend cc x = .ok bs ∧ bs.length = 8 ∧
      beValue bs = x / 2 ^ 63 * 2 ^ 63 + x % 2 ^ 63 / 2 ^ 52 * 2 ^ 52 + x % 2 ^ 52 ∧
      doubleRead cc (bs ++ rest) = .ok (x, rest) := by
  obtain ⟨bs, h1, h2, h3, h4⟩ := pack_f64 cc x hx rest
  refine ⟨bs, h1, h2, by rw [h3]; omega, ?_⟩
  simp only [doubleRead, h4]
  rfl

/-- **Float, overflow.**  For a finite Python float `x`, `Float.send` raises `OverflowError` exactly
when `|x| ≥ 2^128 − 2^103` (the midpoint between the largest binary32 and `2^128`, which
roundTiesToEven sends up), i.e. exactly when IEEE rounding to binary32 overflows. -/
theorem float_send_overflow_iff (cc : CustomCodec) (x : Nat) (hx : x < 2 ^ 64)
    (hf : x % 2 ^ 63 / 2 ^ 52 ≠ 2047) :
    floatSend cc x = .error .other ↔ 2 ^ 1202 - 2 ^ 1177 ≤ f64Mag (x % 2 ^ 63) := by
  have hninf : x % 2 ^ 63 ≠ f64InfPat := by
    intro h; apply hf; rw [h]; decide
  have hmod : castF32 x % 2 ^ 31 = min (roundMagF32 (f64Mag (x % 2 ^ 63))) f32InfPat := by
    rw [castF32_finite x hf]
    have := Nat.min_le_right (roundMagF32 (f64Mag (x % 2 ^ 63))) f32InfPat
    unfold f32InfPat at *
    omega
  rw [← roundMagF32_overflow_iff]
  constructor
  · intro h
    by_cases hc : castF32 x % 2 ^ 31 = f32InfPat
    · rw [hmod] at hc; rw [← hc]; exact Nat.min_le_left _ _
    · obtain ⟨bs, hb, _⟩ := floatSend_ok cc x _ rfl (castF32_lt x hx) (fun c => absurd c hc) []
      rw [hb] at h; cases h
  · intro h
    unfold floatSend
    simp only
    rw [if_pos ⟨by rw [hmod]; exact Nat.min_eq_right h, hninf⟩]

/-- **Float, IEEE-754 rounding.**  For a finite Python float `x` of magnitude `M` below the overflow
threshold, `Float.send` writes 4 bytes, big-endian, of a binary32 pattern `y` with the sign of `x`
(−0 included), finite, whose value is a NEAREST binary32 to `x`: no pattern `r'` whatsoever denotes a
value closer to `M`; and if some other value is equally close, `y` is the one with even significand
(roundTiesToEven). -/
theorem float_send_nearest (cc : CustomCodec) (x : Nat) (hx : x < 2 ^ 64)
    (hf : x % 2 ^ 63 / 2 ^ 52 ≠ 2047) (hno : f64Mag (x % 2 ^ 63) < 2 ^ 1202 - 2 ^ 1177) :
    ∃ bs y, floatSend cc x = .ok bs ∧ bs.length = 4 ∧ beValue bs = y ∧ y < 2 ^ 32 ∧
      y / 2 ^ 31 = x / 2 ^ 63 ∧ y % 2 ^ 31 / 2 ^ 23 ≠ 255 ∧
      ∀ r', absDiff (f32Mag (y % 2 ^ 31) * 2 ^ 925) (f64Mag (x % 2 ^ 63))
              ≤ absDiff (f32Mag r' * 2 ^ 925) (f64Mag (x % 2 ^ 63)) ∧
        (absDiff (f32Mag (y % 2 ^ 31) * 2 ^ 925) (f64Mag (x % 2 ^ 63))
              = absDiff (f32Mag r' * 2 ^ 925) (f64Mag (x % 2 ^ 63)) →
          f32Mag r' * 2 ^ 925 ≠ f32Mag (y % 2 ^ 31) * 2 ^ 925 → y % 2 = 0) := by
  have hs : x / 2 ^ 63 ≤ 1 := by omega
  have hlt : roundMagF32 (f64Mag (x % 2 ^ 63)) < f32InfPat := by
    apply Nat.lt_of_not_le
    intro h
    have := (roundMagF32_overflow_iff _).mp h
    omega
  have hy : castF32 x = x / 2 ^ 63 * 2 ^ 31 + roundMagF32 (f64Mag (x % 2 ^ 63)) := by
    rw [castF32_finite x hf, Nat.min_eq_left (Nat.le_of_lt hlt)]
  have hnear := roundMagF32_nearest (f64Mag (x % 2 ^ 63))
  generalize roundMagF32 (f64Mag (x % 2 ^ 63)) = r at *
  generalize x / 2 ^ 63 = s at *
  unfold f32InfPat at hlt
  have hmod : (s * 2 ^ 31 + r) % 2 ^ 31 = r := by omega
  obtain ⟨bs, hb1, hb2, hb3, _⟩ := floatSend_ok cc x _ hy (by omega)
    (fun c => by rw [hmod] at c; unfold f32InfPat at c; omega) []
  refine ⟨bs, _, hb1, hb2, hb3, by omega, by omega, by omega, fun r' => ?_⟩
  rw [hmod]
  obtain ⟨n1, n2⟩ := hnear r'
  exact ⟨n1, fun h1 h2 => by have := n2 h1 h2; omega⟩

/-- **Float, infinities and NaNs.**  `±∞` is sent as the binary32 `±∞`, a NaN as a binary32 NaN
(exponent all ones, non-zero fraction) with the same sign; neither ever raises. -/
theorem float_send_special (cc : CustomCodec) (x : Nat) (hx : x < 2 ^ 64)
    (hf : x % 2 ^ 63 / 2 ^ 52 = 2047) :
    ∃ bs y, floatSend cc x = .ok bs ∧ bs.length = 4 ∧ beValue bs = y ∧
      y / 2 ^ 31 = x / 2 ^ 63 ∧ y % 2 ^ 31 / 2 ^ 23 = 255 ∧
      (y % 2 ^ 23 = 0 ↔ x % 2 ^ 52 = 0) := by
  have hs : x / 2 ^ 63 ≤ 1 := by omega
  have hm : x % 2 ^ 63 = 2047 * 2 ^ 52 + x % 2 ^ 52 := by omega
  have hx' : x = x / 2 ^ 63 * 2 ^ 63 + f64InfPat + x % 2 ^ 52 := by unfold f64InfPat; omega
  have hq : x % 2 ^ 52 / 2 ^ 29 % 2 ^ 22 < 2 ^ 22 := Nat.mod_lt _ (Nat.two_pow_pos _)
  have hy := castF32_special (x / 2 ^ 63) (x % 2 ^ 52) (Nat.mod_lt _ (Nat.two_pow_pos _))
  rw [← hx'] at hy
  unfold f32InfPat at hy
  generalize x % 2 ^ 52 / 2 ^ 29 % 2 ^ 22 = q at hq hy
  generalize x / 2 ^ 63 = s at hs hy ⊢
  generalize x % 2 ^ 52 = F at hm hy ⊢
  generalize hc : castF32 x = y at hy
  have hy' : (F = 0 ∧ y = s * 2 ^ 31 + 2139095040) ∨ (F ≠ 0 ∧ y = s * 2 ^ 31 + 2143289344 + q) := by
    split at hy
    · exact .inl ⟨‹_›, hy⟩
    · exact .inr ⟨‹_›, hy⟩
  obtain ⟨bs, hb1, hb2, hb3, _⟩ := floatSend_ok cc x y hc (by omega)
    (fun c => by unfold f32InfPat at c; unfold f64InfPat; omega) []
  exact ⟨bs, y, hb1, hb2, hb3, by omega, by omega, by omega⟩

/-- **Float, reading.**  `Float.read` of the 4 bytes of a finite binary32 pattern `r`, followed by
anything, returns a finite Python float with the same sign and EXACTLY the same value, and leaves the
rest. -/
theorem float_read_exact (cc : CustomCodec) (bs rest : Bytes) (hb : bs.length = 4)
    (hf : beValue bs % 2 ^ 31 / 2 ^ 23 ≠ 255) :
    ∃ x, floatRead cc (bs ++ rest) = .ok (x, rest) ∧ x < 2 ^ 64 ∧
      x / 2 ^ 63 = beValue bs / 2 ^ 31 ∧ x % 2 ^ 63 / 2 ^ 52 ≠ 2047 ∧
      f64Mag (x % 2 ^ 63) = f32Mag (beValue bs % 2 ^ 31) * 2 ^ 925 := by
  have hr : beValue bs < 2 ^ 32 := by
    have := beValue_lt bs; rw [hb] at this; omega
  obtain ⟨w1, w2, w3, w4⟩ := widenF32_finite _ hr hf
  refine ⟨widenF32 (beValue bs), ?_, w2, w1, w3, w4⟩
  simp only [floatRead, unpack_nat cc .f32 rfl bs rest hb]
  rfl

/-- **Float, round trip.**  Every binary32 pattern `r` that is not a signalling NaN survives: sending
the Python float `Float.read` returns for `r` writes the 4 bytes of `r` again, and reading those,
followed by anything, returns the same float and leaves the rest. -/
theorem float_roundtrip (cc : CustomCodec) (r : Nat) (hr : r < 2 ^ 32)
    (hq : r % 2 ^ 31 / 2 ^ 23 = 255 → r % 2 ^ 23 = 0 ∨ 2 ^ 22 ≤ r % 2 ^ 23) (rest : Bytes) :
    ∃ bs, floatSend cc (widenF32 r) = .ok bs ∧ bs.length = 4 ∧ beValue bs = r ∧
      floatRead cc (bs ++ rest) = .ok (widenF32 r, rest) := by
  obtain ⟨bs, hb1, hb2, hb3, hb4⟩ := floatSend_ok cc (widenF32 r) r (castF32_widenF32 r hr hq) hr
    (fun c => by
      unfold f32InfPat at c
      unfold widenF32 f64InfPat
      have e1 : r % 2 ^ 31 / 2 ^ 23 = 255 := by omega
      have e2 : r % 2 ^ 31 % 2 ^ 23 = 0 := by omega
      simp only [e1, e2, if_true]
      omega) rest
  refine ⟨bs, hb1, hb2, hb3, ?_⟩
  simp only [floatRead, hb4]
  rfl

/-! ## live probes: the models against the code of `/repo` (regenerated on every run) -/

open Gen.WireFormats in
/-- Every class name of `basic.__all__` is accounted for: mapped to a model code by `classWType`, or
one of the instance/custom/abstract types modelled elsewhere. -/
theorem formats_cover : ∀ n ∈ allNames, (classWType n).isSome ∨
    n ∈ ["Type", "FixedPoint", "FixedPointInteger", "PrefixedArray", "Position", "NBT"] := by
  decide +kernel

open Gen.WireFormats in
/-- **Class → wire format.**  For every probe `(class, value)` (`scalarProbeOk`): the model code of
the class encodes the value to exactly the bytes (or the error) the live class produced, and decodes
those bytes followed by `aa bb` to exactly the value the live class read back, leaving `aa bb`
(nothing appended for `TrailingByteArray`). -/
theorem formats_ok : ∀ chunk ∈ scalarProbes, ∀ row ∈ chunk, scalarProbeOk noCustomCodec row = true := by
  decide +kernel

open Gen.WireFormats in
/-- **Float/Double probes.**  `Float.send`, `Double.send`/`read` and `Float.read` of the live code
agree with the model on every probe (ties, subnormals, the overflow threshold, infinities, NaNs), and
the binary64 pattern of each finite probe denotes (`f64Mag`) exactly the magnitude and sign that
`float.as_integer_ratio` reports — the identification "Python float = its IEEE pattern"
(`doubleProbeOk`). -/
theorem float_probes_ok :
    (∀ chunk ∈ floatSendProbes, ∀ row ∈ chunk, floatSend noCustomCodec row.1 = row.2) ∧
    (∀ chunk ∈ doubleProbes, ∀ row ∈ chunk, doubleProbeOk noCustomCodec row = true) ∧
    (∀ chunk ∈ floatReadProbes, ∀ row ∈ chunk,
      floatRead noCustomCodec (row.1 ++ [7]) = .ok (row.2, [7])) := by
  decide +kernel

open Gen.WireFormats in
/-- **UUID probes** (canonical, upper case, braces, URN, dash-less, malformed, and the lenient forms
`int(…, 16)` lets through). -/
theorem uuid_probes_ok :
    (∀ chunk ∈ uuidSendProbes, ∀ row ∈ chunk, uuidSend noCustomCodec row.1 = row.2) ∧
    (∀ chunk ∈ uuidReadProbes, ∀ row ∈ chunk, uuidRead noCustomCodec row.1 = row.2) := by
  decide +kernel

open Gen.WireFormats in
/-- **FixedPoint probes.**  The live object built from `(class, bits)` has the model's denominator,
sends `p/q` as the model does (`fixedSendProbeOk`), and reads bytes to the same fraction, leaving the
appended byte (`fixedReadProbeOk`). -/
theorem fixed_probes_ok :
    (∀ chunk ∈ fixedSendProbes, ∀ row ∈ chunk, fixedSendProbeOk noCustomCodec row = true) ∧
    (∀ chunk ∈ fixedReadProbes, ∀ row ∈ chunk, fixedReadProbeOk noCustomCodec row = true) := by
  decide +kernel

open Gen.WireFormats in
/-- **Angle probes.**  `Angle.send(p/q)` writes the step the exact-arithmetic model computes, and
`Angle.read` returns `360·step/256`. -/
theorem angle_probes_ok :
    (∀ chunk ∈ angleSendProbes, ∀ row ∈ chunk,
      encode noCustomCodec .angle (.int (angleStep row.1 row.2.1)) = row.2.2) ∧
    (∀ chunk ∈ angleReadProbes, ∀ row ∈ chunk,
      (angleOfStep row.1).1 * (row.2.2 : Int) = row.2.1 * (angleOfStep row.1).2) := by
  decide +kernel

/-! ## non-vacuity -/

/-- 1/32-block coordinates: 67.40625 = 2157/32 is sent exactly; −7/3 is truncated toward zero -/
example : (FixedPointT.init .i32 5).send noCustomCodec 2157 32 = .ok [0, 0, 8, 0x6d] ∧
    (FixedPointT.init .i32 5).read noCustomCodec [0, 0, 8, 0x6d, 0xee]
      = .ok (0x4050DA0000000000, [0xee]) ∧ f64Frac 0x4050DA0000000000 = (2157 * 2 ^ 1069, 32 * 2 ^ 1069) ∧
    (FixedPointT.init .i16 12).send noCustomCodec (-7) 3 = .ok [0xda, 0xab] ∧
    Int.tdiv (-7 * 2 ^ 12) 3 = -9557 := by decide +kernel
/-- 64-bit bases beyond `2^53`: `2^53 + 1` (a tie) reads as `2^53` (even), `2^53 + 3` as `2^53 + 4`,
`−2^63` exactly; `−1` over `2^5` is `−0.03125`; the exactness hypothesis `|w| < 2^53` of
`fixed_same_bits` is sharp -/
example : (FixedPointT.init .i64 0).read noCustomCodec [0, 0x20, 0, 0, 0, 0, 0, 1]
      = .ok (0x4340000000000000, []) ∧ f64Mag 0x4340000000000000 = 2 ^ 53 * 2 ^ 1074 ∧
    (FixedPointT.init .i64 0).read noCustomCodec [0, 0x20, 0, 0, 0, 0, 0, 3]
      = .ok (0x4340000000000002, []) ∧ f64Mag 0x4340000000000002 = (2 ^ 53 + 4) * 2 ^ 1074 ∧
    (FixedPointT.init .i64 0).read noCustomCodec [0x80, 0, 0, 0, 0, 0, 0, 0]
      = .ok (0xC3E0000000000000, []) ∧ f64Mag 0x43E0000000000000 = 2 ^ 63 * 2 ^ 1074 ∧
    (FixedPointT.init .i32 5).read noCustomCodec [0xff, 0xff, 0xff, 0xff, 7]
      = .ok (0xBFA0000000000000, [7]) ∧ f64Mag 0x3FA0000000000000 * 2 ^ 5 = 1 * 2 ^ 1074 := by
  decide +kernel
/-- all three branches of `fixed_same_bits` are inhabited -/
example : IntT.i8.inDom (Int.tdiv (3 * 2 ^ 5) 1) ∧ ¬ IntT.i8.inDom (Int.tdiv (4 * 2 ^ 5) 1) ∧
    (FixedPointT.init .i8 5).send noCustomCodec 4 1 = .error .struct ∧
    (2 : Int) ^ 1024 * 1 ≤ 2 ^ 1019 * 2 ^ 5 ∧
    (FixedPointT.init .i32 5).send noCustomCodec (2 ^ 1019) 1 = .error .other ∧
    (FixedPointT.init .i32 5).send noCustomCodec (2 ^ 1018) 1 = .error .struct := by decide +kernel
/-- a canonical text, and non-canonical ones the parser also accepts -/
example : isCanonicalUuid "12345678-9abc-def0-1234-56789abcdef0" = true ∧
    isCanonicalUuid "12345678-9ABC-DEF0-1234-56789ABCDEF0" = false ∧
    uuidSend noCustomCodec "12345678-9abc-def0-1234-56789abcdef0"
      = .ok [0x12, 0x34, 0x56, 0x78, 0x9a, 0xbc, 0xde, 0xf0, 0x12, 0x34, 0x56, 0x78, 0x9a, 0xbc, 0xde, 0xf0] ∧
    uuidSend noCustomCodec "{12345678-9ABC-DEF0-1234-56789ABCDEF0}"
      = uuidSend noCustomCodec "12345678-9abc-def0-1234-56789abcdef0" ∧
    uuidSend noCustomCodec "12345678-9abc-def0-1234-56789abcdefg" = .error .value := by
  decide +kernel
example : uuidText [0, 1, 2, 3, 4, 5, 6, 7, 8, 9, 10, 11, 12, 13, 14, 255]
    = "00010203-0405-0607-0809-0a0b0c0d0eff" := by decide +kernel
/-- 0.1 (binary64 `3FB999999999999A`) is finite, below the threshold, and rounds UP to `3DCCCCCD` -/
example : (0x3FB999999999999A : Nat) % 2 ^ 63 / 2 ^ 52 ≠ 2047 ∧
    f64Mag (0x3FB999999999999A % 2 ^ 63) < 2 ^ 1202 - 2 ^ 1177 ∧
    floatSend noCustomCodec 0x3FB999999999999A = .ok [0x3D, 0xCC, 0xCC, 0xCD] := by decide +kernel
/-- a genuine tie: `1 + 2^-24` lies midway between `3F800000` and `3F800001`; even wins -/
example : absDiff (f32Mag 0x3F800000 * 2 ^ 925) (f64Mag 0x3FF0000010000000)
      = absDiff (f32Mag 0x3F800001 * 2 ^ 925) (f64Mag 0x3FF0000010000000) ∧
    floatSend noCustomCodec 0x3FF0000010000000 = .ok [0x3F, 0x80, 0, 0] ∧
    floatSend noCustomCodec 0x3FF0000030000000 = .ok [0x3F, 0x80, 0, 2] := by decide +kernel
/-- the overflow threshold is attained: the largest binary32 passes, the tie `2^128 − 2^103` raises -/
example : floatSend noCustomCodec 0x47EFFFFFEFFFFFFF = .ok [0x7F, 0x7F, 0xFF, 0xFF] ∧
    f64Mag 0x47EFFFFFF0000000 = 2 ^ 1202 - 2 ^ 1177 ∧
    floatSend noCustomCodec 0x47EFFFFFF0000000 = .error .other := by decide +kernel
/-- special values and a quiet NaN satisfy the hypotheses of `float_send_special`/`float_roundtrip` -/
example : (0x7FF0000000000000 : Nat) % 2 ^ 63 / 2 ^ 52 = 2047 ∧
    floatSend noCustomCodec 0xFFF0000000000000 = .ok [0xFF, 0x80, 0, 0] ∧
    floatSend noCustomCodec 0x7FF8000000000000 = .ok [0x7F, 0xC0, 0, 0] ∧
    widenF32 0x7FC00000 = 0x7FF8000000000000 ∧ widenF32 0x00000001 = 0x36A0000000000000 := by
  decide +kernel

/-- the signalling-NaN exclusion of `float_roundtrip` is sharp: `7F800001` comes back quieted -/
example : ¬ ((0x7F800001 : Nat) % 2 ^ 23 = 0 ∨ 2 ^ 22 ≤ (0x7F800001 : Nat) % 2 ^ 23) ∧
    castF32 (widenF32 0x7F800001) = 0x7FC00001 := by decide +kernel

/-! ## refutations: models of CHANGED code violate the theorems above

Each change below passes every theorem of `Props/C02.lean`. -/

/-- `self.denominator = 2**5`, ignoring `fractional_bits` (basic.py:119 changed) -/
private def initIgnoringBits (integerType : IntT) (_fractionalBits : Nat := 5) : FixedPointT :=
  ⟨integerType, 2 ^ 5⟩

/-- … violates `fixed_same_bits` at `FixedPoint(Short, 12)`, value 1: the theorem demands the bytes of
`int(1 · 2^12) = 4096` and a float of value exactly `4096 / 2^12 = 1` back; the changed object writes
32 and returns `4096 / 32 = 128.0`. -/
example :
    IntT.i16.inDom (Int.tdiv (1 * 2 ^ 12) 1) ∧
    ¬ (∃ bs, (initIgnoringBits .i16 12).send noCustomCodec 1 1 = .ok bs ∧
        (beValue bs : Int) = Int.tdiv (1 * 2 ^ 12) 1 % (256 : Int) ^ IntT.i16.width) ∧
    (initIgnoringBits .i16 12).read noCustomCodec [0x10, 0] = .ok (0x4060000000000000, []) ∧
    f64Mag (0x4060000000000000 % 2 ^ 63) * 2 ^ 12 ≠ (Int.tdiv (1 * 2 ^ 12) 1).natAbs * 2 ^ 1074 ∧
    (FixedPointT.init .i16 12).read noCustomCodec [0x10, 0] = .ok (0x3FF0000000000000, []) ∧
    f64Mag (0x3FF0000000000000 % 2 ^ 63) * 2 ^ 12 = (Int.tdiv (1 * 2 ^ 12) 1).natAbs * 2 ^ 1074 := by
  refine ⟨by decide +kernel, ?_, by decide +kernel⟩
  rintro ⟨bs, h1, h2⟩
  have hs : (initIgnoringBits .i16 12).send noCustomCodec 1 1 = .ok [0, 32] := by decide +kernel
  rw [hs] at h1; cases h1
  revert h2; decide +kernel

/-- `return self.integer_type.read(file_object) // self.denominator`-style EXACT arithmetic instead of
the float division: for `FixedPoint(Long, 0)` and the bytes of
`2^53 + 1` it would denote `9007199254740993`, which is not a binary64 — no pattern has that value, so
no Python float can be what such a `read` returns; the real `read` (and the model) return `2^53`. -/
example : (∀ m', f64Mag m' ≠ (2 ^ 53 + 1) * 2 ^ 1074) ∧
    (FixedPointT.init .i64 0).read noCustomCodec [0, 0x20, 0, 0, 0, 0, 0, 1]
      = .ok (0x4340000000000000, []) := by
  refine ⟨fun m' h => ?_, by decide +kernel⟩
  -- the nearest binary64 to (2^53+1) is at distance 2^1074 > 0, so nothing is at distance 0
  have hn := (roundQuotF64_nearest ((2 ^ 53 + 1) * 2 ^ 1074) 1 (by omega) m').1
  have hv : f64Mag (roundQuotF64 ((2 ^ 53 + 1) * 2 ^ 1074) 1) = 2 ^ 53 * 2 ^ 1074 := by
    decide +kernel
  rw [hv, h] at hn
  revert hn
  decide +kernel

/-- `FixedPointInteger = FixedPoint(Integer, 4)` (basic.py:129 changed) contradicts
`fixedPointInteger_spec`, and the live-probe theorem `fixedPointInteger_live` would then compare the
generated denominator 16 with the model's 32. -/
example : FixedPointT.init .i32 4 ≠ fixedPointInteger ∧
    (FixedPointT.init .i32 4).denominator ≠ fixedPointInteger.denominator ∧
    (FixedPointT.init .i32 4).send noCustomCodec 1 1 ≠ fixedPointInteger.send noCustomCodec 1 1 := by
  decide +kernel

/-- `socket.send(uuid.UUID(value).bytes_le)` (basic.py:310 changed): the first three fields
byte-swapped -/
private def uuidSendLE (s : String) : Except Err Bytes := do
  let b ← uuidParse s
  pure ((b.take 4).reverse ++ ((b.drop 4).take 2).reverse ++ ((b.drop 6).take 2).reverse ++ b.drop 8)

/-- … violates `uuid_send_text` (and the value clause of `uuid_send_canonical`) at `00 01 … 0f`. -/
example :
    uuidSend noCustomCodec (uuidText [0, 1, 2, 3, 4, 5, 6, 7, 8, 9, 10, 11, 12, 13, 14, 15])
      = .ok [0, 1, 2, 3, 4, 5, 6, 7, 8, 9, 10, 11, 12, 13, 14, 15] ∧
    uuidSendLE (uuidText [0, 1, 2, 3, 4, 5, 6, 7, 8, 9, 10, 11, 12, 13, 14, 15])
      ≠ .ok [0, 1, 2, 3, 4, 5, 6, 7, 8, 9, 10, 11, 12, 13, 14, 15] ∧
    ¬ (∃ b', uuidSendLE (uuidText [0, 1, 2, 3, 4, 5, 6, 7, 8, 9, 10, 11, 12, 13, 14, 15]) = .ok b' ∧
        beValue b' = hexValue ((uuidText [0, 1, 2, 3, 4, 5, 6, 7, 8, 9, 10, 11, 12, 13, 14, 15]).toList.filter
          (fun c => c != '-'))) := by
  have hs : uuidSendLE (uuidText [0, 1, 2, 3, 4, 5, 6, 7, 8, 9, 10, 11, 12, 13, 14, 15])
      = .ok [3, 2, 1, 0, 5, 4, 7, 6, 8, 9, 10, 11, 12, 13, 14, 15] := by
    simp only [uuidSendLE, uuidParse_text [0, 1, 2, 3, 4, 5, 6, 7, 8, 9, 10, 11, 12, 13, 14, 15] rfl]
    rfl
  rw [hs, (uuid_read_spec noCustomCodec _ [] rfl).2.2.2.2.2]
  exact ⟨uuid_send_text _ _ rfl, by decide, by rintro ⟨b', h1, h2⟩; cases h1; revert h2; decide⟩

/-- `return str(uuid.UUID(bytes=…)).upper()` (basic.py:306 changed) -/
private def uuidTextUpper (b : Bytes) : String := String.ofList ((uuidTextChars b).map Char.toUpper)

/-- … violates the canonical-form clause of `uuid_read_spec`. -/
example : isCanonicalUuid (uuidText [0xab, 1, 2, 3, 4, 5, 6, 7, 8, 9, 10, 11, 12, 13, 14, 15]) = true ∧
    isCanonicalUuid (uuidTextUpper [0xab, 1, 2, 3, 4, 5, 6, 7, 8, 9, 10, 11, 12, 13, 14, 15]) = false := by
  refine ⟨(uuid_read_spec noCustomCodec _ [] rfl).2.1, ?_⟩
  simp only [isCanonicalUuid, uuidTextUpper, String.toList_ofList]
  decide +kernel

/-- `struct.pack('>f', round(value, 3))` (basic.py:237 changed): for `value = 0.0001`
(`3F1A36E2EB1C432D`) the changed code packs `0.0`, i.e. pattern 0 -/
example :
    let x : Nat := 0x3F1A36E2EB1C432D
    x % 2 ^ 63 / 2 ^ 52 ≠ 2047 ∧ f64Mag (x % 2 ^ 63) < 2 ^ 1202 - 2 ^ 1177 ∧
    floatSend noCustomCodec x = .ok [0x38, 0xD1, 0xB7, 0x17] ∧
    -- pattern 0 is NOT a nearest binary32: `float_send_nearest` excludes it
    ¬ (absDiff (f32Mag 0 * 2 ^ 925) (f64Mag (x % 2 ^ 63))
        ≤ absDiff (f32Mag 0x38D1B717 * 2 ^ 925) (f64Mag (x % 2 ^ 63))) := by
  decide +kernel

/-- a cast that truncates toward zero instead of rounding to nearest -/
private def truncMagF32 (M : Nat) : Nat :=
  if M = 0 then 0 else (f32Quantum M - 925) * 2 ^ 23 + M / 2 ^ f32Quantum M

/-- … violates the nearness clause of `float_send_nearest` at 0.1. -/
example :
    let M := f64Mag (0x3FB999999999999A % 2 ^ 63)
    truncMagF32 M = 0x3DCCCCCC ∧ roundMagF32 M = 0x3DCCCCCD ∧
    ¬ (absDiff (f32Mag (truncMagF32 M) * 2 ^ 925) M ≤ absDiff (f32Mag 0x3DCCCCCD * 2 ^ 925) M) := by
  decide +kernel

end PyCraft.C02Exact
