import PyCraft.Lemmas.C07Named
import PyCraft.Props.C07
/-!
# C07, with field NAMES and EXACT types

`Props/C07.lean` compares pyCraft's layouts of the core packets with the published ones as TYPE
sequences only, and only up to `normT` (`i8 ≡ u8`).  Exchanging two attributes of equal type in a
class body (`shared_secret`/`verify_token`, `yaw`/`pitch`, `x`/`z`, `is_debug`/`is_flat`), or turning
`Byte` into `UnsignedByte` on the `dimension` of the 1.8 join-game packet, leaves every theorem there
true.  Neither weakening is needed: all 599 (packet, release) pairs are equal exactly, names included.

Tables (all regenerated on every run):

* `Ref.named` — `harness/refproto.py` (the reference of the PUBLISHED protocol; independent of
  /repo) with the field names kept: per core packet and release, id and `(name, type)` list;
* `Gen.C07Named.live` — `harness/gen/c07named.py`: per core class and protocol in the live
  `RELEASE_PROTOCOL_VERSIONS`, the run-time `id` and `definition` of a packet INSTANCE
  (`packet.py` l.22-24, l.40-43 — what `Packet.read` l.66 / `write_fields` l.110 iterate over);
* `Gen.layoutTables`, `Gen.idTables` (`harness/extract.py`) and `liveTables`.

`Obs` (in `Lemmas/C07Named.lean`) is what one side says about a packet at a version: `absent`,
`packet id layout`, or — pyCraft only — `irregular` (duplicate class name, hand-written codec,
raising/non-integer id, overridden `write`/`_write_buffer`, version not tabulated).
-/
namespace PyCraft.C07Named
open PyCraft PyCraft.Gen PyCraft.C07

/-- EXACT agreement, names included.  For every core packet and every release of the reference,
what a pyCraft packet instance says at run time — no such packet, or (id, [(attribute name, wire
type)] in wire order) — is exactly what the published protocol says: same id, same field names, same
types (`Byte` ≠ `UnsignedByte`), same order, and the packet exists in pyCraft iff it is published. -/
theorem core_named_match :
    ∀ c ∈ Ref.core, ∀ rel ∈ Ref.releases, liveObs c.2.1 c.2.2 rel = refObs c.1 rel :=
  checkNamed_sound _ _ checkNamed_ok

/-- The named reference is the reference of `Props/C07.lean` with the names added: dropping the
names gives `Ref.table` back, so the theorems there and the ones here speak of the same published rows;
and the reference has EXACTLY 20 core packets (in the order of `Ref.core`, no name twice), 30
releases (none twice), one row per packet and release in release order except for the one
exception — 599 rows in all (`C07.reference_nonempty` only demands ≥ 25 per packet, ≥ 550). -/
theorem reference_exact :
    Ref.named.map eraseEntry = Ref.table ∧
    Ref.core.length = 20 ∧ Ref.releases.length = 30 ∧ Ref.releases.Nodup ∧
    Ref.named.map (fun e => e.1) = Ref.core.map (fun c => c.1) ∧
    (Ref.core.map fun c => c.1).Nodup ∧
    (∀ e ∈ Ref.named,
      e.2.map (fun r => r.1) = Ref.releases.filter fun rel => !isException e.1 rel) ∧
    (Ref.named.map fun e => e.2.length).sum = 599 := by
  have h : Ref.core.length = 20 ∧ Ref.releases.length = 30 ∧ Ref.releases.Nodup ∧
      Ref.named.map (fun e => e.1) = Ref.core.map (fun c => c.1) ∧
      (Ref.core.map fun c => c.1).Nodup ∧
      (Ref.named.all fun e => decide
        (e.2.map (fun r => r.1) = Ref.releases.filter fun rel => !isException e.1 rel)) = true ∧
      (Ref.named.map fun e => e.2.length).sum = 599 := by decide +kernel
  refine ⟨erase_ok, h.1, h.2.1, h.2.2.1, h.2.2.2.1, h.2.2.2.2.1, fun e he => ?_, h.2.2.2.2.2.2⟩
  exact of_decide_eq_true (List.all_eq_true.mp h.2.2.2.2.2.1 e he)

private theorem named_names_nodup : (Ref.named.map (·.1)).Nodup := by
  obtain ⟨_, _, _, _, hnames, hnd, _⟩ := reference_exact
  exact hnames ▸ hnd

/-- every row of the named reference is for a reference release, and is what `refObs` answers for
its packet there -/
private theorem refObs_row : ∀ e ∈ Ref.named, ∀ row ∈ e.2,
    row.1 ∈ Ref.releases ∧ refObs e.1 row.1 = .packet row.2.1 row.2.2 := by
  intro e he row hrow
  obtain ⟨_, _, _, hrels, _, _, hcols, _⟩ := reference_exact
  have hcol := hcols e he
  have hm : row.1 ∈ e.2.map (·.1) := List.mem_map_of_mem (f := (·.1)) hrow
  have hnd : (e.2.map (·.1)).Nodup := hcol ▸ hrels.filter _
  rw [hcol] at hm
  exact ⟨(List.mem_filter.mp hm).1, refObsIn_row _ named_names_nodup e he hnd row hrow⟩

/-- The reference is total: for every core packet and every release there IS a published row
(so `core_named_match` compares a real id and layout), with the single exception of the teleport
confirmation in protocol 47 (introduced with 1.9), which is absent; a published row is a row of
`Ref.named` under that packet's name. -/
theorem reference_total :
    ∀ c ∈ Ref.core, ∀ rel ∈ Ref.releases,
      ((c.1 = "teleport_confirm" ∧ rel = 47) → refObs c.1 rel = .absent) ∧
      (¬ (c.1 = "teleport_confirm" ∧ rel = 47) →
        ∃ e ∈ Ref.named, e.1 = c.1 ∧ ∃ row ∈ e.2, row.1 = rel ∧
          refObs c.1 rel = .packet row.2.1 row.2.2) := by
  intro c hc rel hrel
  have hx : isException c.1 rel = true ↔ (c.1 = "teleport_confirm" ∧ rel = 47) := by
    simp [isException]
  obtain ⟨_, _, _, _, hnames, _, hcols, _⟩ := reference_exact
  have hmem : c.1 ∈ Ref.named.map (·.1) := hnames ▸ List.mem_map_of_mem (f := (·.1)) hc
  obtain ⟨e, he, hname⟩ := List.mem_map.mp hmem
  have hcol := hcols e he
  rw [← hname] at hx ⊢
  refine ⟨fun h => ?_, fun h => ?_⟩
  · refine refObsIn_absent _ named_names_nodup e he rel fun hm => ?_
    rw [hcol, List.mem_filter] at hm
    simp [hx.mpr h] at hm
  · have hm : rel ∈ e.2.map (·.1) := by
      rw [hcol, List.mem_filter]
      exact ⟨hrel, by simpa using fun hb => h (hx.mp hb)⟩
    obtain ⟨row, hrow, rfl⟩ := List.mem_map.mp hm
    exact ⟨e, he, rfl, row, hrow, rfl, (refObs_row e he row hrow).2⟩

/-- Both together: outside the one exception pyCraft has a regular packet whose id and named layout
are the published ones; at the exception pyCraft registers no such class either. -/
theorem core_named_packets :
    ∀ c ∈ Ref.core, ∀ rel ∈ Ref.releases,
      ((c.1 = "teleport_confirm" ∧ rel = 47) →
        liveObs c.2.1 c.2.2 rel = .absent ∧ refObs c.1 rel = .absent) ∧
      (¬ (c.1 = "teleport_confirm" ∧ rel = 47) →
        ∃ id lay, refObs c.1 rel = .packet id lay ∧ liveObs c.2.1 c.2.2 rel = .packet id lay) := by
  intro c hc rel hrel
  have hm := core_named_match c hc rel hrel
  have ht := reference_total c hc rel hrel
  refine ⟨fun hx => ⟨hm.trans (ht.1 hx), ht.1 hx⟩, fun hx => ?_⟩
  obtain ⟨_, _, _, row, _, _, hp⟩ := ht.2 hx
  exact ⟨row.2.1, row.2.2, hp, hm.trans hp⟩

/-- The same over the rows of the reference, and over BOTH live sources.  For every
core packet and every row `(release, id, named layout)` the reference has for it: the release is a
reference release; the id in pyCraft's id table is the published id; the named layout found in the
layout table `Gen.layoutTables` (`genLayoutNamed`: first variant listing the release) is the published
one — and so is the layout of EVERY variant listing that release, so "first" loses nothing; and the
run-time observation of `Gen.C07Named.live` is exactly `packet id layout`. -/
theorem core_layouts_match_named :
    ∀ c ∈ Ref.core, ∀ e ∈ Ref.named, e.1 = c.1 → ∀ row ∈ e.2,
      row.1 ∈ Ref.releases ∧
      genId c.2.1 c.2.2 row.1 = some row.2.1 ∧
      genLayoutNamed c.2.1 c.2.2 row.1 = some row.2.2 ∧
      (∃ variants, variantsOf c.2.1 c.2.2 = some variants ∧
        (∃ var ∈ variants, row.1 ∈ var.2) ∧
        ∀ var ∈ variants, row.1 ∈ var.2 → var.1 = some row.2.2) ∧
      liveObs c.2.1 c.2.2 row.1 = .packet row.2.1 row.2.2 := by
  intro c hc e he hname row hrow
  obtain ⟨hrel, hobs⟩ := refObs_row e he row hrow
  have hlive : liveObs c.2.1 c.2.2 row.1 = .packet row.2.1 row.2.2 :=
    (core_named_match c hc row.1 hrel).trans (hname ▸ hobs)
  obtain ⟨variants, hv, hrows⟩ := checkGenNamed_sound _ checkGenNamed_ok
    C06Dispatch.versions_nodup c hc e he hname
  obtain ⟨hid, i1, i2, i3⟩ := hrows row hrow
  exact ⟨hrel, hid, i3, ⟨variants, hv, i1, i2⟩, hlive⟩

/-- The domain is tied to the live version tables.  The protocols of the releases pyCraft marks as
supported (`RELEASE_PROTOCOL_VERSIONS`, `minecraft/__init__.py` l.537-545) are EXACTLY 4, 5 and the
reference releases, in this order; the generator of `Gen.C07Named.live` saw the same list; and every
reference release is a supported protocol.  So `core_named_match` covers every supported release
from 1.8 on, a newly supported release makes this theorem false until the reference covers it, and
what stays outside is stated: protocols 4 and 5 (1.7.2 – 1.7.10), which the README does not list. -/
theorem releases_tied :
    liveTables.releaseProtocols = [4, 5] ++ Ref.releases ∧
    Gen.C07Named.liveReleases = liveTables.releaseProtocols ∧
    (∀ rel ∈ Ref.releases, rel ∈ liveTables.supportedProtocols) ∧
    (∀ e ∈ Gen.C07Named.live, e.2.map (fun r => r.1) = Gen.C07Named.liveReleases) := by
  have h : liveTables.releaseProtocols = [4, 5] ++ Ref.releases ∧
      Gen.C07Named.liveReleases = liveTables.releaseProtocols ∧
      (Ref.releases.all fun rel => liveTables.supportedProtocols.contains rel) = true ∧
      (Gen.C07Named.live.all fun e =>
        decide (e.2.map (fun r => r.1) = Gen.C07Named.liveReleases)) = true := by decide +kernel
  refine ⟨h.1, h.2.1, fun rel hrel => ?_, fun e he => ?_⟩
  · simpa using List.all_eq_true.mp h.2.2.1 rel hrel
  · exact of_decide_eq_true (List.all_eq_true.mp h.2.2.2 e he)

/-- Consequence on the wire, with no restriction on the values (`C07.core_bytes_match` needs
every value to be in the domain of both an `i8` and a `u8`, which excludes all boundary values).
For every core packet and reference release, with `L` pyCraft's run-time layout: the published layout
`R` exists and, for EVERY attribute dictionary, value list and byte string, `write_fields` / `read`
driven by `L` and by `R` do the same — same bytes or same error, same attributes set. -/
theorem core_wire_match :
    ∀ c ∈ Ref.core, ∀ rel ∈ Ref.releases, ∀ id L, liveObs c.2.1 c.2.2 rel = .packet id L →
      ∃ R, refObs c.1 rel = .packet id R ∧
        ∀ (cc : CustomCodec) (attrs : Attrs),
          writeFields cc attrs L = writeFields cc attrs R ∧
          (∀ bs, readFields cc L attrs bs = readFields cc R attrs bs) ∧
          (∀ vals, encodeFields cc L vals = encodeFields cc R vals) ∧
          (∀ bs, decodeFields cc L bs = decodeFields cc R bs) := by
  intro c hc rel hrel id L hl
  have hm := core_named_match c hc rel hrel
  exact ⟨L, hm ▸ hl, fun _ _ => ⟨rfl, fun _ => rfl, fun _ => rfl, fun _ => rfl⟩⟩

/-! ## non-vacuity -/

example : ("encryption_response", "sbLogin", "EncryptionResponsePacket") ∈ Ref.core := by
  decide +kernel
example : (757 : Nat) ∈ Ref.releases ∧ (47 : Nat) ∈ Ref.releases := by decide +kernel
example : liveObs "sbLogin" "EncryptionResponsePacket" 757 =
    .packet 1 [("shared_secret", .bytesVarint), ("verify_token", .bytesVarint)] := by decide +kernel
example : refObs "position_look_cb" 47 =
    .packet 8 [("x", .int .f64), ("y", .int .f64), ("z", .int .f64), ("yaw", .int .f32),
      ("pitch", .int .f32), ("flags", .int .i8)] := by decide +kernel
-- the 1.8 dimension is a SIGNED byte on both sides (−1 = Nether), and the comparison sees it
example : (liveObs "cbPlay" "JoinGamePacket" 47).layout?.bind (fun L => L.lookup "dimension") =
    some (.int .i8) ∧
    (refObs "join_game" 47).layout?.bind (fun L => L.lookup "dimension") = some (.int .i8) := by
  decide +kernel
-- the one exception: absent on both sides
example : liveObs "sbPlay" "TeleportConfirmPacket" 47 = .absent ∧
    refObs "teleport_confirm" 47 = .absent ∧
    liveObs "sbPlay" "TeleportConfirmPacket" 107 = .packet 0 [("teleport_id", .varint)] := by
  decide +kernel
example : genLayoutNamed "sbHandshake" "HandShakePacket" 47 =
    some [("protocol_version", .varint), ("server_address", .string), ("server_port", .int .u16),
      ("next_state", .varint)] := by decide +kernel
-- outside the theorem, and stated (see `releases_tied`): under protocols 4 and 5 pyCraft uses the
-- 1.8 layouts (e.g. a VarInt keep-alive id where 1.7 published an Int)
example : liveObs "cbPlay" "KeepAlivePacket" 4 = .packet 0 [("keep_alive_id", .varint)] ∧
    liveObs "cbPlay" "KeepAlivePacket" 5 = liveObs "cbPlay" "KeepAlivePacket" 47 := by decide +kernel

/-! ## refutations: tables of CHANGED code fail the same checker

Each `mutateLive …` below is the table `harness/gen/c07named.py` emits after the described edit of
/repo (the generator was run on an edited copy to confirm); each is rejected at the packet and
release named in its proof.  The types-only comparison cannot see any of them: `swapNames_types`
(the type sequence is unchanged), resp. `normT` for the retyping. -/

/-- `shared_secret` and `verify_token` exchanged in `EncryptionResponsePacket.definition`
(`serverbound/login/__init__.py`): login to every real server fails -/
example : checkNamed (mutateLive ("sbLogin", "EncryptionResponsePacket")
    (fun _ => swapNames "shared_secret" "verify_token") Gen.C07Named.live) Ref.named = false :=
  checkNamed_eq_false _ _ ("encryption_response", "sbLogin", "EncryptionResponsePacket") 47
    (by decide +kernel)
/-- `public_key` and `verify_token` exchanged in `EncryptionRequestPacket` -/
example : checkNamed (mutateLive ("cbLogin", "EncryptionRequestPacket")
    (fun _ => swapNames "public_key" "verify_token") Gen.C07Named.live) Ref.named = false :=
  checkNamed_eq_false _ _ ("encryption_request", "cbLogin", "EncryptionRequestPacket") 47
    (by decide +kernel)
/-- `yaw` and `pitch` exchanged in the clientbound position-and-look packet -/
example : checkNamed (mutateLive ("cbPlay", "PlayerPositionAndLookPacket")
    (fun _ => swapNames "yaw" "pitch") Gen.C07Named.live) Ref.named = false :=
  checkNamed_eq_false _ _ ("position_look_cb", "cbPlay", "PlayerPositionAndLookPacket") 47
    (by decide +kernel)
/-- `x` and `z` exchanged in the serverbound position-and-look packet -/
example : checkNamed (mutateLive ("sbPlay", "PositionAndLookPacket")
    (fun _ => swapNames "x" "z") Gen.C07Named.live) Ref.named = false :=
  checkNamed_eq_false _ _ ("position_look_sb", "sbPlay", "PositionAndLookPacket") 47
    (by decide +kernel)
/-- `is_debug` and `is_flat` exchanged in `JoinGamePacket` -/
example : checkNamed (mutateLive ("cbPlay", "JoinGamePacket")
    (fun _ => swapNames "is_debug" "is_flat") Gen.C07Named.live) Ref.named = false :=
  checkNamed_eq_false _ _ ("join_game", "cbPlay", "JoinGamePacket") 757
    (by decide +kernel)
/-- `Byte` → `UnsignedByte` on the join-game `dimension` below protocol 108 -/
example : checkNamed (mutateLive ("cbPlay", "JoinGamePacket")
    (fun v => if v < 108 then retype "dimension" (.int .u8) else id) Gen.C07Named.live)
    Ref.named = false :=
  checkNamed_eq_false _ _ ("join_game", "cbPlay", "JoinGamePacket") 47
    (by decide +kernel)
/-- … all of which the criterion of `Props/C07.lean` (types only, up to `normT`) accepts -/
example : (retype "dimension" (.int .u8)
      [("entity_id", .int .i32), ("dimension", .int .i8)]).map (fun f => normT f.2) =
    [("entity_id", WType.int .i32), ("dimension", .int .i8)].map (fun f => normT f.2) := by
  decide +kernel
/-- the same on `Gen.layoutTables`: a variant with the two byte arrays exchanged is rejected
by `variantsOk`, though its type sequence is the published one -/
example : variantsOk
    [(some [("verify_token", .bytesVarint), ("shared_secret", .bytesVarint)], [47, 107])]
    [(47, 1, [("shared_secret", .bytesVarint), ("verify_token", .bytesVarint)])] = false ∧
    variantsOk
    [(some [("shared_secret", .bytesVarint), ("verify_token", .bytesVarint)], [47, 107])]
    [(47, 1, [("shared_secret", .bytesVarint), ("verify_token", .bytesVarint)])] = true := by
  decide +kernel
/-- why the names matter on the wire: the same attribute dictionary written through the two
layouts gives different bytes -/
example :
    writeFields noCustomCodec [("shared_secret", .bytes [0xaa]), ("verify_token", .bytes [0xbb, 0xcc])]
      [("shared_secret", .bytesVarint), ("verify_token", .bytesVarint)] = .ok [1, 0xaa, 2, 0xbb, 0xcc] ∧
    writeFields noCustomCodec [("shared_secret", .bytes [0xaa]), ("verify_token", .bytes [0xbb, 0xcc])]
      (swapNames "shared_secret" "verify_token"
        [("shared_secret", .bytesVarint), ("verify_token", .bytesVarint)]) =
      .ok [2, 0xbb, 0xcc, 1, 0xaa] := by decide +kernel

end PyCraft.C07Named
