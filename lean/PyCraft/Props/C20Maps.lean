import PyCraft.Lemmas.C20Maps
import PyCraft.Generated.C20Maps
/-!
# C20, map tracker: histories of map packets (item 15 of `docs/audit_report.md`)

"Applying any sequence of … map … packets to the library's tracker objects yields the state
prescribed by replaying them in order … map pixels land at offset + (i mod width, i div width)."

`Props/C20.lean` has the single pixel loop (`map_patch_coords`) and unfoldings of one
`apply_to_map` / `apply_to_map_set` under the hypothesis that it did not raise.  Here:

* the invariant `MapSet.WF` of a library-built map set and the packets `MapPacket.InRange` whose
  pixel rectangle fits a 128×128 map;
* the fresh map (`fresh_map_spec`, and `fresh_map_live` against the live constructor);
* totality of a whole history (`map_replay_total`) and its result against a reference semantics
  that mentions neither loops nor flat indices nor association lists: dict order
  (`map_replay_keys`), fields (`map_replay_fields`), every cell of every map (`map_replay_pixel`),
  the statement's own wording (`map_last_patch_lands`, `cell_lands`, `cell_only`), and the fact that
  these clauses leave no freedom (`map_replay_unique`);
* the exception path with all its effects (`map_error_state`, `fx_agrees`), tied to the live code
  by generated scenarios (`live_scenarios_agree`);
* refutations: three models of changed code that pass every theorem of `Props/C20.lean` violate
  the laws proved here.
-/
namespace PyCraft.C20Maps
open PyCraft PyCraft.Trackers

/-! ## The fresh map -/

/-- `MapPacket.Map(id)` (`map_packet.py:51-60` with the default `width=128, height=128`): the given
id, no scale, no icons, 128 wide, 128 high, `128*128` pixels, every cell zero, tracking position,
not locked. -/
theorem fresh_map_spec (id : Option Int) :
    (MapState.new id).id = id ∧ (MapState.new id).scale = none ∧ (MapState.new id).icons = [] ∧
    (MapState.new id).width = 128 ∧ (MapState.new id).height = 128 ∧
    (MapState.new id).pixels.length = 16384 ∧
    (MapState.new id).isTrackingPosition = true ∧ (MapState.new id).isLocked = false ∧
    ∀ x z, x < 128 → z < 128 → (MapState.new id).pixels[x + 128 * z]? = some 0 :=
  ⟨rfl, rfl, rfl, rfl, rfl, new_length id, rfl, rfl, new_pixel id⟩

/-- The model's fresh map is what the LIVE `MapPacket.Map(5)` looks like (generated table:
id, scale, icons, width, height, `len(pixels)`, the non-zero pixels, both flags). -/
theorem fresh_map_live :
    (MapState.new (some 5)).obs 5 = obsOfRaw Gen.C20Maps.freshMap := by
  rw [obs_new]; decide +kernel

/-- The defaults of the constructor: `Map(k)` is `Map(k, width=128, height=128)`. -/
theorem fresh_map_default_size (k : Int) : MapState.new (some k) = MapState.ofSize k 128 128 := rfl

/-- `MapSet()` and `MapSet(Map(k))` satisfy the invariant. -/
theorem fresh_sets_wf (k : Int) :
    MapSet.WF [] ∧ MapSet.WF [(k, MapState.new (some k))] := by
  refine ⟨⟨List.nodup_nil, fun _ h => absurd h (by simp)⟩, ⟨by simp, ?_⟩⟩
  intro km h
  simp only [List.mem_singleton] at h
  subst h
  exact ⟨rfl, rfl, rfl, new_length _⟩

/-! ## Whole histories -/

/-- Totality and invariant: a history of in-range packets applied to a well-formed map set never
raises, and the result is again well-formed (distinct keys, every map stored under its own id, 128
wide, 128 high, `128*128` pixels).  The effectful model agrees: no exception, same set. -/
theorem map_replay_total (hist : List MapPacket) (s : MapSet) (hs : MapSet.WF s)
    (hin : ∀ p ∈ hist, p.InRange) :
    ∃ s', replayMaps hist s = .ok s' ∧ MapSet.WF s' ∧ replayMapsFx hist s = (s', none) := by
  obtain ⟨s', h, sp⟩ := replay_spec hist s hs hin
  refine ⟨s', h, sp.wf, ?_⟩
  have := replayMaps_eq_fx hist s
  rw [h] at this
  rcases hfx : replayMapsFx hist s with ⟨t, _ | e⟩
  · rw [hfx] at this
    cases this
    rfl
  · rw [hfx] at this; cases this

/-- Dict order after the history: the ids already present keep their places; every new id is
appended when it first occurs.  In particular an id is present afterwards iff it was present or
some packet of the history is addressed to it. -/
theorem map_replay_keys (hist : List MapPacket) (s s' : MapSet) (hs : MapSet.WF s)
    (hin : ∀ p ∈ hist, p.InRange) (h : replayMaps hist s = .ok s') :
    s'.map Prod.fst = refKeys hist (s.map Prod.fst) ∧
    ∀ k, k ∈ s'.map Prod.fst ↔ k ∈ s.map Prod.fst ∨ ∃ p ∈ hist, p.mapId = k := by
  have hkeys := (replay_spec_of_ok hist s s' hs hin h).keyOrder
  refine ⟨hkeys, fun k => ?_⟩
  have := mem_refKeys hist (keys s) k
  rw [← hkeys] at this
  exact this

/-- Fields after the history: a map no packet is addressed to is untouched (or still absent); any
other map carries its own id and the scale, icons, `is_tracking_position`, `is_locked` of the LAST
packet addressed to it, and is still 128×128 with `128*128` pixels. -/
theorem map_replay_fields (hist : List MapPacket) (s s' : MapSet) (hs : MapSet.WF s)
    (hin : ∀ p ∈ hist, p.InRange) (h : replayMaps hist s = .ok s') (k : Int) :
    (lastPacket hist k = none → dictGet k s' = dictGet k s) ∧
    (∀ q, lastPacket hist k = some q →
      ∃ m, dictGet k s' = some m ∧ m.id = some k ∧ m.scale = some q.scale ∧ m.icons = q.icons ∧
        m.isTrackingPosition = q.isTrackingPosition ∧ m.isLocked = q.isLocked ∧
        m.width = 128 ∧ m.height = 128 ∧ m.pixels.length = 16384) := by
  obtain ⟨hwf, _, hfields, _⟩ := replay_spec_of_ok hist s s' hs hin h
  have hk := hfields k
  unfold FieldsSpec at hk
  constructor
  · intro hn
    rw [hn] at hk
    exact hk
  · intro q hq
    rw [hq] at hk
    obtain ⟨m, hm, hid, hsc, hic, htr, hlk⟩ := hk
    obtain ⟨_, hw, hh, hl⟩ := wf_entry hwf hm
    exact ⟨m, hm, hid, hsc, hic, htr, hlk, hw, hh, hl⟩

/-- Pixels after the history: cell (column `x`, row `z`) of every map `k` of the resulting set
holds the value of the LAST packet of the history that is addressed to `k` and prescribes something
for that cell (`lastWrite`, via `MapPacket.cell`: the cell lies `dx < width` columns and `dz` rows
into the packet's rectangle and gets its pixel number `dx + width*dz`); if there is none, it holds
what it held before, and `0` if the map was created by the history. -/
theorem map_replay_pixel (hist : List MapPacket) (s s' : MapSet) (hs : MapSet.WF s)
    (hin : ∀ p ∈ hist, p.InRange) (h : replayMaps hist s = .ok s')
    (k : Int) (hk : k ∈ s'.map Prod.fst) (x z : Nat) (hx : x < 128) (hz : z < 128) :
    s'.pixel k x z = some ((lastWrite hist k x z).getD ((s.pixel k x z).getD 0)) := by
  obtain ⟨hwf, _, _, hpix⟩ := replay_spec_of_ok hist s s' hs hin h
  obtain ⟨v, hv⟩ := wf_pixel_some hwf hk x z hx hz
  have := hpix k x z hx hz
  rw [or_or_zero, hv] at this
  rw [hv]; exact this

/-- The three clauses above pin the result down completely: any well-formed map set with that key
order, those fields and those pixels IS the result of the replay. -/
theorem map_replay_unique (hist : List MapPacket) (s t : MapSet) (hs : MapSet.WF s)
    (hin : ∀ p ∈ hist, p.InRange) (ht : MapSet.WF t)
    (hkeys : t.map Prod.fst = refKeys hist (s.map Prod.fst))
    (hfields : ∀ k, FieldsSpec hist s t k)
    (hpix : ∀ k ∈ t.map Prod.fst, ∀ x z, x < 128 → z < 128 →
      t.pixel k x z = some ((lastWrite hist k x z).getD ((s.pixel k x z).getD 0))) :
    replayMaps hist s = .ok t := by
  obtain ⟨s', h, hwf, hkeys', hfields', _⟩ := replay_spec hist s hs hin
  rw [h]
  congr 1
  have hkk : keys s' = keys t := by rw [hkeys']; exact hkeys.symm
  -- same key order, and the same map under every key
  apply dict_ext s' t hwf.1 hkk
  intro k
  have f1 := hfields' k
  have f2 := hfields k
  unfold FieldsSpec at f1 f2
  cases hl : lastPacket hist k with
  | none =>
    rw [hl] at f1 f2
    rw [f1, f2]
  | some q =>
    rw [hl] at f1 f2
    obtain ⟨m1, h1, _, a1, a2, a3, a4⟩ := f1
    obtain ⟨m2, h2, _, b1, b2, b3, b4⟩ := f2
    obtain ⟨i1, w1, hh1, l1⟩ := wf_entry hwf h1
    obtain ⟨i2, w2, hh2, l2⟩ := wf_entry ht h2
    have hk : k ∈ keys t := (dictGet_isSome_iff k t).1 (by rw [h2]; rfl)
    have hk' : k ∈ keys s' := hkk ▸ hk
    -- the pixel arrays agree cell by cell
    have hpx : m1.pixels = m2.pixels := by
      apply List.ext_getElem?
      intro i
      rcases Nat.lt_or_ge i 16384 with hi | hi
      · have e1 := map_replay_pixel hist s s' hs hin h k hk' (i % 128) (i / 128) (by omega) (by omega)
        have e2 := hpix k hk (i % 128) (i / 128) (by omega) (by omega)
        rw [← e2, MapSet.pixel, MapSet.pixel, h1, h2,
          show i % 128 + 128 * (i / 128) = i by omega] at e1
        exact e1
      · rw [List.getElem?_eq_none (by omega), List.getElem?_eq_none (by omega)]
    rw [h1, h2]
    cases m1; cases m2
    simp only at i1 i2 w1 w2 hh1 hh2 a1 a2 a3 a4 b1 b2 b3 b4 hpx
    subst i1 i2 w1 w2 hh1 hh2 a1 a2 a3 a4 b1 b2 b3 b4 hpx
    rfl
/-- What `MapPacket.cell` means, forwards (the statement's wording): packet pixel `i` is prescribed
for column `offX + i mod width`, row `offZ + i div width`. -/
theorem cell_lands (p : MapPacket) (px : Bytes) (hpx : p.pixels = some px)
    (h1 : 0 ≤ p.offset.1) (h2 : 0 ≤ p.offset.2) (hw : 0 < p.width) (i : Nat)
    (hi : i < px.length) :
    p.cell (p.offset.1.toNat + i % p.width) (p.offset.2.toNat + i / p.width) = some px[i] := by
  rw [cell_nat p px _ _ hpx (offset_toNat p h1 h2),
    if_pos ⟨Nat.le_add_right _ _, Nat.add_lt_add_left (Nat.mod_lt i hw) _, Nat.le_add_right _ _⟩,
    Nat.add_sub_cancel_left, Nat.add_sub_cancel_left, Nat.mod_add_div, List.getElem?_eq_getElem hi]

/-- … and backwards: every value `cell` prescribes for a cell is pixel `i` of the packet for an `i`
with `(x, z) = offset + (i mod width, i div width)`. -/
theorem cell_only (p : MapPacket) (px : Bytes) (hpx : p.pixels = some px)
    (h1 : 0 ≤ p.offset.1) (h2 : 0 ≤ p.offset.2) (x z : Nat) (v : UInt8)
    (h : p.cell x z = some v) :
    ∃ i, px[i]? = some v ∧ x = p.offset.1.toNat + i % p.width ∧
      z = p.offset.2.toNat + i / p.width := by
  rw [cell_nat p px _ _ hpx (offset_toNat p h1 h2)] at h
  split at h
  · rename_i hc
    obtain ⟨c1, c2, c3⟩ := hc
    have hw : 0 < p.width := by omega
    refine ⟨(x - p.offset.1.toNat) + p.width * (z - p.offset.2.toNat), h, ?_, ?_⟩
    · rw [Nat.add_mul_mod_self_left, Nat.mod_eq_of_lt (by omega)]; omega
    · rw [Nat.add_mul_div_left _ _ hw, Nat.div_eq_of_lt (by omega), Nat.zero_add]; omega
  · cases h

/-- The statement's sentence on a whole history: after any in-range history whose last packet is
`p`, pixel `i` of `p` sits in column `offX + i mod width`, row `offZ + i div width` of the map with
`p`'s id. -/
theorem map_last_patch_lands (pre : List MapPacket) (p : MapPacket) (s s' : MapSet)
    (hs : MapSet.WF s) (hin : ∀ q ∈ pre ++ [p], q.InRange)
    (h : replayMaps (pre ++ [p]) s = .ok s') (px : Bytes) (hpx : p.pixels = some px) (i : Nat)
    (hi : i < px.length) :
    s'.pixel p.mapId (p.offset.1.toNat + i % p.width) (p.offset.2.toNat + i / p.width) =
      some px[i] := by
  have hkeys := (replay_spec_of_ok (pre ++ [p]) s s' hs hin h).keyOrder
  have hp := hin p (by simp)
  unfold MapPacket.InRange at hp
  simp only [hpx] at hp
  obtain ⟨h1, h2, h3, h4⟩ := hp
  have hw : 0 < p.width := by
    rcases Nat.eq_zero_or_pos p.width with h0 | h0
    · rw [h0] at h4; omega
    · exact h0
  have hm := Nat.mod_lt i hw
  have hd : i / p.width < 128 - p.offset.2.toNat :=
    (Nat.div_lt_iff_lt_mul hw).2 (by rw [Nat.mul_comm]; omega)
  have hx : p.offset.1.toNat + i % p.width < 128 := by omega
  have hz : p.offset.2.toNat + i / p.width < 128 := by
    generalize i / p.width = q at hd ⊢; omega
  have hk : p.mapId ∈ keys s' := by
    rw [hkeys, mem_refKeys]; exact Or.inr ⟨p, by simp, rfl⟩
  rw [map_replay_pixel _ s s' hs hin h p.mapId hk _ _ hx hz, lastWrite_concat, if_pos rfl,
    cell_lands p px hpx h1 h2 hw i hi]
  rfl

/-- The usual description of an admissible packet (non-negative offset, the `width × height`
rectangle inside the map, exactly `width*height` pixels) implies `InRange`. -/
theorem in_range_of_rect (p : MapPacket) (px : Bytes) (hpx : p.pixels = some px)
    (h1 : 0 ≤ p.offset.1) (h2 : 0 ≤ p.offset.2) (h3 : p.offset.1 + (p.width : Int) ≤ 128)
    (h4 : p.offset.2 + (p.height : Int) ≤ 128) (h5 : px.length = p.width * p.height) :
    p.InRange := by
  unfold MapPacket.InRange
  simp only [hpx]
  refine ⟨h1, h2, h3, ?_⟩
  rw [h5]
  exact Nat.mul_le_mul_left _ (by omega)

/-! ## The exception path -/

/-- The `Except` model of `Model/Trackers.lean` is the effectful model with the objects forgotten:
same success, same set on success, same error. -/
theorem fx_agrees (hist : List MapPacket) (p : MapPacket) (s : MapSet) :
    (applyToMapSet p s =
      match applyToMapSetFx p s with
      | (s', none) => .ok s'
      | (_, some e) => .error e) ∧
    (replayMaps hist s =
      match replayMapsFx hist s with
      | (s', none) => .ok s'
      | (_, some e) => .error e) :=
  ⟨applyToMapSet_eq_fx p s, replayMaps_eq_fx hist s⟩

/-- When `apply_to_map_set` raises (no hypothesis on the set or the packet): the dict has the
packet's id — a fresh map created for it STAYS, at the end of the dict; no other entry is touched;
the map `m₀` the packet was applied to (the known one, or the fresh one) has had `id`, `scale`,
`icons` overwritten from the packet, keeps its OLD `is_tracking_position` / `is_locked`, its width,
height and number of pixels, and its pixels are those of `m₀` after exactly the writes for the
packet pixels before the failing index `n` (the write for pixel `n` is the one that raises). -/
theorem map_error_state (p : MapPacket) (s s' : MapSet) (e : Err)
    (h : applyToMapSetFx p s = (s', some e)) :
    applyToMapSet p s = .error e ∧
    s'.map Prod.fst =
      (if p.mapId ∈ s.map Prod.fst then s.map Prod.fst else s.map Prod.fst ++ [p.mapId]) ∧
    (∀ k, k ≠ p.mapId → dictGet k s' = dictGet k s) ∧
    ∃ m', dictGet p.mapId s' = some m' ∧
      m'.id = some p.mapId ∧ m'.scale = some p.scale ∧ m'.icons = p.icons ∧
      m'.isTrackingPosition =
        ((dictGet p.mapId s).getD (MapState.new (some p.mapId))).isTrackingPosition ∧
      m'.isLocked = ((dictGet p.mapId s).getD (MapState.new (some p.mapId))).isLocked ∧
      m'.width = ((dictGet p.mapId s).getD (MapState.new (some p.mapId))).width ∧
      m'.height = ((dictGet p.mapId s).getD (MapState.new (some p.mapId))).height ∧
      m'.pixels.length =
        ((dictGet p.mapId s).getD (MapState.new (some p.mapId))).pixels.length ∧
      ∃ px n v, p.pixels = some px ∧ px[n]? = some v ∧
        patchLoopFx ((dictGet p.mapId s).getD (MapState.new (some p.mapId))).width p.width p.offset
          0 (px.take n) ((dictGet p.mapId s).getD (MapState.new (some p.mapId))).pixels
          = (m'.pixels, none) ∧
        patchLoopFx ((dictGet p.mapId s).getD (MapState.new (some p.mapId))).width p.width p.offset
          n [v] m'.pixels = (m'.pixels, some e) := by
  have hx := applyToMapSet_eq_fx p s
  rw [h] at hx
  rw [applyToMapSetFx_eq] at h
  simp only [Prod.mk.injEq] at h
  obtain ⟨hs', he⟩ := h
  have hfx := applyToMapFx_err p ((dictGet p.mapId s).getD (MapState.new (some p.mapId)))
    (applyToMapFx p ((dictGet p.mapId s).getD (MapState.new (some p.mapId)))).1 e
    (by rw [← he])
  subst hs'
  exact ⟨hx, keys_dictSet _ _ _, fun k hk => by simp [dictGet_dictSet, hk],
    _, by simp [dictGet_dictSet], hfx⟩

/-- A history that raises does so at its first raising packet `p`: the packets before it were
applied without exception (to them the theorems above apply), and the final state is the one
`map_error_state` describes for `p`; the packets after `p` are not applied. -/
theorem map_replay_error_point (hist : List MapPacket) (s s' : MapSet) (e : Err)
    (h : replayMapsFx hist s = (s', some e)) :
    ∃ pre p post s1, hist = pre ++ p :: post ∧ replayMaps pre s = .ok s1 ∧
      replayMapsFx pre s = (s1, none) ∧ applyToMapSetFx p s1 = (s', some e) := by
  obtain ⟨pre, p, post, s1, hh, hpre, hp⟩ := replayMapsFx_err hist s s' e h
  refine ⟨pre, p, post, s1, hh, ?_, hpre, hp⟩
  rw [replayMaps_eq_fx, hpre]

/-! ## Ties to the live code -/

/-- Every scenario recorded from the LIVE `apply_to_map_set` (a fresh 128×128 map written in its
last cell; an exception on a fresh map; overlapping patches, `IndexError` after two writes,
`ZeroDivisionError`, wrapping negative offsets, row overflow, surplus pixels on small known maps)
is reproduced exactly by the model, exception path included: dict order, id, scale, icons, width,
height, `len(pixels)`, every non-zero pixel, both flags. -/
theorem live_scenarios_agree : ∀ sc ∈ Gen.C20Maps.scenarios, scenarioOK sc = true := by
  decide +kernel

/-- The table is not empty and contains both successful histories and ones that raise. -/
theorem live_scenarios_cover :
    10 ≤ Gen.C20Maps.scenarios.length ∧
    (Gen.C20Maps.scenarios.any fun sc => sc.2.2.2.1.isSome && sc.2.1.isEmpty) = true ∧
    (Gen.C20Maps.scenarios.any fun sc =>
      sc.2.2.2.1.isNone && decide (2 ≤ sc.2.2.2.2.length)) = true := by
  decide +kernel

/-! ## Changed code is noticed

`PixelLaw` and `ErrorLaw` (`Model/C20Maps.lean`) are the statements of theorems above with the
function under test abstracted; each holds of the model and fails, on a concrete history checked by `decide +kernel`, of a model of the
changed code. -/

/-- `PixelLaw` (`map_replay_total` + `map_replay_pixel` for an arbitrary replay function) holds of
the model. -/
theorem pixel_law_holds : PixelLaw replayMaps := by
  intro hist s hs hin
  obtain ⟨s', h, hwf, _⟩ := map_replay_total hist s hs hin
  exact ⟨s', h, hwf, fun k hk x z hx hz => map_replay_pixel hist s s' hs hin h k hk x z hx hz⟩

/-- The replay function parameterised by the fresh-map constructor is the model when given the
model's constructor (so the two refutations below differ from the model in that constructor only). -/
theorem pixel_law_holds_with :
    PixelLaw (replayMapsWith fun p => MapState.new (some p.mapId)) := by
  rw [replayMapsWith_new]; exact pixel_law_holds

/-- `ErrorLaw` (the first clauses of `map_error_state` for an arbitrary `apply_to_map_set`) holds of
the model. -/
theorem error_law_holds : ErrorLaw applyToMapSetFx := by
  intro p s s' e h
  obtain ⟨_, _, _, m', hm, h1, h2, h3, _⟩ := map_error_state p s s' e h
  exact ⟨m', hm, h1, h2, h3⟩

/-- A packet without pixels for map 1. -/
def pktBare : MapPacket :=
  { mapId := 1, scale := 0, icons := [], width := 0, height := 0, offset := (0, 0), pixels := none,
    isTrackingPosition := true, isLocked := false }

/-- A 2×1 patch at column 0, row 1 of map 1. -/
def pktRow1 : MapPacket :=
  { mapId := 1, scale := 0, icons := [], width := 2, height := 1, offset := (0, 1),
    pixels := some [7, 9], isTrackingPosition := true, isLocked := false }

/-- A packet for map 7 with `width == 0` but one pixel: the loop raises `ZeroDivisionError` before
any write. -/
def pktZero : MapPacket :=
  { mapId := 7, scale := 3, icons := [⟨1, 2, 3, 4, none⟩], width := 0, height := 0,
    offset := (0, 0), pixels := some [1], isTrackingPosition := false, isLocked := true }

/-- A 1×3 patch at column 3, row 1: on a map with three rows its third pixel is outside. -/
def pktOut : MapPacket :=
  { mapId := 7, scale := 6, icons := [⟨2, 2, 2, 2, none⟩], width := 1, height := 3,
    offset := (3, 1), pixels := some [1, 2, 3], isTrackingPosition := false, isLocked := true }

/-- Seeded change "fresh map filled with `0xFF`": after the single pixel-less packet `pktBare` on
`MapSet()`, cell (0, 0) of map 1 is `0xFF`, where the law prescribes `0`. -/
theorem seeded_ff_refuted :
    ¬ PixelLaw (replayMapsWith fun p => MapState.newFF (some p.mapId)) := by
  intro h
  obtain ⟨s', hr, _, hp⟩ := h [pktBare] [] (by decide) (by decide)
  have hc : (match replayMapsWith (fun p => MapState.newFF (some p.mapId)) [pktBare] [] with
      | .ok s' => decide (1 ∈ s'.map Prod.fst ∧ s'.pixel 1 0 0 = some 255)
      | .error _ => false) = true := by decide +kernel
  rw [hr] at hc
  simp only [decide_eq_true_eq] at hc
  have := hp 1 hc.1 0 0 (by decide) (by decide)
  rw [hc.2] at this
  revert this
  decide +kernel

/-- Seeded change "fresh map created with `width=self.width`": after `pktRow1` on `MapSet()` the
result is not even well-formed (the map is 2 wide with 256 pixels), and cell (0, 1) does not hold
the packet's first pixel. -/
theorem seeded_width_refuted :
    ¬ PixelLaw (replayMapsWith fun p => MapState.newW (some p.mapId) p.width) := by
  intro h
  obtain ⟨s', hr, hwf, _⟩ := h [pktRow1] [] (by decide) (by decide)
  have hc : (match replayMapsWith (fun p => MapState.newW (some p.mapId) p.width) [pktRow1] [] with
      | .ok s' => decide (¬ MapSet.WF s' ∧ s'.pixel 1 0 1 ≠ some 7)
      | .error _ => false) = true := by decide +kernel
  rw [hr] at hc
  simp only [decide_eq_true_eq] at hc
  exact hc.1 hwf

/-- Seeded change "store the fresh map only after `apply_to_map` returned": `pktZero` raises on
`MapSet()` and leaves the set empty, where the law demands an entry for map 7. -/
theorem seeded_late_store_refuted : ¬ ErrorLaw applyToMapSetFxLate := by
  intro h
  have hc : applyToMapSetFxLate pktZero [] = ([], some .other) := by decide +kernel
  obtain ⟨m', hm, _⟩ := h pktZero [] [] .other hc
  simp [dictGet] at hm

/-! ## Non-vacuity and observations

(Kernel evaluation of a `128*128`-element list costs seconds per traversal, so the examples on
full-size maps write few pixels; longer runs are in the live scenarios, on small maps.) -/

/-- A map set with one known map (id 3, one non-zero cell, locked) … -/
def sEx : MapSet :=
  [(3, { MapState.new (some 3) with scale := some 2, pixels := (MapState.new none).pixels.set 1030 5,
                                      isLocked := true })]

/-- … and a history over a known and a new id: two patches on map 3 overlapping in cell (6, 8), a
patch into the last cell of the new map 9, and a pixel-less packet for map 9. -/
def histEx : List MapPacket :=
  [ { mapId := 3, scale := 1, icons := [⟨1, 2, 3, -4, some "a"⟩], width := 3, height := 2,
      offset := (5, 7), pixels := some [1, 2, 3, 4, 5, 6], isTrackingPosition := false,
      isLocked := true },
    { mapId := 9, scale := -2, icons := [], width := 1, height := 1, offset := (127, 127),
      pixels := some [13], isTrackingPosition := true, isLocked := false },
    { mapId := 3, scale := 4, icons := [], width := 2, height := 1, offset := (6, 8),
      pixels := some [7, 0], isTrackingPosition := true, isLocked := false },
    { mapId := 9, scale := 5, icons := [⟨6, 7, 0, 0, none⟩], width := 0, height := 0,
      offset := (0, 0), pixels := none, isTrackingPosition := false, isLocked := false } ]

/-- The hypotheses of the history theorems hold for `sEx`, `histEx` (so `map_replay_total` yields a
run, and the other theorems describe it). -/
example : MapSet.WF sEx ∧ (∀ p ∈ histEx, p.InRange) ∧ sEx ≠ [] ∧ histEx.length = 4 := by
  refine ⟨⟨by decide, fun km h => ?_⟩, by decide +kernel, by decide, rfl⟩
  obtain rfl := List.mem_singleton.1 h
  exact ⟨rfl, rfl, rfl, by simp [List.length_set, new_length]⟩

/-- … and the reference semantics is not trivial there: the last packet for map 9 is the
pixel-less one, for map 3 the third; cell (6, 8) of map 3 was 5, is written 5 by the first packet and
7 by the third; cell (7, 8) is written 6 and then 0; cell (127, 127) of the new map 9 gets 13; the
dict order is `[3, 9]`. -/
example :
    (lastPacket histEx 9).map (·.scale) = some 5 ∧ (lastPacket histEx 3).map (·.scale) = some 4 ∧
    lastPacket histEx 4 = none ∧ sEx.pixel 3 6 8 = some 5 ∧
    lastWrite histEx 3 6 8 = some 7 ∧ lastWrite histEx 3 7 8 = some 0 ∧
    lastWrite histEx 3 5 8 = some 4 ∧ lastWrite histEx 3 0 0 = none ∧
    lastWrite histEx 9 127 127 = some 13 ∧ lastWrite histEx 9 6 8 = none ∧
    refKeys histEx (sEx.map Prod.fst) = [3, 9] := by
  decide +kernel

/-- A model run (the last two packets of `histEx` on `sEx`) agrees with the reference values. -/
example :
    (match replayMaps (histEx.drop 2) sEx with
     | .ok s' => decide (s'.map Prod.fst = [3, 9] ∧ s'.pixel 3 6 8 = some 7 ∧
         s'.pixel 3 7 8 = some 0 ∧ s'.pixel 3 0 0 = some 0 ∧ s'.pixel 9 6 8 = some 0 ∧
         (dictGet 9 s').map (·.scale) = some (some 5) ∧
         (dictGet 3 s').map (·.isLocked) = some false)
     | .error _ => false) = true ∧
    lastWrite (histEx.drop 2) 3 6 8 = some 7 ∧ lastWrite (histEx.drop 2) 3 7 8 = some 0 := by
  decide +kernel

/-- `map_error_state` is not vacuous.  On `MapSet()`, `pktZero` raises; afterwards map 7 IS in the
set, with the packet's id, scale and icons and the fresh map's flags (tracking, not locked — not
the packet's).  On a known 4×3 map, `pktOut` raises at its third pixel; the first two are written
(flat indices 7 and 11), the map keeps the flags it had. -/
example :
    (applyToMapSetFx pktZero []).2 = some .other ∧
    (applyToMapSetFx pktZero []).1.map Prod.fst = [7] ∧
    (dictGet 7 (applyToMapSetFx pktZero []).1).map
        (fun m => (m.id, m.scale, m.icons, m.isTrackingPosition, m.isLocked)) =
      some (some 7, some 3, [⟨1, 2, 3, 4, none⟩], true, false) ∧
    applyToMapSetFx pktOut (MapSet.ofSizes [(7, 4, 3)]) =
      ([(7, { MapState.ofSize 7 4 3 with
                scale := some 6, icons := [⟨2, 2, 2, 2, none⟩],
                pixels := [0, 0, 0, 0, 0, 0, 0, 1, 0, 0, 0, 2] })], some .other) := by
  decide +kernel

/-- `InRange` is sufficient, not necessary, for a packet not to raise — and outside it the Python
does not raise either but writes elsewhere: a one-pixel patch at offset `(-1, 0)` lands in cell
(127, 127) (Python's negative index), one at offset `(128, 0)` lands in column 0 of row 1.  (Longer
versions of both are in the live scenarios.) -/
example :
    let neg : MapPacket := { pktRow1 with width := 1, offset := (-1, 0), pixels := some [7] }
    let spill : MapPacket := { pktRow1 with width := 1, offset := (128, 0), pixels := some [7] }
    ¬ neg.InRange ∧ ¬ spill.InRange ∧
    (match replayMaps [neg] [] with
     | .ok s' => decide (s'.pixel 1 127 127 = some 7)
     | .error _ => false) = true ∧
    (match replayMaps [spill] [] with
     | .ok s' => decide (s'.pixel 1 0 1 = some 7 ∧ s'.pixel 1 0 0 = some 0)
     | .error _ => false) = true := by
  decide +kernel

end PyCraft.C20Maps
