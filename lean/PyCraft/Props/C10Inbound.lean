import PyCraft.Lemmas.C10Inbound
import PyCraft.Props.C10Wire
/-!
# C10, the INBOUND direction — "switches BOTH directions to encrypted immediately after that reply,
applies the announced compression threshold to EVERYTHING that follows"

`Props/C10.lean` speaks about mode flags of frames the client WRITES, `Props/C10Wire.lean` about the
bytes of those frames.  This file is about the bytes the client READS: the server's login stream
(`LoginIn.srvWire`: frames under the threshold announced so far; everything behind an encryption
request through a CFB8 encryptor with register = shared secret) fed, in ANY segmentation, to the
byte-level model of the client's read loop (`LoginIn.clientRun`, `Model/C10Inbound.lean`:
`read_packet` on `connection.file_object` — a stack of `EncryptedFileObjectWrapper`s over the raw
socket file, looked up afresh for every packet — with `options.compression_enabled` of that
moment, the `read` of the class registered under the id, then `LoginReactor.react` and, for an
encryption request, the wrapping of the file object).

Everything is quantified over ALL login parameters, ALL server scripts (any order and number of
encryption requests, set-compressions with any threshold, plugin requests, unregistered ids, then
success or disconnect — and anything whatsoever behind that), ALL interleavings of write phases and
reads (`ticks`), every zlib, every block function, every id profile with pairwise distinct ids and
every segmentation.  `Gen.C10Inbound` (regenerated from the live code) discharges the id/layout
assumptions for every protocol version the library knows.

Only property theorems and non-vacuity examples live here; helper lemmas, the seeded faults and the
concrete example parameters are in `Lemmas/C10Inbound.lean`.
-/
namespace PyCraft.C10Inbound
open PyCraft PyCraft.Login PyCraft.LoginWire PyCraft.LoginIn

/-- THE INBOUND ROUND TRIP.  Let the server's byte stream for `script` arrive in ANY segmentation,
and let the client's loop run ANY sequence of write phases and reads (not reading past the end of a
script that never terminates the login).  Then, with `got` = the packets the reads have consumed
(the first `reads ticks` packets of the script cut behind its first success/disconnect):
* the login state is EXACTLY the login model (`Model/Login.lean`, to which all theorems of
  `Props/C10.lean`/`C10Wire.lean` apply) run on those packets with the write phases where the
  ticks have them — in particular every packet behind the encryption request was decrypted, and
  every packet behind a set-compression was read in the compressed format, correctly;
* `_react` was handed exactly the events of `got`, in order: nothing lost, duplicated, merged or
  reordered across the cipher switch or a threshold change;
* `read_packet` raised nothing;
* the file object carries one wrapper per encryption request consumed (none before the first);
* what is still unread, SEEN THROUGH THE WRAPPERS NOW INSTALLED, is the server's stream for the
  rest of the script under the threshold now in force — the client is at a frame boundary and its
  decryptor registers are in step with the server's encryptors (so the play-state reader of C11
  can take over from there). -/
theorem client_reads_server_script (P : LoginParams) (z : Zlib) (E : Bytes → Bytes)
    (C : CbProfile) (script : List SrvPkt) (ticks : List Tick) (segs : Segs)
    (hC : C.distinct = true)
    (hok : ScriptOK z.toZlibOps C none (cutScript script))
    (hb : script.any (·.isTerminal) = true ∨ reads ticks ≤ script.length)
    (hseg : segs.flatten = srvWire z.toZlibOps E P.secret C script) :
    let r := clientRun P z.toZlibOps E C ticks segs
    let got := (cutScript script).take (reads ticks)
    r.cs = exec P .init (fill ticks (cutScript script)) ∧
      r.seen = got.filterMap (·.ev) ∧
      r.ioErr = none ∧
      r.file.st.length = (got.filter (·.isEncRequest)).length ∧
      ahead (layersX E) r.file =
        srvStream z.toZlibOps E P.secret C r.cs.threshold (script.drop got.length) := by
  intro r got
  have hsplit := cutScript_append_drop script
  have hb' : (cutScript script).any (·.isTerminal) = true ∨
      reads ticks ≤ (cutScript script).length ∨ ClientState.init.alive = false := by
    cases hany : script.any (·.isTerminal) with
    | true => exact Or.inl (by rw [cutScript_any]; exact hany)
    | false =>
      rcases hb with h | h
      · rw [hany] at h; cases h
      · exact Or.inr (Or.inl (by rw [cutScript_of_live script hany]; exact h))
  have ha : ahead (layersX E) (InState.init segs).file =
      srvStream z.toZlibOps E P.secret C (InState.init segs).cs.threshold
        (cutScript script ++ script.drop (cutScript script).length) := by
    rw [hsplit]; exact hseg
  obtain ⟨h1, h2, h3, h4, h5⟩ := run_sync P z E C hC (script.drop (cutScript script).length)
    ticks (.init segs) (cutScript script) (cutScript_idem script) rfl (fun _ => rfl) hb' hok ha _ rfl
  have h2' : r.seen = [] ++ got.filterMap (·.ev) := h2
  have h5' : r.file.st.length = 0 + (got.filter (·.isEncRequest)).length := h5
  refine ⟨h1, by rw [h2']; rfl, h3, by rw [h5', Nat.zero_add], ?_⟩
  have hdrop : (cutScript script).drop (reads ticks) ++ script.drop (cutScript script).length =
      script.drop got.length := by
    show _ = script.drop ((cutScript script).take (reads ticks)).length
    rw [List.length_take]
    by_cases hle : reads ticks ≤ (cutScript script).length
    · rw [Nat.min_eq_left hle]
      conv => rhs; rw [← hsplit]
      rw [List.drop_append_of_le_length hle]
    · have hlt : (cutScript script).length ≤ reads ticks := by omega
      rw [Nat.min_eq_right hlt, List.drop_eq_nil_of_le hlt, List.nil_append]
  rw [← hdrop]; exact h4

/-- The same for the regular schedule of the login model ("flush, up to `cap`
reads, flush, …, final flush") and a script without unregistered ids: on ANY segmentation of the
server's stream the client ends in exactly the state `Login.runLogin` computes from the
pre-parsed events, having handed `_react` exactly the events up to and including the first
success/disconnect, without an exception of `read_packet`. -/
theorem client_reads_regular_schedule (P : LoginParams) (z : Zlib) (E : Bytes → Bytes)
    (C : CbProfile) (script : List SrvPkt) (cap : Nat) (segs : Segs)
    (hC : C.distinct = true)
    (hknown : ∀ p ∈ script, p.ev.isSome = true)
    (hok : ScriptOK z.toZlibOps C none (cutScript script))
    (hseg : segs.flatten = srvWire z.toZlibOps E P.secret C script) :
    let evs := script.filterMap (·.ev)
    let r := clientRun P z.toZlibOps E C (ticksOf (schedule cap evs)) segs
    r.cs = runLogin P cap evs ∧ r.seen = processed evs ∧ r.ioErr = none := by
  intro evs r
  have hlen : evs.length = script.length := length_filterMap_ev script hknown
  have hreads : reads (ticksOf (schedule cap evs)) = script.length := by
    rw [reads_ticksOf, events_schedule, hlen]
  obtain ⟨h1, h2, h3, -, -⟩ := client_reads_server_script P z E C script
    (ticksOf (schedule cap evs)) segs hC hok (Or.inr (by rw [hreads]; exact Nat.le_refl _)) hseg
  refine ⟨?_, ?_, h3⟩
  · show r.cs = exec P .init (schedule cap evs)
    rw [← exec_fill_ticksOf P (schedule cap evs) script .init (events_schedule cap evs).symm hknown]
    exact h1
  · have h2' : r.seen = ((cutScript script).take (reads (ticksOf (schedule cap evs)))).filterMap
        (·.ev) := h2
    rw [h2', hreads, List.take_of_length_le (cutScript_length_le script)]
    exact (processed_filterMap script).symm

/-- What the reference server's stream IS, for the one encryption request a real server sends:
the PLAINTEXT frames of everything up to AND INCLUDING the encryption request — each under the
threshold announced before it — followed by the CFB8 encryption, as ONE continuous stream from
register = shared secret, of the frames of everything behind it (again each under the threshold in
force for it).  Without an encryption request the stream is plaintext throughout. -/
theorem server_stream_shape (z : ZlibOps) (E : Bytes → Bytes) (secret : Bytes) (C : CbProfile)
    (pre post : List SrvPkt) (sid : String) (pk tok : Bytes)
    (hpre : ∀ p ∈ pre, p.isEncRequest = false) (hpost : ∀ p ∈ post, p.isEncRequest = false) :
    srvWire z E secret C (pre ++ .encRequest sid pk tok :: post) =
        plainFrames z C none pre ++
          (packetFrame z (thrAfterAll none pre) (srvFields C (.encRequest sid pk tok)) ++
            (cfb8Enc E secret (plainFrames z C (thrAfterAll none pre) post)).2) ∧
      srvWire z E secret C pre = plainFrames z C none pre := by
  refine ⟨?_, srvStream_plain z E secret C pre none hpre⟩
  unfold srvWire
  rw [srvStream_append_plain z E secret C pre none _ hpre]
  simp only [srvStream, SrvPkt.isEncRequest, if_true, thrAfter]
  rw [srvStream_plain z E secret C post _ hpost]

/-- WHATEVER ARRIVES (no assumption on the bytes at all), after ANY tick list: the login state is
the login model run on the packets actually handed to `_react` — so every theorem of
`Props/C10.lean` and `Props/C10Wire.lean` (stated for all step lists) holds for the byte-level
client; the file object carries exactly one wrapper per encryption request reacted to; and the two
directions are switched TOGETHER: the socket is wrapped (`encrypted`, what `_write_packet` uses) iff
the file object is. -/
theorem client_refines_login_model (P : LoginParams) (z : ZlibOps) (E : Bytes → Bytes)
    (C : CbProfile) (ticks : List Tick) (segs : Segs) :
    let r := clientRun P z E C ticks segs
    ∃ steps : List Step, r.cs = exec P .init steps ∧ r.seen = events steps ∧
      r.file.st.length = (r.seen.filter (·.isEncRequest)).length ∧
      (r.cs.encrypted = true ↔ r.file.st ≠ []) := by
  intro r
  obtain ⟨steps, h1, h2, h3, h4⟩ := run_refines P z E C ticks (.init segs)
  have h2' : r.seen = [] ++ events steps := h2
  rw [List.nil_append] at h2'
  have h3' : r.file.st.length = 0 + ((events steps).filter (·.isEncRequest)).length := h3
  have h4' : r.cs.encrypted = true ↔ 0 < r.file.st.length :=
    h4 (by simp [InState.init, ClientState.init, FileObj.raw, Sock.enc])
  refine ⟨steps, h1, h2', by rw [h3', h2', Nat.zero_add], ?_⟩
  rw [List.length_pos_iff] at h4'
  exact h4'

/-- The server closes the connection in the middle of the login (a script without success or
disconnect, read to its end): the next `read_packet` raises `EOFError` — at a frame boundary,
through whatever wrappers and compression mode are in force — after the client has reacted to
every packet of the script; the login state is the one reached before that read, and nothing is
written or read afterwards. -/
theorem server_closes_midlogin_eof (P : LoginParams) (z : Zlib) (E : Bytes → Bytes)
    (C : CbProfile) (script : List SrvPkt) (t1 t2 : List Tick) (segs : Segs)
    (hC : C.distinct = true)
    (hlive : script.any (·.isTerminal) = false)
    (hok : ScriptOK z.toZlibOps C none script)
    (hr : reads t1 = script.length)
    (hseg : segs.flatten = srvWire z.toZlibOps E P.secret C script) :
    let r := clientRun P z.toZlibOps E C (t1 ++ .read :: t2) segs
    r.ioErr = some .eof ∧ r.cs = exec P .init (fill t1 script) ∧
      r.seen = script.filterMap (·.ev) := by
  intro r
  have hcut := cutScript_of_live script hlive
  obtain ⟨h1, h2, h3, -, h5⟩ := client_reads_server_script P z E C script t1 segs hC
    (by rw [hcut]; exact hok) (Or.inr (by omega)) hseg
  rw [hcut] at h1 h2 h5
  simp only [hr, List.take_length, List.drop_length, srvStream] at h2 h5
  -- the state before the fatal read is still reading
  have hal : (clientRun P z.toZlibOps E C t1 segs).cs.alive = true := by
    rw [h1]
    apply exec_alive P .init _ init_alive
    intro e he
    exact events_fill_live t1 script (by simpa using hlive) e he
  have hrd : (clientRun P z.toZlibOps E C t1 segs).reading = true := by
    rw [reading_eq, h3, hal]; rfl
  obtain ⟨e1, e2, e3⟩ := readTick_eof P z.toZlibOps E C _ hrd h5
  have hrun : r = run P z.toZlibOps E C t2
      (readTick P z.toZlibOps E C (clientRun P z.toZlibOps E C t1 segs)) := by
    show run P z.toZlibOps E C (t1 ++ .read :: t2) (.init segs) = _
    rw [run_append, run_cons]; rfl
  rw [hrun, run_dead _ _ _ _ _ _ (by rw [e3]; rfl)]
  exact ⟨e3, by rw [e1, h1], by rw [e2, h2]⟩

/-- Negative witness: the statements are sensitive to every ingredient of the inbound switch.  On
the concrete script "encrypt → compress 1 → plugin request → success" (protocol-757 ids,
store-only zlib, a toy block function), all read in ONE batch, the real client model sees the four
events and reaches play — but a client that
1. wraps only `connection.socket` and leaves `connection.file_object` alone, or
2. hands the file wrapper the ENCRYPTOR context instead of the decryptor, or
3. keeps using the file object it fetched at the start of the batch (the wrapper takes effect one
   `_run` iteration late), or
4. enables read-side decompression one frame late,
does not: 1–3 lose everything behind the encryption request and die with an exception; 4 silently
skips the plugin request (it is read as an unregistered id), which is then NEVER ANSWERED.  Fault 3
is invisible when a write phase separates every two reads (`inSlow`) — which is why only a
statement over all interleavings catches it.  All four faulty clients satisfy every theorem of
`Props/C10.lean`, `C10Wire.lean` and `C18.lean` (their OUTBOUND behaviour is the real one). -/
theorem wrong_inbound_switch_detected :
    let w := inWire C757 inScript
    let want : List LoginEv := [.encRequest "srv" [7, 8] [9], .setCompression 1,
      .pluginRequest 5 "ch" [1], .success]
    let z := Zlib.ident.toZlibOps
    ((inClient C757 inBatch [w]).seen = want ∧
        (inClient C757 inBatch [w]).cs.reactor = .play ∧
        (inClient C757 inBatch [w]).ioErr = none ∧
        (inClient C757 inBatch [w]).cs.outbox.map (·.pkt) =
          [.encResp [7, 1, 2, 3] [7, 9], .plugResp 5 false none]) ∧
      ((runNoWrap demoParams z inE C757 inBatch [w]).seen = want.take 1 ∧
        (runNoWrap demoParams z inE C757 inBatch [w]).ioErr ≠ none) ∧
      ((runEncCtx demoParams z inE C757 inBatch [w]).seen = want.take 1 ∧
        (runEncCtx demoParams z inE C757 inBatch [w]).ioErr ≠ none) ∧
      ((runStale demoParams z inE C757 inBatch [w]).seen = want.take 1 ∧
        (runStale demoParams z inE C757 inBatch [w]).ioErr ≠ none ∧
        (runStale demoParams z inE C757 inSlow [w]).seen = want) ∧
      ((runLateComp demoParams z inE C757 inBatch [w]).seen =
          [.encRequest "srv" [7, 8] [9], .setCompression 1, .success] ∧
        (runLateComp demoParams z inE C757 inBatch [w]).ioErr = none ∧
        (runLateComp demoParams z inE C757 inBatch [w]).cs.outbox.map (·.pkt) =
          [.encResp [7, 1, 2, 3] [7, 9]]) := by
  decide +kernel

/-! ### The live dispatch tables (regenerated from /repo on every run) -/

/-- Every row of the live table — i.e. every protocol version the library knows — is exactly what
the model assumes: no two clientbound login classes share an id (the dict of
`PacketReactor.__init__` has one entry per class), the classes are the four (five from 385 on) of
the model with the modelled field types and `packet_name`s, `login success` has one of the two
modelled layouts, the resulting profile has pairwise distinct ids (`hC` of the theorems above), the
plugin request is registered iff the plugin response is, and the two serverbound answers have
distinct ids (`hids` of `C10Wire.server_recovers_outbox`). -/
theorem live_profiles_ok :
    ∀ r ∈ Gen.C10Inbound.rows, ∃ C ids, profileOfRow r = some C ∧ C.distinct = true ∧
      C.pluginRequest.isSome = r.sbPlugResp.isSome ∧
      sbIdsOfRow r = some ids ∧ ids.encResp ≠ ids.plugResp := by
  have h : ∀ r ∈ Gen.C10Inbound.rows,
      (match profileOfRow r, sbIdsOfRow r with
       | some C, some ids => C.distinct && (C.pluginRequest.isSome == r.sbPlugResp.isSome) &&
           (ids.encResp != ids.plugResp)
       | _, _ => false) = true := by decide +kernel
  intro r hr
  have := h r hr
  cases hp : profileOfRow r with
  | none => simp [hp] at this
  | some C =>
    cases hi : sbIdsOfRow r with
    | none => simp [hp, hi] at this
    | some ids =>
      simp only [hp, hi, Bool.and_eq_true, beq_iff_eq, bne_iff_ne, ne_eq] at this
      exact ⟨C, ids, rfl, this.1.1, this.1.2, rfl, this.2⟩

/-- Every known protocol version — in particular every supported one — has a row, hence a profile
with pairwise distinct ids: the assumption `hC` is discharged for the whole version range. -/
theorem known_versions_have_profile :
    (∀ v ∈ Gen.C10Inbound.known, ∃ C, profileAt v = some C ∧ C.distinct = true) ∧
      (∀ v ∈ Gen.C10Inbound.supported, v ∈ Gen.C10Inbound.known) := by
  have h1 : interleaved Gen.C10Inbound.known (Gen.C10Inbound.rows.map (·.versions)) = true := by
    decide +kernel
  have h2 : subseq Gen.C10Inbound.supported Gen.C10Inbound.known = true := by decide +kernel
  refine ⟨?_, subseq_mem _ _ h2⟩
  intro v hv
  obtain ⟨l, hl, hvl⟩ := interleaved_mem _ _ h1 v hv
  obtain ⟨r0, hr0, rfl⟩ := List.mem_map.mp hl
  cases hf : Gen.C10Inbound.rows.find? (fun r => r.versions.contains v) with
  | none =>
    have := List.find?_eq_none.mp hf r0 hr0
    simp [hvl] at this
  | some r =>
    obtain ⟨C, -, hp, hC, -⟩ := live_profiles_ok r (List.mem_of_find?_eq_some hf)
    exact ⟨C, by simp only [profileAt, hf, Option.bind_some, hp], hC⟩

/-- The inbound round trip for a concrete protocol version of the live tables: no assumption on the
ids is left. -/
theorem client_reads_server_script_at_version (v : Nat) (hv : v ∈ Gen.C10Inbound.known) :
    ∃ C, profileAt v = some C ∧
      ∀ (P : LoginParams) (z : Zlib) (E : Bytes → Bytes) (script : List SrvPkt)
        (ticks : List Tick) (segs : Segs),
        ScriptOK z.toZlibOps C none (cutScript script) →
        (script.any (·.isTerminal) = true ∨ reads ticks ≤ script.length) →
        segs.flatten = srvWire z.toZlibOps E P.secret C script →
        (clientRun P z.toZlibOps E C ticks segs).cs =
            exec P .init (fill ticks (cutScript script)) ∧
          (clientRun P z.toZlibOps E C ticks segs).seen =
            ((cutScript script).take (reads ticks)).filterMap (·.ev) ∧
          (clientRun P z.toZlibOps E C ticks segs).ioErr = none := by
  obtain ⟨C, hp, hC⟩ := known_versions_have_profile.1 v hv
  refine ⟨C, hp, ?_⟩
  intro P z E script ticks segs hok hb hseg
  obtain ⟨h1, h2, h3, -, -⟩ := client_reads_server_script P z E C script ticks segs hC hok hb hseg
  exact ⟨h1, h2, h3⟩

/-! ### Non-vacuity: concrete profiles, scripts and runs (kernel-evaluated) -/

/-- The profiles either side of the layout boundaries 385, 391 and 707, read off the live table. -/
example : profileAt 47 = some C47 ∧ profileAt 384 = some C47 ∧ profileAt 385 = some C385 ∧
    profileAt 390 = some C385 ∧ profileAt 391 = some ⟨0, 1, 2, 3, some 4, false⟩ ∧
    profileAt 706 = some ⟨0, 1, 2, 3, some 4, false⟩ ∧ profileAt 707 = some C757 ∧
    profileAt 757 = some C757 := by decide +kernel

/-- The hypotheses of `client_reads_server_script` are satisfiable: distinct ids, a well-formed
script with THREE framing/cipher modes (plain+uncompressed, encrypted+uncompressed,
encrypted+compressed), a packet behind the success that is not a login packet at all. -/
example : C757.distinct = true ∧ C385.distinct = true ∧ C47.distinct = true ∧
    ScriptOK Zlib.ident.toZlibOps C757 none (cutScript inScript) ∧
    ScriptOK Zlib.ident.toZlibOps C385 none (cutScript inScript385) ∧
    inScript.any (·.isTerminal) = true ∧ cutScript inScript = inScript.take 4 := by
  decide +kernel

/-- The server's bytes for the 757 script: `0a 01 03 737276 02 0708 01 09` is the PLAINTEXT frame of
the encryption request (length 10, id 1, "srv", the two prefixed arrays); everything behind it is
ONE CFB8 stream (register = secret) of: `02 03 01` (set compression 1, still in the uncompressed
format), `07 06 04 05 02 6368 01` (plugin request in the COMPRESSED format: length 7, data length 6,
id 4, message id 5, "ch", data `01`), the success frame (data length 21: id 2, 16 UUID bytes,
"bob"), and the stray frame `04 03 26 01 02`. -/
example : inWire C757 inScript =
    [0x0a, 0x01, 0x03, 0x73, 0x72, 0x76, 0x02, 0x07, 0x08, 0x01, 0x09] ++
      (cfb8Enc inE [1, 2, 3]
        ([0x02, 0x03, 0x01] ++ [0x07, 0x06, 0x04, 0x05, 0x02, 0x63, 0x68, 0x01] ++
          ([0x16, 0x15, 0x02] ++ List.replicate 16 7 ++ [0x03, 0x62, 0x6f, 0x62]) ++
          [0x04, 0x03, 0x26, 0x01, 0x02])).2 := by decide +kernel

/-- `client_reads_server_script` instantiated on that stream arriving in three segments that cut
through the encryption-request frame and through the cipher switch, read in one batch: the login
state, … -/
example :
    let w := inWire C757 inScript
    (inClient C757 inBatch [w.take 5, w.drop 5 |>.take 9, w.drop 14]).cs =
      exec demoParams .init (fill inBatch (cutScript inScript)) :=
  (client_reads_server_script demoParams Zlib.ident inE C757 inScript inBatch _
    (by decide) (by decide +kernel) (Or.inl (by decide)) (by decide +kernel)).1

/-- … which is: play reached, threshold 1, socket wrapped, the encryption response written in
plaintext and uncompressed, the plugin response encrypted and in the compressed format, … -/
example : exec demoParams .init (fill inBatch (cutScript inScript)) =
    { encrypted := true, threshold := some 1, reactor := .play, queue := [],
      outbox := [⟨.encResp [7, 1, 2, 3] [7, 9], false, none, true⟩,
                 ⟨.plugResp 5 false none, true, some 1, false⟩],
      joins := ["srv/010203/0708"], err := none } := by decide +kernel

/-- … the fifth read of the batch is a no-op (the login reactor is gone): ONE wrapper is installed
and the stray frame is still unread behind it, exactly as the last conjunct says. -/
example :
    let r := inClient C757 inBatch [inWire C757 inScript]
    r.file.st.length = 1 ∧ ahead (layersX inE) r.file = [0x04, 0x03, 0x26, 0x01, 0x02] ∧
      r.seen.length = 4 := by decide +kernel

/-- Protocol-385 numbering, byte-by-byte arrival, a write phase before every read: compression
first, an unregistered id skipped, the plugin request answered, the switch to encryption, and the
disconnect — read through the cipher in the compressed format — surfacing as a version mismatch. -/
example :
    let r := inClient C385 inSlow ((inWire C385 inScript385).map fun b => [b])
    r.seen = [.setCompression 64, .pluginRequest 300 "a" [], .encRequest "-" [7, 8] [9],
      .disconnect "{\"text\": \"Outdated server! I'm still on 1.8.9\"}"] ∧
    r.cs.err = some (.versionMismatch "1.8.9") ∧ r.ioErr = none ∧ r.file.st.length = 1 ∧
    r.cs.outbox.map (·.pkt) = [.plugResp 300 false none, .encResp [7, 1, 2, 3] [7, 9]] := by
  decide +kernel

/-- `client_reads_regular_schedule` instantiated (the script without its stray packet). -/
example :
    (clientRun demoParams Zlib.ident.toZlibOps inE C757
      (ticksOf (schedule 50 ((inScript.take 4).filterMap (·.ev))))
      [inWire C757 (inScript.take 4)]).cs =
    runLogin demoParams 50 ((inScript.take 4).filterMap (·.ev)) :=
  (client_reads_regular_schedule demoParams Zlib.ident inE C757 (inScript.take 4) 50 _
    (by decide) (by decide) (by decide +kernel) (by decide +kernel)).1

/-- `server_stream_shape` instantiated: its hypotheses hold for the 385 script split at its
encryption request (something before, something behind). -/
example : inScript385 = inScript385.take 3 ++ .encRequest "-" [7, 8] [9] :: inScript385.drop 4 ∧
    (∀ p ∈ inScript385.take 3, p.isEncRequest = false) ∧
    (∀ p ∈ inScript385.drop 4, p.isEncRequest = false) ∧
    thrAfterAll none (inScript385.take 3) = some 64 := by decide +kernel

/-- `server_closes_midlogin_eof` instantiated: the server stops behind "encrypt, compress". -/
example :
    (inClient C757 [.flush, .read, .read, .read, .flush] [inWire C757 (inScript.take 2)]).ioErr =
      some .eof :=
  (server_closes_midlogin_eof demoParams Zlib.ident inE C757 (inScript.take 2)
    [.flush, .read, .read] [.flush] _ (by decide) (by decide) (by decide +kernel) (by decide)
    (by decide +kernel)).1

/-- Two encryption requests (no real server does this): the client nests two wrappers, the model
server two encryptors, and the round trip still holds — the theorem has no "at most one" clause. -/
example :
    let script : List SrvPkt := [.encRequest "a" [1] [2], .encRequest "b" [3] [4],
      .success (.bin (List.replicate 16 0)) "x"]
    let r := inClient C757 [.read, .read, .read] [inWire C757 script]
    r.seen.length = 3 ∧ r.file.st.length = 2 ∧ r.cs.reactor = .play ∧ r.ioErr = none := by
  decide +kernel

/-- Packets that are NOT well-formed are really refused by the guard: a plugin request on a
profile that does not register it, an "unknown" id that is registered, a 15-byte UUID. -/
example : (SrvPkt.pluginRequest 1 "c" []).wf C47 = false ∧ (SrvPkt.unknown 2 []).wf C757 = false ∧
    (SrvPkt.success (.bin (List.replicate 15 0)) "x").wf C757 = false ∧
    clientDecode C757 (C757.success, List.replicate 15 0) = .error .value := by decide +kernel

end PyCraft.C10Inbound
