import PyCraft.Lemmas.WireBytes
import PyCraft.Props.C01
import PyCraft.Props.C12
import PyCraft.Props.C18
/-!
# C12 ∘ C01 ∘ C18 — the concurrent writers' wire, as BYTES, is what the peer's reader decodes

`Props/C12.lean` proves that the abstract wire (a list of chunks `(p,0)`, `(p,1)` = the two
`socket.send` calls of `Packet._write_buffer`) consists of whole frames, each packet once, per-thread
FIFO.  `Props/C01.lean` proves that a concatenation of byte frames is decoded exactly by
`read_packet` under any read segmentation, any threshold, any cipher.  Here the two are COMPOSED:
`Model/WireBytes.lean` maps the abstract wire to the bytes actually handed to `socket.send`
(`sendsOf`, `bytesOf`; chunk `(p,0)` ↦ `(frameSends z thr (payload p))[0]`, `(p,1)` ↦ `…[1]`) and to
the cipher text produced by `EncryptedSocketWrapper.send` one call at a time (`encSendsOf`,
`encBytesOf`).

Every theorem is for ALL programs `progs` with pairwise distinct packet objects, ALL schedules, ALL
batch caps, ALL zlib implementations with `inflate ∘ deflate = id`, ALL thresholds (`none`,
`some t` for any integer `t`), ALL contents `content : Pkt → id × field bytes` passing C01's VarInt
guard `FrameOK` on the packets of the programs, and ALL segmentations `segs` of the byte stream as
seen by the reader.  `s := run cfg (init progs) sched` is an arbitrary reachable state.

Only property theorems and non-vacuity examples live here; helper lemmas are in
`Lemmas/WireBytes.lean`.
-/
namespace PyCraft.C12Bytes
open PyCraft PyCraft.Writers

/-- In every reachable state the BYTES on the wire are the concatenation of the complete frames
`VarInt(len) ++ body` of the sent packets, in wire order, followed by nothing or by exactly the
length prefix of one packet — the one whose body the current lock holder is about to send and which
has no frame yet.  Send by send: whole frames are exactly the two `frameSends` of their packet.
When the lock is free, and in every final state, there is no open prefix.  Any `payload`, any
(law-free) zlib, any threshold. -/
theorem wire_bytes_are_whole_frames (cfg : Cfg) (progs : List (List Writers.Op))
    (hnd : (progs.flatMap pktsOf).Nodup) (sched : List Tid) (z : ZlibOps) (thr : Option Int)
    (payload : Pkt → Bytes) :
    let s := run cfg (init progs) sched
    let whole := ((sentPkts s.wire).map fun p => frame z thr (payload p)).flatten
    ((bytesOf z thr payload s.wire = whole ∧
        sendsOf z thr payload s.wire =
          (sentPkts s.wire).flatMap fun p => frameSends z thr (payload p)) ∨
      ∃ t p, s.owner = some t ∧ (s.thr t).pc.half = [(p, 0)] ∧ p ∉ sentPkts s.wire ∧
        bytesOf z thr payload s.wire =
          whole ++ encVarInt (frameBody z thr (payload p)).length) ∧
    (s.owner = none → bytesOf z thr payload s.wire = whole) ∧
    ((∀ t, (s.thr t).pc.isDone = true) → bytesOf z thr payload s.wire = whole) := by
  intro s whole
  have hA : (bytesOf z thr payload s.wire = whole ∧
        sendsOf z thr payload s.wire =
          (sentPkts s.wire).flatMap fun p => frameSends z thr (payload p)) ∨
      ∃ t p, s.owner = some t ∧ (s.thr t).pc.half = [(p, 0)] ∧ p ∉ sentPkts s.wire ∧
        bytesOf z thr payload s.wire =
          whole ++ encVarInt (frameBody z thr (payload p)).length := by
    rcases wire_cases (C12.run_inv cfg progs hnd sched).wire with hw | ⟨t, p, ho, hh, hp, hw⟩
    · exact Or.inl ⟨by rw [hw, bytesOf_frames], by rw [hw, sendsOf_frames, sentPkts_frames]⟩
    · exact Or.inr ⟨t, p, ho, hh, hp, by rw [hw, bytesOf_append, bytesOf_frames, bytesOf_open]⟩
  have hB : s.owner = none → bytesOf z thr payload s.wire = whole := by
    intro hn
    rcases hA with h | ⟨t, p, ho, -⟩
    · exact h.1
    · rw [hn] at ho; cases ho
  exact ⟨hA, hB, fun hd =>
    hB (C12.all_sent_or_dropped_after_disconnect_partial cfg progs hnd sched hd).2.2.1⟩

/-- The server-side reader recovers exactly what was sent.  In EVERY reachable state — lock free or
held, a frame open or not, final or not — feeding the bytes on the wire, cut into arrival segments
in ANY way, to `read_packet` in a loop (compression enabled iff a threshold is set) delivers
exactly the contents `(id, field bytes)` of the packets whose frame is complete, each once, whole,
in wire order, and then raises end-of-stream: the open length prefix of the lock holder's packet
(if any) yields no packet and no other exception.  (C12 `frames_contiguous` + C01
`roundtrip_stream` / `roundtrip_stream_trailing`.) -/
theorem server_decodes_exactly_sent (cfg : Cfg) (progs : List (List Writers.Op))
    (hnd : (progs.flatMap pktsOf).Nodup) (sched : List Tid) (z : Zlib) (thr : Option Int)
    (content : Pkt → Nat × Bytes)
    (hok : ∀ p ∈ progs.flatMap pktsOf, FrameOK z.toZlibOps thr (content p)) (segs : Segs) :
    let s := run cfg (init progs) sched
    segs.flatten = bytesOf z.toZlibOps thr (payloadOf content) s.wire →
      readAll z.toZlibOps thr.isSome segs = ((sentPkts s.wire).map content, .eof) := by
  intro s hseg
  have hmem : ∀ c ∈ s.wire, c.1 ∈ progs.flatMap pktsOf :=
    (C12.exactly_once cfg progs hnd sched).2.1
  have hsent : ∀ q ∈ (sentPkts s.wire).map content, FrameOK z.toZlibOps thr q := by
    intro q hq
    obtain ⟨p, hp, rfl⟩ := List.mem_map.mp hq
    simp only [sentPkts, List.mem_filterMap] at hp
    obtain ⟨c, hc, hcp⟩ := hp
    split at hcp
    · cases hcp; exact hok _ (hmem c hc)
    · cases hcp
  rcases (wire_bytes_are_whole_frames cfg progs hnd sched z.toZlibOps thr (payloadOf content)).1
    with ⟨hb, -⟩ | ⟨t, p, ho, hh, hp, hb⟩
  · apply C01.roundtrip_stream z thr _ hsent
    rw [hseg, hb, map_frame_content]
  · have hpw : (p, (0 : Fin 2)) ∈ s.wire := by
      have hwl : s.wire = frames (sentPkts s.wire) ++ (cur s).half :=
        (C12.run_inv cfg progs hnd sched).wire.wire_eq
      rw [cur_of_owner ho, hh] at hwl
      rw [hwl]; simp
    obtain ⟨h1, h2⟩ := open_prefix_strict z.toZlibOps thr content p
    apply C01.roundtrip_stream_trailing z thr _ hsent (content p) (hok p (hmem _ hpw))
      (bytesOf z.toZlibOps thr (payloadOf content) [(p, 0)])
      (frameBody z.toZlibOps thr (payloadOf content p)) h1 h2
    rw [hseg, hb, map_frame_content, bytesOf_open]

/-- Per-thread FIFO as the SERVER sees it: if thread `t`'s program queues `p` and later queues `q`,
then as soon as `q`'s frame is complete on the wire, the reader's output — under any segmentation —
contains the content of `p` at `p`'s wire position and the content of `q` at `q`'s, `p` strictly
before `q`: the list of delivered packets is literally `x ++ p ++ y ++ q ++ w` (under `content`)
for the decomposition `x ++ p :: y ++ q :: w` of the sent packets. -/
theorem server_sees_fifo_per_thread (cfg : Cfg) (progs : List (List Writers.Op))
    (hnd : (progs.flatMap pktsOf).Nodup) (sched : List Tid) (z : Zlib) (thr : Option Int)
    (content : Pkt → Nat × Bytes)
    (hok : ∀ p ∈ progs.flatMap pktsOf, FrameOK z.toZlibOps thr (content p)) (segs : Segs)
    (t : Tid) (p q : Pkt)
    (hpq : [Writers.Op.queued p, Writers.Op.queued q].Sublist (progOf progs t)) :
    let s := run cfg (init progs) sched
    segs.flatten = bytesOf z.toZlibOps thr (payloadOf content) s.wire → q ∈ sentPkts s.wire →
      ∃ x y w, sentPkts s.wire = x ++ p :: y ++ q :: w ∧
        (readAll z.toZlibOps thr.isSome segs).1 =
          x.map content ++ content p :: y.map content ++ content q :: w.map content := by
  intro s hseg hq
  obtain ⟨-, hsub, -⟩ := C12.per_thread_fifo cfg progs hnd sched t p q hpq hq
  obtain ⟨x, y, w, hxyw⟩ := pair_split p q _ hsub
  refine ⟨x, y, w, hxyw, ?_⟩
  rw [server_decodes_exactly_sent cfg progs hnd sched z thr content hok segs hseg]
  show (sentPkts s.wire).map content = _
  rw [hxyw]; simp

/-- Exactly once, as the server sees it: the delivered list is the image under `content` of a
duplicate-free list of packet objects, each of which was issued by some program (so nothing is
invented, nothing duplicated); if distinct packet objects of the programs carry distinct contents,
the delivered list itself has no duplicates.  In a final state every packet of every program has
been delivered, or is left in the queue, or is a forced write that failed on the closed socket. -/
theorem server_sees_each_packet_once (cfg : Cfg) (progs : List (List Writers.Op))
    (hnd : (progs.flatMap pktsOf).Nodup) (sched : List Tid) (z : Zlib) (thr : Option Int)
    (content : Pkt → Nat × Bytes)
    (hok : ∀ p ∈ progs.flatMap pktsOf, FrameOK z.toZlibOps thr (content p)) (segs : Segs) :
    let s := run cfg (init progs) sched
    segs.flatten = bytesOf z.toZlibOps thr (payloadOf content) s.wire →
      (readAll z.toZlibOps thr.isSome segs).1 = (sentPkts s.wire).map content ∧
      (sentPkts s.wire).Nodup ∧
      (∀ p ∈ sentPkts s.wire, p ∈ s.issued ∧ p ∈ progs.flatMap pktsOf) ∧
      ((∀ p ∈ progs.flatMap pktsOf, ∀ q ∈ progs.flatMap pktsOf, content p = content q → p = q) →
        (readAll z.toZlibOps thr.isSome segs).1.Nodup) ∧
      ((∀ t, (s.thr t).pc.isDone = true) → ∀ p ∈ progs.flatMap pktsOf,
        content p ∈ (readAll z.toZlibOps thr.isSome segs).1 ∨ p ∈ s.queue ∨ p ∈ s.failed) := by
  intro s hseg
  have hr := server_decodes_exactly_sent cfg progs hnd sched z thr content hok segs hseg
  obtain ⟨hn, -, -, hip, -, hperm⟩ := C12.exactly_once cfg progs hnd sched
  have hiss : ∀ p ∈ sentPkts s.wire, p ∈ s.issued ∧ p ∈ progs.flatMap pktsOf := by
    intro p hp
    have : p ∈ s.issued := hperm.symm.subset
      (List.mem_append_left _ (List.mem_append_left _ (List.mem_append_left _ hp)))
    exact ⟨this, hip p this⟩
  refine ⟨by rw [hr], hn, hiss, fun hinj => ?_, fun hd p hp => ?_⟩
  · rw [hr]
    show ((sentPkts s.wire).map content).Nodup
    exact nodup_map_on content _ (fun a ha b hb h => hinj a (hiss a ha).2 b (hiss b hb).2 h) hn
  · rcases (C12.all_sent_or_dropped_after_disconnect_partial cfg progs hnd sched hd).2.2.2.2.2.1
      p hp with h | h | h
    · left; rw [hr]; exact List.mem_map.mpr ⟨p, h, rfl⟩
    · exact Or.inr (Or.inl h)
    · exact Or.inr (Or.inr h)

/-- The same through an encrypted connection, for ANY cipher pair: the writers' chunks go through
`encryptor.update` ONE `send` AT A TIME (two per frame, exactly the `socket.send` calls of the
run — `EncryptedSocketWrapper.send`), the encryptor context starting at `s0`; the cipher text
arrives in ANY segmentation and is decrypted `read` call by `read` call by a decryptor starting
from the same `s0`.  In every reachable state the reader delivers exactly the contents of the
packets whose frame is complete, in wire order, then end-of-stream. -/
theorem server_decodes_exactly_sent_encrypted {σ : Type} (cp : CipherPair σ) (s0 : σ) (cfg : Cfg)
    (progs : List (List Writers.Op)) (hnd : (progs.flatMap pktsOf).Nodup) (sched : List Tid)
    (z : Zlib) (thr : Option Int) (content : Pkt → Nat × Bytes)
    (hok : ∀ p ∈ progs.flatMap pktsOf, FrameOK z.toZlibOps thr (content p)) (segs : Segs) :
    let s := run cfg (init progs) sched
    segs.flatten = encBytesOf cp.enc s0 z.toZlibOps thr (payloadOf content) s.wire →
      readAllEnc cp.dec s0 z.toZlibOps thr.isSome segs = ((sentPkts s.wire).map content, .eof) := by
  intro s hseg
  rw [readAllEnc_encSends z.toZlibOps cp s0 thr.isSome _ segs hseg]
  exact server_decodes_exactly_sent cfg progs hnd sched z thr content hok _
    (by rw [List.flatten_cons, List.flatten_nil, List.append_nil]; rfl)

/-- Instance: AES/CFB8 as pyCraft sets it up, over EVERY block function `E` and every initial
register `iv` (pyCraft: `E = aes128 secret`, `iv = secret`).  The cipher text is what
`encryptor.update` returns for each of the run's `socket.send` calls in turn (`cfb8EncChunks`,
C18), re-segmented arbitrarily; the reader decrypts with the CFB8 decryptor from the same `iv`. -/
theorem server_decodes_exactly_sent_cfb8 (E : Bytes → Bytes) (iv : Bytes) (cfg : Cfg)
    (progs : List (List Writers.Op)) (hnd : (progs.flatMap pktsOf).Nodup) (sched : List Tid)
    (z : Zlib) (thr : Option Int) (content : Pkt → Nat × Bytes)
    (hok : ∀ p ∈ progs.flatMap pktsOf, FrameOK z.toZlibOps thr (content p)) (segs : Segs) :
    let s := run cfg (init progs) sched
    segs.flatten =
        (cfb8EncChunks E iv (sendsOf z.toZlibOps thr (payloadOf content) s.wire)).2.flatten →
      readAllEnc (cfb8DecX E) iv z.toZlibOps thr.isSome segs =
        ((sentPkts s.wire).map content, .eof) := by
  intro s hseg
  apply server_decodes_exactly_sent_encrypted (cfb8Pair E) iv cfg progs hnd sched z thr content hok
  rw [hseg]
  show _ = (encSends (cfb8EncX E) iv _).2.flatten
  rw [encSends_cfb8]

/-- … and through the WRAPPER model of C18 (`EncryptedSocketWrapper` / `EncryptedFileObjectWrapper`
created by `create_AES_cipher(secret)`): let `ops` be ANY sequence of wrapper calls whose `send`
calls are, in order, exactly the run's `socket.send` calls (receiving calls may be interleaved
anywhere — they use the other cipher context).  The bytes the wrapper hands to the inner socket,
re-segmented arbitrarily and read by a peer that set up its decryptor from the same secret, decode
to exactly the contents of the packets whose frame is complete. -/
theorem server_decodes_exactly_sent_wrappers (E : Bytes → Bytes) (secret : Bytes) (cfg : Cfg)
    (progs : List (List Writers.Op)) (hnd : (progs.flatMap pktsOf).Nodup) (sched : List Tid)
    (z : Zlib) (thr : Option Int) (content : Pkt → Nat × Bytes)
    (hok : ∀ p ∈ progs.flatMap pktsOf, FrameOK z.toZlibOps thr (content p)) (segs : Segs)
    (ops : List PyCraft.Op) :
    let s := run cfg (init progs) sched
    ops.filter PyCraft.Op.isSend =
        (sendsOf z.toZlibOps thr (payloadOf content) s.wire).map PyCraft.Op.send →
    segs.flatten =
        (outsOf PyCraft.Op.isSend ops (Chan.run E (Chan.init secret) ops).2).flatten →
      readAllEnc (cfb8DecX E) secret z.toZlibOps thr.isSome segs =
        ((sentPkts s.wire).map content, .eof) := by
  intro s hops hseg
  apply server_decodes_exactly_sent_cfb8 E secret cfg progs hnd sched z thr content hok
  rw [hseg, (C18.wrapper_stream E secret ops).1, flatMap_sent_filter, hops, flatMap_sent_sends,
    (C18.cfb8_chunks E secret _).1]

/-! ### Non-vacuity -/

/-- contents for the packets 1–4 of `C12.exProgs`: wire ids 0x0e, 0x0f, 0x0e, 0x10 (two packet
objects share an id), fields of different lengths -/
def exContent : Pkt → Nat × Bytes
  | 1 => (0x0e, [0x61])
  | 2 => (0x0f, [])
  | 3 => (0x0e, [0x62, 0x63, 0x64])
  | 4 => (0x10, [0x01, 0x02])
  | _ => (0, [])

example : (C12.exProgs.flatMap pktsOf).Nodup := by decide
example : ∀ p ∈ C12.exProgs.flatMap pktsOf,
    FrameOK Zlib.ident.toZlibOps (some 2) (exContent p) := by decide +kernel

/-- the final state of `C12.exSched`, threshold 2 (packets 3 and 4 take the compress branch, 1 and 2 do
not): the bytes on the wire, and the sends -/
example :
    bytesOf Zlib.ident.toZlibOps (some 2) (payloadOf exContent)
        (run ⟨300, 50⟩ (init C12.exProgs) C12.exSched).wire =
      [0x03, 0x00, 0x0e, 0x61,  0x05, 0x04, 0x0e, 0x62, 0x63, 0x64,  0x04, 0x03, 0x10, 0x01, 0x02,
       0x02, 0x00, 0x0f] ∧
    sendsOf Zlib.ident.toZlibOps (some 2) (payloadOf exContent)
        (run ⟨300, 50⟩ (init C12.exProgs) C12.exSched).wire =
      [[0x03], [0x00, 0x0e, 0x61], [0x05], [0x04, 0x0e, 0x62, 0x63, 0x64], [0x04],
       [0x03, 0x10, 0x01, 0x02], [0x02], [0x00, 0x0f]] := by decide +kernel

/-- … read back under a segmentation that cuts inside length prefixes and bodies -/
example : readAll Zlib.ident.toZlibOps true
      [[0x03, 0x00], [0x0e], [], [0x61, 0x05, 0x04, 0x0e, 0x62], [0x63, 0x64, 0x04, 0x03, 0x10, 0x01],
       [0x02, 0x02, 0x00], [0x0f]]
    = ([(0x0e, [0x61]), (0x0e, [0x62, 0x63, 0x64]), (0x10, [0x01, 0x02]), (0x0f, [])], .eof) := by
  exact (server_decodes_exactly_sent ⟨300, 50⟩ C12.exProgs (by decide) C12.exSched Zlib.ident
    (some 2) exContent (by decide +kernel)
    [[0x03, 0x00], [0x0e], [], [0x61, 0x05, 0x04, 0x0e, 0x62], [0x63, 0x64, 0x04, 0x03, 0x10, 0x01],
     [0x02, 0x02, 0x00], [0x0f]] (by decide +kernel)).trans (by decide +kernel)

/-- a reachable state with an OPEN frame: after 14 scheduler choices packet 1 has its whole frame
on the wire and the networking thread (the lock holder) has sent only the length prefix of packet 3;
the reader delivers packet 1 and raises end-of-stream -/
example :
    (run ⟨300, 50⟩ (init C12.exProgs) (C12.exSched.take 14)).wire = [(1, 0), (1, 1), (3, 0)] ∧
    (run ⟨300, 50⟩ (init C12.exProgs) (C12.exSched.take 14)).owner = some 0 ∧
    bytesOf Zlib.ident.toZlibOps (some 2) (payloadOf exContent)
      (run ⟨300, 50⟩ (init C12.exProgs) (C12.exSched.take 14)).wire = [0x03, 0x00, 0x0e, 0x61, 0x05] := by
  decide +kernel
example : readAll Zlib.ident.toZlibOps true [[0x03, 0x00, 0x0e], [0x61, 0x05]]
    = ([(0x0e, [0x61])], .eof) :=
  (server_decodes_exactly_sent ⟨300, 50⟩ C12.exProgs (by decide) (C12.exSched.take 14)
    Zlib.ident (some 2) exContent (by decide +kernel) [[0x03, 0x00, 0x0e], [0x61, 0x05]]
    (by decide +kernel)).trans (by decide +kernel)

/-- the FIFO hypothesis is satisfiable (thread 2 queues 3 before 4), and `exContent` is injective
on the packets of the programs -/
example : [Writers.Op.queued 3, Writers.Op.queued 4].Sublist (progOf C12.exProgs 2) := by decide
example : 4 ∈ sentPkts (run ⟨300, 50⟩ (init C12.exProgs) C12.exSched).wire := by decide
example : ∀ p ∈ C12.exProgs.flatMap pktsOf, ∀ q ∈ C12.exProgs.flatMap pktsOf,
    exContent p = exContent q → p = q := by decide +kernel

/-- encrypted with CFB8 over the toy block function of C18: the cipher text of the eight sends
differs from the plain text, and — re-segmented 5 + 13 — decodes to the four packets -/
example :
    (cfb8EncChunks C18.toyE [1, 2, 3] (sendsOf Zlib.ident.toZlibOps (some 2) (payloadOf exContent)
        (run ⟨300, 50⟩ (init C12.exProgs) C12.exSched).wire)).2.flatten ≠
      bytesOf Zlib.ident.toZlibOps (some 2) (payloadOf exContent)
        (run ⟨300, 50⟩ (init C12.exProgs) C12.exSched).wire := by decide +kernel
example :
    let ct := (cfb8EncChunks C18.toyE [1, 2, 3] (sendsOf Zlib.ident.toZlibOps (some 2)
      (payloadOf exContent) (run ⟨300, 50⟩ (init C12.exProgs) C12.exSched).wire)).2.flatten
    readAllEnc (cfb8DecX C18.toyE) [1, 2, 3] Zlib.ident.toZlibOps true [ct.take 5, ct.drop 5]
      = ([(0x0e, [0x61]), (0x0e, [0x62, 0x63, 0x64]), (0x10, [0x01, 0x02]), (0x0f, [])], .eof) := by
  intro ct
  exact (server_decodes_exactly_sent_cfb8 C18.toyE [1, 2, 3] ⟨300, 50⟩ C12.exProgs (by decide)
    C12.exSched Zlib.ident (some 2) exContent (by decide +kernel) [ct.take 5, ct.drop 5]
    (by simp [ct])).trans (by decide +kernel)

/-- the wrapper hypothesis is satisfiable: the eight sends with a `recv` and a `read` interleaved -/
example :
    let sends := sendsOf Zlib.ident.toZlibOps (some 2) (payloadOf exContent)
      (run ⟨300, 50⟩ (init C12.exProgs) C12.exSched).wire
    let ops : List PyCraft.Op :=
      (sends.take 3).map .send ++ [.recv [9, 9]] ++ (sends.drop 3).map .send ++ [.read [7]]
    ops.filter PyCraft.Op.isSend = sends.map PyCraft.Op.send := by decide +kernel

end PyCraft.C12Bytes
