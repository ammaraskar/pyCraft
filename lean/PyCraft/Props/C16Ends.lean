import PyCraft.Lemmas.C16Ends
import PyCraft.Lemmas.C16EndsReuse
import PyCraft.Props.C16Live
/-!
# C16, how a connection ends

**Part A: "`disconnect()` may be called in any state … without raising, and always leads
to the networking thread terminating".**  In `Model/Lifecycle.lean` the body of `disconnect()` is
`(doDisconnect s, .ok)` by definition.  `Model/C16Ends.lean` adds the outgoing queue and a flush whose
packet writes fail according to an arbitrary oracle `F`, with the failure points of
`Connection.disconnect` (connection.py:457-489): an `IOError` from a write, an `AttributeError` from
a missing socket or a missing queue attribute; an exception that propagates skips the rest of the
method.  `disconnectE true` is the current code (`try: … except IOError: pass` around the flush,
commit 584a461), `disconnectE false` the code before it.  Theorems A1–A6 are for the current code,
for ALL oracles `F`, server behaviours, user programs, reconnect budgets and schedules `acts`
(thread steps interleaved with `write_packet` calls `enq p` and queue consumption `deq`); the
refutations show that each of them fails for the old code.  `x.calls` is the list of API calls whose
body has run, with the outcome the CALLER sees (`OutcomeE` includes `ioError`, `otherExc`).
ASSUMED (model header): every queued packet can be serialised and the outgoing packet listeners
do not raise — an exception of that kind is not an `IOError`, the guard does not catch it, and the
real `disconnect()` then raises it before interrupting the thread (observed with a `ChatPacket`
without `message`); the packet writes themselves fail arbitrarily.

**Part B: "after a connection ends for any reason … the same object can connect again,
including from inside its own listeners and handlers".**  `C16.reusable_after_end` ASSUMES that the
slot holder is interrupted.  Theorems B1–B9 (about `Model/Lifecycle.lean`, all reachable states)
derive that from how the connection ended: B1 is the new invariant, B2/B3 the calls from the
networking thread itself, B4–B6 the four reasons, B7/B8 the pending hand-over, B9 the quiescent
object.  `Ended s` = every thread occupying a slot is interrupted; `busy s` = the condition under
which `_check_connection` raises `InvalidState`; `ConnectsAfresh env s t s1` = the conclusion of
`C16.reusable_after_end` (one connection attempt; refusal reported or one new thread created).

Only property theorems, non-vacuity examples and refutations live here.
-/
namespace PyCraft.C16Ends
open PyCraft PyCraft.Life PyCraft.Ends

/-! ## Part A — `disconnect()` with a flush that can fail -/

/-- A1 `disconnect_body_never_raises`: the body of the CURRENT `disconnect(immediate)`, in ANY
state in which the queue attribute exists whenever a socket object does (`QInv`; true in every
reachable state, A3), for ANY queue content and ANY failure pattern `F` of the packet writes:
returns normally; its effect on the lifecycle state is exactly `Life.doDisconnect` — so the socket
is `None`, `connected` is false and the thread `new_networking_thread or networking_thread` is
interrupted. -/
theorem disconnect_body_never_raises (imm : Bool) (F : Nat → Bool) (x : ESys)
    (hq : x.sys.socket ≠ .none → x.queue.isSome = true) :
    (disconnectE true imm F x).2 = .ok ∧
    (disconnectE true imm F x).1.sys = doDisconnect x.sys ∧
    (disconnectE true imm F x).1.sys.socket = .none ∧
    (disconnectE true imm F x).1.sys.connected = false ∧
    (∀ j, target x.sys = some j → ((disconnectE true imm F x).1.sys.net j).intr = true) := by
  rw [disconnectE_guarded imm F x hq]
  refine ⟨rfl, rfl, by simp [doDisconnect_discSt, discSt], by simp [doDisconnect_discSt, discSt], ?_⟩
  intro j hj
  simp [doDisconnect_discSt, discSt, dnet, hj]

/-- A2 `flush_delivers_prefix`: what the flush of the current `disconnect(immediate)` does.
`immediate=True` or no socket: nothing.  On the connected socket of connection `c` with queue `q`:
exactly the packets before the first failing write (`k = firstFail F tick |q|`, `k = |q|` if none
fails) are delivered, in order; the packet whose write failed is lost, the rest stays queued; the
write counter advances by the number of attempts.  On a socket object that never connected the
first write fails. -/
theorem flush_delivers_prefix (imm : Bool) (F : Nat → Bool) (x : ESys)
    (hq : x.sys.socket ≠ .none → x.queue.isSome = true) :
    let y := (disconnectE true imm F x).1
    ((imm = true ∨ x.sys.socket = .none) →
      y.queue = x.queue ∧ y.wire = x.wire ∧ y.tick = x.tick) ∧
    (∀ c q, imm = false → x.sys.socket = .open c → x.queue = some q →
      y.wire = x.wire ++ (q.take (firstFail F x.tick q.length)).map (fun p => (c, p)) ∧
      y.queue = some (q.drop (firstFail F x.tick q.length + 1)) ∧
      y.tick = x.tick + min (firstFail F x.tick q.length + 1) q.length) ∧
    (∀ q, imm = false → x.sys.socket = .unconnected → x.queue = some q →
      y.wire = x.wire ∧ y.queue = some (q.drop 1)) := by
  intro y
  have hy : y = { afterFlush imm F x with sys := doDisconnect x.sys } := by
    simp only [y, disconnectE_guarded imm F x hq]
  obtain ⟨a, b, c⟩ := afterFlush_spec imm F x
  rw [hy]
  refine ⟨fun h => ?_, b, c⟩
  simp only [a h, and_self]

/-- A3 `projects_to_lifecycle_model`: for the current code the extended system adds nothing to the
lifecycle behaviour.  In every reachable state `x` the queue attribute exists whenever a socket
does; the lifecycle component `x.sys` is the state that `Model/Lifecycle.lean` reaches on the thread
steps of the schedule; and a thread step of the extended system is enabled iff the model's step is,
with the model's successor as lifecycle component.  Hence EVERY theorem of `Props/C16.lean` and
`Props/C16Live.lean` about reachable states holds for `x.sys`. -/
theorem projects_to_lifecycle_model (F : Nat → Bool) (env : List Beh) (progs : List (List Op))
    (rl rh : Nat) (acts : List Act) (t : Tid) :
    let x := runE true F env (initE progs rl rh) acts
    (x.sys.socket ≠ .none → x.queue.isSome = true) ∧
    x.sys = run env (init progs rl rh) (thrs acts) ∧
    (stepE true F env x (.thr t)).map (·.sys) = step env x.sys t := by
  intro x
  obtain ⟨h1, h2⟩ := reachE F env progs rl rh acts
  exact ⟨h2, h1, stepE_thr F env x t h2⟩

/-- A4 `disconnect_total`: `disconnect(immediate)` called by any thread in ANY reachable state of
the extended system (any number of times, any queue, any failure pattern of the writes) is enabled
as soon as the lock is available, and the CALLER SEES A NORMAL RETURN (`calls` records `.ok`: no
`IOError`, no other exception).  Afterwards the socket is `None`, `connected` is false, the slots
and counters are unchanged, the selected thread is interrupted, nobody else's flag changes, EVERY
thread occupying a slot is interrupted; and queue, wire and write counter are as A2 says. -/
theorem disconnect_total (F : Nat → Bool) (env : List Beh) (progs : List (List Op)) (rl rh : Nat)
    (acts : List Act) (t : Tid) (imm : Bool) :
    let x := runE true F env (initE progs rl rh) acts
    atCall x.sys t (.disconnect imm) →
    (canAcq x.sys t = true → ∃ x1, stepE true F env x (.thr t) = some x1) ∧
    ∀ x1, stepE true F env x (.thr t) = some x1 →
      x1.calls = x.calls ++ [(t, .disconnect imm, .ok)] ∧ pendingOut x1.sys t = some .ok ∧
      x1.sys.socket = .none ∧ x1.sys.connected = false ∧
      x1.sys.nt = x.sys.nt ∧ x1.sys.newNt = x.sys.newNt ∧
      x1.sys.nthreads = x.sys.nthreads ∧ x1.sys.conns = x.sys.conns ∧
      (∀ j, target x.sys = some j → (x1.sys.net j).intr = true) ∧
      (∀ j, target x.sys ≠ some j → (x1.sys.net j).intr = (x.sys.net j).intr) ∧
      (∀ j, x1.sys.nt = some j ∨ x1.sys.newNt = some j → (x1.sys.net j).intr = true) ∧
      ((imm = true ∨ x.sys.socket = .none) →
        x1.queue = x.queue ∧ x1.wire = x.wire ∧ x1.tick = x.tick) ∧
      (∀ c q, imm = false → x.sys.socket = .open c → x.queue = some q →
        x1.wire = x.wire ++ (q.take (firstFail F x.tick q.length)).map (fun p => (c, p)) ∧
        x1.queue = some (q.drop (firstFail F x.tick q.length + 1))) := by
  intro x hat
  obtain ⟨hsys, hq⟩ := reachE F env progs rl rh acts
  have hsys' : x.sys = run env (init progs rl rh) (thrs acts) := hsys
  have hstep := stepE_thr F env x t hq
  have key := C16.disconnect_total env progs rl rh (thrs acts) t imm
  dsimp only at key
  rw [← hsys'] at key
  obtain ⟨k1, k2⟩ := key hat
  refine ⟨fun hc => ?_, fun x1 hx1 => ?_⟩
  · obtain ⟨s1, hs1⟩ := k1 hc
    rw [hs1] at hstep
    cases hx : stepE true F env x (.thr t) with
    | none => rw [hx] at hstep; cases hstep
    | some x1 => exact ⟨x1, rfl⟩
  · obtain ⟨a1, a2, a3, a4, a5, a6, a7, a8, a9, a10⟩ :=
      k2 x1.sys (stepE_sys F env x x1 t hq hx1).1
    obtain ⟨b1, b2, b3, b4⟩ := stepE_disconnect F env x x1 t imm hq hat hx1
    obtain ⟨c1, c2, -⟩ := afterFlush_spec imm F x
    refine ⟨b1, a1, a2, a3, a4, a5, a6, a7, a8, a9, a10, fun h => ?_, fun c q hi hs hqq => ?_⟩
    · rw [b2, b3, b4, c1 h]; exact ⟨rfl, rfl, rfl⟩
    · obtain ⟨d1, d2, -⟩ := c2 c q hi hs hqq
      rw [b2, b3]; exact ⟨d1, d2⟩

/-- A5 `no_call_ever_raises`: in every reachable state of the extended system (current code) every
API call made so far — `connect`, `status`, `disconnect`, `disconnect(immediate)`, by user threads,
by the reaction to a disconnect packet, by listeners and exception handlers — has returned
normally or raised `InvalidState` / `ConnectionRefusedError`; none has raised an `IOError` or any
other exception; and a call step records exactly the outcome that `Model/Lifecycle.lean` computes
(so the placeholder `outL` inside `sys` is exact). -/
theorem no_call_ever_raises (F : Nat → Bool) (env : List Beh) (progs : List (List Op))
    (rl rh : Nat) (acts : List Act) :
    let x := runE true F env (initE progs rl rh) acts
    (∀ e ∈ x.calls, e.2.2 = .ok ∨ e.2.2 = .invalidState ∨ e.2.2 = .refused) ∧
    (∀ t op x1, atCall x.sys t op → stepE true F env x (.thr t) = some x1 →
      x1.calls = x.calls ++ [(t, op, lift (body env x.sys op).2)]) := by
  intro x
  obtain ⟨-, hq⟩ := reachE F env progs rl rh acts
  refine ⟨fun e he => ?_, fun t op x1 hat hs => stepE_call F env x x1 t op hq hat hs⟩
  obtain ⟨o, ho⟩ := runE_noExc F env acts (initE progs rl rh) (initE_QInv progs rl rh)
    (by intro e he; cases he) e he
  rw [ho]; cases o <;> simp [lift]

/-- A6 `disconnect_leads_to_termination`: after the body of a `disconnect(immediate)` call in any
reachable state of the extended system, every thread `j` occupying a slot is interrupted and stays
so under EVERY continuation `more` (thread steps, `write_packet`s, queue consumption); after every
such continuation some further ≤ 47 scheduler choices kill it; and on EVERY weakly fair infinite
schedule of the lifecycle model from the state reached (`C16Live`) it is dead from some pick on. -/
theorem disconnect_leads_to_termination (F : Nat → Bool) (env : List Beh)
    (progs : List (List Op)) (rl rh : Nat) (acts : List Act) (t : Tid) (imm : Bool) :
    let x := runE true F env (initE progs rl rh) acts
    atCall x.sys t (.disconnect imm) → ∀ x1, stepE true F env x (.thr t) = some x1 →
    ∀ j, x1.sys.nt = some j ∨ x1.sys.newNt = some j →
      (∀ more, ((runE true F env x1 more).sys.net j).intr = true ∧
        ∃ more', more'.length ≤ 47 ∧
          ((runE true F env (runE true F env x1 more) more').sys.net j).pc = .dead) ∧
      (∀ σ, WeakFair env x1.sys σ → ∃ n, ∀ m, n ≤ m → ((runN env x1.sys σ m).net j).pc = .dead) := by
  intro x hat x1 hx1 j hj
  obtain ⟨hsys, hq⟩ := reachE F env progs rl rh acts
  have hsys' : x.sys = run env (init progs rl rh) (thrs acts) := hsys
  have hstep := (stepE_sys F env x x1 t hq hx1).1
  have k1 := C16.disconnect_leads_to_termination_partial env progs rl rh (thrs acts) t imm
  have k2 := C16Live.disconnect_leads_to_termination env progs rl rh (thrs acts) t imm
  dsimp only at k1 k2
  rw [← hsys'] at k1 k2
  refine ⟨fun more => ?_, k2 hat x1.sys hstep j hj⟩
  obtain ⟨-, -, hm⟩ := k1 hat x1.sys hstep j hj
  obtain ⟨e1, hq2⟩ := runE_sys F env more x1 (stepE_qinv F env x x1 _ hq hx1)
  obtain ⟨a, -, -, more', hl, hd⟩ := hm (thrs more)
  refine ⟨by rw [e1]; exact a, more'.map .thr, by simpa using hl, ?_⟩
  obtain ⟨e2, -⟩ := runE_sys F env (more'.map .thr) _ hq2
  rw [e2, e1, thrs_map_thr]; exact hd

/-! ### Non-vacuity and refutation for part A

One user thread runs `connect(); disconnect()`; the server accepts; the peer has closed, so EVERY
packet write fails (`allFail`).  After the `connect()` call the queue holds the handshake and the
login-start packet. -/

def allFail : Nat → Bool := fun _ => true

def exProg : List (List Op) := [[.connect, .disconnect false]]

/-- connect body, release. -/
def exActs : List Act := [.thr (.user 0), .thr (.user 0)]

/-- Hypotheses of A1/A2/A4: the state after the `connect()` call has a connected socket, two queued
packets, an uninterrupted thread in the slot, and the user thread is at its `disconnect()` call. -/
example :
    let x := runE true allFail [.accept] (initE exProg 0 0) exActs
    x.sys.socket = .open 0 ∧ x.queue = some [0, 1] ∧ x.sys.nt = some 0 ∧
    (x.sys.net 0).intr = false ∧ canAcq x.sys (.user 0) = true ∧
    atCall x.sys (.user 0) (.disconnect false) :=
  ⟨by decide, by decide, by decide, by decide, by decide, by decide, _, rfl⟩

/-- CURRENT code on that state: the first write fails, the flush stops (the popped packet is lost,
the other stays queued), `disconnect()` RETURNS NORMALLY, the socket is `None`, the thread is
interrupted — and dies within 5 of its own actions once the caller has released the lock. -/
example :
    let x1 := runE true allFail [.accept] (initE exProg 0 0) (exActs ++ [.thr (.user 0)])
    x1.calls = [(.user 0, .connect, .ok), (.user 0, .disconnect false, .ok)] ∧
    x1.sys.socket = .none ∧ x1.sys.connected = false ∧ (x1.sys.net 0).intr = true ∧
    x1.queue = some [1] ∧ x1.wire = [] ∧ x1.tick = 1 := by decide

example :
    let x2 := runE true allFail [.accept] (initE exProg 0 0)
      (exActs ++ [.thr (.user 0), .thr (.user 0)] ++ List.replicate 5 (.thr (.net 0)))
    (x2.sys.net 0).pc = .dead ∧ x2.sys.nt = none ∧ (x2.sys.usr 0).outs = [.ok, .ok] := by decide

/-- With writes that succeed the flush delivers both queued packets, and one queued by
`write_packet` in between, in order, on connection 0. -/
example :
    let x1 := runE true (fun _ => false) [.accept] (initE exProg 0 0)
      (exActs ++ [.enq 7, .thr (.user 0)])
    x1.wire = [(0, 0), (0, 1), (0, 7)] ∧ x1.queue = some [] ∧ x1.tick = 3 ∧
    x1.sys.socket = .none := by decide

/-- A failure in the middle: the second write fails; packet 0 is delivered, packet 1 is lost,
packet 7 stays queued; `firstFail` says so. -/
example :
    let x1 := runE true (fun k => k == 1) [.accept] (initE exProg 0 0)
      (exActs ++ [.enq 7, .thr (.user 0)])
    x1.wire = [(0, 0)] ∧ x1.queue = some [7] ∧ x1.tick = 2 ∧ firstFail (fun k => k == 1) 0 3 = 1 ∧
    x1.calls.getLast? = some (.user 0, .disconnect false, .ok) := by decide

/-- REFUTATION (the code before commit 584a461, `guard = false`), same state, same call: the
`IOError` of the first write leaves `disconnect()` — A1 and A4 fail: the caller sees `ioError`, the
socket is still the connected one, the thread is NOT interrupted (only `connected` was cleared). -/
theorem old_disconnect_raises :
    let x1 := runE false allFail [.accept] (initE exProg 0 0) (exActs ++ [.thr (.user 0)])
    x1.calls = [(.user 0, .connect, .ok), (.user 0, .disconnect false, .ioError)] ∧
    x1.sys.socket = .open 0 ∧ x1.sys.connected = false ∧ x1.sys.nt = some 0 ∧
    (x1.sys.net 0).intr = false ∧ x1.queue = some [1] := by decide

/-- … in particular the statement of A1 is false for `guard = false` … -/
theorem old_body_refutes_A1 :
    ¬ ∀ (imm : Bool) (F : Nat → Bool) (x : ESys),
      (x.sys.socket ≠ .none → x.queue.isSome = true) → (disconnectE false imm F x).2 = .ok := by
  intro h
  have := h false allFail (runE false allFail [.accept] (initE exProg 0 0) exActs) (by decide)
  revert this
  decide

/-- … and "always leads to the networking thread terminating" (A6) fails too: after the failed
`disconnect()` the thread is never interrupted; scheduled alone for 60 actions it is still in its
loop, alive, with the socket open. -/
theorem old_disconnect_thread_survives :
    let x2 := runE false allFail [.accept] (initE exProg 0 0)
      (exActs ++ [.thr (.user 0), .thr (.user 0)] ++ List.replicate 60 (.thr (.net 0)))
    (x2.sys.net 0).intr = false ∧ (x2.sys.net 0).pc.alive = true ∧ (x2.sys.net 0).pc.phase = .io ∧
    x2.sys.socket = .open 0 ∧ (x2.sys.usr 0).todo = [] := by decide +kernel

/-- Why the library's own use did not show it: in the reaction to a disconnect packet
(connection.py:829-835) the site catches the `IOError` and calls `disconnect(immediate=True)`; so
even with the old code that path ends cleanly.  (For the current code this fallback is dead code,
`Ends.siteBodyE_guarded`.) -/
example :
    let x := runE false allFail [.disconnects] (initE [[.connect]] 0 0)
      (exActs ++ List.replicate 6 (.thr (.net 0)))
    x.calls.getLast? = some (.net 0, .disconnect false, .ok) ∧ x.sys.socket = .none ∧
    (x.sys.net 0).intr = true := by decide

/-- `disconnect()` on a fresh object (no queue attribute, no socket), after a refused connect
(socket object present, never connected, a packet queued by `write_packet`), and twice in a row:
all return normally with the current code; the second case raised `BrokenPipeError` before. -/
example :
    let x := runE true allFail [.refuse]
      (initE [[.disconnect false, .connect, .disconnect false, .disconnect false]] 0 0)
      ([.thr (.user 0), .thr (.user 0), .thr (.user 0), .thr (.user 0), .enq 5] ++
        List.replicate 4 (.thr (.user 0)))
    x.calls.map (·.2.2) = [.ok, .refused, .ok, .ok] ∧ x.sys.socket = .none ∧ x.queue = some [] :=
  by decide

example :
    let x := runE false allFail [.refuse]
      (initE [[.disconnect false, .connect, .disconnect false]] 0 0)
      ([.thr (.user 0), .thr (.user 0), .thr (.user 0), .thr (.user 0), .enq 5, .thr (.user 0)])
    x.calls.map (·.2.2) = [.ok, .refused, .ioError] ∧ x.sys.socket = .unconnected := by decide

/-- `QInv` is needed by A1: with a socket object but no queue attribute (a state the current code
cannot reach, A3 — it would be reachable if `_connect` created the queue AFTER the socket) the flush
raises `AttributeError`, which the guard does not catch. -/
example :
    (disconnectE true false allFail
      { sys := { init [] 0 0 with socket := .unconnected }, queue := none, wire := [], tick := 0,
        calls := [] }).2 = .otherExc := by decide

/-- Hypotheses of A6, and its weak-fairness part instantiated: thread 0 dies on every weakly fair
schedule. -/
example :
    let x := runE true allFail [.accept] (initE exProg 0 0) exActs
    ∃ x1, stepE true allFail [.accept] x (.thr (.user 0)) = some x1 ∧ x1.sys.nt = some 0 ∧
      ∀ σ, WeakFair [.accept] x1.sys σ →
        ∃ n, ∀ m, n ≤ m → ((runN [.accept] x1.sys σ m).net 0).pc = .dead := by
  intro x
  have hat : atCall x.sys (.user 0) (.disconnect false) := ⟨by decide, _, rfl⟩
  obtain ⟨x1, hx1⟩ := (disconnect_total allFail [.accept] exProg 0 0 exActs (.user 0) false hat).1
    (by decide)
  have hnt : x1.sys.nt = some 0 := by
    rw [((disconnect_total allFail [.accept] exProg 0 0 exActs (.user 0) false hat).2 x1
      hx1).2.2.2.2.1]
    decide
  exact ⟨x1, hx1, hnt,
    (disconnect_leads_to_termination allFail [.accept] exProg 0 0 exActs (.user 0) false hat x1 hx1
      0 (Or.inl hnt)).2⟩

/-! ## Part B — an ended connection is reusable -/

/-- B1 `left_loop_interrupted`: in every reachable state of `Model/Lifecycle.lean`, a networking
thread that has run its own reaction to a disconnect packet (`callRel react`, and the listeners
after it), has left its loop normally (`exit` = `_handle_exit`), is past
`except Exception: self.interrupt = True` (handlers, final block), or is in or after its `finally`
block, has its own `interrupt` flag set. -/
theorem left_loop_interrupted (env : List Beh) (progs : List (List Op)) (rl rh : Nat)
    (sched : List Tid) (i : Nat) :
    let s := run env (init progs rl rh) sched
    over (s.net i).pc = true → (s.net i).intr = true := by
  intro s h
  exact reach_over env progs rl rh sched i h

/-- B2 `own_thread_not_busy`: whenever the networking thread itself is at a point where user code
may call `connect()` — a packet listener after a server disconnect, `_handle_exit`, an exception
handler — and nobody else has queued a successor meanwhile, `_check_connection` passes. -/
theorem own_thread_not_busy (env : List Beh) (progs : List (List Op)) (rl rh : Nat)
    (sched : List Tid) (i : Nat) :
    let s := run env (init progs rl rh) sched
    ((s.net i).pc = .call .listen ∨ (s.net i).pc = .exit ∨ (s.net i).pc = .hRun ∨
      (s.net i).pc = .call .handler) →
    s.newNt = none → s.nt = some i ∧ (s.net i).intr = true ∧ busy s = false := by
  intro s hpc hnew
  have h := reach_inv env progs rl rh sched
  have ho := reach_over env progs rl rh sched
  have hov : over (s.net i).pc = true := by
    rcases hpc with hpc | hpc | hpc | hpc <;> rw [hpc] <;> rfl
  have hn : s.nt = some i := (h.nt_iff i).mpr (by
    rcases hpc with hpc | hpc | hpc | hpc <;> rw [hpc] <;> rfl)
  exact ⟨hn, ho i hov, over_not_busy s ho i hn hov hnew⟩

/-- B3 `reconnect_from_listener_or_handler`: a `connect()` made by the networking thread itself
from a packet listener (after the reaction to a server disconnect) or from an exception handler
(after an error), in ANY reachable state in which nobody else has queued a successor, is NOT refused
with `InvalidState`: it connects afresh.  (No hypothesis about `interrupt`: it is derived.) -/
theorem reconnect_from_listener_or_handler (env : List Beh) (progs : List (List Op))
    (rl rh : Nat) (sched : List Tid) (i : Nat) (site : Site) :
    let s := run env (init progs rl rh) sched
    (s.net i).pc = .call site → site ≠ .react → s.newNt = none →
    ∀ s1, step env s (.net i) = some s1 → ConnectsAfresh env s (.net i) s1 := by
  intro s hpc hsite hnew s1 hs1
  have hop : site.op = .connect := by cases site <;> first | rfl | exact absurd rfl hsite
  have hb := own_thread_not_busy env progs rl rh sched i
    (by cases site
        · exact absurd rfl hsite
        · exact Or.inl hpc
        · exact Or.inr (Or.inr (Or.inr hpc))) hnew
  exact connects_afresh (reach_inv env progs rl rh sched) rfl ⟨site, hpc, hop⟩ hb.2.2 hs1

/-- B4 `ended_after_disconnect`: after the body of a `disconnect(immediate)` executed by ANY thread
in any reachable state — a user's call ("user disconnect") or the networking thread's reaction to a
disconnect packet ("server disconnect") — the connection is `Ended`; it still is when the caller has
released the lock; and unless a successor is queued the object is not busy. -/
theorem ended_after_disconnect (env : List Beh) (progs : List (List Op)) (rl rh : Nat)
    (sched : List Tid) (t : Tid) (imm : Bool) :
    let s := run env (init progs rl rh) sched
    atCall s t (.disconnect imm) → ∀ s1, step env s t = some s1 →
      Ended s1 ∧ (s1.newNt = none → busy s1 = false) ∧
      ∃ s2, step env s1 t = some s2 ∧ s2.owner = none ∧ Ended s2 ∧
        (s2.newNt = none → busy s2 = false) := by
  intro s hat s1 hs1
  have h := reach_inv env progs rl rh sched
  obtain ⟨hp, -, -, -, -, -, -, -, -, he⟩ :=
    (C16.disconnect_total env progs rl rh sched t imm hat).2 s1 hs1
  have he1 : Ended s1 := he
  obtain ⟨s2, hs2, hsh, ho, -, hst, -, -⟩ :=
    release_step env s1 t .ok (Life.step_inv env s s1 t h hs1) hp
  have he2 : Ended s2 := he1.of_same hsh hst
  refine ⟨he1, fun hn => by rw [ended_busy s1 he1, hn]; rfl, s2, hs2, ho, he2,
    fun hn => by rw [ended_busy s2 he2, hn]; rfl⟩

/-- B5 `ended_after_error`: when a networking thread that failed (read error, write on a missing
socket, exception from a listener) reaches the final block of `_handle_exception` and no handler
or other thread has started a new connection, that block disconnects: afterwards the socket is
`None`, `connected` is false, the connection is `Ended` and the object is not busy. -/
theorem ended_after_error (env : List Beh) (progs : List (List Op)) (rl rh : Nat)
    (sched : List Tid) (i : Nat) :
    let s := run env (init progs rl rh) sched
    (s.net i).pc = .hChk → s.newNt = none → ∀ s1, step env s (.net i) = some s1 →
      s1.socket = .none ∧ s1.connected = false ∧ Ended s1 ∧ busy s1 = false := by
  intro s hpc hnew s1 hs1
  have h := reach_inv env progs rl rh sched
  have ho := reach_over env progs rl rh sched
  have hn : s.nt = some i := (h.nt_iff i).mpr (by rw [hpc]; rfl)
  have hi : (s.net i).intr = true := ho i (by rw [hpc]; rfl)
  have htg : target s = some i := by simp [target, hnew, hn]
  obtain ⟨-, -, -, hd | hd | hd⟩ := hchk_step env s s1 i hpc hs1
  · obtain ⟨k, hk, -, hsh, hst⟩ := hd
    have he : Ended s1 := (ended_disc h).of_same hsh hst
    have e2 : s1.newNt = s.newNt := congrArg Shared.newNt hsh
    exact ⟨congrArg Shared.socket hsh, congrArg Shared.connected hsh, he,
      by rw [ended_busy s1 he, e2, hnew]; rfl⟩
  · obtain ⟨k, hk, hki, -⟩ := hd
    rw [htg] at hk; cases hk; rw [hi] at hki; cases hki
  · rw [htg] at hd; cases hd.1

/-- B6 `refused_leaves_reusable`: a `connect()` / `status()` whose TCP connect is refused leaves the
object not busy (socket object present but unconnected, no thread created), also after the caller
has released the lock: the next `connect()` is not refused with `InvalidState`. -/
theorem refused_leaves_reusable (env : List Beh) (progs : List (List Op)) (rl rh : Nat)
    (sched : List Tid) (t : Tid) (op : Op) :
    let s := run env (init progs rl rh) sched
    op.isConn = true → atCall s t op → ∀ s1, step env s t = some s1 →
    pendingOut s1 t = some .refused →
      busy s = false ∧ busy s1 = false ∧ s1.socket = .unconnected ∧ s1.nthreads = s.nthreads ∧
      ∃ s2, step env s1 t = some s2 ∧ s2.owner = none ∧ busy s2 = false := by
  intro s hop hat s1 hs1 hp
  have h := reach_inv env progs rl rh sched
  obtain ⟨-, hp', hsh, -, -, hst, -, -, -, -⟩ := call_step env s s1 t op hat hs1
  obtain ⟨sb, ob, hbd⟩ : ∃ sb ob, body env s op = (sb, ob) := ⟨_, _, rfl⟩
  rw [hbd] at hp' hsh hst
  rw [hp] at hp'
  simp only [Option.some.injEq] at hp'
  rcases body_cases env s op sb ob hbd with ⟨-, -, -, b2⟩ | ⟨-, hb, -, b1, -⟩ | ⟨-, -, -, -, -, b2⟩ |
    ⟨p, -, -, -, -, -, b2⟩ | ⟨hop', -⟩
  · rw [b2] at hp'; cases hp'
  · subst b1
    have hb1 : busy s1 = false := (busy_of_same hsh hst).trans hb
    obtain ⟨s2, hs2, hsh2, ho2, -, hst2, -, -⟩ :=
      release_step env s1 t .refused (Life.step_inv env s s1 t h hs1) hp
    exact ⟨hb, hb1, congrArg Shared.socket hsh, congrArg Shared.nthreads hsh, s2, hs2, ho2,
      (busy_of_same hsh2 hst2).trans hb1⟩
  · rw [b2] at hp'; cases hp'
  · rw [b2] at hp'; cases hp'
  · rw [hop] at hop'; cases hop'

/-- B7 `ended_reusable_now_or_soon`: in every reachable state in which the connection is `Ended`
(B4, B5) the object is not busy as soon as no successor is queued; and if one is queued (an
interrupted successor waiting for its interrupted predecessor — FINDING 1 of `Props/C16.lean`), some
schedule of at most 47 steps leads to a state that is not busy. -/
theorem ended_reusable_now_or_soon (env : List Beh) (progs : List (List Op)) (rl rh : Nat)
    (sched : List Tid) :
    let s := run env (init progs rl rh) sched
    Ended s → (s.newNt = none → busy s = false) ∧
      ∃ more, more.length ≤ 47 ∧ busy (run env s more) = false := by
  intro s he
  exact ⟨fun hn => by rw [ended_busy s he, hn]; rfl,
    ended_eventually env s (reach_inv env progs rl rh sched) he⟩

/-- B8 `ended_reusable_on_every_fair_schedule`: … and on EVERY weakly fair infinite schedule
(whatever the other threads do meanwhile) a state that is not busy is reached: the hand-over
completes, or somebody's `connect()` found the object free even earlier. -/
theorem ended_reusable_on_every_fair_schedule (env : List Beh) (progs : List (List Op))
    (rl rh : Nat) (sched : List Tid) :
    let s := run env (init progs rl rh) sched
    Ended s → ∀ σ, WeakFair env s σ → ∃ n, busy (runN env s σ n) = false := by
  intro s he σ hf
  exact ended_eventually_fair env progs.length s σ (reach_inv env progs rl rh sched)
    (UB_run env _ sched _ (init_UB progs rl rh)) he hf

/-- B9 `at_rest_reusable`: a reachable state in which no networking thread is alive (all ended,
for whatever reason, or none ever started) has both slots empty and is not busy. -/
theorem at_rest_reusable (env : List Beh) (progs : List (List Op)) (rl rh : Nat)
    (sched : List Tid) :
    let s := run env (init progs rl rh) sched
    (∀ i, (s.net i).pc.alive = false) → s.nt = none ∧ s.newNt = none ∧ busy s = false := by
  intro s hall
  have h := reach_inv env progs rl rh sched
  have h1 : s.nt = none := by
    cases hn : s.nt with
    | none => rfl
    | some i =>
      have := holds_alive _ ((h.nt_iff i).mp hn)
      rw [hall i] at this; cases this
  have h2 : s.newNt = none := by
    cases hn : s.newNt with
    | none => rfl
    | some i =>
      have := waiting_alive _ ((h.new_iff i).mp hn)
      rw [hall i] at this; cases this
  exact ⟨h1, h2, by simp [busy, h1, h2]⟩

/-- B10 `connect_after_end_succeeds`: the link to `C16.reusable_after_end` — in an `Ended` reachable
state without a queued successor, `connect()` / `status()` by any thread connects afresh. -/
theorem connect_after_end_succeeds (env : List Beh) (progs : List (List Op)) (rl rh : Nat)
    (sched : List Tid) (t : Tid) (op : Op) :
    let s := run env (init progs rl rh) sched
    Ended s → s.newNt = none → op.isConn = true → atCall s t op →
    ∀ s1, step env s t = some s1 → ConnectsAfresh env s t s1 := by
  intro s he hnew hop hat s1 hs1
  exact connects_afresh (reach_inv env progs rl rh sched) hop hat
    (by rw [ended_busy s he, hnew]; rfl) hs1

/-! ### Non-vacuity and refutation for part B -/

/-- Hypotheses of B2/B3 for an exception HANDLER: the first connection fails, the networking
thread raises, and its handler (budget `rh = 1`) is about to call `connect()`; the call succeeds:
second connection open, thread 1 queued behind thread 0. -/
example :
    let s := run [.fails, .accept] (init [[.connect]] 0 1)
      ([.user 0, .user 0] ++ List.replicate 7 (.net 0))
    (s.net 0).pc = .call .handler ∧ s.newNt = none ∧ busy s = false ∧
    ∃ s1, step [.fails, .accept] s (.net 0) = some s1 ∧ pendingOut s1 (.net 0) = some .ok ∧
      s1.socket = .open 1 ∧ s1.newNt = some 1 :=
  ⟨by decide, by decide, by decide, _, rfl, by decide, by decide, by decide⟩

/-- … for a LISTENER after a server disconnect (budget `rl = 1`). -/
example :
    let s := run [.disconnects, .accept] (init [[.connect]] 1 0)
      ([.user 0, .user 0] ++ List.replicate 7 (.net 0))
    (s.net 0).pc = .call .listen ∧ s.newNt = none ∧ busy s = false := by decide

/-- … and at `_handle_exit` after a user disconnect. -/
example :
    let s := run [] (init [[.connect, .disconnect false]] 0 0)
      ([.user 0, .user 0, .user 0, .user 0, .net 0])
    (s.net 0).pc = .exit ∧ s.newNt = none ∧ busy s = false := by decide

/-- REFUTATION (delete `self.interrupt = True`, connection.py:607; `Ends.stepNoIntr`
is `Life.step` for that code).  Same scenario as the first example: the thread reaches its handler
with its flag clear, B1/B2 fail (`busy`), and the handler's `connect()` is refused with
`InvalidState` — B3 fails. -/
theorem without_interrupt_handler_cannot_reconnect :
    let s := runNoIntr [.fails, .accept] (init [[.connect]] 0 1)
      ([.user 0, .user 0] ++ List.replicate 7 (.net 0))
    (s.net 0).pc = .call .handler ∧ s.newNt = none ∧ (s.net 0).intr = false ∧ busy s = true ∧
    ∃ s1, stepNoIntr [.fails, .accept] s (.net 0) = some s1 ∧
      pendingOut s1 (.net 0) = some .invalidState ∧ s1.conns = 1 :=
  ⟨by decide, by decide, by decide, by decide, _, rfl, by decide, by decide⟩

/-- Hypotheses of B4 (user disconnect; server disconnect) and of B5 (error). -/
example :
    let s := run [] (init [[.connect, .disconnect false]] 0 0) [.user 0, .user 0]
    atCall s (.user 0) (.disconnect false) :=
  ⟨by decide, _, rfl⟩

example :
    let s := run [.disconnects] (init [[.connect]] 0 0)
      ([.user 0, .user 0] ++ List.replicate 5 (.net 0))
    atCall s (.net 0) (.disconnect false) :=
  ⟨.react, by decide, rfl⟩

example :
    let s := run [.fails] (init [[.connect]] 0 0) ([.user 0, .user 0] ++ List.replicate 7 (.net 0))
    (s.net 0).pc = .hChk ∧ s.newNt = none ∧ s.socket = .open 0 := by decide

/-- Hypotheses of B6: a refused connect. -/
example :
    let s := run [.refuse] (init [[.connect, .connect]] 0 0) []
    atCall s (.user 0) .connect ∧
    ∃ s1, step [.refuse] s (.user 0) = some s1 ∧ pendingOut s1 (.user 0) = some .refused :=
  ⟨⟨by decide, _, rfl⟩, _, rfl, by decide⟩

/-- Hypotheses of B7/B8 with a QUEUED successor (connect, disconnect, connect, disconnect before
the first thread notices): `Ended`, busy now, not busy after thread 0 has died and thread 1 has
taken over. -/
example :
    let s := run [] (init [[.connect, .disconnect false, .connect, .disconnect false]] 0 0)
      (List.replicate 8 (.user 0))
    s.nt = some 0 ∧ s.newNt = some 1 ∧ (s.net 0).intr = true ∧ (s.net 1).intr = true ∧
    busy s = true ∧
    busy (run [] s (List.replicate 5 (.net 0) ++ List.replicate 2 (.net 1))) = false := by decide

/-- Hypothesis of B9: the fresh object; and an object whose only thread has died. -/
example : ∀ i, (((run [] (init [[.connect]] 0 0) []).net i).pc.alive = false) := fun _ => rfl

end PyCraft.C16Ends
