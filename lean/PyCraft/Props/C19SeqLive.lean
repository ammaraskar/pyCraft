import PyCraft.Generated.C19Seq
import PyCraft.Lemmas.C19Json
/-!
# C19 — the model of `Model/C19Seq.lean`, `Model/C19Json.lean` and the reference
# decoder `Ref/C19Json.lean` against observations of the LIVE code

`Generated/C19Seq.lean` is written by `harness/gen/c19seq.py` from whatever `/repo` contains when it
runs: the module constants, `json.dumps` / `json.loads` on fixed inputs, the responses served in the
observed program runs (`res.text`, `res.json()`), and the runs themselves (those are checked in
`Props/C19SeqRuns.lean`).  The theorems below say the model / the reference decoder predict every
entry of the first four tables.
-/
namespace PyCraft.C19Seq
open PyCraft PyCraft.Json PyCraft.AuthSeq PyCraft.Ref.Json PyCraft.Gen.C19Seq

/-- The constants of the model are the constants of the module. -/
theorem live_constants :
    liveConsts =
      [("AUTH_SERVER", AUTH_SERVER), ("SESSION_SERVER", SESSION_SERVER),
       ("CONTENT_TYPE", CONTENT_TYPE),
       ("HEADERS", ";".intercalate (HEADERS.map fun kv => kv.1 ++ "=" ++ kv.2)),
       ("AGENT_NAME", AGENT_NAME), ("AGENT_VERSION", toString AGENT_VERSION)] := by
  decide +kernel

/-- `Json.jsonDumps` produces, character for character, what the real `json.dumps` produced. -/
theorem live_dumps_agree : ∀ p ∈ liveDumps, jsonDumps p.1 = p.2 := by
  simp only [jsonDumps_eq_iff]; decide +kernel

/-- The reference decoder accepts / rejects and decodes the sample texts exactly like the real
`json.loads` (texts whose value has a float or a lone surrogate are not in the table). -/
theorem live_loads_agree : ∀ p ∈ liveLoads, parseJson p.1 = p.2 := by
  simp only [parseJson_eq]; decide +kernel

/-- The responses served in the runs. -/
def repliesOf (r : LiveRun) : List Reply :=
  r.steps.filterMap fun s => match s.2 with
    | .reply rp => some rp
    | .fail => none

/-- For every response served in the runs, the reference decoder finds in `res.text` exactly what
the real `res.json()` returned (or fails where it raised): the two fields of `Reply` that the model
treats as independent inputs are related as expected.  (`liveReplyTexts` lists the distinct pairs.) -/
theorem live_replies_decode :
    (∀ p ∈ liveReplyTexts, parseJson p.1 = p.2) ∧
    ∀ r ∈ liveRuns, ∀ rp ∈ repliesOf r, (rp.text, rp.json) ∈ liveReplyTexts := by
  constructor
  · simp only [parseJson_eq]; decide +kernel
  · decide +kernel

end PyCraft.C19Seq
