import PyCraft.Lemmas.C06DispatchTables
/-!
# C06 — per-version packet id tables are total and injective

`PyCraft.Gen.idTables` is regenerated on every run from the live `get_packets`/`get_id` of /repo on
the WHOLE domain (8 state/direction tables × every known protocol version), so the kernel
evaluation the theorems below rest on (`C06Dispatch.rowOk_of_supported`: one pass over every
supported row, shared with `Props/C06Dispatch.lean`) is about what the code says now.
-/
namespace PyCraft.C06
open PyCraft PyCraft.Gen

/-- Known finding K1 (known_findings.json): id collisions on supported *snapshot* versions that
exist on the unchanged tree.  (table, version, id). -/
def knownCollisions : List (String × Nat × Int) :=
  [("cbPlay", 317, 0x10), ("cbPlay", 336, 0x49), ("cbPlay", 337, 0x49), ("cbPlay", 343, 0x4A),
   ("cbPlay", 344, 0x4A), ("cbPlay", 389, 0x4A), ("cbPlay", 390, 0x4A), ("cbPlay", 391, 0x4A),
   ("cbPlay", 392, 0x4A)]

def knownFor (t : String) (v : Nat) : List (Option Int) :=
  (knownCollisions.filter fun k => k.1 == t && k.2.1 == v).map fun k => some k.2.2

def checkKnownReal : Bool :=
  knownCollisions.all fun k => idTables.any fun t =>
    t.1 == k.1 && t.2.any fun r => r.1 == k.2.1 && r.2.1 && (dupIds r.2.2).contains (some k.2.2)

/-- the id-keyed list is the list of colliding class sets (`knownCollisionSets`) with the classes
dropped -/
theorem knownCollisions_eq :
    knownCollisions = knownCollisionSets.map fun k => (k.1, k.2.1, k.2.2.1) := by decide +kernel

/-- Totality: for every state/direction table and every SUPPORTED protocol version, each registered
packet class resolves to a non-negative integer id. -/
theorem ids_total_supported :
    ∀ t ∈ idTables, ∀ r ∈ t.2, r.2.1 = true →
      ∀ e ∈ r.2.2, ∃ i : Int, e.2 = some i ∧ 0 ≤ i := by
  intro t ht r hr hs e he
  exact rowOk_total (C06Dispatch.rowOk_of_supported t ht r hr hs) he

/-- Injectivity: for every table and SUPPORTED version, two different registered classes share an id
only in the listed known collisions. -/
theorem ids_injective_except_known :
    ∀ t ∈ idTables, ∀ r ∈ t.2, r.2.1 = true →
      ∀ i ∈ dupIds r.2.2, i ∈ knownFor t.1 r.1 := by
  intro t ht r hr hs i hi
  obtain ⟨j, cs, rfl, hk⟩ := rowOk_dupIds (C06Dispatch.rowOk_of_supported t ht r hr hs) hi
  have hm : (t.1, r.1, j) ∈ knownCollisions :=
    knownCollisions_eq ▸ List.mem_map_of_mem (f := fun k => (k.1, k.2.1, k.2.2.1)) hk
  exact List.mem_map.mpr ⟨_, List.mem_filter.mpr ⟨hm, by simp⟩, rfl⟩

/-- … hence wherever no known collision is listed the ids of the row are pairwise distinct. -/
theorem ids_injective_elsewhere :
    ∀ t ∈ idTables, ∀ r ∈ t.2, r.2.1 = true → knownFor t.1 r.1 = [] →
      (r.2.2.map (·.2)).Nodup := by
  intro t ht r hr hs hk
  apply nodup_of_dupIds_nil
  cases hd : dupIds r.2.2 with
  | nil => rfl
  | cons i rest =>
    have := ids_injective_except_known t ht r hr hs i (by simp [hd])
    simp [hk] at this

/-- Each listed collision is real (a negative result with its witness): on that supported version
two registered classes do share that id.  If a repair removes one, this theorem fails and the entry
must leave the list. -/
theorem known_collision_real : checkKnownReal = true := by decide +kernel

/-- Generic consequence (all tables, all iteration orders): if the ids of a row are pairwise
distinct, the dict `{get_id: class}` built in ANY iteration order `perm` of the set of classes maps an
id to exactly the class whose id it is — the decoder chosen never depends on set iteration order. -/
theorem dispatch_unique (ents perm : List (String × Int)) (hp : perm.Perm ents)
    (hn : (ents.map (·.2)).Nodup) (c : String) (i : Int) :
    dictGet (buildDict perm) i = some c ↔ (c, i) ∈ ents := by
  refine ⟨fun h => hp.mem_iff.mp (dictGet_buildDict_some h), fun h => ?_⟩
  have hn' : (perm.reverse.map (·.2)).Nodup :=
    (((List.reverse_perm perm).trans hp).map _).nodup_iff.mpr hn
  rw [dictGet_buildDict, find?_key_of_mem_nodup (·.2) _ (c, i) hn'
    (List.mem_reverse.mpr (hp.mem_iff.mpr h))]
  rfl

-- non-vacuity: the supported row for protocol 757 of the clientbound play table is non-trivial
example : ∃ r ∈ cbPlay, r.1 = 757 ∧ r.2.1 = true ∧ r.2.2.length ≥ 20 := by decide +kernel
example : dictGet (buildDict [("A", 1), ("B", 2)]) 2 = some "B" := by decide

end PyCraft.C06
