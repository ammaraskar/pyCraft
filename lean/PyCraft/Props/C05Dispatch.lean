import PyCraft.Lemmas.C05DispatchReg
import PyCraft.Lemmas.C05DispatchBytes
import PyCraft.Props.C01
import PyCraft.Props.C02
import PyCraft.Props.C06
/-!
# C05 — id ↔ class ↔ codec, composed over the live tables (audit gap 14)

Property C05 ends with "… yields a packet of the same class with equal field values, consumes the
payload exactly, and carries the id registered for that version".  `Props/C05*.lean` prove the
round trip of a field list / of each hand-written codec for ANY flags and ANY id; nothing said WHICH id,
layout and flags a registered class has under a given version, nor that the reader — which only sees
the id — picks that class.  This file closes that:

* `Dsp.regTable` (`Model/C05Dispatch.lean`): for each of the 8 state/direction tables and every known
  protocol version, the registered classes with `get_id(context)` (from `Gen.idTables`) and the codec:
  the live `get_definition(context)`, the context-dependent custom types resolved with the formats
  PROBED from the live `send/read_with_context` under that version, or one of the six hand-written
  models with the flags `mapFlagsOf v`, … (the same `protocol_later_eq(n)` tests as the Python);
* `dispatch_table_correct`: the dict of `PacketReactor.__init__`, built in ANY iteration order, maps
  each registered id (outside the known collisions K1) to exactly the class whose id it is;
* `every_registered_class_rt`: every registered class of every supported version has an id ≥ 0 and a
  codec, the codec round-trips, and (NBT classes excepted) has wire-representable values;
* `registered_stream_roundtrip`: any sequence of instances of registered classes, written by
  `Packet.write` (id of THAT version, fields by THAT version's codec) through any threshold / zlib, cut
  arbitrarily, is read back by `read_packet` with the reactor's dict as the same classes with the same
  field values, every payload consumed exactly;
* `hand_flags_live` / `custom_formats_live`: for every known version, the comparisons the live
  `write_fields` AND `read` of each hand-written class perform (recorded by a logging context) are
  exactly those the model's flags are built from, with the model's results; the live writer and reader
  of `Position` / `Record` / `Pitch` use the same format, the one given by the thresholds 443 / 741 /
  201 / 204;
* `hand_bytes_live`: under every known version the bytes the live `write_fields` of each hand-written
  class produces for a sample packet, and those it produces for what the live `read` made of them, are
  the bytes of the model's codec for that class and version;
* `effpos_*`, `pitch_byte_*`: the value-level scaling of `SoundEffectPacket.EffectPosition` / `Pitch`.

Generated data: `Generated/C05Dispatch.lean` (by `harness/gen/c05dispatch.py`, from the live code).

Only property theorems and examples here; helpers are in `Lemmas/C05Dispatch*.lean`.
-/
namespace PyCraft.C05Dispatch
open PyCraft PyCraft.Dsp PyCraft.Pk PyCraft.Gen

/-! ## the registry is the id table, extended -/

/-- Forgetting the codecs, `regTable` IS `Gen.idTables` (so `C06`'s theorems speak about its rows), and
each table has one row per known protocol version, in publication order. -/
theorem registry_extends_id_tables :
    regTable.map (fun t => (t.1, t.2.map RegRow.idRow)) = idTables ∧
    ∀ t ∈ regTable, t.2.map (·.v) = liveTables.knownProtocols := by
  refine ⟨aligned, fun t ht => ?_⟩
  have h := cols_known (mem_idTables_of_mem ht)
  simpa [Function.comp_def, RegRow.idRow] using h

/-- The lookup functions the driver uses (`regRow t v`, `regEnt t v c`: first table named `t`, first
row of version `v`, first class named `c`) return members of `regTable`: every theorem below applies
to what they return. -/
theorem lookups_are_members (t : String) (v : Nat) (c : String) (r : RegRow) (e : RegEnt)
    (hr : regRow t v = some r) (he : regEnt t v c = some e) :
    (∃ tt ∈ regTable, tt.1 = t ∧ r ∈ tt.2 ∧ r.v = v) ∧ e ∈ r.ents ∧ e.cls = c := by
  obtain ⟨r', hr', hm, hc⟩ := regEnt_mem he
  rw [hr] at hr'
  cases hr'
  exact ⟨regRow_mem hr, hm, hc⟩

/-! ## any codec -/

/-- Every codec — a field list with the library's custom types, or one of the six hand-written pairs
under any flags — on every wire-representable value: `write_fields` succeeds; `read` of the written
bytes returns the value (up to `norm`: attributes that are not on the wire) and leaves nothing unread;
if the body is self-delimiting, with anything appended `read` leaves exactly the appended bytes. -/
theorem codec_roundtrip (k : Codec) (p : PVal) (h : k.WF p) :
    ∃ bs, k.write p = .ok bs ∧ k.read bs = .ok (k.norm p, []) ∧
      (k.selfDelimiting p = true → ∀ rest, k.read (bs ++ rest) = .ok (k.norm p, rest)) :=
  codec_rt k p h

/-! ## every registered class, every supported version -/

/-- For every state/direction table, every SUPPORTED protocol version and every class registered for
it: the class has an integer id ≥ 0 and a codec in the registry; that codec round-trips on all its
wire-representable values (see `codec_roundtrip`); and unless it has an NBT field (outside the model)
the sample packet is wire-representable — the statement is not vacuous for that class and version. -/
theorem every_registered_class_rt :
    ∀ t ∈ regTable, ∀ r ∈ t.2, r.supported = true → ∀ e ∈ r.ents,
      ∃ i k, e.id = some i ∧ 0 ≤ i ∧ e.codec = some k ∧
        (∀ p, k.WF p → ∃ bs, k.write p = .ok bs ∧ k.read bs = .ok (k.norm p, []) ∧
          (k.selfDelimiting p = true → ∀ rest, k.read (bs ++ rest) = .ok (k.norm p, rest))) ∧
        (k.hasNbt = false → k.WF (sampleOf k)) := by
  intro t ht r hr hs e he
  obtain ⟨k, hk, hadm⟩ := entry_codec ht hr he
  have hid := C06.ids_total_supported _ (mem_idTables_of_mem ht) r.idRow
    (List.mem_map.mpr ⟨r, hr, rfl⟩) hs (e.cls, e.id) (List.mem_map.mpr ⟨e, he, rfl⟩)
  obtain ⟨i, hi, h0⟩ := hid
  refine ⟨i, k, hi, h0, hk, fun p hp => codec_rt k p hp, fun hn => sample_WF k hadm hn ?_⟩
  intro hc
  rw [hc] at hk
  have := registered_combat_live ht hr he hk
  cases this

/-- `CombatEventPacket` is registered only under versions where it is not deprecated: no registered
class has the codec whose both directions raise `NotImplementedError`. -/
theorem registered_combat_not_deprecated :
    ∀ t ∈ regTable, ∀ r ∈ t.2, ∀ e ∈ r.ents, e.codec ≠ some (.combat ⟨true⟩) := by
  intro t ht r hr e he hc
  have := registered_combat_live ht hr he hc
  cases this

/-! ## the reactor finds the class by its id -/

/-- `PacketReactor.__init__` on a supported version.  For ANY iteration order `order` of the set
returned by `get_packets(context)`: building the dict succeeds; every registered class whose id is not
one of the known collisions (K1, `C06.knownCollisions`) is found under its id — the entry itself, hence
its name AND its codec; and whatever the dict returns under an id is a registered class with that id. -/
theorem dispatch_table_correct :
    ∀ t ∈ regTable, ∀ r ∈ t.2, r.supported = true →
      ∀ order : List RegEnt, order.Perm r.ents →
        ∃ d, reactorDict order = .ok d ∧
          (∀ e ∈ r.ents, ∀ i, e.id = some i → some i ∉ C06.knownFor t.1 r.v →
            dictGetG d i = some e) ∧
          (∀ i e, dictGetG d i = some e → e ∈ r.ents ∧ e.id = some i) := by
  intro t ht r hr hs order hperm
  have ht' := mem_idTables_of_mem ht
  have hr' : r.idRow ∈ t.2.map RegRow.idRow := List.mem_map.mpr ⟨r, hr, rfl⟩
  have htot : ∀ e ∈ order, ∃ i, e.id = some i := fun e he => by
    obtain ⟨i, hi, _⟩ := C06.ids_total_supported _ ht' r.idRow hr' hs (e.cls, e.id)
      (List.mem_map.mpr ⟨e, hperm.mem_iff.mp he, rfl⟩)
    exact ⟨i, hi⟩
  obtain ⟨ks, hk1, hk2, hk3⟩ := keyed_ok order htot
  have hmem : ∀ p ∈ ks, p.2 ∈ r.ents := fun p hp =>
    hperm.mem_iff.mp (hk2 ▸ List.mem_map.mpr ⟨p, hp, rfl⟩)
  refine ⟨buildDictG ks, by simp [reactorDict, hk1, Except.map], fun e he i hi hnk => ?_,
    fun i e hd => ?_⟩
  · have hnd : some i ∉ dupIds (r.ents.map fun e => (e.cls, e.id)) := fun hdup =>
      hnk (C06.ids_injective_except_known _ ht' r.idRow hr' hs (some i) hdup)
    have he' : e ∈ ks.map (·.2) := hk2 ▸ hperm.mem_iff.mpr he
    obtain ⟨p, hp, rfl⟩ := List.mem_map.mp he'
    have hpi : p.1 = i := by
      have := hk3 p hp; rw [hi] at this; exact (Option.some.inj this).symm
    refine dict_unique ks i p.2 (by rw [← hpi]; exact hp) (fun q hq hqi => ?_)
    exact entry_unique r.ents i hnd q.2 (hmem q hq) p.2 (hmem p hp)
      (by rw [hk3 q hq, hqi]) hi
  · have hm := dict_sound ks i e hd
    exact ⟨hmem _ hm, hk3 _ hm⟩

/-! ## the composed round trip -/

/-- A conversation of registered packets.  On a supported version of any table, for any iteration
order of the reactor's dict, any zlib and any threshold: take ANY list of instances of classes
registered for that version (ids outside the known collisions), each passing the guard `RegOK`
(values wire-representable for the class's codec under that version, frame lengths below 2^42).
`Packet.write` of all of them succeeds — each frame starts with the id `get_id(context)` of THAT
version; and for ANY segmentation of the byte stream, `read_packet` in a loop delivers, in order, for
each packet an instance of the SAME class (found through the dict by the id on the wire), whose `read`
returned the same field values (up to `norm`) and consumed its payload exactly; then end-of-stream. -/
theorem registered_stream_roundtrip (z : Zlib) (thr : Option Int) :
    ∀ t ∈ regTable, ∀ r ∈ t.2, r.supported = true →
      ∀ order : List RegEnt, order.Perm r.ents →
      ∀ ps : List RPacket,
        (∀ p ∈ ps, p.ent ∈ r.ents ∧ p.ent.id ∉ C06.knownFor t.1 r.v ∧ RegOK z.toZlibOps thr p) →
        ∃ d stream, reactorDict order = .ok d ∧ writeRegAll z.toZlibOps thr ps = .ok stream ∧
          ∀ segs : Segs, segs.flatten = stream →
            readReg z.toZlibOps thr.isSome d segs = (ps.map RPacket.expected, .eof) := by
  intro t ht r hr hs order hperm ps hps
  obtain ⟨d, hd, hfind, _⟩ := dispatch_table_correct t ht r hr hs order hperm
  have hok : ∀ p ∈ ps, RegOK z.toZlibOps thr p := fun p hp => (hps p hp).2.2
  refine ⟨d, _, hd, writeRegAll_of_ok z.toZlibOps thr ps hok, fun segs hseg => ?_⟩
  rw [readReg, C01.roundtrip_stream z thr _ (frameOK_of_ok _ thr ps hok) segs hseg,
    deliver_all _ thr d ps hok fun p hp i hi =>
      hfind p.ent (hps p hp).1 i hi (by rw [← hi]; exact (hps p hp).2.1)]

/-- The same through any cipher pair: the frames are cut into `send` calls in any way and encrypted
from context `s0`; the cipher text arrives in any segmentation and is decrypted from `s0`. -/
theorem registered_stream_roundtrip_encrypted {σ : Type} (cp : CipherPair σ) (s0 : σ) (z : Zlib)
    (thr : Option Int) :
    ∀ t ∈ regTable, ∀ r ∈ t.2, r.supported = true →
      ∀ order : List RegEnt, order.Perm r.ents →
      ∀ ps : List RPacket,
        (∀ p ∈ ps, p.ent ∈ r.ents ∧ p.ent.id ∉ C06.knownFor t.1 r.v ∧ RegOK z.toZlibOps thr p) →
        ∃ d stream, reactorDict order = .ok d ∧ writeRegAll z.toZlibOps thr ps = .ok stream ∧
          ∀ (sends : List Bytes) (segs : Segs), sends.flatten = stream →
            segs.flatten = (encSends cp.enc s0 sends).2.flatten →
            readRegEnc cp.dec s0 z.toZlibOps thr.isSome d segs = (ps.map RPacket.expected, .eof) := by
  intro t ht r hr hs order hperm ps hps
  obtain ⟨d, hd, hfind, _⟩ := dispatch_table_correct t ht r hr hs order hperm
  have hok : ∀ p ∈ ps, RegOK z.toZlibOps thr p := fun p hp => (hps p hp).2.2
  refine ⟨d, _, hd, writeRegAll_of_ok z.toZlibOps thr ps hok, fun sends segs hsends hseg => ?_⟩
  rw [readRegEnc, C01.roundtrip_encrypted cp s0 z thr _ (frameOK_of_ok _ thr ps hok) sends hsends segs
    hseg, deliver_all _ thr d ps hok fun p hp i hi =>
      hfind p.ent (hps p hp).1 i hi (by rw [← hi]; exact (hps p hp).2.1)]

/-- What `RPacket.expected` is under the guard: an instance of the packet's own class entry, read
without error, the (normalised) field values, nothing of the payload left. -/
theorem expected_of_ok (z : ZlibOps) (thr : Option Int) (p : RPacket) (h : RegOK z thr p) :
    ∃ k, p.ent.codec = some k ∧ p.expected = .known p.ent (.ok (k.norm p.val, [])) := by
  obtain ⟨_, k, f⟩ := regOK_facts z thr p h
  exact ⟨k, f.codec, by simp [RPacket.expected, f.codec]⟩

/-! ## version ↦ flags, against the live code -/

/-- The hand-written classes.  `SpyAgrees tab flagsOf log` says: `tab` (generated by running the LIVE
method on a sample packet exercising every branch, under a context that records every
`protocol_…` comparison with its arguments and result) has one row per known protocol version, in
order, and the set of comparisons recorded under version `v` is exactly `log f` where `flagsOf v =
some f` are the flags the MODEL uses for `v`.  This holds for `write_fields` AND for `read` of
`MapPacket`, `SpawnObjectPacket`, `FacePlayerPacket`, `CombatEventPacket`; so both directions branch
on the same comparisons as the model, with the thresholds 107, 452, PRE|6, 373, 364 / 49, 458, 100 /
353 / PRE|15 and the model's truth values, under every known version. -/
theorem hand_flags_live :
    (SpyAgrees C05D.mapSend mapFlagsOf mapSendLog ∧ SpyAgrees C05D.mapRead mapFlagsOf mapReadLog) ∧
    (SpyAgrees C05D.spawnSend spawnFlagsOf spawnLog ∧ SpyAgrees C05D.spawnRead spawnFlagsOf spawnLog) ∧
    (SpyAgrees C05D.faceSend faceFlagsOf faceLog ∧ SpyAgrees C05D.faceRead faceFlagsOf faceLog) ∧
    (SpyAgrees C05D.combatSend combatFlagsOf combatLog ∧
      SpyAgrees C05D.combatRead combatFlagsOf combatLog) :=
  ⟨spy_pair mapFlagsOf_of_index (by decide +kernel), spy_pair spawnFlagsOf_of_index (by decide +kernel),
    spy_pair faceFlagsOf_of_index (by decide +kernel), spy_pair combatFlagsOf_of_index (by decide +kernel)⟩

/-- `PlayerListItemPacket` and `PluginResponsePacket` perform NO version comparison at all, in either
direction, under any known version: their codecs do not depend on the version, as in the model. -/
theorem flagless_classes_live :
    SpyAgrees C05D.pliSend unitFlagsOf (fun _ => []) ∧ SpyAgrees C05D.pliRead unitFlagsOf (fun _ => []) ∧
    SpyAgrees C05D.plugSend unitFlagsOf (fun _ => []) ∧ SpyAgrees C05D.plugRead unitFlagsOf (fun _ => []) :=
  have hR : ∀ {v iv}, index liveTables v = some iv → unitFlagsOf v = some ((fun _ => ()) iv) :=
    fun hv => by simp [unitFlagsOf, hv]
  have pli := spy_pair (send := C05D.pliSend) (read := C05D.pliRead) (logS := fun _ => [])
    (logR := fun _ => []) hR (by decide +kernel)
  have plug := spy_pair (send := C05D.plugSend) (read := C05D.plugRead) (logS := fun _ => [])
    (logR := fun _ => []) hR (by decide +kernel)
  ⟨pli.1, pli.2, plug.1, plug.2⟩

/-- The hand-written classes are tied to their MODELS by behaviour, not by name only.  `BytesAgree tab`
says: `tab` (generated by running the live code) has one row per known protocol version, in order, and
under every version `v` (i) the bytes the live `write_fields` of the class produces for the sample
packet — `none` if it raises — are exactly what the model's codec for that class and version
(`handCodec tab.cls v`) writes for the same sample, and (ii) the bytes the live `write_fields` produces
for the packet the live `read` made of those bytes are exactly what the model writes for the
NORMALISED sample, i.e. for what the model's reader returns (`codec_roundtrip`).  This holds for all six
classes: version ↦ flags AND the use the code makes of the flags are pinned on the sample, for both
directions, under all known versions. -/
theorem hand_bytes_live :
    BytesAgree C05D.mapBytes ∧ BytesAgree C05D.spawnBytes ∧ BytesAgree C05D.faceBytes ∧
    BytesAgree C05D.combatBytes ∧ BytesAgree C05D.pliBytes ∧ BytesAgree C05D.plugBytes :=
  ⟨bytesAgree_of_check (flagsR := mapFlagsR) (mk := .map) (fun hv => by
      simp [show C05D.mapBytes.cls = "MapPacket" from rfl, handCodec, mapFlagsOf_of_index hv])
      (by decide +kernel),
   bytesAgree_of_check (flagsR := spawnFlagsR) (mk := .spawn) (fun hv => by
      simp [show C05D.spawnBytes.cls = "SpawnObjectPacket" from rfl, handCodec,
        spawnFlagsOf_of_index hv]) (by decide +kernel),
   bytesAgree_of_check (flagsR := faceFlagsR) (mk := .face) (fun hv => by
      simp [show C05D.faceBytes.cls = "FacePlayerPacket" from rfl, handCodec, faceFlagsOf_of_index hv])
      (by decide +kernel),
   bytesAgree_of_check (flagsR := combatFlagsR) (mk := .combat) (fun hv => by
      simp [show C05D.combatBytes.cls = "CombatEventPacket" from rfl, handCodec,
        combatFlagsOf_of_index hv]) (by decide +kernel),
   bytesAgree_of_check (flagsR := fun _ => ()) (mk := fun _ => .pli) (fun _ => by
      simp [show C05D.pliBytes.cls = "PlayerListItemPacket" from rfl, handCodec]) (by decide +kernel),
   bytesAgree_of_check (flagsR := fun _ => ()) (mk := fun _ => .plug) (fun _ => by
      simp [show C05D.plugBytes.cls = "PluginResponsePacket" from rfl, handCodec]) (by decide +kernel)⟩

/-- The spy and byte tables were recorded on the classes with the names `handCodec` dispatches on. -/
theorem spy_tables_classes :
    [C05D.mapSend, C05D.mapRead, C05D.pliSend, C05D.pliRead, C05D.spawnSend, C05D.spawnRead,
     C05D.combatSend, C05D.combatRead, C05D.faceSend, C05D.faceRead, C05D.plugSend, C05D.plugRead].map
      (·.cls) =
    ["MapPacket", "MapPacket", "PlayerListItemPacket", "PlayerListItemPacket", "SpawnObjectPacket",
     "SpawnObjectPacket", "CombatEventPacket", "CombatEventPacket", "FacePlayerPacket",
     "FacePlayerPacket", "PluginResponsePacket", "PluginResponsePacket"] ∧
    [C05D.mapBytes, C05D.pliBytes, C05D.spawnBytes, C05D.combatBytes, C05D.faceBytes,
     C05D.plugBytes].map (·.cls) = handNames := by decide

/-- The context-dependent custom types.  `customProbe` (the format WRITTEN by the live
`send_with_context` and the format ACCEPTED by the live `read_with_context` of `Position`,
`MultiBlockChangePacket.Record` and `SoundEffectPacket.Pitch`, determined from bytes) has one row per
known version, in order; in every row writer and reader agree on a known format for each type, and it
is the one given by `protocol_later_eq(443)`, `(741)`, `(201)` and `protocol_earlier(204)`.  Hence
the formats the registry fills into the layouts (`customFlagsAt`) are these, for every known version. -/
theorem custom_formats_live :
    C05D.customProbe.map (·.1) = liveTables.knownProtocols ∧
    (∀ x ∈ C05D.customProbe, ∃ fl, customFlagsOf x.1 = some fl ∧ customFlagsOfRow x.2 = some fl) ∧
    ∀ v ∈ liveTables.knownProtocols, ∃ fl, customFlagsAt v = some fl ∧ customFlagsOf v = some fl :=
  ⟨custom_probe.1, custom_probe.2, customFlagsAt_known⟩

/-! ## value-level scaling of `SoundEffectPacket.EffectPosition` and `Pitch` -/

/-- Every wire integer is reproduced: `send(read(w))` writes `w` again (`int((w / 8.0) * 8) = w`). -/
theorem effpos_exact (w : Int) : effPosWire (effPosOfWire w).1 (effPosOfWire w).2 = w := by
  show Int.tdiv (w * 8) 8 = w
  exact Int.mul_tdiv_cancel w (by decide)

/-- A coordinate `p / q` is sent as the integer `w` within one unit of `8·p/q`, truncated toward zero;
so what the peer reads, `w / 8`, differs from the coordinate by less than 1/8 and never exceeds it in
magnitude.  (`EffectPosition` is definitionally the `FixedPoint` arithmetic of `Model/Scaled.lean` with
3 fractional bits; this is `C02.fixed_quantum 3`.) -/
theorem effpos_quantum (p q : Int) (hq : 0 < q) :
    let w := effPosWire p q
    (-q < w * q - p * 8 ∧ w * q - p * 8 < q) ∧
    (0 ≤ p → 0 ≤ w ∧ w * q ≤ p * 8) ∧ (p ≤ 0 → w ≤ 0 ∧ p * 8 ≤ w * q) := by
  have h := C02.fixed_quantum 3 p q hq
  exact ⟨h.1, h.2.1, h.2.2.1⟩

/-- The `Byte` pitch (protocol < 201), scaled (`× 63.5`, protocol < 204) or not: every byte value is
reproduced by `send(read(b))` in exact arithmetic (`int((b / 63.5) * 63.5) = b`). -/
theorem pitch_byte_exact (scaled : Bool) (b : Int) :
    pitchByteWire scaled (pitchOfByte scaled b).1 (pitchOfByte scaled b).2 = b := by
  cases scaled with
  | false => show Int.tdiv b 1 = b; exact Int.tdiv_one b
  | true =>
    show Int.tdiv (b * 2 * 127) (127 * 2) = b
    have : b * 2 * 127 = b * (127 * 2) := by omega
    rw [this]
    exact Int.mul_tdiv_cancel b (by decide)

/-- A scaled pitch `p / q` is sent as the byte `w` within one unit of `63.5·p/q`, truncated toward
zero (cross-multiplied: `63.5 = 127/2`). -/
theorem pitch_byte_quantum (p q : Int) (hq : 0 < q) :
    let w := pitchByteWire true p q
    (0 ≤ p → 0 ≤ w ∧ w * (q * 2) ≤ p * 127 ∧ p * 127 < w * (q * 2) + q * 2) ∧
    (p ≤ 0 → w ≤ 0 ∧ p * 127 ≤ w * (q * 2) ∧ w * (q * 2) - q * 2 < p * 127) := by
  obtain ⟨f1, f2⟩ := fixed_tdiv (p * 127) (q * 2) (by omega)
  exact ⟨fun hp => f1 (by omega), fun hp => f2 (by omega)⟩

/-! ## non-vacuity -/

/-- four instances of classes registered in the clientbound play table under protocol 757 (1.18): a
field-list packet, a hand-written one with flags, one whose layout contains the context-dependent
`Position`, and the flag-free hand-written player list -/
def exEnt (c : String) : RegEnt := (regEnt "cbPlay" 757 c).getD ⟨"", none, none⟩

def exPackets : List RPacket :=
  [⟨exEnt "KeepAlivePacket", .fields [.int 77]⟩, ⟨exEnt "MapPacket", .map sampleMap⟩,
   ⟨exEnt "BlockChangePacket", .fields [Value.ofInts [1, 2, 3], .int 300]⟩,
   ⟨exEnt "PlayerListItemPacket", .pli samplePli⟩]

/-- the registry entries: the ids of THAT version, the `Position` format and the map flags of that
version -/
example : exEnt "KeepAlivePacket" = ⟨"KeepAlivePacket", some 0x21, some (.fields [("keep_alive_id", .int .i64)])⟩ ∧
    exEnt "BlockChangePacket" = ⟨"BlockChangePacket", some 0x0C,
      some (.fields [("location", .custom (.position true)), ("block_state_id", .varint)])⟩ ∧
    exEnt "MapPacket" = ⟨"MapPacket", some 0x27, some (.map ⟨true, true, true, true, true⟩)⟩ := by
  decide +kernel

/-- … and under protocol 340 (1.12.2): other ids, the old `Position` format, other map flags -/
example : regEnt "cbPlay" 340 "KeepAlivePacket" =
      some ⟨"KeepAlivePacket", some 0x1F, some (.fields [("keep_alive_id", .int .i64)])⟩ ∧
    regEnt "cbPlay" 340 "BlockChangePacket" = some ⟨"BlockChangePacket", some 0x0B,
      some (.fields [("location", .custom (.position false)), ("block_state_id", .varint)])⟩ ∧
    regEnt "cbPlay" 340 "MapPacket" =
      some ⟨"MapPacket", some 0x24, some (.map ⟨true, false, false, false, false⟩)⟩ ∧
    regEnt "cbPlay" 110 "SoundEffectPacket" = some ⟨"SoundEffectPacket", some 0x46,
      some (.fields [("sound_id", .varint), ("sound_category", .varint),
        ("effect_position", .custom .effectPos), ("volume", .int .f32),
        ("pitch", .custom (.pitch false true))])⟩ := by
  decide +kernel

/-- the hypotheses of `registered_stream_roundtrip` (and of `dispatch_table_correct`,
`every_registered_class_rt`) are satisfiable: the row exists, is supported, and the four packets are
registered in it, collide with nothing and pass the guard (threshold 64: the player list is
compressed, the others are not) -/
example : ∃ t ∈ regTable, ∃ r ∈ t.2, r.supported = true ∧ t.1 = "cbPlay" ∧ r.v = 757 ∧
    ∀ p ∈ exPackets, p.ent ∈ r.ents ∧ p.ent.id ∉ C06.knownFor t.1 r.v ∧
      RegOK Zlib.ident.toZlibOps (some 64) p := by
  have key : ((regRow "cbPlay" 757).map fun r => r.supported && decide (∀ p ∈ exPackets, p.ent ∈ r.ents ∧
      p.ent.id ∉ C06.knownFor "cbPlay" 757 ∧ RegOK Zlib.ident.toZlibOps (some 64) p)) = some true := by
    decide +kernel
  obtain ⟨r, hr, hk⟩ := Option.map_eq_some_iff.mp key
  rw [Bool.and_eq_true] at hk
  obtain ⟨tt, htt, ht1, hr2, hv⟩ := regRow_mem hr
  exact ⟨tt, htt, r, hr2, hk.1, ht1, hv, by rw [ht1, hv]; exact of_decide_eq_true hk.2⟩

/-- the bytes `Packet.write` produces for the four packets (threshold 64): each frame carries the id
registered for 757 — 0x21, 0x27, 0x0C, 0x36 — … -/
def exStream : Bytes :=
  [0x0a, 0x00, 0x21, 0, 0, 0, 0, 0, 0, 0, 0x4d,
   0x16, 0x00, 0x27, 3, 1, 0, 1, 1, 5, 0xff, 1, 0x0c, 1, 2, 0x68, 0x69, 2, 1, 3, 4, 2, 0xaa, 0xbb,
   0x0c, 0x00, 0x0c, 0, 0, 0, 0x40, 0, 0, 0x30, 0x02, 0xac, 0x02,
   0x25, 0x00, 0x36, 0, 1, 0, 1, 2, 3, 4, 5, 6, 7, 8, 9, 10, 11, 12, 13, 14, 15, 2, 0x61, 0x62, 1, 1,
   0x6e, 1, 0x76, 1, 1, 0x73, 1, 0x14, 1, 2, 0x68, 0x69]

example : writeRegAll Zlib.ident.toZlibOps (some 64) exPackets = .ok exStream := by decide +kernel

/-- … and the reader, with the dict built in REVERSE row order and the stream cut inside a length
prefix, inside the map body and inside the player list, delivers the four classes under their ids, each
`read` leaving 0 bytes of its payload, then end-of-stream -/
example :
    (match reactorDict ((regRow "cbPlay" 757).map (·.ents.reverse) |>.getD []) with
     | .ok d =>
       let r := readReg Zlib.ident.toZlibOps true d
         [exStream.take 1, exStream.drop 1 |>.take 20, [], exStream.drop 21 |>.take 40, exStream.drop 61]
       (r.1.map Delivered.summary, r.2)
     | .error _ => ([], .other)) =
    ([("KeepAlivePacket", some 0x21, some 0), ("MapPacket", some 0x27, some 0),
      ("BlockChangePacket", some 0x0C, some 0), ("PlayerListItemPacket", some 0x36, some 0)], .eof) := by
  decide +kernel

/-- every codec kind occurs in the registry of supported versions -/
example : (regEnt "sbLogin" 757 "PluginResponsePacket").bind (·.codec) = some .plug ∧
    (regEnt "cbPlay" 757 "PlayerListItemPacket").bind (·.codec) = some .pli ∧
    (regEnt "cbPlay" 47 "SpawnObjectPacket").bind (·.codec) = some (.spawn ⟨false, false, false⟩) ∧
    (regEnt "cbPlay" 498 "SpawnObjectPacket").bind (·.codec) = some (.spawn ⟨true, true, true⟩) ∧
    (regEnt "cbPlay" 352 "FacePlayerPacket").bind (·.codec) = some (.face ⟨false⟩) ∧
    (regEnt "cbPlay" 353 "FacePlayerPacket").bind (·.codec) = some (.face ⟨true⟩) ∧
    (regEnt "cbPlay" 754 "CombatEventPacket").bind (·.codec) = some (.combat ⟨false⟩) ∧
    regEnt "cbPlay" 755 "CombatEventPacket" = none := by
  decide +kernel

/-- a K1 version (389: `PlayerListHeaderAndFooterPacket` and `TimeUpdatePacket` share 0x4A): every
OTHER id of that version is still covered — `MapPacket`'s 0x26 is not a known collision —
while under the colliding id the class found does depend on the iteration order -/
example : some (0x26 : Int) ∉ C06.knownFor "cbPlay" 389 ∧
    (regEnt "cbPlay" 389 "MapPacket").bind (·.id) = some 0x26 ∧
    ((regRow "cbPlay" 389).map fun r =>
      ((reactorDict r.ents).toOption.bind (dictGetG · 0x4A)).map (·.cls)) = some (some "TimeUpdatePacket") ∧
    ((regRow "cbPlay" 389).map fun r =>
      ((reactorDict r.ents.reverse).toOption.bind (dictGetG · 0x4A)).map (·.cls)) =
        some (some "PlayerListHeaderAndFooterPacket") := by
  decide +kernel

/-- the registry is not trivial: 9025 (class, version) pairs in the clientbound play table, 250
supported versions -/
example : ((regTable.lookup "cbPlay").map fun rows => (rows.map (·.ents.length)).sum) = some 9025 ∧
    ((regTable.lookup "cbPlay").map fun rows => (rows.filter (·.supported)).length) = some 250 := by
  decide +kernel

/-- scaling: the coordinate 2.3 = 23/10 is sent as 18 and read back as 18/8 = 2.25; −2.3 as −18 -/
example : effPosWire 23 10 = 18 ∧ effPosWire (-23) 10 = -18 ∧ effPosOfWire 18 = (18, 8) ∧
    pitchByteWire true 1 1 = 63 ∧ pitchByteWire true 2 1 = 127 ∧ pitchOfByte true 63 = (126, 127) := by
  decide

/-! ## concrete refutations: models of CHANGED code violate the theorems above -/

/-- CHANGED CODE 1: `MapPacket.read` tests `protocol_in_range(108, PRE | 6)` where `write_fields`
tests `(107, PRE | 6)` (every C05Hand theorem still holds: they quantify over ONE flag record used by
both directions).  Under protocol 107 the writer then runs with `v107 = true` and the reader with
`v107 = false`: the sample packet, wire-representable, is not read back — the conclusion of
`every_registered_class_rt` / `codec_roundtrip` fails for the changed codec. -/
example :
    let fw : MapFlags := ⟨true, false, false, false, false⟩
    let fr : MapFlags := ⟨false, false, false, false, false⟩
    mapFlagsOf 107 = some fw ∧ MapWF fw sampleMap ∧
    ∃ bs, writeMap fw sampleMap = .ok bs ∧ readMap fr bs ≠ .ok (sampleMap.normalise fw, []) := by
  refine ⟨by decide +kernel, by decide +kernel, _, rfl, by decide +kernel⟩

/-- … and `hand_flags_live` fails on the regenerated table: the log recorded for the changed `read`
contains `protocol_in_range(108, PRE | 6)`, which is the log of NO flag record. -/
example : ∀ f : MapFlags, mapReadLog f ≠
    [(3, 364, 0, false), (3, 373, 0, false), (3, 452, 0, false), (3, PRE + 6, 0, false),
     (4, 108, PRE + 6, false)] ∧
    mapReadLog f ≠
    [(0, 107, 0, false), (3, 364, 0, false), (3, 373, 0, false), (3, 452, 0, false),
     (3, PRE + 6, 0, false), (4, 108, PRE + 6, false)] := by
  intro ⟨a, b, c, d, e⟩
  cases a <;> cases b <;> cases c <;> cases d <;> cases e <;> decide

/-- the spy check itself is refuted by a table that differs in ONE recorded argument -/
example : spyCheck { C05D.faceRead with variants := [[(3, 354, 0, false)], [(3, 354, 0, true)]] }
    (fun iv => faceLog ⟨decide (353 ≤ iv)⟩) = false := by decide +kernel

/-- CHANGED CODE 2: only the READER of `Position` is moved to `protocol_later_eq(477)`
(`basic.py:322`; audit item 6).  On the 34 versions 443–476 the regenerated `customProbe` row is
`[1, 0, …]` (written x,z,y; accepted x,y,z): it has no flags, so `custom_formats_live` fails, the
registry has no codec for `BlockChangePacket` there and `every_registered_class_rt` fails; and indeed
the two formats do not round-trip. -/
example : customFlagsOfRow [1, 0, 0, 0, 1, 1, 0, 0] = none ∧
    (match encode realCustom (.custom (.position true)) (Value.ofInts [1, 2, 3]) with
     | .ok bs => (decode realCustom (.custom (.position false)) bs).toOption.map
         (fun r => decide (WellTyped realDom (.custom (.position true)) r.1 ∧ r.2 = []) &&
           (r.1.ints? == some [1, 2, 3]))
     | .error _ => none) = some false := by
  decide +kernel

/-- CHANGED CODE 3: the reactor's dict is built for another version than the one the peer writes with
(e.g. the reactor created before the negotiated version is stored in the context).  A server speaking
340 sends `ResourcePackSendPacket` (id 0x34 there); a dict built for 757 delivers it as
`EnterCombatEventPacket` whose `read` leaves the whole payload unread — `registered_stream_roundtrip`
demands the same class and 0 bytes left. -/
example :
    (match regEnt "cbPlay" 340 "ResourcePackSendPacket", (regRow "cbPlay" 757).map (reactorDict ·.ents) with
     | some e, some (.ok d) =>
       let p : RPacket := ⟨e, .fields [.str "u", .str "h"]⟩
       (match writeReg Zlib.ident.toZlibOps none p with
        | .ok stream => (readReg Zlib.ident.toZlibOps false d [stream]).1.map Delivered.summary
        | .error _ => [])
     | _, _ => []) = [("EnterCombatEventPacket", some 0x34, some 4)] := by
  decide +kernel

/-- CHANGED CODE 4: `read_packet` without `packet.context = self.connection.context` (the line
`connection.py:709`): `self.definition` is `None` and `Packet.read` raises `TypeError` for every
field-list class.  The model of that reader delivers `.error .type` where the theorem demands the
values: refuted on the first packet of the example conversation. -/
def deliverNoContext (dict : List (Int × RegEnt)) (raw : Nat × Bytes) : Delivered :=
  match dictGetG dict (raw.1 : Int) with
  | some e =>
    .known e (match e.codec with
      | some (.fields _) => .error .type
      | some k => k.read raw.2
      | none => .error .other)
  | none => .unknown raw.1

example :
    (match (regRow "cbPlay" 757).map (reactorDict ·.ents) with
     | some (.ok d) => ((readAll Zlib.ident.toZlibOps true [exStream]).1.map (deliverNoContext d)).map
         Delivered.summary
     | _ => []) ≠ (exPackets.map RPacket.expected).map Delivered.summary := by
  decide +kernel

end PyCraft.C05Dispatch
