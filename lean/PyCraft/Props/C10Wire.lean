import PyCraft.Lemmas.LoginWire
import PyCraft.Props.C10
import PyCraft.Props.C01
/-!
# C10 on the wire — the login switch to encryption/compression, byte by byte

Refines property C10 ("… switches both directions to encrypted immediately after that reply, applies
the announced compression threshold to everything that follows …") from the mode FLAGS recorded in
`ClientState.outbox` (`Props/C10.lean`) to the BYTES the real socket is handed
(`LoginWire.wireBytes`, `Model/LoginWire.lean`) and to what an independent reference server
(`LoginWire.serverRecover`) gets out of them.

Everything is quantified over ALL login parameters `P`, ALL step lists (`exec P .init steps`: every
order/choice of server packets, every placement of the write phases), every zlib, every block
function, every packet-id pair and every segmentation of the byte stream into arrivals.

* client: an outbox entry is framed with the threshold recorded in it (`frame`, C01/C07/C08), the
  two `send` chunks of a frame written while the cipher was on go through ONE CFB8 encryptor
  (register initially = the shared secret, C18) that is carried from frame to frame;
* server: C01's reader (`readPacketK` = `read_packet`), one call per frame with the compression
  flag that was in force for that frame; behind the frame that is the encryption response it
  RSA-decrypts the first byte array with its private key, takes the result as key AND initial
  register of a CFB8 decryptor, and continues on the segments it has not read yet.
  Because the flag is per frame, no splitting of the outbox into runs of equal
  (encrypted, threshold) is needed: `roundtrip_stream`'s per-frame core
  (`parsePacket_packetFrame`) is applied frame by frame, every run boundary being a frame boundary.
  `parts_read_by_readAll` restates the result with C01's whole-stream readers `readAll` /
  `readAllEnc` when each of the two parts has ONE compression mode.

`FrameOK` is C01's VarInt guard (id and the two lengths `< 2^42`).  `P.rsa.matching pk priv` says
the server holds the private key of the public key it sent.

Only property theorems and non-vacuity examples live here; helper lemmas and the concrete example
parameters are in `Lemmas/LoginWire.lean`.
-/
namespace PyCraft.C10Wire
open PyCraft PyCraft.Login PyCraft.LoginWire

/-- The bytes on the wire are: the PLAINTEXT frames of the outbox entries up to AND INCLUDING the
first encryption response, followed by the CFB8 encryption — one continuous stream, register
initially the shared secret — of the frames of ALL later entries; and that cut is exactly the
cut between the entries flagged unencrypted and those flagged encrypted.  If no encryption
response was written everything is plaintext.  For every run, every zlib (no law needed), every
block function. -/
theorem wire_prefix_plain_suffix_cipher (P : LoginParams) (steps : List Step) (z : ZlibOps)
    (E : Bytes → Bytes) (ids : Ids) :
    let outbox := (exec P .init steps).outbox
    let plainPart := (splitAtEncResp outbox).1
    let cipherPart := (splitAtEncResp outbox).2
    wireBytes z E P.secret ids outbox =
        (plainPart.map (frameOfSent z ids)).flatten ++
          (cfb8Enc E P.secret (cipherPart.map (frameOfSent z ids)).flatten).2 ∧
      plainPart ++ cipherPart = outbox ∧
      (∀ f ∈ plainPart, f.encrypted = false) ∧ (∀ f ∈ cipherPart, f.encrypted = true) ∧
      ((∀ f ∈ outbox, isEncResp f.pkt = false) → plainPart = outbox ∧ cipherPart = []) ∧
      ((∃ f ∈ outbox, isEncResp f.pkt = true) →
        ∃ before x, plainPart = before ++ [x] ∧ isEncResp x.pkt = true ∧
          ∀ f ∈ before, isEncResp f.pkt = false) := by
  intro outbox plainPart cipherPart
  have hinv := wireInv_exec P steps
  obtain ⟨f1, f2⟩ := split_flags outbox hinv.sw
  obtain ⟨s1, s2⟩ := split_shape outbox
  refine ⟨wireGo_split z E ids outbox P.secret hinv.sw, splitAtEncResp_append outbox, f1, f2, ?_, ?_⟩
  · intro h; exact s1 (hasEncResp_false outbox h)
  · rintro ⟨f, hf, hfe⟩
    have : hasEncResp outbox = true := List.any_eq_true.mpr ⟨f, hf, hfe⟩
    obtain ⟨before, x, h1, h2, h3⟩ := s2 this
    refine ⟨before, x, h1, h2, ?_⟩
    intro g hg
    simp only [hasEncResp, List.any_eq_false] at h3
    simpa using h3 g hg

/-- The same in the vocabulary of `C10.enc_reply_then_encrypted` (which the proof uses): when the
first encryption request is reached after `pre`, the wire of any continuation is the plaintext
frames of everything written before, then the PLAINTEXT frame of the reply carrying
RSA(secret), RSA(token) (framed with the threshold in force at that moment), then the CFB8
encryption (register = secret) of whatever is written afterwards, as one stream. -/
theorem wire_switch_at_reply (P : LoginParams) (pre post : List Step) (sid : String)
    (pk tok : Bytes) (z : ZlibOps) (E : Bytes → Bytes) (ids : Ids)
    (hpre : ∀ e ∈ events pre, e.isTerminal = false)
    (hfirst : ∀ e ∈ events pre, e.isEncRequest = false) :
    let s0 := exec P .init pre
    let s2 := exec P .init (pre ++ .recv (.encRequest sid pk tok) :: post)
    let reply : ClientPkt := .encResp (P.rsa.enc pk P.secret) (P.rsa.enc pk tok)
    ∃ later, s2.outbox = s0.outbox ++ ⟨reply, false, s0.threshold, true⟩ :: later ∧
      (∀ f ∈ later, f.encrypted = true) ∧
      wireBytes z E P.secret ids s2.outbox =
        (s0.outbox.map (frameOfSent z ids)).flatten ++
          (frame z s0.threshold (payloadOf ids reply) ++
            (cfb8Enc E P.secret (later.map (frameOfSent z ids)).flatten).2) := by
  intro s0 s2 reply
  obtain ⟨h1, -, hplain, -, -, later, hl, hlat⟩ :=
    C10.enc_reply_then_encrypted P pre post sid pk tok hpre
  obtain ⟨he0, hp0⟩ := hplain hfirst
  have hob : s2.outbox = s0.outbox ++ ⟨reply, false, s0.threshold, true⟩ :: later := by
    show (exec P .init (pre ++ .recv (.encRequest sid pk tok) :: post)).outbox = _
    rw [hl, h1, he0, List.append_assoc]; rfl
  refine ⟨later, hob, hlat, ?_⟩
  show (wireGo z E ids P.secret s2.outbox).flatten = _
  rw [hob, wireGo_plain_append z E ids _ _ _ hp0, wireGo_plain_cons z E ids _ _ _ rfl,
    wireGo_enc z E ids later _ hlat]
  rfl

/-- The reference server recovers the outbox.  Let the byte stream `wireBytes` of ANY run arrive in
ANY segmentation at a server that holds the private key of every public key it sent; then the
server — reading plaintext frames, switching to CFB8 decryption (key and register = what RSA gives
it from the encryption response) exactly behind the encryption response, and using for each frame
the compression flag in force for it — delivers exactly `(id, field bytes)` of every outbox entry,
in order: nothing lost, merged, split or reordered across the cipher switch or across a threshold
change; it raises nothing, leaves no byte unread, and the key it ends up with is the client's
secret iff an encryption response was written. -/
theorem server_recovers_outbox (P : LoginParams) (steps : List Step) (z : Zlib)
    (EK : Bytes → Bytes → Bytes) (ids : Ids) (priv : Bytes) (segs : Segs)
    (hids : ids.encResp ≠ ids.plugResp)
    (hkey : ∀ sid pk tok, LoginEv.encRequest sid pk tok ∈ events steps → P.rsa.matching pk priv)
    (hok : ∀ f ∈ (exec P .init steps).outbox, FrameOK z.toZlibOps f.threshold (wirePkt ids f))
    (hseg : segs.flatten =
      wireBytes z.toZlibOps (EK P.secret) P.secret ids (exec P .init steps).outbox) :
    let outbox := (exec P .init steps).outbox
    let r := serverRecover z.toZlibOps EK (P.rsa.dec priv) ids.encResp (modesOf outbox) segs
    r.packets = outbox.map (wirePkt ids) ∧ r.err = none ∧ r.rest = [] ∧
      r.key = if outbox.any (fun f => isEncResp f.pkt) then some P.secret else none := by
  intro outbox r
  have hinv := wireInv_exec P steps
  have := recvPlain_outbox z EK (P.rsa.dec priv) P.secret ids hids outbox (Sock.plain segs)
    hinv.sw hok (outbox_key P steps priv hkey) hseg
  have hr : r = ⟨outbox.map (wirePkt ids), if hasEncResp outbox then some P.secret else none,
      none, []⟩ := this
  rw [hr]; exact ⟨rfl, rfl, rfl, rfl⟩

/-- Key agreement, read off the wire.  When the first encryption request (public key `pk`, token
`tok`) is reached after `pre` and the server holds the matching private key, then in the server's
run on the bytes of any continuation: the packet it delivers at the position of the reply has the
encryption-response id and fields that parse (`VarIntPrefixedByteArray` twice) to two arrays
`a`, `b`; RSA-decrypting `a` gives the client's secret — the very key (and initial register) the
client's encryptor uses in `wireBytes` — and it is the key the server switches to; decrypting `b`
gives back the server's token; and with that key the server delivers the whole outbox. -/
theorem server_key_agreement (P : LoginParams) (pre post : List Step) (sid : String)
    (pk tok priv : Bytes) (z : Zlib) (EK : Bytes → Bytes → Bytes) (ids : Ids) (segs : Segs)
    (hpre : ∀ e ∈ events pre, e.isTerminal = false)
    (hfirst : ∀ e ∈ events pre, e.isEncRequest = false)
    (hm : P.rsa.matching pk priv) (hids : ids.encResp ≠ ids.plugResp)
    (hok : ∀ f ∈ (exec P .init (pre ++ .recv (.encRequest sid pk tok) :: post)).outbox,
      FrameOK z.toZlibOps f.threshold (wirePkt ids f))
    (hseg : segs.flatten = wireBytes z.toZlibOps (EK P.secret) P.secret ids
      (exec P .init (pre ++ .recv (.encRequest sid pk tok) :: post)).outbox) :
    let s0 := exec P .init pre
    let s2 := exec P .init (pre ++ .recv (.encRequest sid pk tok) :: post)
    let r := serverRecover z.toZlibOps EK (P.rsa.dec priv) ids.encResp (modesOf s2.outbox) segs
    ∃ fields a b, r.packets[s0.outbox.length]? = some (ids.encResp, fields) ∧
      decodeEncResp fields = .ok (a, b) ∧
      a = P.rsa.enc pk P.secret ∧ b = P.rsa.enc pk tok ∧
      P.rsa.dec priv a = P.secret ∧ P.rsa.dec priv b = tok ∧
      r.key = some (P.rsa.dec priv a) ∧
      r.packets = s2.outbox.map (wirePkt ids) ∧ r.err = none ∧ r.rest = [] := by
  intro s0 s2 r
  obtain ⟨later, hob, -, -⟩ :=
    wire_switch_at_reply P pre post sid pk tok z.toZlibOps (EK P.secret) ids hpre hfirst
  have hob : s2.outbox = s0.outbox ++
      ⟨.encResp (P.rsa.enc pk P.secret) (P.rsa.enc pk tok), false, s0.threshold, true⟩ :: later :=
    hob
  have hinv2 := wireInv_exec P (pre ++ .recv (.encRequest sid pk tok) :: post)
  have hinv0 := wireInv_exec P pre
  have he0 : s0.encrypted = false := (exec_plain P .init pre hfirst).1
  have hno : hasEncResp s0.outbox = false := by rw [← hinv0.enc]; exact he0
  have hfst : firstEncResp s2.outbox = some (P.rsa.enc pk P.secret, P.rsa.enc pk tok) := by
    rw [hob]; exact firstEncResp_append _ _ _ _ _ hno rfl
  have hsec := P.rsa.law pk priv P.secret hm
  have htok := P.rsa.law pk priv tok hm
  have hk : ∀ a b, firstEncResp s2.outbox = some (a, b) → P.rsa.dec priv a = P.secret := by
    intro a b hab
    rw [hfst] at hab
    cases hab
    exact hsec
  have hrun := recvPlain_outbox z EK (P.rsa.dec priv) P.secret ids hids s2.outbox
    (Sock.plain segs) hinv2.sw hok hk hseg
  have hr : r = ⟨s2.outbox.map (wirePkt ids), if hasEncResp s2.outbox then some P.secret else none,
      none, []⟩ := hrun
  have hhas : hasEncResp s2.outbox = true := by rw [hasEncResp_iff_first, hfst]; rfl
  have hreply : FrameOK z.toZlibOps s0.threshold
      (ids.encResp, fieldsOf (.encResp (P.rsa.enc pk P.secret) (P.rsa.enc pk tok))) :=
    hok ⟨.encResp (P.rsa.enc pk P.secret) (P.rsa.enc pk tok), false, s0.threshold, true⟩
      (by rw [hob]; simp)
  obtain ⟨ha, hb⟩ := frameOK_encResp _ _ _ _ _ hreply
  refine ⟨fieldsOf (.encResp (P.rsa.enc pk P.secret) (P.rsa.enc pk tok)), P.rsa.enc pk P.secret,
    P.rsa.enc pk tok, ?_, decodeEncResp_fields _ _ ha hb, rfl, rfl, hsec, htok, ?_, ?_, ?_, ?_⟩
  · rw [hr]
    show (s2.outbox.map (wirePkt ids))[s0.outbox.length]? = _
    rw [hob, List.map_append, List.getElem?_append_right (by simp)]
    simp [wirePkt, pktId]
  · rw [hr, hsec]; simp [hhas]
  · rw [hr]
  · rw [hr]
  · rw [hr]

/-- Every packet the reactor writes has a shape `write_fields` accepts (a successful plugin
response always carries data), so `fieldsOf`/`wireBytes` never describe a write that would have
raised. -/
theorem outbox_packets_writable (P : LoginParams) (steps : List Step) :
    (∀ f ∈ (exec P .init steps).outbox, writable f.pkt = true) ∧
      ∀ p ∈ (exec P .init steps).queue, writable p = true :=
  ⟨(wireInv_exec P steps).wr, fun p hp => ((wireInv_exec P steps).queue p hp).2⟩

/-- With C01's whole-stream readers.  If every frame up to and including the encryption response
was written under one threshold `t1` and every later frame under one threshold `t2` (e.g. the
usual order "encryption, then set-compression before anything else is written"; any `t1`, `t2`),
cut the wire behind the plaintext frames: `readAll` (compression on iff `t1` is set) on ANY
segmentation of the first part delivers exactly the plaintext entries and then end-of-stream, and
`readAllEnc` through the CFB8 decryptor with register = secret (compression on iff `t2` is set) on
ANY segmentation of the second part delivers exactly the remaining entries and then
end-of-stream.  (`C01.roundtrip_stream` / `C01.roundtrip_encrypted` applied to the two parts; the
boundary between the parts is a frame boundary.) -/
theorem parts_read_by_readAll (P : LoginParams) (steps : List Step) (z : Zlib)
    (E : Bytes → Bytes) (ids : Ids) (t1 t2 : Option Int) (segs1 segs2 : Segs)
    (hok : ∀ f ∈ (exec P .init steps).outbox, FrameOK z.toZlibOps f.threshold (wirePkt ids f))
    (ht1 : ∀ f ∈ (splitAtEncResp (exec P .init steps).outbox).1, f.threshold = t1)
    (ht2 : ∀ f ∈ (splitAtEncResp (exec P .init steps).outbox).2, f.threshold = t2)
    (hs1 : segs1.flatten = (wireBytes z.toZlibOps E P.secret ids (exec P .init steps).outbox).take
      (((splitAtEncResp (exec P .init steps).outbox).1.map
        (frameOfSent z.toZlibOps ids)).flatten.length))
    (hs2 : segs2.flatten = (wireBytes z.toZlibOps E P.secret ids (exec P .init steps).outbox).drop
      (((splitAtEncResp (exec P .init steps).outbox).1.map
        (frameOfSent z.toZlibOps ids)).flatten.length)) :
    readAll z.toZlibOps t1.isSome segs1 =
        ((splitAtEncResp (exec P .init steps).outbox).1.map (wirePkt ids), .eof) ∧
      readAllEnc (cfb8DecX E) P.secret z.toZlibOps t2.isSome segs2 =
        ((splitAtEncResp (exec P .init steps).outbox).2.map (wirePkt ids), .eof) := by
  have hw' : wireBytes z.toZlibOps E P.secret ids (exec P .init steps).outbox = _ :=
    wireGo_split z.toZlibOps E ids _ P.secret (wireInv_exec P steps).sw
  have happ' := splitAtEncResp_append (exec P .init steps).outbox
  generalize (splitAtEncResp (exec P .init steps).outbox).1 = pl at *
  generalize (splitAtEncResp (exec P .init steps).outbox).2 = ci at *
  rw [hw', List.take_left] at hs1
  rw [hw', List.drop_left] at hs2
  have hfr : ∀ (l : List Sent) (t : Option Int), (∀ f ∈ l, f.threshold = t) →
      l.map (frameOfSent z.toZlibOps ids) =
        (l.map (wirePkt ids)).map (packetFrame z.toZlibOps t) := by
    intro l t ht
    rw [List.map_map]
    apply List.map_congr_left
    intro f hf
    show frameOfSent z.toZlibOps ids f = packetFrame z.toZlibOps t (wirePkt ids f)
    rw [frameOfSent_eq, ht f hf]
  have hokl : ∀ (l : List Sent) (t : Option Int), (∀ f ∈ l, f.threshold = t) →
      (∀ f ∈ l, f ∈ (exec P .init steps).outbox) →
      ∀ p ∈ l.map (wirePkt ids), FrameOK z.toZlibOps t p := by
    intro l t ht hsub p hp
    obtain ⟨f, hf, rfl⟩ := List.mem_map.mp hp
    rw [← ht f hf]; exact hok f (hsub f hf)
  constructor
  · apply C01.roundtrip_stream z t1 _ (hokl pl t1 ht1 fun f hf => by rw [← happ']; simp [hf])
    rw [hs1, hfr pl t1 ht1]
  · apply C01.roundtrip_encrypted (cfb8Pair E) P.secret z t2 _
      (hokl ci t2 ht2 fun f hf => by rw [← happ']; simp [hf])
      [(ci.map (frameOfSent z.toZlibOps ids)).flatten]
    · rw [hfr ci t2 ht2]; simp
    · rw [hs2]
      simp only [encSends, List.flatten_cons, List.flatten_nil, List.append_nil]
      rfl

/-- Negative witness: the statement is sensitive to the switch point.  On the concrete run
"compress 64 → encrypt → plugin request → success" (store-only zlib, a toy block function) the
reference server recovers the outbox from the client's wire — but had the client installed the
cipher ONE FRAME EARLIER (the encryption response itself written through the wrapper,
`earlySwitch`) or ONE FRAME LATER (the plugin response still in plaintext, `lateSwitch`), the
same server would not: it delivers something else and stops with an exception. -/
theorem wrong_switch_point_detected :
    let outbox := (runLogin demoParams 1 demoScript).outbox
    let want := outbox.map (wirePkt demoIds)
    (demoServer (modesOf outbox) [demoWire outbox]).packets = want ∧
      (demoServer (modesOf outbox) [demoWire outbox]).err = none ∧
      (demoServer (modesOf outbox) [demoWire (earlySwitch outbox)]).packets ≠ want ∧
      (demoServer (modesOf outbox) [demoWire (earlySwitch outbox)]).err ≠ none ∧
      (demoServer (modesOf outbox) [demoWire (lateSwitch outbox)]).packets ≠ want ∧
      (demoServer (modesOf outbox) [demoWire (lateSwitch outbox)]).err ≠ none := by
  decide +kernel

/-! ### Non-vacuity: concrete runs (kernel-evaluated) -/

/-- compress 64 → encrypt → plugin request → success: the outbox, … -/
example : (runLogin demoParams 1 demoScript).outbox =
    [⟨.encResp [7, 1, 2, 3] [7, 9], false, some 64, true⟩,
     ⟨.plugResp 5 false none, true, some 64, false⟩] := by decide +kernel

/-- … its wire: `0a | 00 | 01 | 04 07010203 | 02 0709` is the PLAINTEXT compressed-format frame of
the encryption response (length 10, data-length 0 = not compressed, id 1, the two prefixed
arrays); the rest is the CFB8 encryption (register = secret) of the frame `04 | 00 | 02 | 05 00`
of the plugin response (length 4, data-length 0, id 2, message id 5, successful = false), … -/
example : demoWire (runLogin demoParams 1 demoScript).outbox =
    [0x0a, 0x00, 0x01, 0x04, 0x07, 0x01, 0x02, 0x03, 0x02, 0x07, 0x09] ++
      (cfb8Enc (toyEK [1, 2, 3]) [1, 2, 3] [0x04, 0x00, 0x02, 0x05, 0x00]).2 := by decide +kernel

/-- … and what the server gets from it, the ciphertext arriving byte by byte. -/
example :
    demoServer [true, true]
      ([[0x0a, 0x00, 0x01], [0x04, 0x07, 0x01, 0x02, 0x03, 0x02, 0x07, 0x09]] ++
        ((cfb8Enc (toyEK [1, 2, 3]) [1, 2, 3] [0x04, 0x00, 0x02, 0x05, 0x00]).2.map fun b => [b])) =
    { packets := [(1, [4, 7, 1, 2, 3, 2, 7, 9]), (2, [5, 0])], key := some [1, 2, 3], err := none,
      rest := [] } := by decide +kernel

/-- A run in one batch with a plugin request BEFORE the encryption request (the forced reply
overtakes the queued answer), a threshold set after the switch and a compressed-framed frame:
three different (encrypted, threshold) modes in one outbox. -/
example : (runLogin demoParams 50 demoScript2).outbox =
    [⟨.encResp [7, 1, 2, 3] [7, 9], false, none, true⟩,
     ⟨.plugResp 300 false none, true, some 1, false⟩,
     ⟨.plugResp 5 false none, true, some 1, false⟩] := by decide +kernel

/-- The hypotheses of `server_recovers_outbox` are satisfiable by that run (distinct ids, matching
keys, VarInt guard, a segmentation into three arrivals cutting through frames and through the
cipher switch), and its conclusion evaluated by the kernel. -/
example :
    let outbox := (runLogin demoParams 50 demoScript2).outbox
    let w := demoWire outbox
    (demoServer (modesOf outbox) [w.take 3, w.drop 3 |>.take 9, w.drop 12]).packets =
      outbox.map (wirePkt demoIds) :=
  (server_recovers_outbox demoParams (schedule 50 demoScript2) Zlib.ident toyEK demoIds []
    _ (by decide) (fun _ _ _ _ => trivial) (by decide +kernel) (by decide +kernel)).1

example :
    (demoServer (modesOf (runLogin demoParams 50 demoScript2).outbox)
      [demoWire (runLogin demoParams 50 demoScript2).outbox]) =
    { packets := [(1, [4, 7, 1, 2, 3, 2, 7, 9]), (2, [0xac, 0x02, 0]), (2, [5, 0])],
      key := some [1, 2, 3], err := none, rest := [] } := by decide +kernel

/-- Hypotheses of `wire_switch_at_reply` / `server_key_agreement`: a prefix without terminal event
and without encryption request that nevertheless writes a frame. -/
example : (∀ e ∈ events [.recv (.pluginRequest 300 "a" []), .flush, .recv (.setCompression 1)],
      e.isTerminal = false) ∧
    (∀ e ∈ events [.recv (.pluginRequest 300 "a" []), .flush, .recv (.setCompression 1)],
      e.isEncRequest = false) ∧
    (exec demoParams .init
      [.recv (.pluginRequest 300 "a" []), .flush, .recv (.setCompression 1)]).outbox.length = 1 := by
  decide +kernel

/-- Hypotheses of `parts_read_by_readAll`: in the first demo run each part has one threshold. -/
example :
    (∀ f ∈ (splitAtEncResp (runLogin demoParams 1 demoScript).outbox).1, f.threshold = some 64) ∧
    (∀ f ∈ (splitAtEncResp (runLogin demoParams 1 demoScript).outbox).2, f.threshold = some 64) ∧
    (splitAtEncResp (runLogin demoParams 1 demoScript).outbox).2 ≠ [] := by decide +kernel

/-- The VarInt guard holds for the demo outbox. -/
example : ∀ f ∈ (runLogin demoParams 1 demoScript).outbox,
    FrameOK Zlib.ident.toZlibOps f.threshold (wirePkt demoIds f) := by decide +kernel

end PyCraft.C10Wire
