import PyCraft.Lemmas.C19Json
import PyCraft.Lemmas.C19Seq
import PyCraft.Ref.Yggdrasil
/-!
# C19 — operation SEQUENCES, the HTTP request as posted, the exception as raised,
# arbitrary JSON values in replies

Model: `Model/C19Seq.lean` (`AuthSeq`), `Model/C19Json.lean` (`json.dumps`).  References written
independently of the code: `Ref/C19Json.lean` (an RFC 8259 decoder), `Ref/Yggdrasil.lean` (the
published API).  `run op net t = (token afterwards, outcome, request passed to requests.post)`;
`net : Request → Resp` is the network.

Each group of theorems is followed by changed versions of the code that every statement of
`Props/C19.lean` still holds of (`requests.put`, no headers, `data=data`, `ensure_ascii=False`, no
`exception.args`, no raw text, a class-level profile), as alternative definitions in
`namespace Changed`, each refuted against the SAME statement.  (Item 23 of `docs/audit_report.md`.)
-/
namespace PyCraft.C19Seq
open PyCraft PyCraft.Json PyCraft.AuthSeq PyCraft.Ref.Json
open PyCraft.Ref
open PyCraft.Ref.Yggdrasil (OpKind)

/-! ## 1. "posts … JSON": method, headers, body -/

/-- The reference decoder reads back exactly the value the `json.dumps` model was applied to: for
every JSON value (any nesting, any string, any integer). -/
theorem json_decodes_back (v : JVal) : parseJson (jsonDumps v) = some v :=
  parseJson_jsonDumps v

/-- The text `json.dumps` produces consists of printable ASCII characters only (`' '`…`'~'`).  (So
its bytes are the same under ASCII, Latin-1 — what `http.client` uses for a `str` body — and UTF-8;
that consequence is not part of the statement.) -/
theorem json_is_printable_ascii (v : JVal) :
    ∀ c ∈ (jsonDumps v).toList, 0x20 ≤ c.toNat ∧ c.toNat ≤ 0x7e := by
  intro c hc
  rw [jsonDumps, String.toList_ofList] at hc
  exact allPrintable_dumps v c hc

/-- What `_make_request` must do, as a statement about ANY implementation `mk` of it: an HTTP
`POST` (the documented method) to `server + "/" + endpoint`, with exactly one header,
`content-type: application/json` (the documented type), a 15 s timeout, and a body that an
RFC 8259 decoder reads as exactly `data` and that is printable ASCII. -/
def MakeRequestSpec (mk : String → String → JVal → Request) : Prop :=
  ∀ (server endpoint : String) (data : JVal),
    (mk server endpoint data).method = Yggdrasil.httpMethod ∧
    (mk server endpoint data).headers = [("content-type", Yggdrasil.contentType)] ∧
    (mk server endpoint data).url = server ++ "/" ++ endpoint ∧
    (mk server endpoint data).timeout = 15 ∧
    parseJson (mk server endpoint data).body = some data ∧
    ∀ c ∈ (mk server endpoint data).body.toList, 0x20 ≤ c.toNat ∧ c.toNat ≤ 0x7e

/-- `_make_request` does that. -/
theorem make_request_spec : MakeRequestSpec makeRequest := by
  intro server endpoint data
  exact ⟨rfl, rfl, rfl, rfl, json_decodes_back data, json_is_printable_ascii data⟩

/-- The documented operation a method implements. -/
def kind : Op → OpKind
  | .authenticate .. => .authenticate
  | .refresh => .refresh
  | .validate => .validate
  | .invalidate => .invalidate
  | .join _ => .join

/-- Every request any method ever passes to `requests.post` — for every token (attributes of any
JSON type), every network — is a `POST` to the documented URL of that operation with the single
header `content-type: application/json`, timeout 15, and a printable-ASCII body that is the
`json.dumps` of some value and decodes (RFC 8259) to that value. -/
theorem request_is_documented_post (op : Op) (net : Request → Resp) (t : Token) (q : Request)
    (h : (run op net t).2.2 = some q) :
    q.method = Yggdrasil.httpMethod ∧
    q.headers = [("content-type", Yggdrasil.contentType)] ∧
    q.url = Yggdrasil.url (kind op) ∧
    q.timeout = 15 ∧
    (∃ payload, q.body = jsonDumps payload ∧ parseJson q.body = some payload) ∧
    ∀ c ∈ q.body.toList, 0x20 ≤ c.toNat ∧ c.toNat ≤ 0x7e := by
  rw [run_request, requestOf_eq] at h
  split at h
  · cases h
    obtain ⟨h1, h2, h3, h4, h5, h6⟩ := make_request_spec (target op).1 (target op).2 (payloadOf op t)
    have hu : (target op).1 ++ "/" ++ (target op).2 = Yggdrasil.url (kind op) := by
      cases op <;> (simp only [target, kind]; decide)
    exact ⟨h1, h2, h3.trans hu, h4, ⟨_, rfl, h5⟩, h6⟩
  · cases h

/-- The same for the static `sign_out`. -/
theorem sign_out_is_documented_post (net : Request → Resp) (user pass : String) :
    let q := (signOut net user pass).2
    q.method = Yggdrasil.httpMethod ∧
    q.headers = [("content-type", Yggdrasil.contentType)] ∧
    q.url = Yggdrasil.url .signout ∧
    q.timeout = 15 ∧
    parseJson q.body = some (.obj [("username", .str user), ("password", .str pass)]) := by
  simp only [signOut_snd]
  obtain ⟨h1, h2, _, h4, h5, _⟩ := make_request_spec AUTH_SERVER "signout"
    (.obj [("username", .str user), ("password", .str pass)])
  exact ⟨h1, h2, by show AUTH_SERVER ++ "/" ++ "signout" = Yggdrasil.url .signout; decide, h4, h5⟩

/-- WHEN a request is sent, and WHAT an RFC 8259 decoder finds in its body, per method; token
attributes may hold any JSON value (`null` = `None`) and are sent as they are.

* `authenticate`: always; `agent = {name: "Minecraft", version: 1}`, `username`, `password` and —
  only when `invalidate_previous` is false — `clientToken`: the stored one if it is truthy, else the
  fresh uuid.
* `refresh`: iff access token and client token are not `None`; both.
* `validate`: iff the access token is not `None`; it alone.
* `invalidate`: always; both tokens (`null` when `None`).
* `join`: iff the token is authenticated; `accessToken`, `selectedProfile = {id, name}`, `serverId`. -/
theorem posted_payload (net : Request → Resp) (t : Token) :
    (∀ fresh user pass inv, ∃ q,
      (run (.authenticate fresh user pass inv) net t).2.2 = some q ∧
      parseJson q.body = some (.obj (
        [("agent", .obj [("name", .str "Minecraft"), ("version", .num 1)]),
         ("username", .str user), ("password", .str pass)] ++
        if inv then []
        else [("clientToken", if t.clientToken.truthy then t.clientToken else .str fresh)]))) ∧
    (if t.accessToken = .null ∨ t.clientToken = .null then (run .refresh net t).2.2 = none
     else ∃ q, (run .refresh net t).2.2 = some q ∧ parseJson q.body =
        some (.obj [("accessToken", t.accessToken), ("clientToken", t.clientToken)])) ∧
    (if t.accessToken = .null then (run .validate net t).2.2 = none
     else ∃ q, (run .validate net t).2.2 = some q ∧ parseJson q.body =
        some (.obj [("accessToken", t.accessToken)])) ∧
    (∃ q, (run .invalidate net t).2.2 = some q ∧ parseJson q.body =
        some (.obj [("accessToken", t.accessToken), ("clientToken", t.clientToken)])) ∧
    (∀ sid, if authenticated t = false then (run (.join sid) net t).2.2 = none
     else ∃ q, (run (.join sid) net t).2.2 = some q ∧ parseJson q.body =
        some (.obj [("accessToken", t.accessToken),
                    ("selectedProfile", .obj [("id", t.profile.id_), ("name", t.profile.name)]),
                    ("serverId", .str sid)])) := by
  have posted : ∀ op, ready op t = true →
      ∃ q, (run op net t).2.2 = some q ∧ parseJson q.body = some (payloadOf op t) :=
    fun op h => ⟨makeRequest (target op).1 (target op).2 (payloadOf op t),
      by rw [run_request, requestOf_of_ready op t h], json_decodes_back _⟩
  have silent : ∀ op, ¬ ready op t = true → (run op net t).2.2 = none :=
    fun op h => by rw [run_request, requestOf_eq, if_neg h]
  refine ⟨?_, ?_, ?_, posted .invalidate rfl, ?_⟩
  · intro fresh user pass inv
    obtain ⟨q, hq, hb⟩ := posted (.authenticate fresh user pass inv) rfl
    refine ⟨q, hq, ?_⟩
    rw [hb]
    cases inv <;> rfl
  · split
    · next h => exact silent .refresh (by rcases h with h | h <;> simp [ready, h])
    · next h => exact posted .refresh (by simpa [ready, not_or] using h)
  · split
    · next h => exact silent .validate (by simpa [ready] using h)
    · next h => exact posted .validate (by simpa [ready] using h)
  · intro sid
    split
    · next h => exact silent (.join sid) (by simp [ready, h])
    · next h => exact posted (.join sid) (by simpa [ready] using h)

/-- A token all of whose five attributes are strings. -/
def StringToken (t : Token) : Prop :=
  ∃ u a c i n, t = ⟨.str u, .str a, .str c, ⟨.str i, .str n⟩⟩

/-- Against the PUBLISHED API (`Ref/Yggdrasil.lean`): on a token whose attributes are strings, what
`authenticate`, `refresh`, `validate`, `invalidate` post is a documented payload of that operation
(only documented members, each of the documented shape, all non-optional ones present). -/
theorem payload_conforms_documented (net : Request → Resp) (t : Token) (ht : StringToken t)
    (op : Op) (hop : ∀ sid, op ≠ .join sid) (q : Request) (h : (run op net t).2.2 = some q) :
    ∃ payload, parseJson q.body = some payload ∧ Yggdrasil.conforms (kind op) payload = true := by
  obtain ⟨u, a, c, i, n, rfl⟩ := ht
  rw [run_request, requestOf_eq] at h
  split at h
  · cases h
    refine ⟨_, json_decodes_back _, ?_⟩
    cases op with
    | authenticate fresh user pass inv =>
      cases inv
      · show Yggdrasil.conforms .authenticate (.obj [_, _, _,
          ("clientToken", if (JVal.str c).truthy then .str c else .str fresh)]) = true
        cases (JVal.str c).truthy <;> rfl
      · rfl
    | join sid => exact absurd rfl (hop sid)
    | _ => rfl
  · cases h

/-- … and so is what `sign_out` posts. -/
theorem sign_out_conforms_documented (net : Request → Resp) (user pass : String) :
    ∃ payload, parseJson (signOut net user pass).2.body = some payload ∧
      Yggdrasil.conforms .signout payload = true := by
  rw [signOut_snd]
  exact ⟨_, json_decodes_back _, rfl⟩

/-- OBSERVATION (a deviation from the published API, stated exactly).  What `join` posts is NEVER
a documented `join` payload: the published `selectedProfile` is a STRING (the profile id, "the
player's uuid without dashes"), the code sends the OBJECT `{"id": …, "name": …}`.  It is
off by exactly that: replacing the object by its `id` member gives a documented payload. -/
theorem join_payload_vs_documented (net : Request → Resp) (a i n u c sid : String) (q : Request)
    (h : (run (.join sid) net ⟨.str u, .str a, .str c, ⟨.str i, .str n⟩⟩).2.2 = some q) :
    parseJson q.body = some (.obj [("accessToken", .str a),
      ("selectedProfile", .obj [("id", .str i), ("name", .str n)]), ("serverId", .str sid)]) ∧
    Yggdrasil.conforms .join (.obj [("accessToken", .str a),
      ("selectedProfile", .obj [("id", .str i), ("name", .str n)]), ("serverId", .str sid)]) = false ∧
    Yggdrasil.conforms .join (.obj [("accessToken", .str a),
      ("selectedProfile", .str i), ("serverId", .str sid)]) = true := by
  refine ⟨?_, ?_, ?_⟩
  · rw [run_request, requestOf_eq] at h
    split at h
    · cases h; exact json_decodes_back _
    · cases h
  · rfl
  · rfl


/-! ### changed code that `Props/C19.lean` lets pass -/

namespace Changed

/-- `requests.put(…)` instead of `requests.post(…)`. -/
def makeRequestPut (server endpoint : String) (data : JVal) : Request :=
  { makeRequest server endpoint data with method := "PUT" }

/-- `headers=HEADERS` dropped. -/
def makeRequestNoHeaders (server endpoint : String) (data : JVal) : Request :=
  { makeRequest server endpoint data with headers := [] }

/-- What `requests` makes of `data=<dict>`: a form-encoded body `k=v&k=v` (values that are strings
of unreserved characters are copied; that is all the refutation below needs). -/
def formBody : JVal → String
  | .obj kvs => "&".intercalate (kvs.map fun (k, v) => k ++ "=" ++ match v with
      | .str s => s
      | _ => "")
  | _ => ""

/-- `data=data` instead of `data=json.dumps(data)`. -/
def makeRequestForm (server endpoint : String) (data : JVal) : Request :=
  { makeRequest server endpoint data with body := formBody data }

/-- `json.dumps(data, ensure_ascii=False)`: characters outside ASCII are copied. -/
def makeRequestRawUnicode (server endpoint : String) (data : JVal) : Request :=
  { makeRequest server endpoint data with
    body := match data with
      | .str s => "\"" ++ s ++ "\""
      | v => jsonDumps v }

end Changed

example : ¬ MakeRequestSpec Changed.makeRequestPut :=
  fun h => absurd (h "s" "e" .null).1 (by decide +kernel)
example : ¬ MakeRequestSpec Changed.makeRequestNoHeaders :=
  fun h => absurd (h "s" "e" .null).2.1 (by decide +kernel)
example : ¬ MakeRequestSpec Changed.makeRequestForm :=
  fun h => absurd (h "s" "validate" (.obj [("accessToken", .str "acc")])).2.2.2.2.1
    (by decide +kernel)
example : ¬ MakeRequestSpec Changed.makeRequestRawUnicode :=
  fun h => absurd ((h "s" "e" (.str "é")).2.2.2.2.2 'é' (by decide +kernel)) (by decide +kernel)

/-! ## 2. error replies: the exception as raised -/

/-- What `_raise_from_response` must do, as a statement about ANY implementation `raise`
(`none` = returns), with the PUBLISHED error format (`Ref/Yggdrasil.errorReplySpec`):

* status `200`: returns;
* any other status, body a documented error object `{"error": e, "errorMessage": m[, "cause": c]}`:
  a `YggdrasilError` with `status_code`, `yggdrasil_error = e`, `yggdrasil_message = m`,
  `yggdrasil_cause = c` (`None` when absent) and `args = ("[<status>] <e>: '<m>'",)`;
* any other status, body anything that is not a JSON object with both an `"error"` and an
  `"errorMessage"` member (not JSON at all, a list, a number, `null`, an object lacking one of the
  two): `status_code` set, the three fields `None`, and
  `args = ("[<status>] Malformed error message: '<res.text>'",)` — the raw text of the reply;
* (members of other JSON types) any object with both members: they are copied as they are. -/
def RaiseSpec (raise : Reply → Option Outcome) : Prop :=
  ∀ r : Reply,
    (r.status = 200 → raise r = none) ∧
    (r.status ≠ 200 →
      (∀ j e m c, r.json = some j → Yggdrasil.errorReplySpec j = some (e, m, c) →
        ∃ msg, raise r = some (.yggdrasil (some msg) (some r.status) (.str e) (.str m)
            (match c with
              | some c => .str c
              | none => .null)) ∧
          ∀ R, msg.text R = "[" ++ toString r.status ++ "] " ++ e ++ ": '" ++ m ++ "'") ∧
      ((∀ kvs, r.json = some (.obj kvs) →
          kvs.lookup "error" = none ∨ kvs.lookup "errorMessage" = none) →
        ∃ msg, raise r = some (.yggdrasil (some msg) (some r.status) .null .null .null) ∧
          ∀ R, msg.text R =
            "[" ++ toString r.status ++ "] Malformed error message: '" ++ r.text ++ "'") ∧
      (∀ kvs e m, r.json = some (.obj kvs) → kvs.lookup "error" = some e →
        kvs.lookup "errorMessage" = some m →
        raise r = some (.yggdrasil (some (.error r.status e m)) (some r.status) e m
          ((kvs.lookup "cause").getD .null))))

/-- `_raise_from_response` does that. -/
theorem raise_from_response_spec : RaiseSpec raiseFromResponse := by
  intro r
  refine ⟨fun h => (raise_none_iff r).mpr h, fun hs => ⟨?_, ?_, ?_⟩⟩
  · intro j e m c hj hspec
    unfold Yggdrasil.errorReplySpec at hspec
    split at hspec
    · split at hspec
      · next he hm hc =>
        cases hspec
        exact ⟨.error r.status (.str e) (.str m), by simp [raiseFromResponse, hs, hj, he, hm, hc],
          fun R => rfl⟩
      · next he hm hc =>
        cases hspec
        exact ⟨.error r.status (.str e) (.str m), by simp [raiseFromResponse, hs, hj, he, hm, hc],
          fun R => rfl⟩
      · cases hspec
    · cases hspec
  · intro h
    refine ⟨.malformed r.status r.text, ?_, fun R => rfl⟩
    cases hj : r.json with
    | none => simp [raiseFromResponse, hs, hj]
    | some j =>
      cases j with
      | obj kvs =>
        rcases h kvs hj with h' | h'
        · simp [raiseFromResponse, hs, hj, h']
        · cases he : kvs.lookup "error" <;> simp [raiseFromResponse, hs, hj, h', he]
      | _ => simp [raiseFromResponse, hs, hj]
  · intro kvs e m hj he hm
    simp [raiseFromResponse, hs, hj, he, hm]

/-- An error reply makes every method other than `validate` raise, with the token untouched: if a
request `q` was sent, the network answered it with the response `r`, and the status is not one the
method accepts (accepted: `200` for `authenticate`, `refresh`; `200` and `204` for `invalidate`,
`join`), then the call raises exactly what `_raise_from_response(r)` raises — which
`raise_from_response_spec` describes down to the text — and the token is as before. -/
theorem error_reply_raises (op : Op) (net : Request → Resp) (t : Token) (q : Request) (r : Reply)
    (hq : (run op net t).2.2 = some q) (hr : net q = .reply r)
    (hst : match op with
      | .authenticate .. | .refresh => r.status ≠ 200
      | .invalidate | .join _ => r.status ≠ 200 ∧ r.status ≠ 204
      | .validate => False) :
    (run op net t).1 = t ∧ ∃ e, raiseFromResponse r = some e ∧ (run op net t).2.1 = e := by
  rw [run_request] at hq
  have hp := prepare_of_request op t q hq
  rw [run_of_prepare_ok op net t q hp, hr]
  cases op with
  | authenticate fresh user pass inv =>
    obtain ⟨e, he⟩ := raise_some_of_ne_200 r hst
    simp [finish, finishStore, he]
  | refresh =>
    obtain ⟨e, he⟩ := raise_some_of_ne_200 r hst
    simp [finish, finishStore, he]
  | validate => exact hst.elim
  | invalidate =>
    obtain ⟨e, he⟩ := raise_some_of_ne_200 r hst.1
    simp [finish, finish204, he, hst.2]
  | join sid =>
    obtain ⟨e, he⟩ := raise_some_of_ne_200 r hst.1
    simp [finish, finish204, he, hst.2]

/-- The same for `sign_out` (accepted: `200` only). -/
theorem sign_out_error_reply_raises (net : Request → Resp) (user pass : String) (r : Reply)
    (hr : net (signOut net user pass).2 = .reply r) (hst : r.status ≠ 200) :
    ∃ e, raiseFromResponse r = some e ∧ (signOut net user pass).1 = e := by
  rw [signOut_snd] at hr
  obtain ⟨e, he⟩ := raise_some_of_ne_200 r hst
  exact ⟨e, he, by simp [signOut, hr, he]⟩

/-- OBSERVATION against the published API: the documented success reply of `signout` is `204` with
an empty body; `sign_out` then RAISES (`[204] Malformed error message: ''`) — `invalidate`, whose
documented success reply is the same, returns `True`. -/
theorem sign_out_raises_on_documented_success (user pass : String) (t : Token) :
    Yggdrasil.successStatus .signout = 204 ∧ Yggdrasil.successStatus .invalidate = 204 ∧
    (signOut (fun _ => .reply ⟨204, "", none⟩) user pass).1 =
      .yggdrasil (some (.malformed 204 "")) (some 204) .null .null .null ∧
    (Msg.malformed 204 "").text (fun _ => "") = "[204] Malformed error message: ''" ∧
    (run .invalidate (fun _ => .reply ⟨204, "", none⟩) t).2.1 = .ret true := by
  refine ⟨rfl, rfl, ?_, by decide +kernel, ?_⟩
  · simp [signOut, raiseFromResponse]
  · simp [run, invalidate]

/-- When `requests.post` itself raises (connection refused, timeout, …) the exception propagates
out of every method and the token is as before — also for `authenticate`, whose `self.username =
username` comes after the request. -/
theorem transport_failure_propagates (op : Op) (net : Request → Resp) (t : Token) (q : Request)
    (hq : (run op net t).2.2 = some q) (hf : net q = .fail) :
    (run op net t).1 = t ∧ (run op net t).2.1 = .transport := by
  rw [run_request] at hq
  have hp := prepare_of_request op t q hq
  rw [run_of_prepare_ok op net t q hp, hf]
  cases op <;> simp [finish, finishStore, finish204]

/-- `join` on a token that is not authenticated: nothing is sent, nothing changes, and the exception
is `YggdrasilError("AuthenticationToken hasn't been authenticated yet!")` with no status and no
fields; and `Profile.to_dict`'s `AttributeError` can never come out of `join`. -/
theorem join_refuses_offline (net : Request → Resp) (t : Token) (sid : String) :
    (authenticated t = false →
      run (.join sid) net t =
        (t, .yggdrasil (some .notAuthenticated) none .null .null .null, none)) ∧
    (∀ R, Msg.notAuthenticated.text R = "AuthenticationToken hasn't been authenticated yet!") ∧
    (run (.join sid) net t).2.1 ≠ .attributeError := by
  refine ⟨fun h => by simp [run, join, h], fun R => rfl, ?_⟩
  rw [run_factor]
  cases hau : authenticated t with
  | false => simp [prepare, hau]
  | true =>
    simp only [prepare, hau, Bool.not_true, Bool.false_eq_true, if_false, Profile.toDict,
      profile_truthy_of_authenticated t hau, if_true, finish]
    rcases finish204_snd t (net _) with ⟨h, _⟩ | ⟨h | ⟨_, _, _, _, _, h⟩, _⟩ <;> rw [h] <;>
      exact fun h' => nomatch h'

namespace Changed

/-- Both `exception.args = (message,)` lines deleted: `args` stays the `(None,)` of
`YggdrasilError()`. -/
def raiseNoArgs (r : Reply) : Option Outcome :=
  match raiseFromResponse r with
  | some (.yggdrasil _ st e m c) => some (.yggdrasil none st e m c)
  | o => o

/-- `response_text=res.text` replaced by the status line (the raw body lost). -/
def raiseNoRawText (r : Reply) : Option Outcome :=
  raiseFromResponse { r with text := "" }

end Changed

example : ¬ RaiseSpec Changed.raiseNoArgs := by
  intro h
  obtain ⟨msg, hm, _⟩ := ((h ⟨403, "x", none⟩).2 (by decide)).2.1 (by simp)
  revert hm; simp [Changed.raiseNoArgs, raiseFromResponse]
example : ¬ RaiseSpec Changed.raiseNoRawText := by
  intro h
  obtain ⟨msg, hm, ht⟩ := ((h ⟨403, "x", none⟩).2 (by decide)).2.1 (by simp)
  simp [Changed.raiseNoRawText, raiseFromResponse] at hm
  subst hm
  exact absurd (ht fun _ => "") (by decide +kernel)

/-! ## 3. success replies with members of ANY JSON type -/

/-! `member j k` (`Lemmas/C19Seq.lean`) is `d.get(k)` on a value that may not be a dict: the member
`k` if `j` is an object that has it, else `none`. -/

/-- `authenticate` returns `True` exactly when the response has status `200`, its body is JSON, an
object with members `accessToken`, `clientToken` and `selectedProfile`, the latter an object with
members `id` and `name` — of ANY JSON type, `null` included.  It then has stored exactly the
`username` argument and those four values.  (`rsp` is the response to the one request.) -/
theorem authenticate_true_iff (fresh user pass : String) (inv : Bool) (t : Token) (rsp : Resp) :
    (run (.authenticate fresh user pass inv) (fun _ => rsp) t).2.1 = .ret true ↔
    ∃ r j a c sp i n, rsp = .reply r ∧ r.status = 200 ∧ r.json = some j ∧
      member j "accessToken" = some a ∧ member j "clientToken" = some c ∧
      member j "selectedProfile" = some sp ∧ member sp "id" = some i ∧ member sp "name" = some n ∧
      (run (.authenticate fresh user pass inv) (fun _ => rsp) t).1 = ⟨.str user, a, c, ⟨i, n⟩⟩ := by
  rw [run_of_prepare_ok _ _ t _ rfl]
  exact finishStore_true_iff t { t with username := .str user } rsp

/-- The same for `refresh` (which also needs both tokens to be not `None` beforehand, and keeps the
username). -/
theorem refresh_true_iff (t : Token) (rsp : Resp) :
    (run .refresh (fun _ => rsp) t).2.1 = .ret true ↔
    t.accessToken ≠ .null ∧ t.clientToken ≠ .null ∧
    ∃ r j a c sp i n, rsp = .reply r ∧ r.status = 200 ∧ r.json = some j ∧
      member j "accessToken" = some a ∧ member j "clientToken" = some c ∧
      member j "selectedProfile" = some sp ∧ member sp "id" = some i ∧ member sp "name" = some n ∧
      (run .refresh (fun _ => rsp) t).1 = ⟨t.username, a, c, ⟨i, n⟩⟩ := by
  by_cases ha : t.accessToken = .null
  · rw [run_of_prepare_error _ _ t (.valueError .accessTokenNotSet) (by simp [prepare, ha])]
    exact ⟨fun h => (by cases h), fun h => absurd ha h.1⟩
  by_cases hc : t.clientToken = .null
  · rw [run_of_prepare_error _ _ t (.valueError .clientTokenNotSet) (by simp [prepare, ha, hc])]
    exact ⟨fun h => (by cases h), fun h => absurd hc h.2.1⟩
  have hr : ready .refresh t = true := by simp [ready, ha, hc]
  rw [run_of_prepare_ok _ _ t _ (prepare_of_request _ _ _ (requestOf_of_ready _ _ hr))]
  simp only [ne_eq, ha, hc, not_false_eq_true, true_and]
  exact finishStore_true_iff t t rsp

/-- On a `200` response whose body is JSON, `authenticate` and `refresh` are `storeReply` — for
`authenticate` applied to the token with the username ALREADY replaced by the argument. -/
theorem store_on_200 (t : Token) (txt : String) (j : JVal) (fresh user pass : String) (inv : Bool) :
    (let res := run (.authenticate fresh user pass inv) (fun _ => .reply ⟨200, txt, some j⟩) t
     res.1 = (storeReply { t with username := .str user } j).1 ∧
     res.2.1 = (storeReply { t with username := .str user } j).2) ∧
    (t.accessToken ≠ .null → t.clientToken ≠ .null →
      let res := run .refresh (fun _ => .reply ⟨200, txt, some j⟩) t
      res.1 = (storeReply t j).1 ∧ res.2.1 = (storeReply t j).2) := by
  constructor
  · rw [run_of_prepare_ok _ _ t _ rfl]
    simp only [finish, finishStore_200 _ _ ⟨200, txt, some j⟩ j rfl rfl, and_self]
  · intro ha hc
    have hr : ready .refresh t = true := by simp [ready, ha, hc]
    rw [run_of_prepare_ok _ _ t _ (prepare_of_request _ _ _ (requestOf_of_ready _ _ hr))]
    simp only [finish, finishStore_200 _ _ ⟨200, txt, some j⟩ j rfl rfl, and_self]

/-- Against the published result format (`Ref/Yggdrasil.resultReplySpec`: four strings): a documented
success reply makes `authenticate` return `True` and store exactly the documented values; the token
is then authenticated iff user name, access token and client token are non-empty. -/
theorem documented_result_is_stored (fresh user pass : String) (inv : Bool) (t : Token) (txt : String)
    (j : JVal) (a c i n : String) (h : Yggdrasil.resultReplySpec j = some (a, c, i, n)) :
    let res := run (.authenticate fresh user pass inv) (fun _ => .reply ⟨200, txt, some j⟩) t
    res.1 = ⟨.str user, .str a, .str c, ⟨.str i, .str n⟩⟩ ∧ res.2.1 = .ret true ∧
    (authenticated res.1 = true ↔ user ≠ "" ∧ a ≠ "" ∧ c ≠ "") := by
  -- a documented result has the five members `storeReply` reads, all strings
  have hm : ∃ sp, Members j (.str a) (.str c) sp (.str i) (.str n) := by
    unfold Yggdrasil.resultReplySpec at h
    split at h
    · split at h
      · next h1 h2 h3 =>
        split at h
        · next h4 h5 => cases h; exact ⟨_, h1, h2, h3, h4, h5⟩
        · cases h
      · cases h
    · cases h
  obtain ⟨sp, hm⟩ := hm
  intro res
  obtain ⟨hs1, hs2⟩ : res.1 = _ ∧ res.2.1 = _ := (store_on_200 t txt j fresh user pass inv).1
  rw [storeReply_of_members _ hm] at hs1 hs2
  refine ⟨hs1, hs2, ?_⟩
  rw [hs1]
  simp [authenticated, JVal.truthy, Profile.truthy, JVal.isNone]

/-- POSSIBLE DEFECT, stated exactly.  A `200` reply `{"accessToken": null, "clientToken": c,
"selectedProfile": {"id": i, "name": n}}` makes `authenticate` RETURN `True` ("successful")
having stored `None` as access token: the token it just "authenticated" is not authenticated, and
`join` on it refuses.  (Likewise for any falsy member: `""`, `0`, `false`, `[]`, `{}`.) -/
theorem authenticate_true_yet_not_authenticated (fresh user pass txt : String) (inv : Bool)
    (t : Token) (c i n : JVal) :
    let res := run (.authenticate fresh user pass inv)
      (fun _ => .reply ⟨200, txt, some (.obj [("accessToken", .null), ("clientToken", c),
        ("selectedProfile", .obj [("id", i), ("name", n)])])⟩) t
    res.2.1 = .ret true ∧ res.1.accessToken = .null ∧ authenticated res.1 = false := by
  intro res
  obtain ⟨hs1, hs2⟩ : res.1 = _ ∧ res.2.1 = _ := (store_on_200 t txt _ fresh user pass inv).1
  rw [storeReply_of_members _ (sp := .obj [("id", i), ("name", n)]) ⟨rfl, rfl, rfl, rfl, rfl⟩]
    at hs1 hs2
  rw [hs1]
  exact ⟨hs2, rfl, by simp [authenticated, JVal.truthy]⟩

/-- What is left in the token when a `200` JSON reply is NOT complete: the assignments made before
the first failing subscript persist.  With `a`, `c`, `sp` the members `accessToken`, `clientToken`,
`selectedProfile` of the body (absent, or the body not an object: `none`) and `i`, `n` the members
`id`, `name` of `sp`: the access token is overwritten iff `a` is there; the client token iff `a`
and `c` are; the profile id iff `a`, `c`, `i` are; the profile name iff all are; the username is not
touched by `storeReply` (`authenticate` has already overwritten it, see `store_on_200`). -/
theorem partial_store (t : Token) (j : JVal) :
    let a := member j "accessToken"
    let c := member j "clientToken"
    let sp := member j "selectedProfile"
    let i := sp.bind (member · "id")
    let n := sp.bind (member · "name")
    (storeReply t j).1.username = t.username ∧
    (storeReply t j).1.accessToken = a.getD t.accessToken ∧
    (storeReply t j).1.clientToken = (if a.isSome then c.getD t.clientToken else t.clientToken) ∧
    (storeReply t j).1.profile.id_ =
      (if a.isSome ∧ c.isSome then i.getD t.profile.id_ else t.profile.id_) ∧
    (storeReply t j).1.profile.name =
      (if a.isSome ∧ c.isSome ∧ i.isSome then n.getD t.profile.name else t.profile.name) := by
  unfold storeReply
  rcases subscript_cases j "accessToken" with ⟨a, ha, ma⟩ | ⟨e, ha, ma, _⟩
  case inr => simp [ha, ma]
  rcases subscript_cases j "clientToken" with ⟨c, hc, mc⟩ | ⟨e, hc, mc, _⟩
  case inr => simp [ha, ma, hc, mc]
  rcases subscript_cases j "selectedProfile" with ⟨sp, hs, ms⟩ | ⟨e, hs, ms, _⟩
  case inr => simp [ha, ma, hc, mc, hs, ms]
  rcases subscript_cases sp "id" with ⟨i, hi, mi⟩ | ⟨e, hi, mi, _⟩
  case inr => simp [ha, ma, hc, mc, hs, ms, hi, mi]
  rcases subscript_cases sp "name" with ⟨n, hn, mn⟩ | ⟨e, hn, mn, _⟩ <;>
    simp [ha, ma, hc, mc, hs, ms, hi, mi, hn, mn]

/-- `"selectedProfile": null` (or a string, a number, a list) next to
both tokens.  `refresh` raises `TypeError` AFTER having replaced both tokens; the profile keeps its
old contents — old profile, new tokens. -/
theorem selected_profile_not_an_object (t : Token) (txt : String) (kvs : List (String × JVal))
    (a c sp : JVal) (ha : t.accessToken ≠ .null) (hc : t.clientToken ≠ .null)
    (h1 : kvs.lookup "accessToken" = some a) (h2 : kvs.lookup "clientToken" = some c)
    (h3 : kvs.lookup "selectedProfile" = some sp) (hsp : ∀ m, sp ≠ .obj m) :
    let res := run .refresh (fun _ => .reply ⟨200, txt, some (.obj kvs)⟩) t
    res.2.1 = .typeError ∧ res.1 = { t with accessToken := a, clientToken := c } := by
  obtain ⟨h, h'⟩ := (store_on_200 t txt (.obj kvs) "" "" "" false).2 ha hc
  intro res
  refine ⟨h'.trans ?_, h.trans ?_⟩ <;>
    simp [storeReply, subscript_obj, h1, h2, h3, subscript_nonobj sp "id" hsp]

/-! ## 4. operation sequences

`runSeq w steps`: a program's calls (`Call.method i op` on token number `i`, or the static
`Call.signOut`), the `k`-th answered by the `k`-th given response.  `runSvc svc s w calls`: the same
calls against a stateful stand-in service.  `runTok t hist`: the calls of ONE token.
`stepsFor j steps` / `obsFor j steps obs`: the steps / observations that are methods of token `j`.
`build mk inits`: the tokens of a program, created one after the other by the constructor `mk`. -/

/-- What the constructor must guarantee, as a statement about ANY constructor `mk`: in every
program, whatever happens to the OTHER tokens (and whatever `sign_out` calls are made), each token
ends up as — and each of its calls returns / raises / posts what — its own calls alone produce,
starting from `(username, access_token, client_token)` as constructed and an empty profile. -/
def TokensIndependent (mk : World → JVal → JVal → JVal → World) : Prop :=
  ∀ (inits : List (JVal × JVal × JVal)) (steps : List (Call × Resp)) (j : Nat)
    (x : JVal × JVal × JVal), inits[j]? = some x →
    let t0 : Token := ⟨x.1, x.2.1, x.2.2, ⟨.null, .null⟩⟩
    ((runSeq (build mk inits) steps).1.view j = some (runTok t0 (stepsFor j steps)).1 ∧
     obsFor j steps (runSeq (build mk inits) steps).2 = (runTok t0 (stepsFor j steps)).2.map some)

/-- `__init__` (`self.profile = Profile()`: a new profile object per token) guarantees it. -/
theorem tokens_independent : TokensIndependent World.newToken := by
  intro inits steps j x hx
  obtain ⟨hna, _, hv⟩ := build_newToken_spec inits
  exact runSeq_view_some _ steps j _ hna (hv j x hx)

/-- The same for any world in which no two tokens share a profile object (however it was built),
with the responses computed by a stateful service instead of given: the run against the service IS
a run with some list of responses (one per call), so every statement about `runSeq` — all of this
section — holds for it. -/
theorem service_run_is_reply_run {σ : Type} (svc : Service σ) (s : σ) (w : World)
    (calls : List Call) :
    ∃ resps : List Resp, resps.length = calls.length ∧
      (runSvc svc s w calls).2 = runSeq w (calls.zip resps) :=
  runSvc_eq_runSeq svc s w calls

/-- "Errors leave it untouched", for histories and for the whole program state.  Take any program
run `pre ++ [step] ++ post`.  If `step` is answered by a refusal — a `YggdrasilError` (error reply,
or `join` not authenticated), a `ValueError` (missing token, or a `200` body that is not JSON), an
exception of `requests.post` — then NO token and NO profile object differs from before it, and
deleting the step from the history changes neither the final state nor what any other call of the
run returned, raised or posted. -/
theorem refused_call_leaves_no_trace (w : World) (pre post : List (Call × Resp)) (c : Call)
    (rsp : Resp) (o : Outcome) (q : Option Request)
    (h : ((runSeq w pre).1.call c (fun _ => rsp)).2 = some (o, q)) (ho : o.isRefusal = true) :
    (runSeq w (pre ++ [(c, rsp)])).1 = (runSeq w pre).1 ∧
    (runSeq w (pre ++ (c, rsp) :: post)).1 = (runSeq w (pre ++ post)).1 ∧
    (runSeq w (pre ++ (c, rsp) :: post)).2 =
      (runSeq w pre).2 ++ some (o, q) :: (runSeq (runSeq w pre).1 post).2 ∧
    (runSeq w (pre ++ post)).2 = (runSeq w pre).2 ++ (runSeq (runSeq w pre).1 post).2 := by
  have hw := call_refusal (runSeq w pre).1 c (fun _ => rsp) o q h ho
  refine ⟨?_, ?_, ?_, ?_⟩
  · rw [runSeq_append]; simp [runSeq, hw]
  · rw [runSeq_append, runSeq_append]; simp [runSeq, hw]
  · rw [runSeq_append]; simp [runSeq, hw, h]
  · rw [runSeq_append]

/-- Which outcomes are refusals: exactly these. -/
theorem refusal_iff (o : Outcome) :
    o.isRefusal = true ↔
      (∃ a st e m c, o = .yggdrasil a st e m c) ∨ (∃ w, o = .valueError w) ∨
      o = .attributeError ∨ o = .transport := by
  cases o <;> simp [Outcome.isRefusal]

/-- The history of one token, syntactically: only `authenticate` / `refresh` calls answered by a
`200` response with a JSON body (`Storing`, decidable from the step alone) can matter.  Deleting
ALL other calls from a token's history — every `validate`, `invalidate`, `join`, every call answered
by an error status, a non-JSON body or a transport failure — gives the same final token, and the
calls that remain return / raise / post exactly what they did. -/
theorem history_only_storing_steps_matter (t : Token) (hist : List (Op × Resp)) :
    (runTok t hist).1 = (runTok t (hist.filter Storing)).1 ∧
    ((hist.zip (runTok t hist).2).filter (fun p => Storing p.1)).map (·.2) =
      (runTok t (hist.filter Storing)).2 :=
  runTok_filter_storing t hist

/-- In particular: a history without such a step leaves the token exactly as it was. -/
theorem history_unchanged (t : Token) (hist : List (Op × Resp))
    (h : ∀ s ∈ hist, Storing s = false) : (runTok t hist).1 = t :=
  runTok_all_inert t hist h

/-- … and so for a token inside a program: if none of ITS calls is such a step, it is unchanged at
the end, whatever the other tokens did (no shared profile objects). -/
theorem program_history_unchanged (w : World) (steps : List (Call × Resp)) (j : Nat) (t : Token)
    (hw : NoAlias w) (hv : w.view j = some t) (h : ∀ s ∈ stepsFor j steps, Storing s = false) :
    (runSeq w steps).1.view j = some t := by
  rw [(runSeq_view_some w steps j t hw hv).1, history_unchanged t _ h]

/-- `authenticate`, then anything that does not store, then `join`.  After an `authenticate`
answered by a documented result (`Ref/Yggdrasil.resultReplySpec`: strings `a`, `c`, `i`, `n`) with
non-empty user name and tokens, and after ANY further calls none of which stores (validates,
invalidates, joins, failed logins and refreshes, with any responses), `join(sid)` posts — to the
documented join URL — a body that decodes to `{"accessToken": a, "selectedProfile": {"id": i,
"name": n}, "serverId": sid}` with the values of THAT reply, and returns `True` iff its response has
status `204` or `200`; the token is still the one `authenticate` stored. -/
theorem authenticate_then_join (t : Token) (fresh user pass txt sid : String) (inv : Bool)
    (j : JVal) (a c i n : String) (mid : List (Op × Resp)) (rsp : Resp)
    (hj : Yggdrasil.resultReplySpec j = some (a, c, i, n))
    (hne : user ≠ "" ∧ a ≠ "" ∧ c ≠ "") (hmid : ∀ s ∈ mid, Storing s = false) :
    let res := runTok t ((.authenticate fresh user pass inv, .reply ⟨200, txt, some j⟩) :: mid ++
      [(.join sid, rsp)])
    res.1 = ⟨.str user, .str a, .str c, ⟨.str i, .str n⟩⟩ ∧
    ∃ o q, res.2.getLast? = some (o, some q) ∧
      q.url = Yggdrasil.url .join ∧ q.method = Yggdrasil.httpMethod ∧
      parseJson q.body = some (.obj [("accessToken", .str a),
        ("selectedProfile", .obj [("id", .str i), ("name", .str n)]), ("serverId", .str sid)]) ∧
      (o = .ret true ↔ ∃ r, rsp = .reply r ∧ (r.status = 204 ∨ r.status = 200)) := by
  obtain ⟨h1, _, h3⟩ := documented_result_is_stored fresh user pass inv t txt j a c i n hj
  have hau := h3.mpr hne
  intro res
  have hres : res = runTok t ([(.authenticate fresh user pass inv, .reply ⟨200, txt, some j⟩)] ++
      (mid ++ [(.join sid, rsp)])) := rfl
  rw [hres, runTok_append, runTok_append]
  have e1 : (runTok t [(.authenticate fresh user pass inv, .reply ⟨200, txt, some j⟩)]).1 =
      ⟨.str user, .str a, .str c, ⟨.str i, .str n⟩⟩ := h1
  simp only [e1, history_unchanged _ mid hmid]
  rw [h1] at hau
  have hq := (posted_payload (fun _ => rsp) ⟨.str user, .str a, .str c, ⟨.str i, .str n⟩⟩).2.2.2.2 sid
  rw [if_neg (by simp [hau])] at hq
  obtain ⟨q, hq1, hq2⟩ := hq
  obtain ⟨hm, _, hu, _⟩ := request_is_documented_post (.join sid) (fun _ => rsp) _ q hq1
  have hjoin := run_fst_of_not_store (.join sid) (fun _ => rsp)
    ⟨.str user, .str a, .str c, ⟨.str i, .str n⟩⟩ (by simp) (by simp)
  have glast : ∀ (x : Outcome × Option Request) (l : List (Outcome × Option Request))
      (y : Outcome × Option Request), (x :: (l ++ [y])).getLast? = some y := by
    intro x l y; rw [← List.cons_append, List.getLast?_concat]
  refine ⟨by simp [runTok, hjoin],
    (run (.join sid) (fun _ => rsp) ⟨.str user, .str a, .str c, ⟨.str i, .str n⟩⟩).2.1, q,
    by simp only [runTok, hq1, List.singleton_append]; exact glast _ _ _,
    hu, hm, hq2, ?_⟩
  have hprep := prepare_of_request (.join sid) _ q (by rw [← run_request _ (fun _ => rsp)]; exact hq1)
  rw [run_of_prepare_ok _ _ _ q hprep]
  simp only [finish]
  rcases finish204_snd ⟨.str user, .str a, .str c, ⟨.str i, .str n⟩⟩ rsp with ⟨h, hr⟩ | ⟨h, hr⟩
  · exact ⟨fun _ => hr, fun _ => h⟩
  · refine ⟨fun h' => ?_, fun h' => (hr h').elim⟩
    rw [h'] at h
    rcases h with h | ⟨_, _, _, _, _, h⟩ <;> cases h

namespace Changed

/-- `profile = Profile()` as a CLASS attribute (one object, made when the class is defined) and no
`self.profile = Profile()` in `__init__`: every token refers to profile object number 0. -/
def newTokenSharedProfile (w : World) (username accessToken clientToken : JVal) : World :=
  { profiles := if w.profiles.isEmpty then [⟨.null, .null⟩] else w.profiles
    tokens := w.tokens ++ [⟨username, accessToken, clientToken, 0⟩] }

end Changed

/-- With the shared class-level profile, a login on token 0 changes what token 1 holds — token 1,
which made no call at all, ends up with alice's profile (and `Props/C19.lean`, whose statements are
all about one call on one token, cannot see it). -/
example : ¬ TokensIndependent Changed.newTokenSharedProfile := by
  intro h
  have := (h [(.null, .null, .null), (.str "bob", .str "b-acc", .str "b-cli")]
    [(.method 0 (.authenticate "f" "alice" "pw" false),
      .reply ⟨200, "", some (.obj [("accessToken", .str "a-acc"), ("clientToken", .str "a-cli"),
        ("selectedProfile", .obj [("id", .str "a-id"), ("name", .str "Alice")])])⟩)]
    1 (.str "bob", .str "b-acc", .str "b-cli") rfl).1
  revert this
  decide +kernel

/-! ## Non-vacuity: concrete instances -/

/-- a fully populated token; the documented result and error replies -/
def tokA : Token := ⟨.str "alice", .str "acc-A", .str "cli-A", ⟨.str "id-A", .str "Alice"⟩⟩
def resultB : JVal := .obj [("accessToken", .str "acc-B"), ("clientToken", .str "cli-B"),
  ("selectedProfile", .obj [("id", .str "id-B"), ("name", .str "Bob")]), ("user", .obj [])]
def errorC : JVal := .obj [("error", .str "ForbiddenOperationException"),
  ("errorMessage", .str "Invalid token"), ("cause", .str "UserMigratedException")]

-- json_decodes_back / json_is_printable_ascii on a value with every kind of escape
example : jsonDumps (.obj [("k\n", .arr [.num (-5), .null, .bool true, .str "é\"\\😀"])]) =
    "{\"k\\n\": [-5, null, true, \"\\u00e9\\\"\\\\\\ud83d\\ude00\"]}" := by
  rw [jsonDumps_eq_iff]; decide +kernel
example : parseJson " { \"a\" : [ 1 , \"\\uD83D\\uDE00\\/\" ] } " =
    some (.obj [("a", .arr [.num 1, .str "😀/"])]) := by
  rw [parseJson_eq]; decide +kernel
example : parseJson "{\"a\": 1,}" = none ∧ parseJson "01" = none ∧ parseJson "\"\\ud83d\"" = none ∧
    parseJson "accessToken=acc" = none := by
  simp only [parseJson_eq]; decide +kernel

-- request_is_documented_post / posted_payload: the hypothesis is satisfiable, the request spelled out
example : (run .refresh (fun _ => .fail) tokA).2.2 = some
    ⟨"POST", "https://authserver.mojang.com/refresh", [("content-type", "application/json")],
     "{\"accessToken\": \"acc-A\", \"clientToken\": \"cli-A\"}", 15⟩ := by
  rw [run_request, requestOf_of_ready _ _ rfl]
  simp only [makeRequest, Option.some.injEq, Request.mk.injEq, jsonDumps_eq_iff]
  decide +kernel
example : (run (.join "srv") (fun _ => .fail) tokA).2.2 = some
    ⟨"POST", "https://sessionserver.mojang.com/session/minecraft/join",
     [("content-type", "application/json")],
     "{\"accessToken\": \"acc-A\", \"selectedProfile\": {\"id\": \"id-A\", \"name\": \"Alice\"}, \"serverId\": \"srv\"}",
     15⟩ := by
  rw [run_request, requestOf_of_ready _ _ rfl]
  simp only [makeRequest, Option.some.injEq, Request.mk.injEq, jsonDumps_eq_iff]
  decide +kernel
example : (run (.authenticate "f00d" "Jürgen" "p\"w" false) (fun _ => .fail)
      { tokA with clientToken := .str "" }).2.2 = some
    ⟨"POST", "https://authserver.mojang.com/authenticate", [("content-type", "application/json")],
     "{\"agent\": {\"name\": \"Minecraft\", \"version\": 1}, \"username\": \"J\\u00fcrgen\", \"password\": \"p\\\"w\", \"clientToken\": \"f00d\"}",
     15⟩ := by
  rw [run_request, requestOf_of_ready _ _ rfl]
  simp only [makeRequest, Option.some.injEq, Request.mk.injEq, jsonDumps_eq_iff]
  decide +kernel
/-- attributes that are not strings are posted as they are (`None` → `null`, a number as a number) -/
example : ((run .invalidate (fun _ => .fail) ⟨.null, .null, .num 5, ⟨.null, .null⟩⟩).2.2.map (·.body)) =
    some "{\"accessToken\": null, \"clientToken\": 5}" := by decide +kernel
example : StringToken tokA := ⟨_, _, _, _, _, rfl⟩
/-- `Yggdrasil.conforms` discriminates: an undocumented member, a missing mandatory member and a
member of the wrong shape are each rejected — so `invalidate` on a token without tokens posts
`{"accessToken": null, "clientToken": null}`, which is not a documented payload. -/
example :
    Yggdrasil.conforms .authenticate (.obj [("agent", .obj [("name", .str "Minecraft"), ("version", .num 1)]),
      ("username", .str "u"), ("password", .str "p")]) = true ∧
    Yggdrasil.conforms .authenticate (.obj [("agent", .obj [("name", .str "Minecraft"), ("version", .num 1)]),
      ("username", .str "u"), ("password", .str "p"), ("requestUsr", .bool true)]) = false ∧
    Yggdrasil.conforms .authenticate (.obj [("agent", .obj [("name", .str "Minecraft"), ("version", .num 2)]),
      ("username", .str "u"), ("password", .str "p")]) = false ∧
    Yggdrasil.conforms .authenticate (.obj [("username", .str "u"), ("agent",
      .obj [("name", .str "Minecraft"), ("version", .num 1)])]) = false ∧
    Yggdrasil.conforms .invalidate (.obj [("accessToken", .null), ("clientToken", .null)]) = false ∧
    Yggdrasil.conforms .validate (.obj [("accessToken", .str "a")]) = true := by decide +kernel

-- RaiseSpec: each hypothesis is satisfiable
example : Yggdrasil.errorReplySpec errorC =
    some ("ForbiddenOperationException", "Invalid token", some "UserMigratedException") := by
  decide +kernel
example : raiseFromResponse ⟨403, "{…}", some errorC⟩ = some (.yggdrasil
      (some (.error 403 (.str "ForbiddenOperationException") (.str "Invalid token"))) (some 403)
      (.str "ForbiddenOperationException") (.str "Invalid token") (.str "UserMigratedException")) ∧
    (Msg.error 403 (.str "ForbiddenOperationException") (.str "Invalid token")).text (fun _ => "") =
      "[403] ForbiddenOperationException: 'Invalid token'" := by decide +kernel
example : ∀ kvs, (⟨502, "<html>", none⟩ : Reply).json = some (.obj kvs) →
    kvs.lookup "error" = none ∨ kvs.lookup "errorMessage" = none := by simp
example : (Msg.malformed 502 "<html>Bad Gateway</html>").text (fun _ => "") =
    "[502] Malformed error message: '<html>Bad Gateway</html>'" := by decide +kernel
/-- members that are not strings are copied and formatted the way `str.format` does -/
example : raiseFromResponse ⟨403, "", some (.obj [("error", .num 5), ("errorMessage", .null)])⟩ =
      some (.yggdrasil (some (.error 403 (.num 5) .null)) (some 403) (.num 5) .null .null) ∧
    (Msg.error 403 (.num 5) .null).text (fun _ => "") = "[403] 5: 'None'" := by decide +kernel

-- error_reply_raises / transport_failure_propagates: hypotheses satisfiable
example : (run .refresh (fun _ => .reply ⟨403, "", some errorC⟩) tokA).1 = tokA ∧
    (run .refresh (fun _ => .reply ⟨403, "", some errorC⟩) tokA).2.1 =
      .yggdrasil (some (.error 403 (.str "ForbiddenOperationException") (.str "Invalid token")))
        (some 403) (.str "ForbiddenOperationException") (.str "Invalid token")
        (.str "UserMigratedException") := by decide +kernel
example : run (.authenticate "f" "bob" "pw" true) (fun _ => .fail) tokA =
    (tokA, .transport, (run (.authenticate "f" "bob" "pw" true) (fun _ => .fail) tokA).2.2) := rfl

-- authenticate_true_iff / documented_result_is_stored / refresh_true_iff
example : Yggdrasil.resultReplySpec resultB = some ("acc-B", "cli-B", "id-B", "Bob") := by
  decide +kernel
example : (run (.authenticate "f" "bob" "pw" false) (fun _ => .reply ⟨200, "", some resultB⟩) tokA).1 =
      ⟨.str "bob", .str "acc-B", .str "cli-B", ⟨.str "id-B", .str "Bob"⟩⟩ ∧
    (run .refresh (fun _ => .reply ⟨200, "", some resultB⟩) tokA).1 =
      ⟨.str "alice", .str "acc-B", .str "cli-B", ⟨.str "id-B", .str "Bob"⟩⟩ := by decide +kernel
/-- the defect of `authenticate_true_yet_not_authenticated`, followed by the refused `join` -/
example :
    let res := runTok tokA [(.authenticate "f" "bob" "pw" false,
        .reply ⟨200, "", some (.obj [("accessToken", .null), ("clientToken", .str "c"),
          ("selectedProfile", .obj [("id", .str "i"), ("name", .str "n")])])⟩),
      (.join "srv", .reply ⟨204, "", none⟩)]
    res.2 = [(.ret true, (run (.authenticate "f" "bob" "pw" false) (fun _ => .fail) tokA).2.2),
             (.yggdrasil (some .notAuthenticated) none .null .null .null, none)] := rfl
/-- `selected_profile_not_an_object`: new tokens next to the old profile, and the token still claims
to be authenticated -/
example :
    let res := run .refresh (fun _ => .reply ⟨200, "", some (.obj [("accessToken", .str "acc-B"),
      ("clientToken", .str "cli-B"), ("selectedProfile", .null)])⟩) tokA
    res.1 = ⟨.str "alice", .str "acc-B", .str "cli-B", ⟨.str "id-A", .str "Alice"⟩⟩ ∧
    res.2.1 = .typeError ∧ authenticated res.1 = true := by decide +kernel

-- TokensIndependent: a program with two tokens; refused_call_leaves_no_trace; history_unchanged
def twoTokens : World := build World.newToken [(.null, .null, .null), (.str "bob", .str "b-acc", .str "b-cli")]
example : twoTokens.view 1 = some ⟨.str "bob", .str "b-acc", .str "b-cli", ⟨.null, .null⟩⟩ := by
  decide +kernel
example : (runSeq twoTokens [(.method 0 (.authenticate "f" "alice" "pw" false),
      .reply ⟨200, "", some resultB⟩)]).1.view 1 = twoTokens.view 1 := by decide +kernel
example : ∃ o q, (twoTokens.call (.method 1 .refresh) (fun _ => .reply ⟨403, "", some errorC⟩)).2 =
    some (o, q) ∧ o.isRefusal = true := ⟨_, _, rfl, by decide +kernel⟩
example : ∀ s ∈ [((.validate : Op), Resp.reply ⟨204, "", none⟩), (.refresh, .reply ⟨403, "", some errorC⟩),
    (.authenticate "f" "u" "p" true, .fail), (.refresh, .reply ⟨200, "x", none⟩), (.join "s", .fail)],
    Storing s = false := by decide +kernel
example : Storing (.refresh, .reply ⟨200, "", some resultB⟩) = true := by decide +kernel

/-- `runSvc` against a small stateful stand-in (it counts the requests and answers the third one
with an error): the run is a `runSeq` with the responses it gave. -/
def countingService : Service Nat :=
  ⟨fun n _ => (n + 1, if n = 2 then .reply ⟨403, "", some errorC⟩ else .reply ⟨204, "", none⟩)⟩
example : (runSvc countingService 0 (build World.newToken [(.str "alice", .str "acc-A", .str "cli-A")])
      [.method 0 .validate, .method 0 (.join "s"), .method 0 .invalidate, .method 0 .invalidate]).2.2.map
        (fun o => o.map (·.1)) =
    [some (.ret true), some (.yggdrasil (some .notAuthenticated) none .null .null .null),
     some (.ret true),
     some (.yggdrasil (some (.error 403 (.str "ForbiddenOperationException") (.str "Invalid token")))
       (some 403) (.str "ForbiddenOperationException") (.str "Invalid token")
       (.str "UserMigratedException"))] := by decide +kernel

end PyCraft.C19Seq
