import PyCraft.Lemmas.VersionProfiles
import PyCraft.Props.C11Wire
import PyCraft.Props.C10Wire
import PyCraft.Props.Session
/-!
# Version ↦ profile — the version-dependent parameters of C09Wire/C10Wire/C11/C11Wire are pinned

The play theorems (`Props/C11.lean`, `Props/C11Wire.lean`) are quantified over a `Profile` — six
packet ids and the switches `kaLong`, `newer107`, `dismount` — with `cbDistinct`/`sbDistinct` as
hypotheses; the login theorems (`Props/C10Wire.lean`) over `LoginWire.Ids` with `encResp ≠
plugResp` as a hypothesis; `Props/C09Wire.lean` over the login-start id.  Nothing said WHICH values
a protocol version gets, nor that reader, reactor and writer get the same one.  This file closes
that: `profileOf v`, `loginProfileOf v` (`Model/VersionProfiles.lean`) are computed from the
regenerated tables of the live code (`Generated/Ids.lean`: `get_packets`/`get_id`;
`Generated/VersionProfiles.lean`: class ↦ `packet_name`, and the BEHAVIOUR of the real
`PlayingReactor`/`LoginReactor`, `read`s and `write`s under every supported version), and the
theorems below hold for EVERY supported protocol version `v ∈ liveTables.supportedProtocols`
(250 on the current tree) — re-checked by the kernel on every regeneration.

The switch points are stated with the model of `ConnectionContext.protocol_later_eq` /
`protocol_earlier_eq` on the live version tables (`laterEq liveTables v b`, `Model/Versions.lean`,
tied to `minecraft/__init__.py` by `C08.model_eq_live`): "from protocol 107 on" means
`protocol_later_eq(107)`, which for snapshot numbers is NOT the numeric order.

Only property theorems and non-vacuity examples live here; helper lemmas are in
`Lemmas/VersionProfiles.lean`.
-/
namespace PyCraft.VersionProfiles
open PyCraft PyCraft.Play PyCraft.PlayWire PyCraft.Login PyCraft.LoginWire PyCraft.Session

/-- (1) Every supported version determines a play profile, and its switches are where the property
says.  For every supported `v` the tables determine exactly one profile `P` (each of the names
"keep alive", "player position and look", "disconnect" that `PlayingReactor.react` tests belongs to
exactly one registered class, reader and writer of the keep-alive id agree, every id is present), and
* the keep-alive id is a Long exactly from protocol 339 on, a VarInt before;
* the position-and-look packet carries a teleport id — and is therefore answered with a teleport
  confirm instead of the position echo — exactly from protocol 107 on;
* the dismount flag exists exactly from 755 on (and only together with the teleport id);
* a play-state "set compression" packet is known exactly up to protocol 47;
* the three clientbound ids the reactor reacts to are pairwise distinct, no other known clientbound
  packet has one of them, the two serverbound ids in use differ, and the teleport confirm is 0x00.
These are the hypotheses `hP`, `hSb` and the free flags of every C11Wire theorem. -/
theorem profile_at_every_supported_version (v : Nat) (hv : v ∈ liveTables.supportedProtocols) :
    ∃ P, profileOf v = some P ∧
      laterEq liveTables v 339 = .ok P.kaLong ∧
      laterEq liveTables v 107 = .ok P.newer107 ∧
      laterEq liveTables v 755 = .ok P.dismount ∧
      earlierEq liveTables v 47 = .ok (setCompOf P).isSome ∧
      (P.dismount = true → P.newer107 = true) ∧
      P.cbDistinct = true ∧ P.sbDistinct = true ∧
      (∀ e ∈ P.others, e.1 ≠ P.kaCb ∧ e.1 ≠ P.posLookCb ∧ e.1 ≠ P.disconnectCb) ∧
      P.teleportConfirmSb = 0 := by
  obtain ⟨P, hP⟩ := profileOf_total hv
  obtain ⟨r, F⟩ := profile_facts hP
  obtain ⟨k1, k2, k3, k4, -⟩ := bounds_known
  have hk := live_supportedProtocols_known hv
  refine ⟨P, hP, ?_, ?_, ?_, ?_, F.dismount, F.cbDistinct, F.sbDistinct, ?_, F.tc0⟩
  · rw [laterEq_live hk k1, F.kaLong_rank]
  · rw [laterEq_live hk k2, F.newer107_rank]
  · rw [laterEq_live hk k3, F.dismount_rank]
  · rw [earlierEq_live hk k4, F.setComp_rank]
  · intro e he
    have c4 := F.othersDisjoint
    simp only [othersDisjoint, List.all_eq_true, Bool.and_eq_true, bne_iff_ne, ne_eq] at c4
    exact ⟨(c4 e he).1.1, (c4 e he).1.2, (c4 e he).2⟩

/-- (2) Where the ids come from.  The profile's ids are those of the regenerated id tables: in the
row of `clientbound.play.get_packets`/`get_id` for `v` the reaction names resolve to one class each
under the profile's ids, each carried by NO other class of the row (so the reactor's dict
`{get_id(ctx): class}` maps them to those classes whatever the set iteration order — the known id
collisions K1 never touch a reacted id); the replies are written with the ids the serverbound row
registers for `KeepAlivePacket`, `PositionAndLookPacket` and — from 107 on — `TeleportConfirmPacket`,
again carried by one class each; `others` is the rest of the clientbound row with its packet
names. -/
theorem profile_ids_from_tables (v : Nat) (hv : v ∈ liveTables.supportedProtocols) (P : Profile)
    (hP : profileOf v = some P) :
    ∃ cb ∈ Gen.cbPlay, ∃ sb ∈ Gen.sbPlay, cb.1 = v ∧ sb.1 = v ∧ cb.2.1 = true ∧ sb.2.1 = true ∧
      (∃ c, dispatchIn cb.2.2 Gen.cbPlayNames "keep alive" = some (c, P.kaCb)) ∧
      (∃ c, dispatchIn cb.2.2 Gen.cbPlayNames "player position and look" =
        some (c, P.posLookCb)) ∧
      (∃ c, dispatchIn cb.2.2 Gen.cbPlayNames "disconnect" = some (c, P.disconnectCb)) ∧
      idIn sb.2.2 "KeepAlivePacket" = some P.kaSb ∧
      idIn sb.2.2 "PositionAndLookPacket" = some P.posLookSb ∧
      (P.newer107 = true → idIn sb.2.2 "TeleportConfirmPacket" = some P.teleportConfirmSb) ∧
      countId cb.2.2 P.kaCb = 1 ∧ countId cb.2.2 P.posLookCb = 1 ∧
      countId cb.2.2 P.disconnectCb = 1 ∧ countId sb.2.2 P.kaSb = 1 ∧ countId sb.2.2 P.ackSb = 1 ∧
      P.others = othersOf cb.2.2 Gen.cbPlayNames := by
  obtain ⟨r, F⟩ := profile_facts hP
  obtain ⟨m1, m2, -⟩ := playRows_mem F.mem
  have hu := F.unshared
  simp only [unshared, Bool.and_eq_true, beq_iff_eq] at hu
  refine ⟨r.cb, m1, r.sb, m2, F.ver, F.sbv.trans F.ver, F.cbSup, F.sbSup, F.ka, F.pos, F.disc,
    F.kaSb, F.posLookSb, fun hn => ?_, hu.1.1.1.1, hu.1.1.1.2, hu.1.1.2, hu.1.2, hu.2, F.others⟩
  have i3 := F.tc
  rw [hn] at i3
  exact i3

/-- (3) One flag, two Python tests — and the third, the writer.  What the real code DID under
protocol `v` (the probe row of `v`, produced by running `read`, `PlayingReactor.react` and `write`
on reference inputs) is what the profile says: `KeepAlivePacket.read` consumed a signed Long iff
`kaLong` and the reply was written in the SAME width; `PlayerPositionAndLookPacket.read` consumed a
teleport id iff `newer107` (and the dismount flag iff `dismount`), and `react` — whose version test
`connection.py:814` is textually independent of the packet's — answered with a teleport confirm
carrying that id iff `newer107`, else with the echo of the 32 bytes read and `on_ground = 1`, and
set `spawned`; the replies went out under the profile's ids; a disconnect packet made it call
`disconnect()` once and write nothing. -/
theorem reactor_reader_writer_agree (v : Nat) (hv : v ∈ liveTables.supportedProtocols)
    (P : Profile) (hP : profileOf v = some P) :
    ∃ pr ∈ Gen.playProbe, pr.v = v ∧
      pr.kaRead = (if P.kaLong then 1 else 0) ∧ pr.kaWrite = (if P.kaLong then 1 else 0) ∧
      pr.posRead = (if P.dismount then 2 else if P.newer107 then 1 else 0) ∧
      pr.ackKind = (if P.newer107 then 1 else 0) ∧
      pr.kaCb = P.kaCb ∧ pr.kaSb = P.kaSb ∧ pr.posCb = P.posLookCb ∧ pr.ackSb = P.ackSb ∧
      pr.discCb = P.disconnectCb ∧ pr.discKind = 1 ∧ pr.setComp = setCompOf P := by
  obtain ⟨r, F⟩ := profile_facts hP
  obtain ⟨k1, k2, k3⟩ := kaLongOfProbe_some F.kaLong
  obtain ⟨p1, p2, p3⟩ := posFlagsOfProbe_some F.flags
  have hb := F.behaviour
  simp only [behaviourOk, Bool.and_eq_true, beq_iff_eq] at hb
  obtain ⟨⟨⟨⟨⟨⟨⟨b1, b2⟩, b3⟩, b4⟩, b5⟩, b6⟩, b7⟩, b8⟩ := hb
  refine ⟨r.pr, (playRows_mem F.mem).2.2, F.prv.trans F.ver, ?_, ?_, ?_, b5, b1, b2, b3, b4, b6, b7,
    b8⟩
  · rw [k1]; rcases k3 with h | h <;> simp [h]
  · rw [k2, k1]; rcases k3 with h | h <;> simp [h]
  · rw [p1, p2]
    have : r.pr.posRead = 0 ∨ r.pr.posRead = 1 ∨ r.pr.posRead = 2 := by omega
    rcases this with h | h | h <;> simp [h]

/-- (4) The switch from echo to teleport confirm is at protocol 107 (C11 clause "a teleport
confirm with the same id from protocol 107 on, an echoing position packet before that").  For every
supported `v` with its profile `P` and every position-and-look packet a server writes: if
`protocol_later_eq(107)` holds for `v`, the reply due is exactly one `TeleportConfirmPacket` (id
0x00) whose field is the packet's teleport id as a VarInt; otherwise it is exactly one serverbound
position-and-look (the id the serverbound table registers) whose fields are the first 32 bytes of
the server's own fields followed by `on_ground = 1`.  Exactly one of the two cases applies. -/
theorem teleport_switch_at_107 (v : Nat) (hv : v ∈ liveTables.supportedProtocols) (P : Profile)
    (hP : profileOf v = some P) (x y z yaw pitch flags tid : Nat) (dv : Bool) :
    let p := SrvPkt.posLook x y z yaw pitch flags tid dv
    (laterEq liveTables v 107 = .ok true ∨ laterEq liveTables v 107 = .ok false) ∧
    (laterEq liveTables v 107 = .ok true →
      replyTo P.newer107 p.ev = [.teleportConfirm tid] ∧
      ackOf P p = some (0, encVarInt tid) ∧
      replyFields P (.teleportConfirm tid) = (0, encVarInt tid)) ∧
    (laterEq liveTables v 107 = .ok false →
      replyTo P.newer107 p.ev = [.positionEcho x y z yaw pitch true] ∧
      ackOf P p = some (P.posLookSb, (serverFields P p).2.take 32 ++ [1])) := by
  intro p
  obtain ⟨P', hP', -, h107, -, -, -, -, -, -, htc⟩ := profile_at_every_supported_version v hv
  have : P' = P := Option.some.inj (hP'.symm.trans hP)
  subst this
  refine ⟨?_, ?_, ?_⟩
  · rw [h107]; cases P'.newer107 <;> simp
  · intro h
    have hn : P'.newer107 = true := by rw [h107] at h; exact (Except.ok.inj h)
    simp [p, replyTo, ackOf, replyFields, SrvPkt.ev, hn, htc]
  · intro h
    have hn : P'.newer107 = false := by rw [h107] at h; exact (Except.ok.inj h)
    simp [p, replyTo, ackOf, SrvPkt.ev, hn]

/-- (5) C11Wire's end-to-end theorem at a protocol version.  `C11Wire.session_end_to_end` with the
profile no longer a parameter: for EVERY supported `v` the profile `profileOf v` exists and, with
no hypothesis on ids or flags left, server bytes in (any well-formed packets — play-state "set
compression" packets included, each switching the threshold of both directions at its position —,
any initial threshold, zlib, cipher pair, chunking and segmentation) are decoded by the client, the
loop runs (any caps with `capR ≥ 1`), and the reference server reading the client's bytes in any
segmentation recovers exactly the replies due to the packets before the first disconnect — in the
keep-alive width, with the acknowledgement kind and under the ids protocol `v` prescribes (theorems
(1)–(4)), every reply framed with the threshold in force when it was written (`thrTags`).  By (6) only
versions up to 47 have set-compression packets at all; for the later ones `thrAt thr pkts n = thr`
throughout. -/
theorem session_end_to_end_at (v : Nat) (hv : v ∈ liveTables.supportedProtocols) :
    ∃ P, profileOf v = some P ∧
      ∀ {σ τ : Type} (cpS : CipherPair σ) (s0 : σ) (cpC : CipherPair τ) (t0 : τ) (z : Zlib)
        (thr : Option Int) (pkts : List SrvPkt) (capW capR : Nat), 1 ≤ capR →
        (∀ p ∈ pkts, p.wf P = true) →
        ServerOK z.toZlibOps P thr pkts →
        (∀ q ∈ due P pkts, ∀ n ≤ pkts.length,
          FrameOK z.toZlibOps (thrAt thr pkts n) (replyFields P q)) →
        ∀ (sends : List Bytes), sends.flatten = serverBytes z.toZlibOps thr P pkts →
        ∀ (segsIn : Segs), segsIn.flatten = (encSends cpS.enc s0 sends).2.flatten →
        ∃ inbox r tw, clientRead P cpS.dec s0 z.toZlibOps thr.isSome segsIn = (inbox, .eof) ∧
          runLoop P.newer107 true capW capR inbox = some r ∧
          runT P.newer107 true capW capR inbox = some tw ∧ tw.map (·.1) = r.wire ∧
          r.closed = hasDiscP pkts ∧
          ∀ (last : Bool) (segsOut : Segs),
            segsOut.flatten =
              (clientWireT z.toZlibOps P cpC.enc t0 (thrTags thr pkts tw)).flatten →
            serverDecodeRepliesM P cpC.dec t0 z.toZlibOps
              ((thrTags thr pkts tw).map (·.2.isSome)) last segsOut = (due P pkts, .eof) := by
  obtain ⟨P, hP, -, -, -, -, -, c1, c2, -, -⟩ := profile_at_every_supported_version v hv
  refine ⟨P, hP, ?_⟩
  intro σ τ cpS s0 cpC t0 z thr pkts capW capR hR hwf hokS hokC sends hsends segsIn hin
  exact C11Wire.session_end_to_end cpS s0 cpC t0 z thr P pkts capW capR hR c1 c2 hwf hokS hokC
    sends hsends segsIn hin

/-- (6) The play-state "set compression" packet exists exactly up to protocol 47.  For every
supported `v`: the profile's `setCompressionCb` is the id the clientbound play table has under the
name "set compression" (`setCompOf`), it differs from the three ids the reactor reacts to otherwise,
and it exists iff `protocol_earlier_eq(47)`; for every later version no well-formed server packet is
one (its id is simply unknown: a bare `Packet`), the threshold never changes in the play state, and
the hypothesis `hquiet` of (10) holds automatically. -/
theorem play_set_compression_upto_47 (v : Nat) (hv : v ∈ liveTables.supportedProtocols)
    (P : Profile) (hP : profileOf v = some P) :
    P.setCompressionCb = setCompOf P ∧
    (∀ id, P.setCompressionCb = some id →
      id ≠ P.kaCb ∧ id ≠ P.posLookCb ∧ id ≠ P.disconnectCb ∧
      ∀ t, t < 2 ^ 42 → (SrvPkt.setCompression t).wf P = true) ∧
    (earlierEq liveTables v 47 = .ok true ↔ ∃ e ∈ P.others, e.2 = "set compression") ∧
    (earlierEq liveTables v 47 = .ok P.setCompressionCb.isSome) ∧
    (earlierEq liveTables v 47 = .ok false →
      (∀ p : SrvPkt, p.wf P = true → isSetCompression p = false) ∧
      ∀ (pkts : List SrvPkt) (thr : Option Int), (∀ p ∈ pkts, p.wf P = true) →
        ∀ n, thrAt thr pkts n = thr) := by
  obtain ⟨P', hP', -, -, -, h47, -, -, -, hoth, -⟩ := profile_at_every_supported_version v hv
  have : P' = P := Option.some.inj (hP'.symm.trans hP)
  subst this
  obtain ⟨r, F⟩ := profile_facts hP
  have hsc := F.setComp
  have hquiet : earlierEq liveTables v 47 = .ok false →
      ∀ p : SrvPkt, p.wf P' = true → isSetCompression p = false := by
    intro h p hwf
    rw [h47] at h
    have hs : (setCompOf P').isSome = false := Except.ok.inj h
    have : setCompOf P' = none := by simpa using hs
    exact wf_not_setCompression P' (hsc.trans this) p hwf
  refine ⟨hsc, ?_, ?_, by rw [hsc]; exact h47, fun h => ⟨hquiet h, ?_⟩⟩
  · intro id hid
    rw [hsc] at hid
    have hm : (id, "set compression") ∈ P'.others := by
      unfold setCompOf setCompIn at hid
      simp only [Option.map_eq_some_iff] at hid
      obtain ⟨e, he, rfl⟩ := hid
      have h1 := List.find?_some he
      have h2 := List.mem_of_find?_eq_some he
      simp only [beq_iff_eq] at h1
      rw [← h1]; exact h2
    obtain ⟨a, b, c⟩ := hoth _ hm
    refine ⟨a, b, c, fun t ht => ?_⟩
    rw [← hsc] at hid
    simp [SrvPkt.wf, hid, a, b, c, ht]
  · rw [h47]
    unfold setCompOf setCompIn
    simp only [Except.ok.injEq, Option.isSome_map, List.find?_isSome, beq_iff_eq]
  · intro pkts thr hwf
    exact thrAt_quiet thr pkts fun p hp => hquiet h p (hwf p hp)

/-- (7) Every supported version determines a login profile, with its two renumberings.  For every
supported `v` the tables determine one login profile `L`, and
* a plugin request is decodable and a plugin response registered exactly from protocol 385 on;
* `LoginSuccessPacket.read` takes the UUID as 16 bytes exactly from 707 on;
* from 391 on: login start 0, encryption response 1, plugin response 2; clientbound disconnect 0,
  encryption request 1, login success 2, set compression 3, plugin request 4;
* 385 … 390 (the 1.13 snapshots): login start 1, encryption response 2, plugin response 0;
  clientbound 1, 2, 3, 4 and plugin request 0;
* before 385: login start 0, encryption response 1; clientbound 0, 1, 2, 3, no plugin request;
* in every case the ids of encryption response and plugin response differ (the hypothesis `hids`
  of C10Wire and Session), the login start id differs from both and is below `2^32` (the guard of
  `HsWire.FirstOK`). -/
theorem login_profile_at_every_supported_version (v : Nat)
    (hv : v ∈ liveTables.supportedProtocols) :
    ∃ L, loginProfileOf v = some L ∧ idsAt v = some L.ids ∧ lsIdAt v = some L.lsId ∧
      laterEq liveTables v 385 = .ok L.plugin ∧
      laterEq liveTables v 707 = .ok L.uuidBinary ∧
      (laterEq liveTables v 391 = .ok true →
        L.lsId = 0 ∧ L.ids = ⟨1, 2⟩ ∧ L.plugin = true ∧
        (L.discCb, L.encReqCb, L.successCb, L.setCompCb, L.plugReqCb) = (0, 1, 2, 3, some 4)) ∧
      (laterEq liveTables v 391 = .ok false → L.plugin = true →
        L.lsId = 1 ∧ L.ids = ⟨2, 0⟩ ∧
        (L.discCb, L.encReqCb, L.successCb, L.setCompCb, L.plugReqCb) = (1, 2, 3, 4, some 0)) ∧
      (L.plugin = false →
        L.lsId = 0 ∧ L.ids.encResp = 1 ∧ laterEq liveTables v 391 = .ok false ∧
        (L.discCb, L.encReqCb, L.successCb, L.setCompCb, L.plugReqCb) = (0, 1, 2, 3, none)) ∧
      L.ids.encResp ≠ L.ids.plugResp ∧ L.lsId ≠ L.ids.encResp ∧
      (L.plugin = true → L.lsId ≠ L.ids.plugResp) ∧ L.lsId < 2 ^ 32 := by
  obtain ⟨L, hL⟩ := loginProfileOf_total hv
  obtain ⟨r, F⟩ := login_facts hL
  obtain ⟨-, -, -, -, k1, k2, k3⟩ := bounds_known
  have hk := live_supportedProtocols_known hv
  have h391 : laterEq liveTables v 391 = .ok (L.plugin && L.lsId == 0) := by
    rw [laterEq_live hk k2, F.final_rank]
  have hdist := F.distinct
  simp only [loginDistinct, Bool.and_eq_true, bne_iff_ne, ne_eq, Bool.or_eq_true,
    Bool.not_eq_true', decide_eq_true_eq] at hdist
  obtain ⟨⟨⟨⟨⟨⟨⟨⟨⟨⟨⟨d1, d2⟩, d3⟩, -⟩, -⟩, -⟩, -⟩, -⟩, -⟩, -⟩, -⟩, d12⟩ := hdist
  obtain ⟨sh391, sh385, shOld⟩ := loginShapeOk_facts F.shape
  refine ⟨L, hL, by simp [idsAt, hL], by simp [lsIdAt, hL], ?_, ?_, ?_, ?_, ?_, d1, d2, ?_, d12⟩
  · rw [laterEq_live hk k1, F.plugin_rank]
  · rw [laterEq_live hk k3, F.uuid_rank]
  · intro h
    rw [h391] at h
    have hc : (L.plugin && L.lsId == 0) = true := Except.ok.inj h
    obtain ⟨s1, s2⟩ := sh391 hc
    simp only [Bool.and_eq_true, beq_iff_eq] at hc
    exact ⟨hc.2, s1, hc.1, s2⟩
  · intro h hp
    rw [h391] at h
    exact sh385 (Except.ok.inj h) hp
  · intro hp
    have hc : (L.plugin && L.lsId == 0) = false := by rw [hp]; rfl
    obtain ⟨s0, s1, s2⟩ := shOld hp
    exact ⟨s0, s1, by rw [h391, hc], s2⟩
  · intro hp
    rcases d3 with h | h
    · rw [hp] at h; cases h
    · exact h

/-- (8) What the real login reactor did under protocol `v` is what the login profile says: the
login start went out under `lsId`; the reactor's own table dispatched the five reactions under the
profile's clientbound ids; an encryption request was answered by ONE forced packet named
"encryption response" under `ids.encResp` (two VarInt-prefixed arrays), socket and file object
replaced; a plugin request — decodable iff `plugin` — by one queued "login plugin response" with the
request's message id and `successful = False` under `ids.plugResp`; "login success" was read in the
UUID format of the profile and installed the playing reactor; "set compression" set the threshold
and enabled compression. -/
theorem login_reactor_behaviour (v : Nat) (hv : v ∈ liveTables.supportedProtocols)
    (L : LoginProfile) (hL : loginProfileOf v = some L) :
    ∃ pr ∈ Gen.loginProbe, pr.v = v ∧ pr.lsId = L.lsId ∧
      (pr.discCb, pr.encReqCb, pr.successCb, pr.setCompCb, pr.plugReqCb) =
        (L.discCb, L.encReqCb, L.successCb, L.setCompCb, L.plugReqCb) ∧
      pr.encResp = L.ids.encResp ∧ pr.encKind = 1 ∧ pr.plugRespId = L.ids.plugResp ∧
      pr.plugReact = (if L.plugin then some L.ids.plugResp else none) ∧
      pr.plugKind = (if L.plugin then 1 else 0) ∧
      pr.successKind = (if L.uuidBinary then 1 else 0) ∧ pr.setCompKind = 1 := by
  obtain ⟨r, F⟩ := login_facts hL
  have hbeh := F.behaviour
  simp only [loginBehaviourOk, Bool.and_eq_true, beq_iff_eq] at hbeh
  obtain ⟨⟨⟨⟨⟨⟨⟨⟨⟨⟨⟨b1, b2⟩, b3⟩, b4⟩, b5⟩, b6⟩, b7⟩, b8⟩, b9⟩, b10⟩, b11⟩, b12⟩ := hbeh
  exact ⟨r.pr, (loginRows_mem F.mem).2.2, F.prv.trans F.ver, b1, by rw [b2, b3, b4, b5, b6], b7, b8,
    b9, b10, b11, uuidOfProbe_some F.uuid, b12⟩

/-- (9) C10Wire's server theorem at a protocol version: `C10Wire.server_recovers_outbox` with
`ids := idsAt v`, the hypothesis `hids` discharged for every supported version.  (Before 385 a
plugin request cannot be decoded by Python; the statement then merely covers more step lists than
the code can produce.) -/
theorem server_recovers_outbox_at (v : Nat) (hv : v ∈ liveTables.supportedProtocols) :
    ∃ ids, idsAt v = some ids ∧
      ∀ (P : LoginParams) (steps : List Step) (z : Zlib) (EK : Bytes → Bytes → Bytes)
        (priv : Bytes) (segs : Segs),
        (∀ sid pk tok, LoginEv.encRequest sid pk tok ∈ events steps → P.rsa.matching pk priv) →
        (∀ f ∈ (exec P .init steps).outbox, FrameOK z.toZlibOps f.threshold (wirePkt ids f)) →
        segs.flatten =
          wireBytes z.toZlibOps (EK P.secret) P.secret ids (exec P .init steps).outbox →
        let outbox := (exec P .init steps).outbox
        let r := serverRecover z.toZlibOps EK (P.rsa.dec priv) ids.encResp (modesOf outbox) segs
        r.packets = outbox.map (wirePkt ids) ∧ r.err = none ∧ r.rest = [] ∧
          r.key = if outbox.any (fun f => isEncResp f.pkt) then some P.secret else none := by
  obtain ⟨L, -, hids, -, -, -, -, -, -, hne, -⟩ := login_profile_at_every_supported_version v hv
  exact ⟨L.ids, hids, fun P steps z EK priv segs hkey hok hseg =>
    C10Wire.server_recovers_outbox P steps z EK L.ids priv segs hne hkey hok hseg⟩

/-- (10) The whole session at a protocol version: `SessionProps.server_recovers_session` for a
session whose login-start id, login ids and play profile are the ones protocol `v` determines
(`AtVersion S v`) — the hypotheses `hids` (login ids differ) and `hSb` (serverbound play ids differ)
are discharged for every supported `v`; everything else (the guards `FirstOK`, `ReachesPlay`, the
key, the VarInt guards, well-formed packets, `capR ≥ 1`, the peer) is as there.  Such a session
exists for every supported version (`session_exists_at`).  Scope: `hquiet` excludes a play-state
"set compression" packet: `Model/SessionWire.lean` frames every play reply with the ONE threshold
login left in force (see the scope note of `Props/Session.lean`; the per-reply thresholds are in (5)
and `C11Wire`); by (6) the hypothesis is automatic for every version later than 47. -/
theorem server_recovers_session_at (v : Nat) (hv : v ∈ liveTables.supportedProtocols)
    (S : Session) (hS : AtVersion S v) (z : Zlib) (EK : Bytes → Bytes → Bytes)
    (priv : Bytes) (segs : Segs)
    (hfirst : HsWire.FirstOK S.lsId S.conn S.plan) (hplay : ReachesPlay S)
    (hkey : ∀ sid pk tok, LoginEv.encRequest sid pk tok ∈ events S.steps →
      S.lp.rsa.matching pk priv)
    (hokL : ∀ f ∈ outbox S, FrameOK z.toZlibOps f.threshold (wirePkt S.ids f))
    (hR : 1 ≤ S.capR) (hwf : ∀ p ∈ S.pkts, p.wf S.profile = true)
    (_hquiet : ∀ p ∈ S.pkts, isSetCompression p = false)
    (hokP : ∀ q ∈ PlayWire.due S.profile S.pkts,
      FrameOK z.toZlibOps (finalMode S).threshold (PlayWire.replyFields S.profile q))
    (hpo : S.peerOpen = true ∨ PlayWire.hasDiscP S.pkts = false)
    (hseg : segs.flatten = (clientBytes z.toZlibOps (EK S.lp.secret) S).1) :
    (clientBytes z.toZlibOps (EK S.lp.secret) S).2 = none ∧
    ∃ name, Neg.loginName S.conn = some name ∧
      serverRecoverSession z.toZlibOps EK (S.lp.rsa.dec priv) S.lsId S.ids.encResp S.profile
          (serverScript S) segs =
        { hs := some ⟨v, S.conn.host, S.conn.port, 2⟩
          name := some name
          login := (outbox S).map (wirePkt S.ids)
          key := (finalMode S).cipher
          replies := PlayWire.due S.profile S.pkts
          err := none
          playEnd := some .eof } := by
  obtain ⟨hproto, -, hids, hprof⟩ := hS
  obtain ⟨L, -, hids', -, -, -, -, -, -, hne, -⟩ := login_profile_at_every_supported_version v hv
  obtain ⟨P, hP, -, -, -, -, -, -, hSb, -, -⟩ := profile_at_every_supported_version v hv
  have e1 : L.ids = S.ids := Option.some.inj (hids'.symm.trans hids)
  have e2 : P = S.profile := Option.some.inj (hP.symm.trans hprof)
  rw [e1] at hne
  rw [e2] at hSb
  rw [← hproto]
  exact SessionProps.server_recovers_session S z EK priv segs hfirst hplay hne hkey hokL hR hSb hwf
    hokP hpo hseg

/-- For every supported version there is a session at that version (any connection parameters,
login parameters, server steps, packets and caps). -/
theorem session_exists_at (v : Nat) (hv : v ∈ liveTables.supportedProtocols) (S : Session) :
    ∃ S' : Session, AtVersion S' v ∧ S'.conn = S.conn ∧ S'.lp = S.lp ∧ S'.steps = S.steps ∧
      S'.pkts = S.pkts ∧ S'.peerOpen = S.peerOpen ∧ S'.capW = S.capW ∧ S'.capR = S.capR := by
  obtain ⟨L, -, hids, hls, -⟩ := login_profile_at_every_supported_version v hv
  obtain ⟨P, hP, -⟩ := profile_at_every_supported_version v hv
  exact ⟨{ S with proto := v, lsId := L.lsId, ids := L.ids, profile := P },
    ⟨rfl, hls, hids, hP⟩, rfl, rfl, rfl, rfl, rfl, rfl, rfl⟩

/-- (11) The DECLARED layouts (`get_definition`, `Generated/Layouts.lean`) switch at the same
points, for every KNOWN version (369 on the current tree, supported or not).  With `a … e` the
answers of `protocol_later_eq` to 339, 107, 755, 385 and 707: both keep-alive classes declare
`keep_alive_id` as a Long iff `a`, else a VarInt; the clientbound position-and-look declares the six
fixed fields, then `teleport_id` iff `b`, then `dismount_vehicle` iff `c`; `TeleportConfirmPacket`
(one VarInt `teleport_id`) is registered iff `b`; the login plugin request iff `d` (its response has
a hand-written codec: no declarative layout); login success declares the UUID as `UUID` iff `e`, else
`String`; and the layouts the play and login models hard-code — clientbound disconnect (one String),
serverbound position-and-look (x, feet_y, z, yaw, pitch, on_ground), encryption request and response
(server id, public key, verify token / shared secret, verify token — in this order, under these
names), login start, set compression — are the same under every known version. -/
theorem declared_layouts_switch_with_the_profile (v : Nat) (hv : v ∈ liveTables.knownProtocols) :
    ∃ a b c d e : Bool,
      laterEq liveTables v 339 = .ok a ∧ laterEq liveTables v 107 = .ok b ∧
      laterEq liveTables v 755 = .ok c ∧ laterEq liveTables v 385 = .ok d ∧
      laterEq liveTables v 707 = .ok e ∧
      layoutAt Gen.cbPlayLayouts "KeepAlivePacket" v =
        some [("keep_alive_id", if a then .int .i64 else .varint)] ∧
      layoutAt Gen.sbPlayLayouts "KeepAlivePacket" v =
        some [("keep_alive_id", if a then .int .i64 else .varint)] ∧
      layoutAt Gen.cbPlayLayouts "PlayerPositionAndLookPacket" v =
        some (posBase ++ (if b then [("teleport_id", .varint)] else []) ++
          (if c then [("dismount_vehicle", .bool)] else [])) ∧
      layoutAt Gen.sbPlayLayouts "TeleportConfirmPacket" v = (if b then some tcLayout else none) ∧
      layoutAt Gen.cbLoginLayouts "PluginRequestPacket" v =
        (if d then some plugReqLayout else none) ∧
      layoutAt Gen.sbLoginLayouts "PluginResponsePacket" v = none ∧
      layoutAt Gen.cbLoginLayouts "LoginSuccessPacket" v =
        some [("UUID", if e then .uuid else .string), ("Username", .string)] ∧
      layoutAt Gen.cbPlayLayouts "DisconnectPacket" v = some discLayout ∧
      layoutAt Gen.sbPlayLayouts "PositionAndLookPacket" v = some echoLayout ∧
      layoutAt Gen.cbLoginLayouts "DisconnectPacket" v = some discLayout ∧
      layoutAt Gen.cbLoginLayouts "EncryptionRequestPacket" v = some encReqLayout ∧
      layoutAt Gen.cbLoginLayouts "SetCompressionPacket" v = some setCompLayout ∧
      layoutAt Gen.sbLoginLayouts "LoginStartPacket" v = some loginStartLayout ∧
      layoutAt Gen.sbLoginLayouts "EncryptionResponsePacket" v = some encRespLayout := by
  obtain ⟨k339, k107, k755, -, k385, -, k707⟩ := bounds_known
  obtain ⟨l1, l2, l3, l4, l5, l6, l7, l8, l9, l10, l11, l12, l13, l14⟩ := layouts_at hv
  refine ⟨decide (rank 339 ≤ rank v), decide (rank 107 ≤ rank v), decide (rank 755 ≤ rank v),
    decide (rank 385 ≤ rank v), decide (rank 707 ≤ rank v), laterEq_live hv k339,
    laterEq_live hv k107, laterEq_live hv k755, laterEq_live hv k385, laterEq_live hv k707,
    ?_, ?_, ?_, ?_, ?_, l14, ?_, l4, l5, l7, l8, l9, l12, l13⟩
  · rw [l1]; simp only [decide_eq_true_eq]
  · rw [l2]; simp only [decide_eq_true_eq]
  · rw [l3]; simp only [decide_eq_true_eq]
  · rw [l6]; simp only [decide_eq_true_eq]
  · rw [l10]; simp only [decide_eq_true_eq]
  · rw [l11]; simp only [decide_eq_true_eq]

/-- (11′) … hence, for a supported version, the declared layouts are the ones of its profiles: the
flags `a, b, c, d, e` of (11) are `P.kaLong`, `P.newer107`, `P.dismount`, `L.plugin`,
`L.uuidBinary`. -/
theorem declared_layouts_match_profile (v : Nat) (hv : v ∈ liveTables.supportedProtocols)
    (P : Profile) (hP : profileOf v = some P) (L : LoginProfile) (hL : loginProfileOf v = some L) :
    layoutAt Gen.cbPlayLayouts "KeepAlivePacket" v =
      some [("keep_alive_id", if P.kaLong then .int .i64 else .varint)] ∧
    layoutAt Gen.sbPlayLayouts "KeepAlivePacket" v =
      some [("keep_alive_id", if P.kaLong then .int .i64 else .varint)] ∧
    layoutAt Gen.cbPlayLayouts "PlayerPositionAndLookPacket" v =
      some (posBase ++ (if P.newer107 then [("teleport_id", .varint)] else []) ++
        (if P.dismount then [("dismount_vehicle", .bool)] else [])) ∧
    layoutAt Gen.sbPlayLayouts "TeleportConfirmPacket" v =
      (if P.newer107 then some tcLayout else none) ∧
    layoutAt Gen.cbLoginLayouts "PluginRequestPacket" v =
      (if L.plugin then some plugReqLayout else none) ∧
    layoutAt Gen.cbLoginLayouts "LoginSuccessPacket" v =
      some [("UUID", if L.uuidBinary then .uuid else .string), ("Username", .string)] := by
  obtain ⟨a, b, c, d, e, ha, hb, hc, hd, he, l1, l2, l3, l4, l5, -, l7, -⟩ :=
    declared_layouts_switch_with_the_profile v (live_supportedProtocols_known hv)
  obtain ⟨P', hP', pa, pb, pc, -⟩ := profile_at_every_supported_version v hv
  obtain ⟨L', hL', -, -, pd, pe, -⟩ := login_profile_at_every_supported_version v hv
  have e1 : P' = P := Option.some.inj (hP'.symm.trans hP)
  have e2 : L' = L := Option.some.inj (hL'.symm.trans hL)
  subst e1 e2
  have ea : a = P'.kaLong := Except.ok.inj (ha.symm.trans pa)
  have eb : b = P'.newer107 := Except.ok.inj (hb.symm.trans pb)
  have ec : c = P'.dismount := Except.ok.inj (hc.symm.trans pc)
  have ed : d = L'.plugin := Except.ok.inj (hd.symm.trans pd)
  have ee : e = L'.uuidBinary := Except.ok.inj (he.symm.trans pe)
  rw [ea] at l1 l2
  rw [eb, ec] at l3
  rw [eb] at l4
  rw [ed] at l5
  rw [ee] at l7
  exact ⟨l1, l2, l3, l4, l5, l7⟩

/-! ### Negative witnesses: seeded code changes that passed every theorem before

Each `… 108`/`340`/`2` function (`Model/VersionProfiles.lean`) turns a table row into what the
generators emit for a copy of /repo with ONE line changed (verified by running
`harness/gen/versionprofiles.py` on such copies: the only differences are the rows modelled here).
With the changed rows the checks behind theorems (1)–(3) and (7) evaluate to `false`: regenerating
the tables from the changed code makes `Lemmas.VersionProfiles.play_tables_ok` /
`login_tables_ok` — hence every theorem of this file — fail to check. -/

/-- `connection.py:814` `protocol_later_eq(107)` → `(108)` (the reactor's test only): under
protocol 107 the packet is still read with its teleport id (`newer107 = true`) but answered with
the position echo (`ackKind` 0 instead of 1).  The row of 107 passes on the live code and fails with
the change — the two Python tests behind the one flag no longer agree — and so does the whole
table check.  Likewise `player_position_and_look_packet.py:36` `(107)` → `(108)` (the packet's test
only): no teleport id is read, the reactor raises `AttributeError`, nothing is written. -/
theorem reactor_and_reader_must_switch_together :
    (playRowAt 107).map (playRowOk Gen.cbPlayNames) = some true ∧
    (playRowAt 107).map (fun r => playRowOk Gen.cbPlayNames (reactor108 r)) = some false ∧
    (playRowAt 107).map (fun r => (profileOfRow Gen.cbPlayNames (reactor108 r)).map
      fun P => (P.newer107, r.pr.ackKind, (reactor108 r).pr.ackKind)) =
        some (some (true, 1, 0)) ∧
    playTablesOk liveTables Gen.cbPlayNames (playRows.map reactor108) = false ∧
    (playRowAt 107).map (fun r => playRowOk Gen.cbPlayNames (layout108 r)) = some false ∧
    playTablesOk liveTables Gen.cbPlayNames (playRows.map layout108) = false := by
  decide +kernel

/-- `keep_alive_packet.py:11` `protocol_later_eq(339)` → `(340)` (seeded change C11-m1): under
protocol 339 the id is read and echoed as a VarInt.  Every single row is still self-consistent
(reader = writer), which is why no per-profile theorem could see it; what fails is the SWITCH POINT:
the profile of 339 has `kaLong = false` although `protocol_later_eq(339)` holds for 339, and the
flag list no longer steps up at 339. -/
theorem keepalive_switch_must_be_at_339 :
    (playRowAt 339).map (playRowOk Gen.cbPlayNames) = some true ∧
    ((playRowAt 339).bind fun r =>
      (profileOfRow Gen.cbPlayNames r).map (·.kaLong)) = some true ∧
    ((playRowAt 339).bind fun r =>
      (profileOfRow Gen.cbPlayNames (keepAlive340 r)).map (·.kaLong)) = some false ∧
    laterEq liveTables 339 339 = .ok true ∧
    playSwitchesOk playRows = true ∧
    playSwitchesOk (playRows.map keepAlive340) = false := by
  decide +kernel

/-- `EncryptionResponsePacket.get_id`: `0x01 if protocol_later_eq(391)` → `0x02`: from 391 on the
encryption response would share id 2 with the plugin response — the hypothesis `hids` of C10Wire
and Session, never discharged before, is false for the changed code; the row of 391 fails. -/
theorem login_ids_must_differ :
    (loginRowAt 391).map (loginRowOk Gen.cbLoginNames) = some true ∧
    (loginRowAt 391).map (fun r => loginRowOk Gen.cbLoginNames (encResp2 r)) = some false ∧
    ((loginRowAt 391).bind fun r =>
      (loginProfileOfRow Gen.cbLoginNames (encResp2 r)).map (·.ids)) = some ⟨2, 2⟩ := by
  decide +kernel

/-! ### Non-vacuity (kernel-evaluated on the live tables) -/

/-- 250 supported versions; the boundary versions and their neighbours are among them. -/
example : liveTables.supportedProtocols.length = 250 ∧
    [47, 107, 338, 339, 384, 385, 390, 391, 706, 707, 754, 755, 757].all
      (liveTables.supportedProtocols.contains ·) = true := by decide +kernel

/-- The hand-written demo profiles of C11Wire ARE the live profiles of 757 and 47 (up to the list
of other known packets, of which the demo keeps one). -/
example : (profileOf 757).map (fun P => { P with others := [] }) = some { p757 with others := [] } ∧
    (profileOf 47).map (fun P => { P with others := [] }) = some { p47 with others := [] } ∧
    (profileOf 757).map (fun P => (P.others.length, P.others.lookup 0x0F)) =
      some (24, some "chat message") ∧
    (profileOf 47).map setCompOf = some (some 0x46) ∧
    (profileOf 47).map (·.setCompressionCb) = some (some 0x46) ∧
    (profileOf 107).map setCompOf = some none ∧
    (profileOf 107).map (·.setCompressionCb) = some none := by decide +kernel

/-- Either side of each switch: 338/339 (keep-alive width), 47/107 (teleport id), 754/755
(dismount flag). -/
example : ((profileOf 338).map (·.kaLong), (profileOf 339).map (·.kaLong)) =
      (some false, some true) ∧
    ((profileOf 47).map (·.newer107), (profileOf 107).map (·.newer107)) =
      (some false, some true) ∧
    ((profileOf 754).map (·.dismount), (profileOf 755).map (·.dismount)) =
      (some false, some true) ∧
    (profileOf 47).map (·.ackSb) = some 0x06 ∧ (profileOf 107).map (·.ackSb) = some 0x00 := by
  decide +kernel

/-- The login ids on either side of 385 and 391, and the login-start id. -/
example : idsAt 384 = some ⟨1, 0⟩ ∧ idsAt 385 = some ⟨2, 0⟩ ∧ idsAt 390 = some ⟨2, 0⟩ ∧
    idsAt 391 = some ⟨1, 2⟩ ∧ idsAt 757 = some ⟨1, 2⟩ ∧
    lsIdAt 384 = some 0 ∧ lsIdAt 385 = some 1 ∧ lsIdAt 391 = some 0 ∧
    (loginProfileOf 706).map (·.uuidBinary) = some false ∧
    (loginProfileOf 707).map (·.uuidBinary) = some true := by decide +kernel

/-- An unsupported or unknown number has no profile. -/
example : profileOf 106 = none ∧ profileOf 758 = none ∧ loginProfileOf 48 = none := by
  decide +kernel

/-- The reply to a position-and-look on either side of 107, as `(id, field bytes)`. -/
example :
    (profileOf 107).map (fun P => ackOf P (.posLook 1 2 3 4 5 0 7 false)) =
      some (some (0x00, [7])) ∧
    (profileOf 47).map (fun P => ackOf P (.posLook 1 2 3 4 5 0 0 false)) =
      some (some (0x06, [0, 0, 0, 0, 0, 0, 0, 1, 0, 0, 0, 0, 0, 0, 0, 2, 0, 0, 0, 0, 0, 0, 0, 3,
        0, 0, 0, 4, 0, 0, 0, 5, 1])) := by decide +kernel

/-- (10) instantiated: `demoAt757` is a session AT protocol 757 (its profile is the live one), the
hypotheses of `server_recovers_session_at` are satisfiable by it, and the conclusion for an arrival
in four segments. -/
example : AtVersion demoAt757 757 := demoAt757_at

example :
    let w := demoBytes .carry demoAt757
    demoServer demoAt757 [w.take 5, (w.drop 5).take 40, (w.drop 45).take 20, w.drop 65] =
      expected demoAt757 "Steve" := by
  intro w
  -- the guards of (10) on this session, evaluated together
  have hyp : HsWire.FirstOK demoAt757.lsId demoAt757.conn demoAt757.plan ∧ ReachesPlay demoAt757 ∧
      (∀ f ∈ outbox demoAt757,
        FrameOK Zlib.ident.toZlibOps f.threshold (wirePkt demoAt757.ids f)) ∧
      (∀ p ∈ demoAt757.pkts, p.wf demoAt757.profile = true) ∧
      (∀ p ∈ demoAt757.pkts, isSetCompression p = false) ∧
      (∀ q ∈ PlayWire.due demoAt757.profile demoAt757.pkts,
        FrameOK Zlib.ident.toZlibOps (finalMode demoAt757).threshold
          (PlayWire.replyFields demoAt757.profile q)) ∧
      [w.take 5, (w.drop 5).take 40, (w.drop 45).take 20, w.drop 65].flatten =
        (clientBytes Zlib.ident.toZlibOps (toyEK demoAt757.lp.secret) demoAt757).1 := by
    decide +kernel
  obtain ⟨hfirst, hplay, hokL, hwf, hquiet, hokP, hseg⟩ := hyp
  obtain ⟨-, name, hn, h⟩ := server_recovers_session_at 757 supported_757 demoAt757 demoAt757_at
    Zlib.ident toyEK [] _ hfirst hplay (fun _ _ _ _ => trivial) hokL (by decide) hwf hquiet hokP
    (Or.inl rfl) hseg
  have : name = "Steve" := by
    have h2 : Neg.loginName demoAt757.conn = some "Steve" := rfl
    rw [h2] at hn; exact (Option.some.inj hn).symm
  subst this
  exact h

/-- (5) instantiated at protocol 47 (VarInt keep-alive, position echo, set compression under 0x46):
the hypotheses are satisfiable by the demo streams of C11Wire — the one with two play-state "set
compression" packets included — under the LIVE profile of 47. -/
example : (profileOf 47).map (fun P =>
      decide (∀ p ∈ demo47, p.wf P = true) && decide (∀ p ∈ demo47sc, p.wf P = true) &&
        decide (ServerOK Zlib.ident.toZlibOps P none demo47sc) &&
        decide (∀ q ∈ due P demo47sc, ∀ n ≤ demo47sc.length,
          FrameOK Zlib.ident.toZlibOps (thrAt none demo47sc n) (replyFields P q)) &&
        demo47.all (fun p => !isSetCompression p) && demo47sc.any isSetCompression) =
    some true := by decide +kernel

end PyCraft.VersionProfiles
