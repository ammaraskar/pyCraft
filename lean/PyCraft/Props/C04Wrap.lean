import PyCraft.Props.C04
/-!
# C04 (extension) — what `Position` does OUTSIDE the signed 26/12/26-bit ranges

`Props/C04` proves the round trip inside the ranges and the layout for all integers.  This file
closes the remaining question — what comes back for coordinates outside the ranges, and whether the
ranges in `pos_rt` are the weakest possible: the encoder masks and the decoder sign-extends, so the
value read back is the coordinate WRAPPED into its range (`wrap26`, `wrap12`), for every integer and
both layouts; hence the round trip holds exactly on the stated ranges and two positions have the same
bytes exactly when their coordinates are congruent modulo 2^26 / 2^12 / 2^26.  Only property theorems
and examples; the correspondence (`corr/c04.py`) drives `pos.enc` and the live send/read with
out-of-range coordinates too, as a recorded (not judged) comparison — the property speaks about
in-range positions only.
-/
namespace PyCraft.C04Wrap
open PyCraft

/-- Two's-complement wrap into `[-2^25, 2^25)`. -/
def wrap26 (v : Int) : Int := (v + 2 ^ 25) % 2 ^ 26 - 2 ^ 25
/-- Two's-complement wrap into `[-2^11, 2^11)`. -/
def wrap12 (v : Int) : Int := (v + 2 ^ 11) % 2 ^ 12 - 2 ^ 11

/-- For ALL integers and either layout: encoding never fails, and decoding the 8 bytes (followed by
anything) returns each coordinate wrapped into its signed range, leaving the other bytes. -/
theorem pos_wraps (newer : Bool) (x y z : Int) (rest : Bytes) :
    ∃ w, encPos newer x y z = .ok w ∧
      decPos newer (w ++ rest) = .ok ((wrap26 x, wrap12 y, wrap26 z), rest) :=
  ⟨_, Pos.encPos_eq newer x y z, Pos.decPos_encPos newer x y z rest⟩

theorem wrap26_id_iff (v : Int) : wrap26 v = v ↔ (-2 ^ 25 ≤ v ∧ v < 2 ^ 25) := by
  unfold wrap26; omega
theorem wrap12_id_iff (v : Int) : wrap12 v = v ↔ (-2 ^ 11 ≤ v ∧ v < 2 ^ 11) := by
  unfold wrap12; omega

/-- The ranges of `C04.pos_rt` are exact: the position read back equals the one written if and only
if every coordinate lies in its signed range. -/
theorem pos_rt_iff_in_range (newer : Bool) (x y z : Int) (rest : Bytes) :
    (∃ w, encPos newer x y z = .ok w ∧ decPos newer (w ++ rest) = .ok ((x, y, z), rest)) ↔
      ((-2 ^ 25 ≤ x ∧ x < 2 ^ 25) ∧ (-2 ^ 11 ≤ y ∧ y < 2 ^ 11) ∧ (-2 ^ 25 ≤ z ∧ z < 2 ^ 25)) := by
  obtain ⟨w, hw, hd⟩ := pos_wraps newer x y z rest
  -- the only `w` is the encoder's, and what comes back from it is the wrapped triple
  simp only [hw, Except.ok.injEq, exists_eq_left', hd, Prod.mk.injEq, and_true, wrap26_id_iff,
    wrap12_id_iff]

/-- Two positions have the same bytes exactly when their coordinates are congruent modulo
2^26 / 2^12 / 2^26 — the encoder loses nothing else. -/
theorem pos_same_bytes_iff (newer : Bool) (x y z x' y' z' : Int) :
    encPos newer x y z = encPos newer x' y' z' ↔
      (x % 2 ^ 26 = x' % 2 ^ 26 ∧ y % 2 ^ 12 = y' % 2 ^ 12 ∧ z % 2 ^ 26 = z' % 2 ^ 26) := by
  simp only [← Pos.maskBits_eq_iff]
  rw [Pos.encPos_eq, Pos.encPos_eq]
  constructor
  · intro h
    have hw : Pos.posWord newer x y z = Pos.posWord newer x' y' z' := by
      rw [← Pos.beValue_beU64 _ (Pos.posWord_lt newer x y z), Except.ok.inj h,
        Pos.beValue_beU64 _ (Pos.posWord_lt newer x' y' z')]
    -- equal words have equal fields
    unfold Pos.posWord at hw
    cases newer
    · obtain ⟨h1, hz⟩ := Bits.cat_inj (Pos.maskBits_lt z 26) (Pos.maskBits_lt z' 26) hw
      obtain ⟨hx, hy⟩ := Bits.cat_inj (Pos.maskBits_lt y 12) (Pos.maskBits_lt y' 12) h1
      exact ⟨hx, hy, hz⟩
    · obtain ⟨h1, hy⟩ := Bits.cat_inj (Pos.maskBits_lt y 12) (Pos.maskBits_lt y' 12) hw
      obtain ⟨hx, hz⟩ := Bits.cat_inj (Pos.maskBits_lt z 26) (Pos.maskBits_lt z' 26) h1
      exact ⟨hx, hy, hz⟩
  · rintro ⟨hx, hy, hz⟩
    rw [Pos.posWord, Pos.posWord, hx, hy, hz]

/-! ### `ChunkSectionPos` (22/22/20 bits) outside its ranges -/

/-- Two's-complement wrap into `[-2^21, 2^21)`. -/
def wrap22 (v : Int) : Int := (v + 2 ^ 21) % 2 ^ 22 - 2 ^ 21
/-- Two's-complement wrap into `[-2^19, 2^19)`. -/
def wrap20 (v : Int) : Int := (v + 2 ^ 19) % 2 ^ 20 - 2 ^ 19

/-- For ALL integers the section-position encoder never fails and the value read back is each
coordinate wrapped into its signed range. -/
theorem section_wraps (x y z : Int) (rest : Bytes) :
    ∃ w, encSecPos x y z = .ok w ∧
      decSecPos (w ++ rest) = .ok ((wrap22 x, wrap20 y, wrap22 z), rest) :=
  ⟨_, Pos.encSecPos_eq x y z, Pos.decSecPos_encSecPos x y z rest⟩

private theorem wrap22_id_iff (v : Int) : wrap22 v = v ↔ (-2 ^ 21 ≤ v ∧ v < 2 ^ 21) := by
  unfold wrap22; omega
private theorem wrap20_id_iff (v : Int) : wrap20 v = v ↔ (-2 ^ 19 ≤ v ∧ v < 2 ^ 19) := by
  unfold wrap20; omega

/-- The ranges of `C04.section_rt` are exact. -/
theorem section_rt_iff_in_range (x y z : Int) (rest : Bytes) :
    (∃ w, encSecPos x y z = .ok w ∧ decSecPos (w ++ rest) = .ok ((x, y, z), rest)) ↔
      ((-2 ^ 21 ≤ x ∧ x < 2 ^ 21) ∧ (-2 ^ 19 ≤ y ∧ y < 2 ^ 19) ∧ (-2 ^ 21 ≤ z ∧ z < 2 ^ 21)) := by
  obtain ⟨w, hw, hd⟩ := section_wraps x y z rest
  simp only [hw, Except.ok.injEq, exists_eq_left', hd, Prod.mk.injEq, and_true, wrap22_id_iff,
    wrap20_id_iff]

-- non-vacuity / concrete witnesses
example : wrap26 (2 ^ 25) = -2 ^ 25 ∧ wrap12 2048 = -2048 ∧ wrap26 (-2 ^ 25 - 1) = 2 ^ 25 - 1 := by
  decide +kernel
example : ∃ w, encPos true (2 ^ 25) 2048 (-1) = .ok w ∧
    decPos true (w ++ [9]) = .ok ((-2 ^ 25, -2048, -1), [9]) := by
  have h := pos_wraps true (2 ^ 25) 2048 (-1) [9]
  have e : wrap26 (2 ^ 25) = -2 ^ 25 ∧ wrap12 2048 = -2048 ∧ wrap26 (-1) = -1 := by decide +kernel
  rw [e.1, e.2.1, e.2.2] at h
  exact h
example : ∃ w, encSecPos (2 ^ 21) (-2 ^ 19 - 1) 3 = .ok w ∧
    decSecPos (w ++ [9]) = .ok ((-2 ^ 21, 2 ^ 19 - 1, 3), [9]) := by
  have h := section_wraps (2 ^ 21) (-2 ^ 19 - 1) 3 [9]
  have e : wrap22 (2 ^ 21) = -2 ^ 21 ∧ wrap20 (-2 ^ 19 - 1) = 2 ^ 19 - 1 ∧ wrap22 3 = 3 := by
    decide +kernel
  rw [e.1, e.2.1, e.2.2] at h
  exact h
example : encPos false 5 6 7 = encPos false (5 + 2 ^ 26) (6 - 2 ^ 12) 7 :=
  (pos_same_bytes_iff false _ _ _ _ _ _).2 (by omega)

end PyCraft.C04Wrap
