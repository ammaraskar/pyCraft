import PyCraft.Lemmas.C09Clock
import PyCraft.Lemmas.Negotiate
import PyCraft.Generated.C09Clock
import PyCraft.Generated.C09Names
import PyCraft.Generated.Versions
/-!
# C09 — the reported latency over a real-valued clock; names at construction

Property C09 (excerpts): "A plain status query … pings only if latency was requested and then
reports a NON-NEGATIVE latency, and closes." and "unknown or unsupported versions are refused at
construction" (versions "given as names or numbers").

Model: `Model/C09Clock.lean`; lemmas and the specification vocabulary (`MonotoneConv`,
`scaledElapsedNum`, `crosses`, `boundariesCrossed`) in `Lemmas/C09Clock.lean`; live facts in
`Generated/C09Clock.lean`, `Generated/C09Names.lean` (generator `harness/gen/c09clock.py`).

What the earlier C09 files left open and this one closes:

* `C09Status.latency_general` is over INTEGER clock values supplied by the harness, so the
  conversion `int(1000 * timeit.default_timer())` — performed at two different places of
  `StatusReactor.react` — was outside the model.  Here the clock reading is a non-negative
  rational and each site has its own conversion.  Part A: non-negativity holds whenever both
  sites apply the same monotone conversion (whatever floating point does, as long as it is
  monotone), the exact-rational value for `int(1000·t)` on both sites, and the refutation for the
  mixed pair `round` / `int`, with the exact condition under which it goes negative.
  Part B: `live_sites_agree` — the two sites of the code as it is now are the same expression,
  `int(1000 * timeit.default_timer())`.
  The exact-rational instance describes the running code exactly only where the binary64 product
  `1000 * t` is exact (e.g. dyadic readings with a small numerator, which is what
  `live_latency_rows` runs the real code on).  Elsewhere the product is rounded and may land on the
  next integer: for the double nearest to 18034.063 s (slightly below it) the real code stamps
  18034063 while `⌊1000·t⌋ = 18034062`.  Such a reading shifts both sites alike — that is exactly
  what `latency_nonneg_of_monotone_stages` is for — and in 200 000 random runs of the real code the
  latency was never negative, while it differed from the exact-rational value by one in the cases
  of this kind.
* `Neg.ctor` receives only the SUPPORTED name table.  Part C: the constructor with both tables and
  the choice of table explicit; names outside the supported table are refused whatever the known
  table says; with the lookup in the KNOWN table the live names of `Generated.sharedNames` would be
  accepted; the code as it is now looks names up in the supported table and refuses all of them.
-/
namespace PyCraft.C09Clock
open PyCraft PyCraft.Neg

/-! ## A. Latency over a real-valued clock -/

/-- **General theorem.**  If the ping stamp and the pong handler convert the clock reading with the
SAME monotone non-decreasing function `f` (for instance "binary64 multiply by 1000, then `int`"),
then for every two readings `t₀ ≤ t₁` of a monotonic clock the reported latency `f t₁ − f t₀` is
non-negative. -/
theorem latency_nonneg_of_same_monotone_conversion (f : Reading → Int) (hf : MonotoneConv f)
    (t₀ t₁ : Reading) (h₀ : t₀.Valid) (h₁ : t₁.Valid) (h : t₀ ≤ t₁) :
    0 ≤ latency f f t₀ t₁ :=
  latency_ge_of_dominated f f 0 hf (fun _ => by omega) t₀ t₁ h₀ h₁ h

/-- The same, with the float arithmetic spelled out as two stages over an arbitrary ordered
carrier `F` (think: binary64): `scale` (= `1000 * ·` on the timer value) and `toInt` (= `int` or
`round`), each only assumed monotone.  Nothing else about floating point is used. -/
theorem latency_nonneg_of_monotone_stages {F : Type} (le : F → F → Prop)
    (scale : Reading → F) (toInt : F → Int)
    (hscale : ∀ a b : Reading, a.Valid → b.Valid → a ≤ b → le (scale a) (scale b))
    (hint : ∀ x y : F, le x y → toInt x ≤ toInt y)
    (t₀ t₁ : Reading) (h₀ : t₀.Valid) (h₁ : t₁.Valid) (h : t₀ ≤ t₁) :
    0 ≤ latency (fun t => toInt (scale t)) (fun t => toInt (scale t)) t₀ t₁ :=
  latency_nonneg_of_same_monotone_conversion _
    (fun a b ha hb hab => hint _ _ (hscale a b ha hb hab)) t₀ t₁ h₀ h₁ h

/-- `int(1000 · t)` on exact rationals is monotone. -/
theorem trunc_monotone : MonotoneConv truncConv := by
  intro a b ha hb h
  exact Int.ofNat_le.2 (floor_mono a b ha hb h)

/-- `round(1000 · t)` (ties to even) on exact rationals is monotone: using `round` at BOTH sites
would also keep the latency non-negative; the defect below is the mismatch. -/
theorem round_monotone : MonotoneConv roundConv := by
  intro a b ha hb h
  exact Int.ofNat_le.2 (round_mono a b ha hb h)

/-- The model `millisRoundHalfEven` really is "nearest integer, ties to even" (what Python 3
`round` does): the result is within one half of `1000·t`, and when `1000·t` is exactly halfway the
result is even. -/
theorem round_model_is_nearest_ties_even (t : Reading) (h : t.Valid) :
    (2 * (millisRoundHalfEven t * t.den) ≤ 2 * (1000 * t.num) + t.den ∧
     2 * (1000 * t.num) ≤ 2 * (millisRoundHalfEven t * t.den) + t.den) ∧
    ((2 * (millisRoundHalfEven t * t.den) = 2 * (1000 * t.num) + t.den ∨
      2 * (1000 * t.num) = 2 * (millisRoundHalfEven t * t.den) + t.den) →
        millisRoundHalfEven t % 2 = 0) := by
  have hs := floor_spec t
  have hr := rem_lt t h
  rw [Nat.mul_comm t.den] at hs
  rw [round_eq]
  by_cases hu : roundsUp t = true
  · have hu' := (roundsUp_iff t).1 hu
    simp only [hu, if_true, Nat.add_mul, Nat.one_mul]
    generalize millisFloor t * t.den = Q at *
    omega
  · have hu' := mt (roundsUp_iff t).2 hu
    simp only [hu, Bool.false_eq_true, if_false, Nat.add_zero]
    generalize millisFloor t * t.den = Q at *
    omega

/-- The model `millisFloor` really is `⌊1000·t⌋`: `k = millisFloor t` iff `k ≤ 1000·t < k + 1`. -/
theorem floor_model_is_floor (t : Reading) (h : t.Valid) (k : Nat) :
    millisFloor t = k ↔ k * t.den ≤ 1000 * t.num ∧ 1000 * t.num < (k + 1) * t.den :=
  floor_eq_iff t h k

/-- **Exact-rational instance** (`int(1000·t)` at both sites, as in the code): the latency is
non-negative. -/
theorem latency_trunc_nonneg (t₀ t₁ : Reading) (h₀ : t₀.Valid) (h₁ : t₁.Valid) (h : t₀ ≤ t₁) :
    0 ≤ latency truncConv truncConv t₀ t₁ :=
  latency_nonneg_of_same_monotone_conversion truncConv trunc_monotone t₀ t₁ h₀ h₁ h

/-- … and it is within one unit of the true elapsed time in milliseconds
`1000·(t₁ − t₀) = scaledElapsedNum t₀ t₁ / (t₀.den · t₁.den)`:
`L − 1 < 1000·(t₁ − t₀) < L + 1` (cross-multiplied by the positive common denominator). -/
theorem latency_trunc_within_one (t₀ t₁ : Reading) (h₀ : t₀.Valid) (h₁ : t₁.Valid) :
    (latency truncConv truncConv t₀ t₁ - 1) * ((t₀.den : Int) * t₁.den) < scaledElapsedNum t₀ t₁ ∧
    scaledElapsedNum t₀ t₁ < (latency truncConv truncConv t₀ t₁ + 1) * ((t₀.den : Int) * t₁.den) :=
  elapsed_bounds t₀ t₁ h₀ h₁

/-- Two readings in the same millisecond `[k, k+1)` ms give latency 0. -/
theorem latency_zero_same_millisecond (t₀ t₁ : Reading) (h₀ : t₀.Valid) (h₁ : t₁.Valid) (k : Nat)
    (hk₀ : k * t₀.den ≤ 1000 * t₀.num ∧ 1000 * t₀.num < (k + 1) * t₀.den)
    (hk₁ : k * t₁.den ≤ 1000 * t₁.num ∧ 1000 * t₁.num < (k + 1) * t₁.den) :
    latency truncConv truncConv t₀ t₁ = 0 := by
  have e₀ := (floor_eq_iff t₀ h₀ k).2 hk₀
  have e₁ := (floor_eq_iff t₁ h₁ k).2 hk₁
  simp only [latency, pongLatency, pingStamp, truncConv, e₀, e₁]
  omega

/-- Every millisecond boundary in `(t₀, t₁]` is at most `⌊1000·t₁⌋`, so `boundariesCrossed`
(which searches `0 … ⌊1000·t₁⌋`) misses none. -/
theorem crosses_lt (t₀ t₁ : Reading) (h₀ : t₀.Valid) (h₁ : t₁.Valid) (k : Nat)
    (h : crosses t₀ t₁ k = true) : k < millisFloor t₁ + 1 := by
  have := (crosses_iff t₀ t₁ h₀ h₁ k).1 h
  omega

/-- The latency is exactly the number of millisecond boundaries `k/1000` s with
`t₀ < k/1000 ≤ t₁`. -/
theorem latency_eq_boundaries_crossed (t₀ t₁ : Reading) (h₀ : t₀.Valid) (h₁ : t₁.Valid)
    (h : t₀ ≤ t₁) :
    latency truncConv truncConv t₀ t₁ = (boundariesCrossed t₀ t₁ : Int) := by
  have hq := floor_mono t₀ t₁ h₀ h₁ h
  have hc := countP_range_Ioc (crosses t₀ t₁) (millisFloor t₀) (millisFloor t₁) hq
    (fun k _ => crosses_iff t₀ t₁ h₀ h₁ k)
  simp only [latency, pongLatency, pingStamp, truncConv, boundariesCrossed, hc]
  omega

/-- Tie to the integer-clock reactor model `Neg.react`: fed with the converted readings, the
reactor stamps `⌊1000·t₀⌋`, and hands `handle_ping` exactly `latency truncConv truncConv t₀ t₁`
(and disconnects before doing so). -/
theorem reactLog_reports_latency (t₀ t₁ : Reading) (json : String) :
    reactLog t₀ t₁ json =
      [.sendPing (millisFloor t₀), .handleStatus json, .disconnect,
       .handlePing (latency truncConv truncConv t₀ t₁)] := by
  simp [reactLog, Neg.react, latency, pongLatency, pingStamp, truncConv]

/-! ### Refutation: `round` at the ping, `int` at the pong -/

/-- **Family of witnesses (upper half of a millisecond).**  For every millisecond `k`: ping at
`k + 0.75` ms, pong at `k + 0.875` ms → `−1`. -/
theorem mixed_pair_negative_family (k : Nat) :
    (⟨4 * k + 3, 4000⟩ : Reading) ≤ ⟨8 * k + 7, 8000⟩ ∧
    latency roundConv truncConv ⟨4 * k + 3, 4000⟩ ⟨8 * k + 7, 8000⟩ = -1 := by
  constructor
  · show (4 * k + 3) * 8000 ≤ (8 * k + 7) * 4000
    omega
  · have hu : roundsUp ⟨4 * k + 3, 4000⟩ = true :=
      (roundsUp_iff _).2 (Or.inl (by show 4000 < 2 * (1000 * (4 * k + 3) % 4000); omega))
    simp only [latency, pongLatency, pingStamp, truncConv, roundConv, round_eq, hu, if_true,
      millisFloor]
    omega

/-- **Witness.**  Ping stamped at `t₀ = 0.75 ms` with `round(1000·t)`, pong handled at
`t₁ = 0.875 ms` with `int(1000·t)`: the clock went forward, the reported latency is `−1`. -/
theorem mixed_pair_negative_witness :
    (⟨3, 4000⟩ : Reading) ≤ ⟨7, 8000⟩ ∧ latency roundConv truncConv ⟨3, 4000⟩ ⟨7, 8000⟩ = -1 :=
  mixed_pair_negative_family 0

/-- The mixed pair never reports less than `−1`. -/
theorem mixed_pair_ge_neg_one (t₀ t₁ : Reading) (h₀ : t₀.Valid) (h₁ : t₁.Valid) (h : t₀ ≤ t₁) :
    -1 ≤ latency roundConv truncConv t₀ t₁ :=
  latency_ge_of_dominated roundConv truncConv 1 trunc_monotone
    roundConv_le_truncConv_succ
    t₀ t₁ h₀ h₁ h

/-- **Exact characterisation.**  For readings `t₀ ≤ t₁` the mixed pair reports a negative latency
exactly when `round` moves the ping reading up — the fractional part of `1000·t₀` is above ½, or
equal to ½ with `⌊1000·t₀⌋` odd — and the pong arrives within the same millisecond
(`⌊1000·t₁⌋ = ⌊1000·t₀⌋`); the value is then `−1`. -/
theorem mixed_pair_negative_iff (t₀ t₁ : Reading) (h₀ : t₀.Valid) (h₁ : t₁.Valid) (h : t₀ ≤ t₁) :
    (latency roundConv truncConv t₀ t₁ < 0 ↔
      (t₀.den < 2 * millisRem t₀ ∨ (2 * millisRem t₀ = t₀.den ∧ millisFloor t₀ % 2 = 1)) ∧
        millisFloor t₁ = millisFloor t₀) ∧
    (latency roundConv truncConv t₀ t₁ < 0 → latency roundConv truncConv t₀ t₁ = -1) := by
  have hq := floor_mono t₀ t₁ h₀ h₁ h
  rw [← roundsUp_iff]
  simp only [latency, pongLatency, pingStamp, truncConv, roundConv, round_eq]
  by_cases hu : roundsUp t₀ = true
  · simp only [hu, if_true, true_and]
    omega
  · simp only [hu, Bool.false_eq_true, if_false, false_and, iff_false]
    omega

/-- **Family of witnesses (exact tie, ZERO elapsed time).**  For every odd millisecond `2j+1`: a
single reading `t = (2j+1) + 0.5` ms used for both ping and pong → `−1`; on an even millisecond
the tie rounds down and the latency is `0`. -/
theorem mixed_pair_tie_family (j : Nat) :
    latency roundConv truncConv ⟨4 * j + 3, 2000⟩ ⟨4 * j + 3, 2000⟩ = -1 ∧
    latency roundConv truncConv ⟨4 * j + 1, 2000⟩ ⟨4 * j + 1, 2000⟩ = 0 := by
  have hu : roundsUp ⟨4 * j + 3, 2000⟩ = true :=
    (roundsUp_iff _).2 (Or.inr ⟨by show 2 * (1000 * (4 * j + 3) % 2000) = 2000; omega,
      by show 1000 * (4 * j + 3) / 2000 % 2 = 1; omega⟩)
  have hd : ¬ roundsUp ⟨4 * j + 1, 2000⟩ = true := by
    rw [roundsUp_iff]
    show ¬ (2000 < 2 * (1000 * (4 * j + 1) % 2000) ∨
      (2 * (1000 * (4 * j + 1) % 2000) = 2000 ∧ 1000 * (4 * j + 1) / 2000 % 2 = 1))
    omega
  constructor
  · simp only [latency, pongLatency, pingStamp, truncConv, roundConv, round_eq, hu, if_true,
      millisFloor]
    omega
  · simp only [latency, pongLatency, pingStamp, truncConv, roundConv, round_eq, hd,
      Bool.false_eq_true, if_false, millisFloor]
    omega

/-- The opposite mix (`int` at the ping, `round` at the pong) cannot go negative (it can
over-report by one): only the order "round first" is harmful. -/
theorem trunc_then_round_nonneg (t₀ t₁ : Reading) (h₀ : t₀.Valid) (h₁ : t₁.Valid) (h : t₀ ≤ t₁) :
    0 ≤ latency truncConv roundConv t₀ t₁ :=
  latency_ge_of_dominated truncConv roundConv 0 round_monotone
    truncConv_le_roundConv
    t₀ t₁ h₀ h₁ h

/-! ## B. The two sites of the code as it is now -/

/-- **Live.**  In `StatusReactor.react` as it is now the expression assigned to
`ping_packet.time` and the expression bound to `now` in the pong branch are the same expression,
and it is `int(1000 * timeit.default_timer())`.  (Stops checking when either site changes.) -/
theorem live_sites_agree :
    Generated.sameConversion = true ∧ Generated.conversion = .truncMillis := by decide

/-- Each site separately is recognised as `int(1000 * timeit.default_timer())`. -/
theorem live_each_site_truncates :
    Generated.pingConversion = .truncMillis ∧ Generated.pongConversion = .truncMillis := by decide

/-- The flag `sameConversion` is what Lean itself finds by comparing the two emitted dumps. -/
theorem live_dumps_consistent :
    Generated.sameConversion = decide (Generated.pingExpr = Generated.pongExpr) :=
  (decide_eq_true (rfl : Generated.pingExpr = Generated.pongExpr)).symm

/-- The argument of `handle_ping` is `now - packet.time`, and the timer is the monotonic
`time.perf_counter`. -/
theorem live_latency_expression_and_clock :
    Generated.latencyIsNowMinusEcho = true ∧ Generated.timerIsPerfCounter = true ∧
      Generated.timerMonotonic = true := by decide

/-- The REAL `StatusReactor.react`, run with a stubbed timer on dyadic readings (where the binary64
product `1000 * t` is exact), hands `handle_ping` exactly what the model computes. -/
theorem live_latency_rows :
    ∀ row ∈ Generated.latencyRows,
      latencyOf Generated.pingConversion Generated.pongConversion
        ⟨row.1, row.2.1⟩ ⟨row.2.2.1, row.2.2.2.1⟩ = some row.2.2.2.2 := by
  decide +kernel

/-- **The clause of C09 for the code as it is now**: with the conversions found at the two live
sites, every pair of readings `t₀ ≤ t₁` yields a reported latency, it is non-negative, and it is
the number of millisecond boundaries crossed. -/
theorem live_latency_nonneg (t₀ t₁ : Reading) (h₀ : t₀.Valid) (h₁ : t₁.Valid) (h : t₀ ≤ t₁) :
    ∃ l : Int, latencyOf Generated.pingConversion Generated.pongConversion t₀ t₁ = some l ∧
      0 ≤ l ∧ l = (boundariesCrossed t₀ t₁ : Int) := by
  obtain ⟨e₀, e₁⟩ := live_each_site_truncates
  rw [e₀, e₁]
  exact ⟨latency truncConv truncConv t₀ t₁, rfl, latency_trunc_nonneg t₀ t₁ h₀ h₁ h,
    latency_eq_boundaries_crossed t₀ t₁ h₀ h₁ h⟩

/-- Had the ping site been `round(1000 * timeit.default_timer())` (the other recognised
conversion) with the pong site unchanged, the model reports `−1` on the witness. -/
theorem roundMillis_at_ping_refuted :
    latencyOf .roundMillis .truncMillis ⟨3, 4000⟩ ⟨7, 8000⟩ = some (-1) := by decide +kernel

/-! ## C. Names at construction -/

/-- The constructor model with the lookup in the supported table IS the existing `Neg.ctor`. -/
theorem ctorWith_supported_eq_ctor (env : VEnv2) (allowed : Option (List VReq))
    (initial : Option VReq) :
    ctorWith .supported env allowed initial = ctor env.base allowed initial := by
  -- with the same allowed set and the same `proto_version`, the two constructors are one program
  simp only [ctorWith, ctor, allowedSetWith_supported, resolveWith_supported]
  rfl

/-- **Unsupported names are refused, whatever the known table says.**  With the lookup in the
supported table (as in the code), for EVERY known table:
a name that is not a key of `SUPPORTED_MINECRAFT_VERSIONS` makes `proto_version` raise
`ValueError`; so does a list of allowed versions containing it; and a constructor call whose
`initial_version` is such a name never succeeds (it raises `ValueError` as soon as the
allowed-versions part went through).  A name that IS a key resolves to the protocol the supported
table gives it (when that number is in `SUPPORTED_PROTOCOL_VERSIONS`, which `initglobals`
guarantees; `live_supported_names_covered`). -/
theorem unsupported_names_refused (env : VEnv2) (name : String) :
    (dictGet env.base.supportedNames name = none →
      resolveWith .supported env (.name name) = .error .value ∧
      (∀ reqs initial, VReq.name name ∈ reqs →
        ctorWith .supported env (some reqs) initial = .error .value) ∧
      (∀ allowed, (∃ e, ctorWith .supported env allowed (some (.name name)) = .error e) ∧
        ∀ al lt, allowedSetWith .supported env allowed = .ok al → latest env.base al = .ok lt →
          ctorWith .supported env allowed (some (.name name)) = .error .value)) ∧
    (∀ p, dictGet env.base.supportedNames name = some p → p ∈ env.base.supportedProtocols →
      resolveWith .supported env (.name name) = .ok p) := by
  -- with the lookup in the supported table this is `Neg.ctor`, and these are facts about it
  simp only [ctorWith_supported_eq_ctor, resolveWith_supported, allowedSetWith_supported]
  constructor
  · intro hnone
    have hres : resolve env.base (.name name) = .error .value := by
      simp [resolve, protoOf, hnone]
    have hbad : ∀ v, resolve env.base (.name name) ≠ .ok v := fun v h => by rw [hres] at h; cases h
    refine ⟨hres, fun reqs initial hmem => ?_, fun allowed => ⟨?_, fun al lt hal hlt => ?_⟩⟩
    · simp [ctor, allowedSet, resolveAll_bad env.base reqs ⟨_, hmem, hbad⟩]
    · cases h : ctor env.base allowed (some (.name name)) with
      | error e => exact ⟨e, rfl⟩
      | ok cfg => exact absurd ((ctor_ok _ _ _ _ h).2.2.2 _ rfl) (hbad _)
    · simp [ctor, hal, hlt, hres]
  · intro p hget hp
    exact (resolve_ok_iff env.base _ p).2 ⟨hp, .inr ⟨name, rfl, hget⟩⟩

/-- **Refutation of the lookup in the known table (general form).**  Whenever some name is a key
of the known table but not of the supported table, and its protocol number is supported, the
constructor with the lookup in the KNOWN table accepts it while the one with the lookup in the
supported table raises `ValueError`. -/
theorem known_lookup_differs (env : VEnv2) (name : String) (p : Nat)
    (hk : dictGet env.knownNames name = some p) (hs : dictGet env.base.supportedNames name = none)
    (hp : p ∈ env.base.supportedProtocols) :
    resolveWith .known env (.name name) = .ok p ∧
    resolveWith .supported env (.name name) = .error .value := by
  constructor
  · rw [resolveWith_name .known env _ rfl, hk]
    exact if_pos hp
  · rw [resolveWith_name .supported env _ rfl, hs]

/-- The tables of the running module. -/
def liveEnv2 : VEnv2 :=
  ⟨⟨Generated.supportedNames, Generated.supportedProtocols, Generated.knownOrder⟩,
   Generated.knownNames⟩

/-- The tables emitted by this generator are the ones `Generated/Versions.lean` (another
generator) records for the same module. -/
theorem live_tables_agree :
    liveEnv2.base = ⟨liveTables.supportedVersions, liveTables.supportedProtocols,
      liveTables.knownProtocols⟩ ∧ liveEnv2.knownNames = liveTables.knownVersions :=
  ⟨rfl, rfl⟩

/-- Every protocol number of the live supported-name table is in the live
`SUPPORTED_PROTOCOL_VERSIONS` (so a supported name always resolves). -/
theorem live_supported_names_covered :
    ∀ e ∈ Generated.supportedNames, e.2 ∈ Generated.supportedProtocols := fun e he =>
  mem_of_coveredFrom (xs := Generated.supportedNames.map (·.2)) (fun _ h => h) (by decide +kernel)
    e.2 (List.mem_map_of_mem he)

/-- **The live shared names are what they are said to be**: every entry `(name, p)` of
`Generated.sharedNames` is NOT a key of the live supported table, IS a key of the live known table
with value `p`, and `p` is a live supported protocol; and there are such names.
(Soundness of the generated list; that the list contains ALL such names is the generator's
business and is not needed below.) -/
theorem live_shared_names_sound :
    (∀ e ∈ Generated.sharedNames,
      dictGet Generated.supportedNames e.1 = none ∧ dictGet Generated.knownNames e.1 = some e.2 ∧
        e.2 ∈ Generated.supportedProtocols) ∧
    Generated.sharedNames.length = 40 := by
  simp only [dictGet_eq_codedGet]
  decide +kernel

/-- **Live refutation.**  With the lookup in `KNOWN_MINECRAFT_VERSIONS`, EVERY one of the live
shared names (e.g. `"1.8.1-pre1"` → 47) would be accepted by `proto_version`; and a constructor
call with such an initial version succeeds with that default protocol. -/
theorem known_lookup_accepts_unsupported_name :
    (∀ e ∈ Generated.sharedNames, resolveWith .known liveEnv2 (.name e.1) = .ok e.2) ∧
    (ctorWith .known liveEnv2 (some [.num 47, .num 340]) (some (.name "1.8.1-pre1"))).toOption.map
        (·.default) = some 47 := by
  constructor
  · intro e he
    have h := live_shared_names_sound.1 e he
    exact (known_lookup_differs liveEnv2 e.1 e.2 h.2.1 h.1 h.2.2).1
  · decide +kernel

/-- **Live.**  The nested `proto_version` as it is now calls `.get` on
`SUPPORTED_MINECRAFT_VERSIONS` (the very dict of the `minecraft` module) and tests membership in
`SUPPORTED_PROTOCOL_VERSIONS`. -/
theorem live_lookup_is_supported_table :
    Generated.lookup = .supported ∧ Generated.membershipIsSupportedProtocols = true ∧
      Generated.lookupDictIsModuleTable = true := by decide

/-- **Live.**  The model of the CURRENT code (lookup in the table the generator found) refuses every
one of the live shared names with `ValueError`. -/
theorem live_shared_names_refused :
    ∀ e ∈ Generated.sharedNames,
      resolveWith Generated.lookup liveEnv2 (.name e.1) = .error .value := by
  intro e he
  have h := live_shared_names_sound.1 e he
  rw [live_lookup_is_supported_table.1]
  exact (known_lookup_differs liveEnv2 e.1 e.2 h.2.1 h.1 h.2.2).2

/-- … and a constructor call naming one of them, as the initial version or among the allowed
versions, raises `ValueError` — for every shared name, by the general theorem. -/
theorem live_shared_names_refused_by_ctor :
    ∀ e ∈ Generated.sharedNames,
      (∀ reqs initial, VReq.name e.1 ∈ reqs →
        ctorWith Generated.lookup liveEnv2 (some reqs) initial = .error .value) ∧
      (∀ allowed, ∃ err,
        ctorWith Generated.lookup liveEnv2 allowed (some (.name e.1)) = .error err) := by
  intro e he
  have hnone : dictGet liveEnv2.base.supportedNames e.1 = none :=
    (live_shared_names_sound.1 e he).1
  rw [live_lookup_is_supported_table.1]
  have h := (unsupported_names_refused liveEnv2 e.1).1 hnone
  exact ⟨h.2.1, fun allowed => (h.2.2 allowed).1⟩

/-- The REAL `Connection('localhost', 25565, initial_version=name)` — run by the generator on the
first two and last two shared names and on every 32nd known name — gives exactly what the model of the current code gives:
`default_proto_version`, or `ValueError`. -/
theorem live_ctor_rows :
    ∀ row ∈ Generated.ctorRows,
      (resolveWith Generated.lookup liveEnv2 (.name row.1)).toOption = row.2 := by
  simp only [resolveWith_name Generated.lookup liveEnv2 _ rfl, dictGet_eq_codedGet]
  decide +kernel

/-! ## Non-vacuity -/

-- valid readings, strictly increasing, more than a millisecond apart
example : (⟨1, 3⟩ : Reading).Valid ∧ (⟨7, 20⟩ : Reading).Valid ∧ (⟨1, 3⟩ : Reading) ≤ ⟨7, 20⟩ ∧
    latency truncConv truncConv ⟨1, 3⟩ ⟨7, 20⟩ = 17 ∧ boundariesCrossed ⟨1, 3⟩ ⟨7, 20⟩ = 17 := by
  decide +kernel
-- the monotone hypothesis of the general theorem is met by a conversion that is neither floor
-- nor round (ceil-like: floor + 5)
example : MonotoneConv (fun t => truncConv t + 5) := by
  intro a b ha hb h
  have := trunc_monotone a b ha hb h
  show truncConv a + 5 ≤ truncConv b + 5
  omega
-- … and is NOT met by every function (so the hypothesis says something): "milliseconds within
-- the current second" wraps around
example : ¬ MonotoneConv (fun t => ((millisFloor t % 1000 : Nat) : Int)) := by
  intro h
  have := h ⟨999, 1000⟩ ⟨1, 1⟩ (by decide) (by decide) (by decide)
  revert this
  decide +kernel
-- same millisecond (k = 2): 2.25 ms and 2.75 ms
example : latency truncConv truncConv ⟨9, 4000⟩ ⟨11, 4000⟩ = 0 :=
  latency_zero_same_millisecond _ _ (by decide) (by decide) 2 (by decide) (by decide)
-- within one unit: 0.9 ms → 1.1 ms reports 1 for an elapsed 0.2 ms
example : latency truncConv truncConv ⟨9, 10000⟩ ⟨11, 10000⟩ = 1 ∧
    scaledElapsedNum ⟨9, 10000⟩ ⟨11, 10000⟩ = 20000000 := by decide +kernel
-- the mixed pair is not ALWAYS negative (lower half of the millisecond) …
example : latency roundConv truncConv ⟨1, 4000⟩ ⟨1, 2000⟩ = 0 := by decide +kernel
-- … and the characterisation's right-hand side is satisfiable in both of its disjuncts
example : (4000 < 2 * millisRem ⟨3, 4000⟩) ∧ millisFloor ⟨7, 8000⟩ = millisFloor ⟨3, 4000⟩ := by
  decide +kernel
example : 2 * millisRem ⟨3, 2000⟩ = 2000 ∧ millisFloor ⟨3, 2000⟩ % 2 = 1 := by decide +kernel
-- round half even: 0.5 → 0, 1.5 → 2, 2.5 → 2, 2.6 → 3
example : [millisRoundHalfEven ⟨1, 2000⟩, millisRoundHalfEven ⟨3, 2000⟩,
    millisRoundHalfEven ⟨5, 2000⟩, millisRoundHalfEven ⟨26, 10000⟩] = [0, 2, 2, 3] := by
  decide +kernel
-- the reactor log on concrete readings
example : reactLog ⟨1, 3⟩ ⟨7, 20⟩ "{}" =
    [.sendPing 333, .handleStatus "{}", .disconnect, .handlePing 17] := by decide +kernel
-- names: a supported name, a shared name under both lookups, an unknown name, a number
example : resolveWith .supported liveEnv2 (.name "1.8.9") = .ok 47 := by decide +kernel
example : resolveWith .known liveEnv2 (.name "1.8.1-pre1") = .ok 47 ∧
    resolveWith .supported liveEnv2 (.name "1.8.1-pre1") = .error .value :=
  have h := live_shared_names_sound.1 ("1.8.1-pre1", 47) (by decide +kernel)
  known_lookup_differs liveEnv2 _ _ h.2.1 h.1 h.2.2
example : resolveWith .known liveEnv2 (.name "no such version") = .error .value := by
  decide +kernel
-- a known name whose protocol is NOT supported is refused under either lookup
example : resolveWith .known liveEnv2 (.name "13w41a") = .error .value ∧
    resolveWith .supported liveEnv2 (.name "13w41a") = .error .value := by
  refine ⟨by decide +kernel, ?_⟩
  -- the supported lookup is the one the real constructor was run with on this name
  have h := live_ctor_rows ("13w41a", none) (by decide +kernel)
  rw [live_lookup_is_supported_table.1] at h
  cases hr : resolveWith .supported liveEnv2 (.name "13w41a") with
  | ok v =>
    rw [hr] at h
    cases h
  | error e => rw [resolveWith_error .supported liveEnv2 _ e (by decide) hr]
example : resolveWith .known liveEnv2 (.num 47) = .ok 47 ∧
    resolveWith .known liveEnv2 .other = .error .value := by decide +kernel
-- hypotheses of `known_lookup_differs` on a small hand-made environment
example : dictGet [("a", 1), ("a-pre", 1)] "a-pre" = some 1 ∧ dictGet [("a", 1)] "a-pre" = none ∧
    1 ∈ [1] := by decide

end PyCraft.C09Clock
