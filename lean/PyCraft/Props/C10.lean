import PyCraft.Lemmas.Login
/-!
# C10 — login completes correctly for every order of optional server steps

Only property theorems and non-vacuity examples live here; helper lemmas are in `Lemmas/Login.lean`.

A run of the client is `exec P .init steps` for a list of `Step`s (`flush` = write phase of one
networking-loop iteration, `recv e` = read and react to one packet). The theorems quantify over
ALL step lists — every order, choice and number of server packets and every placement of the
write phases — and over all parameters `P` (RSA, secret, hash function, token present or not, JSON
text extraction, plugin handler). `runLogin P cap script` is the regular schedule "flush, up to
`cap` reads, flush, …, final flush"; statements that need the final flush are made about it.

"`pre` contains no terminal event" (`∀ e ∈ events pre, e.isTerminal = false`) says the packet under
consideration is actually reached: no login-success or disconnect packet came before it.
-/
namespace PyCraft.C10
open PyCraft PyCraft.Login

/-- Every encryption request that is reached is answered immediately (forced write) with an
EncryptionResponse whose `shared_secret` slot holds RSA(secret) and whose `verify_token` slot holds
RSA(token) under the server's key — so the holder of the matching private key recovers exactly the
secret and the token. That frame is written with the cipher/compression state in force BEFORE the
request (plaintext, and everything before it plaintext, if this is the first request); directly
after the reply both directions are encrypted, they stay encrypted whatever follows, and EVERY
frame written later — however the write phases fall — is encrypted. -/
theorem enc_reply_then_encrypted (P : LoginParams) (pre post : List Step) (sid : String)
    (pk tok : Bytes) (hpre : ∀ e ∈ events pre, e.isTerminal = false) :
    let s0 := exec P .init pre
    let s1 := exec P .init (pre ++ [.recv (.encRequest sid pk tok)])
    let s2 := exec P .init (pre ++ .recv (.encRequest sid pk tok) :: post)
    s1.outbox = s0.outbox ++
        [⟨.encResp (P.rsa.enc pk P.secret) (P.rsa.enc pk tok), s0.encrypted, s0.threshold, true⟩] ∧
    (∀ priv, P.rsa.matching pk priv →
        P.rsa.dec priv (P.rsa.enc pk P.secret) = P.secret ∧ P.rsa.dec priv (P.rsa.enc pk tok) = tok) ∧
    ((∀ e ∈ events pre, e.isEncRequest = false) →
        s0.encrypted = false ∧ ∀ f ∈ s0.outbox, f.encrypted = false) ∧
    s1.encrypted = true ∧ s2.encrypted = true ∧
    ∃ later, s2.outbox = s1.outbox ++ later ∧ ∀ f ∈ later, f.encrypted = true := by
  intro s0 s1 s2
  have hal : s0.alive = true := exec_alive P .init pre init_alive hpre
  have h1 : s1 = react P s0 (.encRequest sid pk tok) := by
    show exec P .init (pre ++ [_]) = _
    rw [exec_snoc, step_recv_alive P _ _ hal]
  have h2 : s2 = exec P s1 post := by
    show exec P .init (pre ++ _ :: post) = _
    rw [exec_mid, h1, step_recv_alive P _ _ hal]
  obtain ⟨ho, he⟩ := react_encRequest P s0 sid pk tok
  obtain ⟨he2, later, hl, hf⟩ := exec_encrypted P s1 post (h1 ▸ he)
  refine ⟨h1 ▸ ho, fun priv hm => ⟨P.rsa.law pk priv _ hm, P.rsa.law pk priv _ hm⟩, ?_, h1 ▸ he,
    h2 ▸ he2, later, h2 ▸ hl, hf⟩
  intro hne
  obtain ⟨hp, l, hlo, hlf⟩ := exec_plain P .init pre hne
  exact ⟨hp, fun f hf => hlf f ((hlo.trans (List.nil_append l)) ▸ hf)⟩

/-- A reached set-compression packet with threshold `t` makes `t` the threshold in force, and every
frame written from then on — until another set-compression packet arrives — is framed with
threshold `some t`; the frames written earlier are untouched (they keep the mode they were written
with). -/
theorem threshold_applies_after (P : LoginParams) (pre mid : List Step) (t : Int)
    (hpre : ∀ e ∈ events pre, e.isTerminal = false)
    (hmid : ∀ e ∈ events mid, e.isSetCompression = false) :
    let s0 := exec P .init pre
    let s1 := exec P .init (pre ++ .recv (.setCompression t) :: mid)
    s1.threshold = some t ∧
    ∃ later, s1.outbox = s0.outbox ++ later ∧ ∀ f ∈ later, f.threshold = some t := by
  intro s0 s1
  have hal : s0.alive = true := exec_alive P .init pre init_alive hpre
  have h1 : s1 = exec P { s0 with threshold := some t } mid := by
    show exec P .init (pre ++ _ :: mid) = _
    rw [exec_mid, step_recv_alive P _ _ hal]; rfl
  obtain ⟨ht, later, hl, hf⟩ := exec_threshold P { s0 with threshold := some t } mid hmid
  exact ⟨h1 ▸ ht, later, h1 ▸ hl, hf⟩

/-- As long as no set-compression packet has arrived, compression is disabled and every frame is
written uncompressed-framed. -/
theorem threshold_none_before (P : LoginParams) (steps : List Step)
    (h : ∀ e ∈ events steps, e.isSetCompression = false) :
    (exec P .init steps).threshold = none ∧ ∀ f ∈ (exec P .init steps).outbox, f.threshold = none := by
  obtain ⟨ht, later, hl, hf⟩ := exec_threshold P .init steps h
  exact ⟨ht, fun f hfm => hf f ((hl.trans (List.nil_append later)) ▸ hfm)⟩

/-- The answer a plugin request must get: same message id; unsuccessful and without payload unless
the user's handler took over, in which case the handler's (successful) answer replaces it. -/
theorem plugin_reply_shape (P : LoginParams) (i : Nat) (c : String) (d : Bytes) :
    expectedPluginReply P (.pluginRequest i c d) =
      some (.plugResp i (P.handler i c d).isSome (P.handler i c d)) := by
  simp only [expectedPluginReply, pluginReply]
  cases P.handler i c d <;> rfl

/-- For every run: the plugin responses written so far followed by those still queued are exactly
the answers to the plugin requests the reactor reached, in order, one each — so what is already on
the wire is a prefix of that list (nothing duplicated, nothing reordered, nothing invented). -/
theorem plugin_answered_once_any (P : LoginParams) (steps : List Step) :
    let s := exec P .init steps
    ((s.outbox.map (·.pkt) ++ s.queue).filter ClientPkt.isPlugResp =
      (processed (events steps)).filterMap (expectedPluginReply P)) ∧
    ((s.outbox.map (·.pkt)).filter ClientPkt.isPlugResp <+:
      (processed (events steps)).filterMap (expectedPluginReply P)) := by
  intro s
  have h := plugin_exec P .init steps init_alive
  have h0 : ClientState.init.pluginTrace = [] := rfl
  rw [h0, List.nil_append] at h
  refine ⟨h, ?_⟩
  rw [← h]
  simp only [ClientState.pluginTrace, List.filter_append]
  exact List.prefix_append _ _

/-- For a complete run (any batch size `cap`, any script) that is not cut short by a disconnect
packet: the queue is empty at the end and the plugin responses ON THE WIRE are exactly the answers
to the plugin requests received before login success, in order, each exactly once. -/
theorem plugin_answered_once (P : LoginParams) (cap : Nat) (script : List LoginEv)
    (h : ∀ e ∈ processed script, e.isDisconnect = false) :
    let s := runLogin P cap script
    s.queue = [] ∧
    (s.outbox.map (·.pkt)).filter ClientPkt.isPlugResp =
      (processed script).filterMap (expectedPluginReply P) := by
  intro s
  have herr : s.err = none := err_exec_none P _ (by rw [events_schedule]; exact h)
  have hq : s.queue = [] := by
    obtain ⟨pre, hp⟩ := sched_ends_flush cap 0 script
    have herr' : (exec P .init (sched cap 0 script)).err = none := herr
    show (exec P .init (sched cap 0 script)).queue = []
    rw [hp] at herr' ⊢
    exact queue_after_flush P .init pre herr'
  refine ⟨hq, ?_⟩
  have := (plugin_answered_once_any P (schedule cap script)).1
  rw [events_schedule] at this
  rw [← this]
  show _ = List.filter _ (List.map _ s.outbox ++ s.queue)
  rw [hq, List.append_nil]

/-- Login success, once reached, puts the client in the play state without an error; a run in
which neither success nor disconnect has arrived is still in the login state without an error. -/
theorem success_enters_play (P : LoginParams) (pre post steps : List Step)
    (hpre : ∀ e ∈ events pre, e.isTerminal = false)
    (hsteps : ∀ e ∈ events steps, e.isTerminal = false) :
    ((exec P .init (pre ++ .recv .success :: post)).reactor = .play ∧
     (exec P .init (pre ++ .recv .success :: post)).err = none) ∧
    ((exec P .init steps).reactor = .login ∧ (exec P .init steps).err = none) := by
  refine ⟨⟨?_, ?_⟩, ?_, ?_⟩
  · rw [reactor_exec P .init _ init_alive, events_mid,
      processed_append_terminal _ _ _ hpre rfl]
    simp
  · apply err_exec_none
    rw [events_mid, processed_append_terminal _ _ _ hpre rfl]
    intro e he
    rcases List.mem_append.1 he with h | h
    · exact not_disconnect_of_live (hpre e h)
    · rw [List.mem_singleton.1 h]; rfl
  · rw [reactor_exec P .init _ init_alive, processed_of_live _ hsteps]
    have : ¬ LoginEv.success ∈ events steps := fun he => by cases hsteps _ he
    simp [this]
  · apply err_exec_none
    rw [processed_of_live _ hsteps]
    exact fun e he => not_disconnect_of_live (hsteps e he)

/-- A disconnect packet that is reached during login never ends silently: processing stops right
there (whatever the server sends afterwards changes nothing, the client stays out of the play
state) and an error is recorded. With `msg` the JSON `text` member if there is one (a string), else
the raw payload: the error is `VersionMismatch` carrying `ver` exactly when `msg` is one of
"Outdated client! Please use " / "Outdated server! I'm still on " followed by the non-empty
whitespace-free `ver` (and at most one final newline), and `LoginDisconnect` carrying `msg` exactly
when it has no such form (a `text` member that is not a string counts as absent). -/
theorem disconnect_surfaces (P : LoginParams) (pre post : List Step) (j : String)
    (hpre : ∀ e ∈ events pre, e.isTerminal = false) :
    let s := exec P .init (pre ++ .recv (.disconnect j) :: post)
    let msg := match P.jsonText j with | .str t => t | _ => j
    s = exec P .init (pre ++ [.recv (.disconnect j)]) ∧
    s.err ≠ none ∧ s.reactor = .login ∧
    (∀ ver, s.err = some (.versionMismatch ver) ↔ Outdated msg ver) ∧
    (s.err = some (.loginDisconnect msg) ↔ ∀ ver, ¬ Outdated msg ver) ∧
    (∀ m, s.err = some (.loginDisconnect m) → m = msg) := by
  intro s msg
  have hal : (exec P .init pre).alive = true := exec_alive P .init pre init_alive hpre
  have hs : s = { exec P .init pre with err := some (classifyDisconnect P j) } := by
    show exec P .init (pre ++ _ :: post) = _
    rw [exec_mid, step_recv_alive P _ _ hal]
    exact exec_err P _ post rfl
  have hs1 : exec P .init (pre ++ [.recv (.disconnect j)]) =
      { exec P .init pre with err := some (classifyDisconnect P j) } := by
    rw [exec_snoc, step_recv_alive P _ _ hal]; rfl
  have herr : s.err = some (classifyDisconnect P j) := by rw [hs]
  have hre : s.reactor = .login := by
    rw [hs]
    simp only [ClientState.alive, Bool.and_eq_true] at hal
    cases hr : (exec P .init pre).reactor <;> simp_all
  refine ⟨hs.trans hs1.symm, by rw [herr]; simp, hre, ?_⟩
  have hc : classifyDisconnect P j = _ := classify_str P j
  have hmsg : disconnectMessage P j = msg := rfl
  rw [herr, hc, hmsg]
  simp only [← outdatedVersion_eq_some]
  cases outdatedVersion msg <;> simp [eq_comm]

/-- `auth_token.join` is called exactly for the reached encryption requests whose server id is not
"-" while a token is present — once per such request, in order — with the verification hash of
(server id, the fresh secret, the server's public key); the last such hash is `joined`. -/
theorem join_iff (P : LoginParams) (steps : List Step) :
    (exec P .init steps).joins = (processed (events steps)).filterMap (expectedJoin P) ∧
    (exec P .init steps).joined = ((processed (events steps)).filterMap (expectedJoin P)).getLast? ∧
    (∀ sid pk tok h, expectedJoin P (.encRequest sid pk tok) = some h ↔
      (sid ≠ "-" ∧ P.hasToken = true ∧ h = P.hash sid P.secret pk)) ∧
    (∀ e, e.isEncRequest = false → expectedJoin P e = none) := by
  have h := joins_exec P .init steps init_alive
  have h0 : ClientState.init.joins = [] := rfl
  rw [h0, List.nil_append] at h
  refine ⟨h, by rw [ClientState.joined, h], ?_, ?_⟩
  · intro sid pk tok hh
    simp only [expectedJoin]
    by_cases h1 : sid = "-" <;> by_cases h2 : P.hasToken = true <;> simp [h1, h2, eq_comm]
  · intro e he; cases e <;> simp_all [expectedJoin, LoginEv.isEncRequest]

/-! ### Non-vacuity: concrete runs (kernel-evaluated) -/

/-- compress → encrypt → plugin → success, one packet per loop iteration. -/
example :
    runLogin demoParams 1
      [.setCompression 256, .encRequest "srv" [7, 8] [9], .pluginRequest 5 "ch" [1], .success] =
    { encrypted := true, threshold := some 256, reactor := .play, queue := [],
      outbox := [⟨.encResp [7, 1, 2, 3] [7, 9], false, some 256, true⟩,
                 ⟨.plugResp 5 false none, true, some 256, false⟩],
      joins := ["srv/010203/0708"], err := none } := by decide +kernel

/-- The same packets in ONE batch with the plugin request first: the forced encryption response
overtakes the queued plugin response, which is then written encrypted and compressed-framed. -/
example :
    (runLogin demoParams 50
      [.pluginRequest 5 "ch" [1], .setCompression 256, .encRequest "-" [7, 8] [9], .success]).outbox =
    [⟨.encResp [7, 1, 2, 3] [7, 9], false, some 256, true⟩,
     ⟨.plugResp 5 false none, true, some 256, false⟩] := by decide +kernel

/-- Disconnect with an "Outdated server" text, then more packets: version mismatch, nothing else
processed. -/
example :
    (runLogin demoParams 1
      [.setCompression 1, .disconnect "{\"text\": \"Outdated server! I'm still on 1.8.9\"}",
       .success]).err = some (.versionMismatch "1.8.9") ∧
    (runLogin demoParams 1
      [.setCompression 1, .disconnect "{\"text\": \"Outdated server! I'm still on 1.8.9\"}",
       .success]).reactor = .login := by decide +kernel

example : (runLogin demoParams 1 [.disconnect "Server is full"]).err =
    some (.loginDisconnect "Server is full") := by decide +kernel

example : (runLogin demoParams 1 [.disconnect "{\"text\": 5}"]).err =
    some (.loginDisconnect "{\"text\": 5}") := by decide +kernel

/-- The hypotheses of the theorems are satisfiable by non-trivial values. -/
example : ∀ e ∈ events [.flush, .recv (.setCompression 256), .recv (.pluginRequest 1 "c" []), .flush],
    e.isTerminal = false := by decide

example : ∀ e ∈ events [.recv (.pluginRequest 1 "c" []), .flush, .recv .success],
    e.isSetCompression = false := by decide

example : ∀ e ∈ processed [.pluginRequest 1 "c" [], .encRequest "-" [] [], .success, .disconnect "x"],
    e.isDisconnect = false := by decide

example : Outdated "Outdated client! Please use 1.16.4\n" "1.16.4" :=
  (outdatedVersion_eq_some _ _).1 (by decide +kernel)

example : ∀ ver, ¬ Outdated "Outdated client! Please use 1.16 .4" ver :=
  (outdatedVersion_eq_none _).1 (by decide +kernel)

end PyCraft.C10
