import PyCraft.Lemmas.Position
import PyCraft.Generated.PosLayout
/-!
# C04 — Block positions use the 26/12/26-bit packing of the connection's protocol

Only property theorems and non-vacuity examples live here; helper lemmas are in
`Lemmas/Position.lean`.  `newer` is `context.protocol_later_eq(443)` (x | z | y layout),
`v741` is `context.protocol_later_eq(741)` (one-VarLong record format).  `%` on `Int` is the floor
modulus (result in `[0, 2^k)`), which is what Python's `&` with the mask `2^k - 1` computes.
-/
namespace PyCraft.C04
open PyCraft

/-- `Position` round trip.  For every coordinate triple in the 26/12/26-bit signed ranges and either
layout, the encoder succeeds with exactly 8 bytes, and decoding those bytes followed by arbitrary
other bytes returns the same signed coordinates and leaves exactly the other bytes. -/
theorem pos_rt (newer : Bool) (x y z : Int) (rest : Bytes)
    (hx1 : -2 ^ 25 ≤ x) (hx2 : x < 2 ^ 25) (hy1 : -2 ^ 11 ≤ y) (hy2 : y < 2 ^ 11)
    (hz1 : -2 ^ 25 ≤ z) (hz2 : z < 2 ^ 25) :
    ∃ w, encPos newer x y z = .ok w ∧ w.length = 8 ∧
      decPos newer (w ++ rest) = .ok ((x, y, z), rest) :=
  ⟨_, Pos.encPos_eq newer x y z, Pos.beU64_length _,
    Pos.decPos_posWord newer x y z rest hx1 hx2 hy1 hy2 hz1 hz2⟩

/-- `Position` layout.  For ALL integers `x y z` (the encoder masks, so it never fails) the encoder
emits 8 bytes whose big-endian value is below `2^64` and equals
`(x mod 2^26)·2^38 + (z mod 2^26)·2^12 + (y mod 2^12)` for the newer layout (x, then z, then y) and
`(x mod 2^26)·2^38 + (y mod 2^12)·2^26 + (z mod 2^26)` for the older one (x, then y, then z).
Stated with `%`, `*`, `+` only. -/
theorem pos_layout (newer : Bool) (x y z : Int) :
    ∃ w, encPos newer x y z = .ok w ∧ w.length = 8 ∧ Pos.beValue w < 2 ^ 64 ∧
      (Pos.beValue w : Int) =
        if newer then (x % 2 ^ 26) * 2 ^ 38 + (z % 2 ^ 26) * 2 ^ 12 + y % 2 ^ 12
        else (x % 2 ^ 26) * 2 ^ 38 + (y % 2 ^ 12) * 2 ^ 26 + z % 2 ^ 26 := by
  refine ⟨_, Pos.encPos_eq newer x y z, Pos.beU64_length _, ?_, ?_⟩
  · rw [Pos.beValue_beU64 _ (Pos.posWord_lt newer x y z)]; exact Pos.posWord_lt newer x y z
  · rw [Pos.beValue_beU64 _ (Pos.posWord_lt newer x y z)]; exact Pos.posWord_int newer x y z

/-- `Position` decoding is total on 8 bytes and is also a left inverse: ANY 8 bytes (followed by
anything) decode to coordinates inside the signed 26/12/26-bit ranges, the remainder is returned
untouched, and re-encoding those coordinates reproduces the same 8 bytes.  So every 64-bit word is
the encoding of exactly one in-range position. -/
theorem pos_dec_total (newer : Bool) (w rest : Bytes) (hw : w.length = 8) :
    ∃ x y z : Int, decPos newer (w ++ rest) = .ok ((x, y, z), rest) ∧
      -2 ^ 25 ≤ x ∧ x < 2 ^ 25 ∧ -2 ^ 11 ≤ y ∧ y < 2 ^ 11 ∧ -2 ^ 25 ≤ z ∧ z < 2 ^ 25 ∧
      encPos newer x y z = .ok w := by
  have hn := Pos.beValue_lt w hw
  obtain ⟨sx, sy, sz⟩ := Pos.posFields_range newer _ hn
  refine ⟨_, _, _, Pos.decPos_arith newer _ _ rest (Pos.readU64_append w rest hw),
    sx.1, sx.2, sy.1, sy.2, sz.1, sz.2, ?_⟩
  rw [Pos.encPos_eq]
  exact (congrArg (fun n => Except.ok (beU64 n)) (Pos.posWord_posFields newer _ hn)).trans
    (by rw [Pos.beU64_beValue w hw])

/-- Fewer than 8 bytes: `struct.error` (never a wrong position). -/
theorem pos_dec_short (newer : Bool) (bs : Bytes) (h : bs.length < 8) :
    decPos newer bs = .error .struct := by
  simp only [decPos, Pos.readU64_short bs h]

/-- `ChunkSectionPos` (22/22/20 bits) round trip: for `x, z ∈ [-2^21, 2^21)`, `y ∈ [-2^19, 2^19)`
the encoder emits 8 bytes and the decoder returns the same signed triple, consuming exactly them. -/
theorem section_rt (x y z : Int) (rest : Bytes)
    (hx1 : -2 ^ 21 ≤ x) (hx2 : x < 2 ^ 21) (hy1 : -2 ^ 19 ≤ y) (hy2 : y < 2 ^ 19)
    (hz1 : -2 ^ 21 ≤ z) (hz2 : z < 2 ^ 21) :
    ∃ w, encSecPos x y z = .ok w ∧ w.length = 8 ∧
      decSecPos (w ++ rest) = .ok ((x, y, z), rest) :=
  ⟨_, Pos.encSecPos_eq x y z, Pos.beU64_length _, Pos.decSecPos_secWord x y z rest hx1 hx2 hy1 hy2 hz1 hz2⟩

/-- `ChunkSectionPos` layout, for all integers: x in the top 22 bits, then z (22 bits), then y
(20 bits); the word is below `2^64`. -/
theorem section_layout (x y z : Int) :
    ∃ w, encSecPos x y z = .ok w ∧ w.length = 8 ∧ Pos.beValue w < 2 ^ 64 ∧
      (Pos.beValue w : Int) = (x % 2 ^ 22) * 2 ^ 42 + (z % 2 ^ 22) * 2 ^ 20 + y % 2 ^ 20 := by
  refine ⟨_, Pos.encSecPos_eq x y z, Pos.beU64_length _, ?_, ?_⟩
  · rw [Pos.beValue_beU64 _ (Pos.secWord_lt x y z)]; exact Pos.secWord_lt x y z
  · rw [Pos.beValue_beU64 _ (Pos.secWord_lt x y z)]; exact Pos.secWord_int x y z

/-- `ChunkSectionPos` decoding is total on 8 bytes, lands in the signed ranges, and re-encoding gives
the same 8 bytes back. -/
theorem section_dec_total (w rest : Bytes) (hw : w.length = 8) :
    ∃ x y z : Int, decSecPos (w ++ rest) = .ok ((x, y, z), rest) ∧
      -2 ^ 21 ≤ x ∧ x < 2 ^ 21 ∧ -2 ^ 19 ≤ y ∧ y < 2 ^ 19 ∧ -2 ^ 21 ≤ z ∧ z < 2 ^ 21 ∧
      encSecPos x y z = .ok w := by
  have hn := Pos.beValue_lt w hw
  have sx := (Pos.secFix_pow 21 (Pos.beValue w / 2 ^ 20 / 2 ^ 22)).1
  have sy := (Pos.secFix_pow 19 (Pos.beValue w)).1
  have sz := (Pos.secFix_pow 21 (Pos.beValue w / 2 ^ 20)).1
  refine ⟨_, _, _, Pos.decSecPos_arith _ _ rest hn (Pos.readU64_append w rest hw),
    sx.1, sx.2, sy.1, sy.2, sz.1, sz.2, ?_⟩
  rw [Pos.encSecPos_eq, Pos.secWord_of_fields _ hn, Pos.beU64_beValue w hw]

/-- Multi-block-change record, format of protocol ≥ 741 (one VarLong
`block_state_id << 12 | x << 8 | z << 4 | y`): for `x, y, z ∈ [0, 16)` and
`0 ≤ block_state_id < 2^65` the round trip is exact and consumes exactly the record.  The bound
`2^65` is what keeps the VarLong below `2^77`, the largest value the reader (`max_bytes = 10`,
which in fact lets 11 bytes through, see C03) accepts; the writer itself has no upper bound. -/
theorem record_rt_new (x y z b : Int) (rest : Bytes)
    (hx1 : 0 ≤ x) (hx2 : x < 16) (hy1 : 0 ≤ y) (hy2 : y < 16) (hz1 : 0 ≤ z) (hz2 : z < 16)
    (hb1 : 0 ≤ b) (hb2 : b < 2 ^ 65) :
    ∃ w, encRecord true x y z b = .ok w ∧
      decRecord true (w ++ rest) = .ok ((x, y, z, b), rest) := by
  obtain ⟨x, rfl⟩ := Int.eq_ofNat_of_zero_le hx1
  obtain ⟨y, rfl⟩ := Int.eq_ofNat_of_zero_le hy1
  obtain ⟨z, rfl⟩ := Int.eq_ofNat_of_zero_le hz1
  obtain ⟨b, rfl⟩ := Int.eq_ofNat_of_zero_le hb1
  exact ⟨_, Pos.encRecord_new x y z b (by omega) (by omega) (by omega),
    Pos.decRecord_new x y z b rest (by omega) (by omega) (by omega) (by omega)⟩

/-- Multi-block-change record, format before protocol 741 (byte `x << 4 | z`, byte `y`, VarInt
`block_state_id`): for `x, z ∈ [0, 16)`, `y ∈ [0, 256)` and `0 ≤ block_state_id < 2^42` the round
trip is exact and consumes exactly the record.  `2^42` is the reader's bound (`max_bytes = 5`
lets 6 bytes through); the writer has no upper bound. -/
theorem record_rt_old (x y z b : Int) (rest : Bytes)
    (hx1 : 0 ≤ x) (hx2 : x < 16) (hy1 : 0 ≤ y) (hy2 : y < 256) (hz1 : 0 ≤ z) (hz2 : z < 16)
    (hb1 : 0 ≤ b) (hb2 : b < 2 ^ 42) :
    ∃ w, encRecord false x y z b = .ok w ∧
      decRecord false (w ++ rest) = .ok ((x, y, z, b), rest) := by
  obtain ⟨x, rfl⟩ := Int.eq_ofNat_of_zero_le hx1
  obtain ⟨y, rfl⟩ := Int.eq_ofNat_of_zero_le hy1
  obtain ⟨z, rfl⟩ := Int.eq_ofNat_of_zero_le hz1
  obtain ⟨b, rfl⟩ := Int.eq_ofNat_of_zero_le hb1
  exact ⟨_, Pos.encRecord_old x y z b (by omega) (by omega) (by omega),
    Pos.decRecord_old x y z b rest (by omega) (by omega) (by omega) (by omega)⟩

/-- Both record formats at once: `x, z ∈ [0, 16)`; `y ∈ [0, 16)` (new) or `[0, 256)` (old);
`block_state_id ∈ [0, 2^65)` (new, VarLong) or `[0, 2^42)` (old, VarInt). -/
theorem record_rt (v741 : Bool) (x y z b : Int) (rest : Bytes)
    (hx1 : 0 ≤ x) (hx2 : x < 16) (hy1 : 0 ≤ y) (hy2 : y < if v741 then 16 else 256)
    (hz1 : 0 ≤ z) (hz2 : z < 16) (hb1 : 0 ≤ b) (hb2 : b < if v741 then 2 ^ 65 else 2 ^ 42) :
    ∃ w, encRecord v741 x y z b = .ok w ∧
      decRecord v741 (w ++ rest) = .ok ((x, y, z, b), rest) := by
  cases v741
  · exact record_rt_old x y z b rest hx1 hx2 hy1 (by simpa using hy2) hz1 hz2 hb1
      (by simpa using hb2)
  · exact record_rt_new x y z b rest hx1 hx2 hy1 (by simpa using hy2) hz1 hz2 hb1
      (by simpa using hb2)

/-! ### non-vacuity: concrete values -/

example : encPos true (-1) (-1) (-1) = .ok [0xff, 0xff, 0xff, 0xff, 0xff, 0xff, 0xff, 0xff] := by
  decide +kernel
example : decPos false ([0xff, 0xff, 0xff, 0xff, 0xff, 0xff, 0xff, 0xff] ++ [1, 2])
    = .ok ((-1, -1, -1), [1, 2]) := by decide +kernel
-- the extreme corner (2^25-1, -2^11, -2^25), both layouts (words 0x7FFFFFE000000800 and
-- 0x7FFFFFE002000000)
example : encPos true (2 ^ 25 - 1) (-2 ^ 11) (-2 ^ 25)
    = .ok [0x7f, 0xff, 0xff, 0xe0, 0x00, 0x00, 0x08, 0x00] := by decide +kernel
example : encPos false (2 ^ 25 - 1) (-2 ^ 11) (-2 ^ 25)
    = .ok [0x7f, 0xff, 0xff, 0xe0, 0x02, 0x00, 0x00, 0x00] := by decide +kernel
example : decPos true [0x7f, 0xff, 0xff, 0xe0, 0x00, 0x00, 0x08, 0x00, 0x2a]
    = .ok ((2 ^ 25 - 1, -2 ^ 11, -2 ^ 25), [0x2a]) := by decide +kernel
example : ∃ w, encPos true (2 ^ 25 - 1) (-2 ^ 11) (-2 ^ 25) = .ok w ∧ w.length = 8 ∧
    decPos true (w ++ [7]) = .ok ((2 ^ 25 - 1, -2 ^ 11, -2 ^ 25), [7]) :=
  pos_rt true (2 ^ 25 - 1) (-2 ^ 11) (-2 ^ 25) [7] (by omega) (by omega) (by omega) (by omega)
    (by omega) (by omega)
-- the two layouts really differ
example : encPos true 1 2 3 ≠ encPos false 1 2 3 := by decide +kernel
-- outside the range the encoder wraps (masks) instead of failing: 2^25 comes back as -2^25
example : encPos true (2 ^ 25) 0 0 = encPos true (-2 ^ 25) 0 0 := by decide +kernel
example : decPos true [1, 2, 3] = .error .struct := pos_dec_short true _ (by decide)
-- chunk-section positions
example : encSecPos (-1) (-1) (-1) = .ok [0xff, 0xff, 0xff, 0xff, 0xff, 0xff, 0xff, 0xff] := by
  decide +kernel
example : decSecPos [0x7f, 0xff, 0xfe, 0x00, 0x00, 0x08, 0x00, 0x00, 9]
    = .ok ((2 ^ 21 - 1, -2 ^ 19, -2 ^ 21), [9]) := by decide +kernel
example : ∃ w, encSecPos (2 ^ 21 - 1) (-2 ^ 19) (-2 ^ 21) = .ok w ∧ w.length = 8 ∧
    decSecPos (w ++ [9]) = .ok ((2 ^ 21 - 1, -2 ^ 19, -2 ^ 21), [9]) :=
  section_rt _ _ _ [9] (by omega) (by omega) (by omega) (by omega) (by omega) (by omega)
-- records
example : encRecord true 1 2 3 5 = .ok [0xb2, 0xa2, 0x01] := by decide +kernel
example : decRecord true [0xb2, 0xa2, 0x01, 0x77] = .ok ((1, 2, 3, 5), [0x77]) := by decide +kernel
example : encRecord false 1 200 3 300 = .ok [0x13, 0xc8, 0xac, 0x02] := by decide +kernel
example : decRecord false [0x13, 0xc8, 0xac, 0x02, 0x77] = .ok ((1, 200, 3, 300), [0x77]) := by
  decide +kernel
example : ∃ w, encRecord true 15 15 15 (2 ^ 65 - 1) = .ok w ∧
    decRecord true (w ++ [1]) = .ok ((15, 15, 15, 2 ^ 65 - 1), [1]) :=
  record_rt true 15 15 15 (2 ^ 65 - 1) [1] (by omega) (by omega) (by omega) (by simp)
    (by omega) (by omega) (by omega) (by simp)
-- failures are kept: negative block state id, unmasked old-format x, old-format y > 255
example : encRecord true 0 0 0 (-1) = .error .value := by decide +kernel
example : encRecord false 16 0 0 0 = .error .struct := by decide +kernel
example : encRecord false 0 256 0 0 = .error .struct := by decide +kernel
-- ... while the masked fields wrap silently
example : encRecord false 0 0 16 0 = encRecord false 0 0 0 0 := by decide +kernel
example : encRecord true 16 17 18 0 = encRecord true 0 1 2 0 := by decide +kernel

end PyCraft.C04

/-! ## Which layout each protocol version uses (tabulated from the live codec)

`PyCraft.Gen.posLayout` is regenerated on every run by probing the real `Position.send_with_context`
under every known protocol version (369), listed in chronological (`KNOWN_PROTOCOL_VERSIONS`) order. -/
namespace PyCraft.C04
open PyCraft.Gen

/-- the versions from `v` onward / up to and including `v`, in chronological order -/
def fromVersion (v : Nat) : List (Nat × Nat) := posLayout.dropWhile (·.1 != v)
def uptoVersion (v : Nat) : List (Nat × Nat) :=
  posLayout.take ((posLayout.takeWhile (·.1 != v)).length + 1)

/-- Every known version uses one of the two layouts, with a SINGLE switch-over: the flags are a run
of "old" followed by a run of "new". -/
theorem layout_single_switch :
    ∃ a b, posLayout.map (·.2) = List.replicate a 0 ++ List.replicate b 1 := by
  refine ⟨(posLayout.map (·.2)).count 0, (posLayout.map (·.2)).count 1, ?_⟩
  decide +kernel

/-- From Minecraft 1.14 (protocol 477) onward: x, z, y. -/
theorem layout_new_from_477 : ∀ r ∈ fromVersion 477, r.2 = 1 := by decide +kernel

/-- Up to 1.13.2 (protocol 404): x, y, z. -/
theorem layout_old_upto_404 : ∀ r ∈ uptoVersion 404, r.2 = 0 := by decide +kernel

-- non-vacuity: both version ranges are non-empty and end/start at the named versions
example : (fromVersion 477).head? = some (477, 1) ∧ (fromVersion 477).length > 100 := by
  decide +kernel
example : (uptoVersion 404).getLast? = some (404, 0) ∧ (uptoVersion 404).length > 100 := by
  decide +kernel
example : (posLayout.find? (·.1 == 757)).map (·.2) = some 1 := by decide +kernel
example : (posLayout.find? (·.1 == 47)).map (·.2) = some 0 := by decide +kernel

end PyCraft.C04
