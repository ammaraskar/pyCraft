import PyCraft.Lemmas.C11Errors
import PyCraft.Generated.C11Errors
import PyCraft.Generated.Versions
/-!
# C11 — "a server disconnect packet closes the connection, runs the exit callback exactly once
and reports no error", with writes that can FAIL (rank 11 of `docs/audit_report.md`)

`Props/C11.lean` proves the clause in a model (`Model/Play.lean`) in which `errors := 0` is a literal
and a write phase cannot fail. Here the model is `Model/C11Errors.lean`: every call of
`_write_packet` may raise an `IOError` (`fails k` for the k-th call, an arbitrary function), the
write phase of `_run` catches it into `exc_info`, the read phase forgets it when a packet named
"disconnect" has been processed, `_run` re-raises what is left, and `run` then reports the error
INSTEAD of calling the exit callback. `errors` and `exitCalls` are computed by that mechanism.

What is proved (for every `fails`, every `capW`, every `capR ≥ 1`, every inbox):

* the run terminates in exactly one of three ways (`run_outcomes`), and it is conservative: popped
  packets are the replies to the delivered packets, in order, each at most once
  (`replies_popped_in_order_at_most_once`);
* without a relevant failing write the run is the one of `Model/Play.lean`
  (`no_failed_write_conservative`), so all of `Props/C11.lean` carries over;
* the clause itself, in the form in which it is TRUE of the code: an error is reported iff some
  reachable write phase fails and no disconnect packet is among the packets the read phase of the
  SAME iteration can read (`error_iff`, with the two directions `disconnect_after_failed_write_clean`
  and `failed_write_without_disconnect_reported`; `iteration_raises_iff` is the one-iteration form);
  in particular a disconnect within the first `capR` packets is always clean (`short_session_clean`),
  and without any disconnect packet a failing write is always reported
  (`no_disconnect_error_iff`);
* the unrestricted clause is FALSE of the code (and of the model): `disconnect_not_always_clean`
  (the "Partial" of DESIGN §C11: the client dies on EPIPE before it reads the disconnect packet);
* models of two seeded changes (`connection.py` l.648-649 deleted; `except IOError` of the write phase narrowed)
  violate `disconnect_after_failed_write_clean` on concrete inputs
  (`seeded_no_clear_detected`, `seeded_narrow_except_detected`);
* the model computes exactly what the LIVE `NetworkingThread.run` was observed to do on the
  generated scenarios (`model_agrees_with_live_runs`), and in every supported version exactly one
  clientbound play class is named "disconnect" (`disconnect_name_unique`).

Only property theorems and non-vacuity examples live here; helper lemmas are in
`Lemmas/C11Errors.lean`.
-/
namespace PyCraft.C11Errors
open PyCraft PyCraft.PlayErr
open PyCraft.Play (PlayEv Reply replyTo beforeDisc hasDisc fullWire)

/-- The loop terminates for every failure pattern, all caps with `capR ≥ 1` and every inbox. -/
theorem loop_terminates (newer : Bool) (fails : Nat → Bool) (capW capR : Nat) (hR : 1 ≤ capR)
    (inbox : List PlayEv) : (runLoop newer fails capW capR inbox).isSome = true := by
  obtain ⟨r, h, -⟩ := runLoop_spec newer fails capW capR hR inbox
  simp [h]

/-- A run ends in exactly one of three ways. `done` is the prefix of the inbox that was processed
(delivered to the listeners, in order, unknown ids as generic packets).
1. CLEAN: the inbox has a disconnect packet, everything up to and including the first one was
   processed, the connection is closed, the exit callback ran once, no error; packets are left
   unsent only if a write failed.
2. OPEN: no disconnect packet; the whole inbox was processed, nothing lost, nothing unsent, the
   connection stays open, no callback.
3. ERROR: a write failed (`lost ≠ []`) and no disconnect packet was processed; the connection is
   closed, ONE error is reported and the exit callback is NOT called. -/
theorem run_outcomes (newer : Bool) (fails : Nat → Bool) (capW capR : Nat) (hR : 1 ≤ capR)
    (inbox : List PlayEv) :
    ∃ r done rest, runLoop newer fails capW capR inbox = some r ∧ inbox = done ++ rest ∧
      r.delivered = done.map PlayEv.asSeen ∧ r.spawned = done.any PlayEv.isPosLook ∧
      ((hasDisc inbox = true ∧ done = beforeDisc inbox ++ [.disconnect] ∧ r.closed = true ∧
          r.exitCalls = 1 ∧ r.errors = 0 ∧ (r.lost = [] → r.unsent = [])) ∨
       (hasDisc inbox = false ∧ done = inbox ∧ r.closed = false ∧ r.exitCalls = 0 ∧
          r.errors = 0 ∧ r.lost = [] ∧ r.unsent = []) ∨
       (PlayEv.disconnect ∉ done ∧ r.closed = true ∧ r.exitCalls = 0 ∧ r.errors = 1 ∧
          r.lost ≠ [])) := by
  obtain ⟨r, hr, done, rest, h1, h2, h3, -, h5⟩ := runLoop_spec newer fails capW capR hR inbox
  exact ⟨r, done, rest, hr, h1, h2, h3, h5⟩

/-- Conservation. Let `P` be the packets popped from the queue during the run, in order. Then `P`
followed by what is still queued is exactly the list of replies due to the delivered packets (in
order, so each reply was popped at most once and none was invented); the k-th popped packet is on
the wire iff write number k did not fail, otherwise it is lost; and the replies due to the delivered
packets are a prefix of those due to everything before the first disconnect packet. -/
theorem replies_popped_in_order_at_most_once (newer : Bool) (fails : Nat → Bool) (capW capR : Nat)
    (hR : 1 ≤ capR) (inbox : List PlayEv) :
    ∃ r P, runLoop newer fails capW capR inbox = some r ∧
      P ++ r.unsent = r.delivered.flatMap (replyTo newer) ∧
      r.wire = (sift fails 0 P).1 ∧ r.lost = (sift fails 0 P).2 ∧
      r.delivered.flatMap (replyTo newer) <+: fullWire newer inbox := by
  obtain ⟨r, hr, done, rest, h1, h2, -, ⟨P, p1, p2, p3⟩, h5⟩ :=
    runLoop_spec newer fails capW capR hR inbox
  have hflat : r.delivered.flatMap (replyTo newer) = done.flatMap (replyTo newer) := by
    rw [h2, List.flatMap_map]
    congr 1; funext e; exact Play.replyTo_asSeen newer e
  refine ⟨r, P, hr, by rw [hflat]; exact p1, p2, p3, ?_⟩
  rw [hflat, fullWire]
  rcases h5 with ⟨_, hdone, _⟩ | ⟨hnodisc, hdone, _⟩ | ⟨hnodone, _⟩
  · rw [hdone]; simp [replyTo]
  · rw [hdone, (Play.beforeDisc_of_no_disc inbox ((hasDisc_false_iff _).1 hnodisc)).1]
    exact List.prefix_refl _
  · rw [h1, (Play.beforeDisc_append_of_not_mem done rest hnodone).1, List.flatMap_append]
    exact List.prefix_append _ _

/-- Conservative extension: if none of the first `|fullWire|` writes fails (`fullWire` = the
replies due to the packets before the first disconnect — no other write is ever attempted), the
run is exactly the run of `Model/Play.lean` with an open peer, nothing is lost and nothing is left
unsent. Hence every theorem of `Props/C11.lean` holds for the model with failing writes too. -/
theorem no_failed_write_conservative (newer : Bool) (fails : Nat → Bool) (capW capR : Nat)
    (hR : 1 ≤ capR) (inbox : List PlayEv)
    (hno : ∀ k, k < (fullWire newer inbox).length → fails k = false) :
    (runLoop newer fails capW capR inbox).map Result.toPlay = Play.runLoop newer true capW capR inbox ∧
    ∀ r, runLoop newer fails capW capR inbox = some r → r.lost = [] ∧ r.unsent = [] := by
  obtain ⟨r, hr, hw, hl, hu, hd, hs, hc, hx, he⟩ := runLoop_nofail newer fails capW capR hR inbox hno
  obtain ⟨w, -, hw', hr'⟩ := Play.runLoop_spec newer true capW capR hR inbox
  refine ⟨?_, fun r2 h2 => ?_⟩
  · rw [hr, hr', hw' (Or.inl rfl), Option.map_some]
    simp only [Result.toPlay, Play.resultWith, hw, hd, hs, hc, hx, he]
  · rw [hr] at h2; cases h2; exact ⟨hl, hu⟩

/-- An error is never reported without a failed write of an actual reply: `errors = 1` implies
that one of the first `|fullWire|` writes fails. -/
theorem error_needs_failed_write (newer : Bool) (fails : Nat → Bool) (capW capR : Nat)
    (hR : 1 ≤ capR) (inbox : List PlayEv) (r : PlayErr.Result)
    (hr : runLoop newer fails capW capR inbox = some r) (he : r.errors = 1) :
    ∃ k, k < (fullWire newer inbox).length ∧ fails k = true := by
  apply Classical.byContradiction
  intro hcon
  have hno : ∀ k, k < (fullWire newer inbox).length → fails k = false := by
    intro k hk
    cases hfk : fails k with
    | false => rfl
    | true => exact absurd ⟨k, hk, hfk⟩ hcon
  obtain ⟨r', hr', -, -, -, -, -, -, -, he'⟩ := runLoop_nofail newer fails capW capR hR inbox hno
  rw [hr] at hr'; cases hr'
  omega

/-- Without a disconnect packet in the inbox: the error is reported (exactly once, the connection
closed, the exit callback not called) iff one of the writes of the due replies fails; otherwise the
run is the failure-free one. -/
theorem no_disconnect_error_iff (newer : Bool) (fails : Nat → Bool) (capW capR : Nat)
    (hR : 1 ≤ capR) (inbox : List PlayEv) (hnd : hasDisc inbox = false) :
    ∃ r, runLoop newer fails capW capR inbox = some r ∧
      (r.errors = 1 ↔ ∃ k, k < (fullWire newer inbox).length ∧ fails k = true) ∧
      (r.errors = 1 → r.closed = true ∧ r.exitCalls = 0 ∧ r.lost ≠ []) ∧
      (r.errors ≠ 1 → r.errors = 0 ∧ r.closed = false ∧ r.exitCalls = 0 ∧
        r.wire = fullWire newer inbox ∧ r.lost = [] ∧ r.unsent = []) := by
  obtain ⟨r, hr, done, rest, h1, h2, h3, ⟨P, p1, p2, p3⟩, h5⟩ :=
    runLoop_spec newer fails capW capR hR inbox
  refine ⟨r, hr, ⟨error_needs_failed_write newer fails capW capR hR inbox r hr, ?_⟩, ?_, ?_⟩
  · rintro ⟨k, hk, hfk⟩
    rcases h5 with ⟨hdisc, _⟩ | ⟨-, hdone, -, -, -, hlost, hunsent⟩ | ⟨_, _, _, herr, _⟩
    · rw [hnd] at hdisc; cases hdisc
    · exfalso
      rw [hunsent, List.append_nil, hdone] at p1
      rw [fullWire, (Play.beforeDisc_of_no_disc inbox ((hasDisc_false_iff _).1 hnd)).1, ← p1] at hk
      have := (sift_lost_nil_iff fails 0 P).1 (p3 ▸ hlost) k hk
      rw [Nat.zero_add, hfk] at this
      cases this
    · exact herr
  · intro he
    rcases h5 with ⟨hdisc, _⟩ | ⟨_, _, _, _, herr, _⟩ | ⟨_, hclosed, hexit, _, hlost⟩
    · rw [hnd] at hdisc; cases hdisc
    · omega
    · exact ⟨hclosed, hexit, hlost⟩
  · intro hne
    rcases h5 with ⟨hdisc, _⟩ | ⟨-, hdone, hclosed, hexit, herr, hlost, hunsent⟩ |
      ⟨_, _, _, herr, _⟩
    · rw [hnd] at hdisc; cases hdisc
    · refine ⟨herr, hclosed, hexit, ?_, hlost, hunsent⟩
      rw [hunsent, List.append_nil, hdone] at p1
      rw [p2, sift_wire_of_lost_nil _ _ _ (p3 ▸ hlost), p1, fullWire,
        (Play.beforeDisc_of_no_disc inbox ((hasDisc_false_iff _).1 hnd)).1]
    · exact absurd herr hne

/-- One iteration of `_run`, started in any state with the thread not interrupted and the socket
open: the iteration ends by re-raising the write error iff its write phase failed and no disconnect
packet is among the `capR − w` packets its read phase can read, `w` being the number of packets the
failed write phase had written successfully (the packet counter is shared). -/
theorem iteration_raises_iff (newer : Bool) (fails : Nat → Bool) (capW capR : Nat) (c : Conn)
    (inbox : List PlayEv) (hi : c.interrupt = false) (hcl : c.closed = false) :
    (iter newer fails capW capR c inbox).exc = true ↔
      ((writePhase fails capW c).exc = true ∧
        hasDisc (inbox.take (capR - (writePhase fails capW c).num)) = false) := by
  cases hd : hasDisc (inbox.take (capR - (writePhase fails capW c).num)) with
  | false => rw [iter_no_disc newer fails capW capR c inbox hi hd]; simp
  | true =>
    obtain ⟨pre, post, a, b, d⟩ := hasDisc_take_split _ _ hd
    subst a
    rw [iter_disc newer fails capW capR c pre post hi hcl b (by omega)]
    simp

/-- THE CLAUSE. In the run on `inbox0`, let an iteration of `_run` start in state `c` with
`pre ++ disconnect :: post` still unread, no disconnect packet in `pre`, and let the first disconnect
packet be within reach of the read phase of THIS iteration: `w + |pre| < capR`, where `w` is the
number of packets written by the write phase of this iteration — whether or not that write phase
failed. Then the whole run closes the connection, runs the exit callback exactly once and reports
NO error; everything up to and including the disconnect packet is delivered and nothing after it.
If the write phase did fail, a packet was lost (so the clean exit is due to the forgetting of
`exc_info`, `connection.py` l.648-649, not to the absence of a failure). -/
theorem disconnect_after_failed_write_clean (newer : Bool) (fails : Nat → Bool) (capW capR : Nat)
    (inbox0 : List PlayEv) (c : Conn) (pre post : List PlayEv)
    (hreach : Reach newer fails capW capR inbox0 c (pre ++ .disconnect :: post))
    (hi : c.interrupt = false) (hpre : PlayEv.disconnect ∉ pre)
    (hlen : (writePhase fails capW c).num + pre.length < capR) :
    ∃ r, runLoop newer fails capW capR inbox0 = some r ∧
      r.closed = true ∧ r.exitCalls = 1 ∧ r.errors = 0 ∧
      r.delivered = c.delivered ++ (pre ++ [PlayEv.disconnect]).map PlayEv.asSeen ∧
      ((writePhase fails capW c).exc = true → r.lost ≠ []) := by
  have hl := reach_live newer fails capW capR inbox0 c _ hreach hi
  have hit := iter_disc newer fails capW capR c pre post hi hl.2.2 hpre hlen
  obtain ⟨hint, hclosed, hconn, hdeliv, -, hout⟩ :=
    reactAll_disc_facts newer fails
      (advance newer { c with out := (writePhase fails capW c).out } pre)
      (by simpa [advance] using hl.2.2)
  have hloop : Runs (iter newer fails capW capR) c (pre ++ .disconnect :: post)
      ((iter newer fails capW capR c (pre ++ .disconnect :: post)).conn, false) :=
    .step hi (by simp) (by rw [hit]) (.stop (.inl (by rw [hit]; exact hint)))
  refine ⟨_, reach_run newer fails capW capR (by omega) inbox0 c _ hreach _ hloop, ?_⟩
  rw [hit]
  refine ⟨by simpa [finish] using hclosed, by simp [finish, hconn], by simp [finish],
    by simp only [finish, Bool.false_eq_true, if_false]; rw [hdeliv]; simp [advance, PlayEv.asSeen],
    fun hw => ?_⟩
  simp only [finish, Bool.false_eq_true, if_false, hout]
  rcases writeLoop_spec fails capW 0 c.out.queue c.out.wire c.out.lost _ rfl with
    ⟨a, _⟩ | ⟨_, _, x, hx⟩
  · rw [writePhase] at hw; rw [hw] at a; cases a
  · exact flushQ_lost_ne _ _ _ _ (by simp [advance, writePhase, hx])

/-- The converse: if the write phase of a reachable iteration fails and no disconnect packet is
among the packets its read phase can read, the run ends THERE: the connection is closed, the error
is reported once and the exit callback is not called — even if a disconnect packet follows. -/
theorem failed_write_without_disconnect_reported (newer : Bool) (fails : Nat → Bool)
    (capW capR : Nat) (hR : 1 ≤ capR) (inbox0 : List PlayEv) (c : Conn) (inbox : List PlayEv)
    (hreach : Reach newer fails capW capR inbox0 c inbox) (hi : c.interrupt = false)
    (hw : (writePhase fails capW c).exc = true)
    (hd : hasDisc (inbox.take (capR - (writePhase fails capW c).num)) = false) :
    ∃ r, runLoop newer fails capW capR inbox0 = some r ∧
      r.closed = true ∧ r.exitCalls = 0 ∧ r.errors = 1 ∧
      r.delivered = c.delivered ++
        (inbox.take (capR - (writePhase fails capW c).num)).map PlayEv.asSeen := by
  have hl := reach_live newer fails capW capR inbox0 c _ hreach hi
  have hit := iter_no_disc newer fails capW capR c inbox hi hd
  have hq : ¬(inbox = [] ∧ c.out.queue = []) := fun h => writePhase_exc_queue fails capW c hw h.2
  have hloop : Runs (iter newer fails capW capR) c inbox
      ((iter newer fails capW capR c inbox).conn, true) :=
    .raise hi hq (by rw [hit]; exact hw)
  refine ⟨_, reach_run newer fails capW capR hR inbox0 c _ hreach _ hloop, ?_⟩
  rw [hit]
  simp [finish, disconnect, advance]

/-- Exact characterisation of "reports an error": at most one error is reported, and one is
reported iff some iteration of the run starts (in a state `c`, with `inbox` unread) whose write
phase fails and whose read phase cannot reach a disconnect packet. -/
theorem error_iff (newer : Bool) (fails : Nat → Bool) (capW capR : Nat) (hR : 1 ≤ capR)
    (inbox0 : List PlayEv) :
    ∃ r, runLoop newer fails capW capR inbox0 = some r ∧ (r.errors = 0 ∨ r.errors = 1) ∧
      (r.errors = 1 ↔
        ∃ c inbox, Reach newer fails capW capR inbox0 c inbox ∧ c.interrupt = false ∧
          (writePhase fails capW c).exc = true ∧
          hasDisc (inbox.take (capR - (writePhase fails capW c).num)) = false) := by
  obtain ⟨c', raised, hc, -⟩ := loop_spec newer fails capW capR hR (2 * inbox0.length + 1)
    Conn.init inbox0 init_live rfl (by simp [Conn.init])
  have hr : runLoop newer fails capW capR inbox0 = some (finish fails c' raised) := by
    simp [runLoop, runFrom, hc]
  refine ⟨_, hr, by cases raised <;> simp [finish], ?_, ?_⟩
  · intro he
    have hraised : raised = true := by
      cases raised with
      | true => rfl
      | false => simp [finish] at he
    subst hraised
    obtain ⟨c, inbox, h1, h2, h3⟩ :=
      raised_reach newer fails capW capR inbox0 Reach.start (runs_of_loopG hc)
    have hl := reach_live newer fails capW capR inbox0 c inbox h1 h2
    obtain ⟨h4, h5⟩ := (iteration_raises_iff newer fails capW capR c inbox h2 hl.2.2).1 h3
    exact ⟨c, inbox, h1, h2, h4, h5⟩
  · rintro ⟨c, inbox, h1, h2, h3, h4⟩
    obtain ⟨r, hr', -, -, he, -⟩ :=
      failed_write_without_disconnect_reported newer fails capW capR hR inbox0 c inbox h1 h2 h3 h4
    rw [hr] at hr'; cases hr'; exact he

/-- A disconnect packet among the first `capR` packets (50 in the code) is ALWAYS clean, whatever
writes fail: no write phase precedes the first read phase, and the only writes attempted are those
of the flush inside `disconnect()`, whose failure is swallowed there. -/
theorem short_session_clean (newer : Bool) (fails : Nat → Bool) (capW capR : Nat)
    (pre post : List PlayEv) (hpre : PlayEv.disconnect ∉ pre) (hlen : pre.length < capR) :
    ∃ r, runLoop newer fails capW capR (pre ++ .disconnect :: post) = some r ∧
      r.closed = true ∧ r.exitCalls = 1 ∧ r.errors = 0 ∧
      r.delivered = (pre ++ [PlayEv.disconnect]).map PlayEv.asSeen := by
  have hnum : (writePhase fails capW Conn.init).num = 0 := by
    simp [writePhase, writeLoop, Conn.init]
  obtain ⟨r, hr, a, b, c, d, -⟩ := disconnect_after_failed_write_clean newer fails capW capR
    (pre ++ .disconnect :: post) Conn.init pre post Reach.start rfl hpre (by omega)
  exact ⟨r, hr, a, b, c, by simpa [Conn.init] using d⟩

/-! ### Live facts (regenerated from /repo on every run) -/

/-- In every supported protocol version exactly one class of `clientbound.play.get_packets` has
the `packet_name` "disconnect" — the name both `PlayingReactor.react` and the read phase of `_run`
test — namely `DisconnectPacket`; the table covers exactly the supported versions. -/
theorem disconnect_name_unique :
    (∀ row ∈ Gen.C11Errors.discNamed, row.2 = ["DisconnectPacket"]) ∧
    Gen.C11Errors.discNamed.map (·.1) = liveTables.supportedProtocols := by
  decide +kernel

/-- The model against the code: for every generated scenario (the real `NetworkingThread.run` with
its literal caps, on a socket that fails from the n-th write on) the model computes exactly the
observed wire, lost and unsent packets, delivered packets, `spawned`, closed socket, number of exit
callbacks and number of reported errors. -/
theorem model_agrees_with_live_runs :
    ∀ row ∈ Gen.C11Errors.liveRuns,
      runLoop row.1 (match row.2.1 with | none => fun _ => false | some n => failFrom n) 300 50
        row.2.2.1 = some row.2.2.2 := by
  decide +kernel

/-- The generated scenarios do exercise all three outcomes, in particular a failed write phase
followed by a clean exit, and an error in spite of a disconnect packet. -/
theorem live_runs_cover_outcomes :
    (∃ row ∈ Gen.C11Errors.liveRuns, row.2.2.2.errors = 0 ∧ row.2.2.2.exitCalls = 1 ∧
      row.2.2.2.lost ≠ [] ∧ row.2.2.2.wire ≠ [] ∧ 50 < row.2.2.2.delivered.length) ∧
    (∃ row ∈ Gen.C11Errors.liveRuns, row.2.2.2.errors = 1 ∧ row.2.2.2.exitCalls = 0 ∧
      hasDisc row.2.2.1 = true) ∧
    (∃ row ∈ Gen.C11Errors.liveRuns, row.2.2.2.errors = 0 ∧ row.2.2.2.closed = false) := by
  decide +kernel

/-! ### The unrestricted clause is false; seeded changes are detected -/

/-- `n` keep-alive packets with ids `a, a+1, …`. -/
private def kas (a n : Nat) : List PlayEv := (List.range n).map (fun i => PlayEv.keepAlive (a + i))

/-- "A server disconnect packet … reports no error" does NOT hold for every history: with the real
caps, 100 keep-alives followed by a disconnect packet and a peer that is gone end in a reported
error and no exit callback (the write phase of the 2nd iteration fails; the 50 packets its read
phase reads do not include the disconnect packet). Confirmed on the real code: this is the row
`(true, some 0, ka(50) ++ ka(50) ++ disc)` of `Gen.C11Errors.liveRuns`. -/
theorem disconnect_not_always_clean :
    ∃ (fails : Nat → Bool) (inbox : List PlayEv) (r : PlayErr.Result), hasDisc inbox = true ∧
      runLoop true fails 300 50 inbox = some r ∧ r.errors = 1 ∧ r.exitCalls = 0 ∧ r.closed = true :=
  ⟨failFrom 0, kas 0 100 ++ [.disconnect], _, by decide +kernel, rfl, by decide +kernel,
    by decide +kernel, by decide +kernel⟩

/-- The input on which the seeded changes are caught: 50 keep-alives, the disconnect packet, peer
gone. It satisfies the hypotheses of `disconnect_after_failed_write_clean` at the second iteration
(state reached after reading the 50 keep-alives; `pre = []`, `w = 0`). -/
private def seedInbox : List PlayEv := kas 0 50 ++ [.disconnect]

private def seedState : Conn := (iter true (failFrom 0) 300 50 Conn.init seedInbox).conn

/-- Non-vacuity of `disconnect_after_failed_write_clean` with a write phase that really fails. -/
example : Reach true (failFrom 0) 300 50 seedInbox seedState ([] ++ PlayEv.disconnect :: []) ∧
    seedState.interrupt = false ∧ (writePhase (failFrom 0) 300 seedState).exc = true ∧
    (writePhase (failFrom 0) 300 seedState).num + ([] : List PlayEv).length < 50 := by
  refine ⟨?_, by decide +kernel, by decide +kernel, by decide +kernel⟩
  have h : (iter true (failFrom 0) 300 50 Conn.init seedInbox).rest = [] ++ PlayEv.disconnect :: [] := by
    decide +kernel
  rw [← h]
  exact Reach.step Reach.start (by decide +kernel) (by decide +kernel) (by decide +kernel)

/-- The real model on that input: clean, as the theorem says. -/
example : (runLoop true (failFrom 0) 300 50 seedInbox).map
      (fun r => (r.errors, r.exitCalls, r.closed, r.lost)) =
    some (0, 1, true, [.keepAlive 0, .keepAlive 1]) := by decide +kernel

/-- Seeded change 1 (`connection.py` l.648-649 deleted: `exc_info` is not forgotten when the disconnect packet is
read): on `seedInbox` the changed code reports an error and skips the exit callback, contradicting
the conclusion `errors = 0 ∧ exitCalls = 1` of `disconnect_after_failed_write_clean`. -/
theorem seeded_no_clear_detected :
    (runLoopNoClear true (failFrom 0) 300 50 seedInbox).map (fun r => (r.errors, r.exitCalls)) =
      some (1, 0) ∧
    (runLoop true (failFrom 0) 300 50 seedInbox).map (fun r => (r.errors, r.exitCalls)) =
      some (0, 1) := by
  decide +kernel

/-- Seeded change 2 (`except IOError` of the write phase narrowed so that the error of `send` is
not caught): the exception leaves `_run` from the write phase; same contradiction. -/
theorem seeded_narrow_except_detected :
    (runLoopNarrow true (failFrom 0) 300 50 seedInbox).map (fun r => (r.errors, r.exitCalls)) =
      some (1, 0) ∧
    (runLoop true (failFrom 0) 300 50 seedInbox).map (fun r => (r.errors, r.exitCalls)) =
      some (0, 1) := by
  decide +kernel

/-! ### Non-vacuity: concrete runs (kernel-evaluated) -/

private def demoInbox : List PlayEv :=
  [.keepAlive 1, .posLook 10 64 (-3) 90 0 0 7, .unknown 200 [0xaa], .other "chat message",
   .keepAlive 2, .disconnect, .keepAlive 3]

/-- Tiny caps, the first and the third write fail (not a monotone pattern): the write phase of the
2nd iteration fails at once, its read phase reaches the disconnect packet — clean; the flush of
`disconnect()` gets one packet through and loses another. -/
example : runLoop true (fun k => k == 0 || k == 2) 2 3 demoInbox =
    some { wire := [.teleportConfirm 7], lost := [.keepAlive 1, .keepAlive 2], unsent := [],
           delivered := [.keepAlive 1, .posLook 10 64 (-3) 90 0 0 7, .unknown 200 [],
                         .other "chat message", .keepAlive 2, .disconnect],
           spawned := true, closed := true, exitCalls := 1, errors := 0 } := by decide +kernel

/-- Same inbox and caps, peer gone from the second write on, read cap 1: the read phase after the
failed write cannot reach the disconnect packet — error, exit callback skipped, one packet lost. -/
example : runLoop true (failFrom 1) 2 1 demoInbox =
    some { wire := [.keepAlive 1], lost := [.teleportConfirm 7], unsent := [],
           delivered := [.keepAlive 1, .posLook 10 64 (-3) 90 0 0 7, .unknown 200 []],
           spawned := true, closed := true, exitCalls := 0, errors := 1 } := by decide +kernel

/-- No failing write: the result of `Model/Play.lean` (first example of `Props/C11.lean`). -/
example : (runLoop true (fun _ => false) 300 50 demoInbox).map Result.toPlay =
    Play.runLoop true true 300 50 demoInbox := by decide +kernel

/-- The hypothesis of `no_failed_write_conservative` is satisfiable by a pattern that does fail
later, and that of `no_disconnect_error_iff` by a failing one. -/
example : ∀ k, k < (fullWire true demoInbox).length → failFrom 3 k = false := by decide +kernel
example : hasDisc [PlayEv.keepAlive 1, .keepAlive 2] = false ∧
    ∃ k, k < (fullWire true [PlayEv.keepAlive 1, .keepAlive 2]).length ∧ failFrom 1 k = true :=
  ⟨by decide, 1, by decide, by decide⟩

/-- `sift`: writes 0 and 2 succeed, write 1 fails. -/
example : sift (fun k => k == 1) 0 [Reply.keepAlive 5, .keepAlive 6, .keepAlive 7] =
    ([.keepAlive 5, .keepAlive 7], [.keepAlive 6]) := by decide +kernel

end PyCraft.C11Errors
