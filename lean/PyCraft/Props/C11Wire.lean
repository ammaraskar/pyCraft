import PyCraft.Lemmas.PlayWire
import PyCraft.Props.C11
import PyCraft.Props.C01
/-!
# C11 on the wire — keep-alives and teleports are answered, byte by byte

Refines property C11 ("in play, keep-alives and teleports are always answered; unknown packets
pass") from the abstract packets of `Model/Play.lean` (`Props/C11.lean`) to the BYTES of both
directions, by composing three layers:

* C01 (`Props/C01.lean`): frames under any threshold, any lawful zlib, any cipher pair, any
  segmentation — used for the server → client stream AND for the client → server stream;
* the field layouts of the six packets involved (`Model/PlayWire.lean`): `serverFields`,
  `clientDecode` (what `read_packet` + the packet class's `read` make of a delivered frame),
  `replyFields` (`write_fields` of the replies), `serverDecode` (an independent strict reader);
* C11 (`runLoop`, `C11.keepalive_echo`, `C11.teleport_ack`, the closed form `runLoop_spec`).

* the play-state "set compression" packet (protocols ≤ 47; `SrvPkt.setCompression`,
  `Profile.setCompressionCb`): it switches threshold and compression of BOTH directions at its
  position in the stream — `serverBytes` frames what follows it with the new threshold, `clientRead`
  re-evaluates its flag packet by packet, and every reply is framed with the threshold in force
  when it was WRITTEN (`runT` = `runLoop` instrumented with "packets processed so far", `thrAt`,
  `thrTags`, `clientWireT`); the reference server is told the flag per frame
  (`serverDecodeRepliesM`).  Streams without such packets are the one-threshold special case
  (`quiet_stream_one_threshold`, last clause of `client_wire_is_frames_of_replies`,
  `server_recovers_replies_one_threshold`).

Everything is quantified over ALL packet lists `pkts : List SrvPkt` (each packet carries all its
wire data; `inboxOf pkts` is the `PlayEv` list the reactor sees), ALL profiles (the ids and layout
switches are parameters; only pairwise distinctness of the ids in use is assumed), ALL thresholds,
ALL lawful zlibs, ALL cipher pairs and initial contexts (`plainPair`/`()` = no encryption), ALL
chunkings of the writer's stream into `send` calls, ALL segmentations into arrivals, ALL caps with
`capR ≥ 1`, both values of `peerOpen`.

`SrvPkt.wf` / `replyWf` are the decidable well-formedness predicates (bit patterns of the right
width, VarInts below the reader's bound `2^42`, `other`/`unknown` ids what they claim to be);
`FrameOK` is C01's VarInt guard.

Only property theorems and non-vacuity examples live here; helper lemmas and the concrete example
parameters are in `Lemmas/PlayWire.lean`.
-/
namespace PyCraft.C11Wire
open PyCraft PyCraft.Play PyCraft.PlayWire

/-- (a) The client reads the server's stream back — set-compression packets included.  Let a
server write any well-formed packets, one frame each, starting under the threshold `thr` login left
in force and framing everything BEHIND a play-state "set compression" packet with that packet's
threshold (`serverBytes`; any zlib; `ServerOK`: C01's VarInt guard for every frame under the
threshold it is framed with); cut the stream into `send` calls in any way, encrypt it call by call
(or not: `plainPair`), and let it arrive in ANY segmentation: `read_packet` in a loop — C01's reader
with the CURRENT `compression_enabled` flag, then the packet class's `read` selected by the id, the
flag switched on by the reactor behind each set-compression packet — hands `_react` exactly the
events `inboxOf pkts` (keep-alive ids, positions, teleport ids as written; an unknown id as a bare
packet without data; other known packets, set compression among them, by name), in order, nothing
lost, merged or split, and then sees end-of-stream exactly at a frame boundary: everything was
consumed. -/
theorem client_decodes_server_stream {σ : Type} (cp : CipherPair σ) (s0 : σ) (z : Zlib)
    (thr : Option Int) (P : Profile) (pkts : List SrvPkt) (hP : P.cbDistinct = true)
    (hwf : ∀ p ∈ pkts, p.wf P = true)
    (hok : ServerOK z.toZlibOps P thr pkts)
    (sends : List Bytes) (hsends : sends.flatten = serverBytes z.toZlibOps thr P pkts)
    (segs : Segs) (hseg : segs.flatten = (encSends cp.enc s0 sends).2.flatten) :
    clientRead P cp.dec s0 z.toZlibOps thr.isSome segs = (inboxOf pkts, .eof) := by
  have hlen := serverBytes_length z.toZlibOps P pkts thr
  apply clientReadFuel_server cp.dec z P hP pkts thr _ _ hwf hok
  · rw [hseg, encSends_flatten, cp.enc.len, hsends]; omega
  · rw [ahead_enc, hseg, encSends_flatten, (cp.inv s0 _).1, hsends]

/-- (a′) The same on a plaintext connection: any segmentation of `serverBytes` is read back as
`inboxOf pkts`, then end-of-stream. -/
theorem client_decodes_plain_stream (z : Zlib) (thr : Option Int) (P : Profile)
    (pkts : List SrvPkt) (hP : P.cbDistinct = true) (hwf : ∀ p ∈ pkts, p.wf P = true)
    (hok : ServerOK z.toZlibOps P thr pkts) (segs : Segs)
    (hseg : segs.flatten = serverBytes z.toZlibOps thr P pkts) :
    clientRead P idXform () z.toZlibOps thr.isSome segs = (inboxOf pkts, .eof) := by
  have hlen := serverBytes_length z.toZlibOps P pkts thr
  exact clientReadFuel_server idXform z P hP pkts thr _ _ hwf hok (by rw [hseg]; omega) hseg

/-- (a″) A stream WITHOUT set-compression packets is framed with the one threshold `thr` throughout
(the vocabulary of `C01.roundtrip_stream`), and its VarInt guard is the guard of every packet under
`thr`. -/
theorem quiet_stream_one_threshold (z : ZlibOps) (thr : Option Int) (P : Profile)
    (pkts : List SrvPkt) (hq : ∀ p ∈ pkts, p.isSetCompression = false) :
    serverBytes z thr P pkts = (pkts.map fun p => packetFrame z thr (serverFields P p)).flatten ∧
    (ServerOK z P thr pkts ↔ ∀ p ∈ pkts, FrameOK z thr (serverFields P p)) ∧
    ∀ n, thrAt thr pkts n = thr :=
  ⟨by rw [serverBytes, serverFrames_quiet z thr P pkts hq], serverOK_quiet z thr P pkts hq,
    thrAt_quiet thr pkts hq⟩

/-- (b) What the client writes.  For the run of the networking loop on the decoded inbox (any caps
with `capR ≥ 1`, peer open or not) the instrumented run `runT` terminates too and tells, for every
reply on `Result.wire`, in order, how many packets of the server's stream the client had processed
when `_write_packet` wrote it: a number that never decreases along the wire and never exceeds the
length of the stream.  The threshold that reply is framed with is the one in force at that point of
the stream (`thrTags`: `thr`, or the threshold of the last set-compression packet processed — so a
reply written after the client has processed a set-compression packet uses it, whichever packet it
answers).  The bytes handed to the socket are the concatenation of WHOLE frames — one per reply,
`frame`d `VarInt(id) ++ write_fields` under its own threshold — on a plaintext connection as they
are, otherwise as ONE cipher stream over them however the `send` calls chunk it; the replies are a
prefix of — and, unless the peer has closed at a disconnect, exactly — the replies due
(`C11.wire_order`), which are the replies to the packets BEFORE the first server disconnect: nothing
is written for anything behind it.  Without set-compression packets every reply is framed with `thr`
and the chunks are those of the one-threshold writer `clientWire`. -/
theorem client_wire_is_frames_of_replies {τ : Type} (enc : StreamXform τ) (t0 : τ) (z : ZlibOps)
    (thr : Option Int) (P : Profile) (pkts : List SrvPkt) (po : Bool) (capW capR : Nat)
    (hR : 1 ≤ capR) :
    ∃ r tw, runLoop P.newer107 po capW capR (inboxOf pkts) = some r ∧
      runT P.newer107 po capW capR (inboxOf pkts) = some tw ∧ tw.map (·.1) = r.wire ∧
      (∀ x ∈ tw, x.2 ≤ pkts.length) ∧ (tw.Pairwise fun a b => a.2 ≤ b.2) ∧
      (clientWireT z P idXform () (thrTags thr pkts tw)).flatten =
        ((thrTags thr pkts tw).map (replyFrameT z P)).flatten ∧
      (clientWireT z P enc t0 (thrTags thr pkts tw)).flatten =
        (enc.update t0 ((thrTags thr pkts tw).map (replyFrameT z P)).flatten).2 ∧
      r.wire <+: due P pkts ∧
      ((po = true ∨ hasDiscP pkts = false) → r.wire = due P pkts) ∧
      (due P pkts = (beforeDisc (inboxOf pkts)).flatMap (replyTo P.newer107)) ∧
      (∀ pre j post, pkts = pre ++ SrvPkt.disconnect j :: post →
        (∀ p ∈ pre, p.isDisconnect = false) →
        due P pkts = pre.flatMap fun p => replyTo P.newer107 p.ev) ∧
      ((∀ p ∈ pkts, p.isSetCompression = false) →
        thrTags thr pkts tw = r.wire.map (fun q => (q, thr)) ∧
        clientWireT z P enc t0 (thrTags thr pkts tw) = clientWire z thr P enc t0 r.wire) := by
  obtain ⟨r, h, hp, he, -⟩ := run_facts P pkts po capW capR hR
  obtain ⟨tw, ht, hfst, hle, hmono⟩ := runT_spec P.newer107 po capW capR (inboxOf pkts) r h
  have hlen : (inboxOf pkts).length = pkts.length := by simp [inboxOf]
  refine ⟨r, tw, h, ht, hfst, fun x hx => hlen ▸ hle x hx, hmono,
    wireWithT_flatten z idXform () _ _, wireWithT_flatten z enc t0 _ _, hp, he,
    (due_eq P pkts).symm, ?_, fun hq => ?_⟩
  · intro pre j post hpk hpre
    rw [due, hpk, beforeDiscP_append_disc pre post j hpre]
  · have e := thrTags_quiet thr pkts hq tw
    rw [hfst] at e
    exact ⟨e, by rw [e]; exact wireWithT_const z thr enc t0 _ _⟩

/-- (b′) WHEN a reply is written: never before the packet it answers has been processed.  The reply at
position `j` of `Result.wire` is the `j`-th reply due; the number `n` of packets processed when it was
written (its tag) is large enough for the first `n` packets to cause MORE than `j` replies — the
packet it answers is among them.  Hence a reply that is not an answer to one of the first `i` packets
is written with more than `i` packets processed (`i < n`): a set-compression packet among the first
`i` packets has been processed by then, and the reply is framed with its threshold or with that of a
later one, never with an earlier threshold.  (The converse does not hold: a reply may be framed with a
threshold announced AFTER the packet it answers — `demo47sc` with the real caps.) -/
theorem reply_written_after_its_packet (P : Profile) (pkts : List SrvPkt) (po : Bool)
    (capW capR : Nat) (hR : 1 ≤ capR) :
    ∃ r tw, runLoop P.newer107 po capW capR (inboxOf pkts) = some r ∧
      runT P.newer107 po capW capR (inboxOf pkts) = some tw ∧ tw.map (·.1) = r.wire ∧
      ∀ (j : Nat) (hj : j < tw.length),
        j < ((pkts.take tw[j].2).flatMap fun p => replyTo P.newer107 p.ev).length ∧
        ∀ i, ((pkts.take i).flatMap fun p => replyTo P.newer107 p.ev).length ≤ j → i < tw[j].2 := by
  obtain ⟨r, h, -⟩ := run_facts P pkts po capW capR hR
  obtain ⟨tw, ht, hfst, -, -⟩ := runT_spec P.newer107 po capW capR (inboxOf pkts) r h
  refine ⟨r, tw, h, ht, hfst, fun j hj => ?_⟩
  have ha := runT_after P.newer107 po capW capR (inboxOf pkts) tw ht j hj
  refine ⟨by rw [← repliesUpTo_inboxOf]; exact ha, fun i hi => ?_⟩
  rw [← repliesUpTo_inboxOf] at hi
  apply Nat.lt_of_not_le
  intro hle
  have := repliesUpTo_mono P.newer107 (inboxOf pkts) hle
  omega

/-- (c) The server recovers the replies.  Let the client's chunks (zlib/cipher as above, every reply
framed with the threshold in force when it was written, `thrTags`) arrive in ANY segmentation at an
independent reference server — C01's reader through the matching decryptor, told frame by frame
whether a threshold was in force (it is the server that announced the thresholds), then a STRICT
decoder per packet (`serverDecode`: keep-alive in this profile's width, the acknowledgement this
profile expects, every payload consumed exactly): it recovers exactly the reply list `Result.wire` —
which is the list of replies due unless the peer has closed — and then end-of-stream.  Under
compression and encryption too (`cp`, `thr`, the thresholds of the set-compression packets
arbitrary).  `hok`: every reply due passes the VarInt guard under every threshold that is in force
at some point of the stream. -/
theorem server_recovers_replies {τ : Type} (cp : CipherPair τ) (t0 : τ) (z : Zlib)
    (thr : Option Int) (P : Profile) (pkts : List SrvPkt) (po : Bool) (capW capR : Nat)
    (hR : 1 ≤ capR) (hSb : P.sbDistinct = true) (hwf : ∀ p ∈ pkts, p.wf P = true)
    (hok : ∀ q ∈ due P pkts, ∀ n ≤ pkts.length,
      FrameOK z.toZlibOps (thrAt thr pkts n) (replyFields P q)) :
    ∃ r tw, runLoop P.newer107 po capW capR (inboxOf pkts) = some r ∧
      runT P.newer107 po capW capR (inboxOf pkts) = some tw ∧ tw.map (·.1) = r.wire ∧
      (∀ (last : Bool) (segs : Segs),
        segs.flatten = (clientWireT z.toZlibOps P cp.enc t0 (thrTags thr pkts tw)).flatten →
        serverDecodeRepliesM P cp.dec t0 z.toZlibOps ((thrTags thr pkts tw).map (·.2.isSome)) last
          segs = (r.wire, .eof)) ∧
      ((po = true ∨ hasDiscP pkts = false) → r.wire = due P pkts) := by
  obtain ⟨r, h, hp, he, -⟩ := run_facts P pkts po capW capR hR
  obtain ⟨tw, ht, hfst, hle, -⟩ := runT_spec P.newer107 po capW capR (inboxOf pkts) r h
  have hlen : (inboxOf pkts).length = pkts.length := by simp [inboxOf]
  refine ⟨r, tw, h, ht, hfst, fun last segs hseg => ?_, he⟩
  have hmem : ∀ qt ∈ thrTags thr pkts tw,
      qt.1 ∈ due P pkts ∧ ∃ n ≤ pkts.length, qt.2 = thrAt thr pkts n := by
    intro qt hq
    obtain ⟨x, hx, rfl⟩ := List.mem_map.mp hq
    refine ⟨hp.subset ?_, x.2, hlen ▸ hle x hx, rfl⟩
    rw [← hfst]; exact List.mem_map.mpr ⟨x, hx, rfl⟩
  have hrec := serverDecodeRepliesM_wire cp t0 z P hSb (thrTags thr pkts tw)
    (fun qt hq => due_wf P pkts hwf qt.1 (hmem qt hq).1)
    (fun qt hq => by
      obtain ⟨hd, n, hn, e⟩ := hmem qt hq
      rw [e]; exact hok qt.1 hd n hn) last segs hseg
  rw [hrec]
  congr 1
  rw [← hfst, thrTags, List.map_map]
  rfl

/-- (c′) One threshold.  The one-threshold writer `clientWire z thr` (every reply framed with `thr`)
is read back by the one-flag reference server `serverDecodeReplies … thr.isSome` — the vocabulary of
`Model/SessionWire.lean`; and (last clause) `clientWire z thr` IS what the client hands to the socket
whenever the server's stream contains no set-compression packet: then every tag of `runT` stands for
the threshold `thr`. -/
theorem server_recovers_replies_one_threshold {τ : Type} (cp : CipherPair τ) (t0 : τ) (z : Zlib)
    (thr : Option Int) (P : Profile) (pkts : List SrvPkt) (po : Bool) (capW capR : Nat)
    (hR : 1 ≤ capR) (hSb : P.sbDistinct = true) (hwf : ∀ p ∈ pkts, p.wf P = true)
    (hok : ∀ q ∈ due P pkts, FrameOK z.toZlibOps thr (replyFields P q)) :
    ∃ r, runLoop P.newer107 po capW capR (inboxOf pkts) = some r ∧
      (∀ segs : Segs,
        segs.flatten = (clientWire z.toZlibOps thr P cp.enc t0 r.wire).flatten →
        serverDecodeReplies P cp.dec t0 z.toZlibOps thr.isSome segs = (r.wire, .eof)) ∧
      ((po = true ∨ hasDiscP pkts = false) → r.wire = due P pkts) ∧
      ((∀ p ∈ pkts, p.isSetCompression = false) →
        ∃ tw, runT P.newer107 po capW capR (inboxOf pkts) = some tw ∧
          clientWireT z.toZlibOps P cp.enc t0 (thrTags thr pkts tw) =
            clientWire z.toZlibOps thr P cp.enc t0 r.wire) := by
  obtain ⟨r, tw, h, ht, -, -, -, -, -, hp, he, -, -, hquiet⟩ :=
    client_wire_is_frames_of_replies cp.enc t0 z.toZlibOps thr P pkts po capW capR hR
  refine ⟨r, h, fun segs hseg => ?_, he, fun hq => ⟨tw, ht, (hquiet hq).2⟩⟩
  have hsub : ∀ q ∈ r.wire, q ∈ due P pkts := fun q hq => hp.subset hq
  have hr := C01.roundtrip_encrypted cp t0 z thr (r.wire.map (replyFields P))
    (fun p hp' => by obtain ⟨q, hq, rfl⟩ := List.mem_map.mp hp'; exact hok q (hsub q hq))
    (r.wire.flatMap (sendsWith z.toZlibOps thr (replyFields P)))
    (sends_frames z.toZlibOps thr P r.wire) segs hseg
  unfold serverDecodeReplies
  rw [hr]
  exact decodeEach_replies P hSb r.wire (fun q hq => due_wf P pkts hwf q (hsub q hq)) .eof

/-- (a)+(b)+(c) end to end.  Server bytes in (any segmentation, cipher `cpS`, thresholds changing at
the set-compression packets), the client reads them, runs the loop, writes (cipher `cpC`, each reply
under the threshold in force when written); the reference server reading the client's bytes in any
segmentation recovers exactly the replies due to the packets before the first disconnect. -/
theorem session_end_to_end {σ τ : Type} (cpS : CipherPair σ) (s0 : σ) (cpC : CipherPair τ) (t0 : τ)
    (z : Zlib) (thr : Option Int) (P : Profile) (pkts : List SrvPkt) (capW capR : Nat)
    (hR : 1 ≤ capR) (hP : P.cbDistinct = true) (hSb : P.sbDistinct = true)
    (hwf : ∀ p ∈ pkts, p.wf P = true)
    (hokS : ServerOK z.toZlibOps P thr pkts)
    (hokC : ∀ q ∈ due P pkts, ∀ n ≤ pkts.length,
      FrameOK z.toZlibOps (thrAt thr pkts n) (replyFields P q))
    (sends : List Bytes) (hsends : sends.flatten = serverBytes z.toZlibOps thr P pkts)
    (segsIn : Segs) (hin : segsIn.flatten = (encSends cpS.enc s0 sends).2.flatten) :
    ∃ inbox r tw, clientRead P cpS.dec s0 z.toZlibOps thr.isSome segsIn = (inbox, .eof) ∧
      runLoop P.newer107 true capW capR inbox = some r ∧
      runT P.newer107 true capW capR inbox = some tw ∧ tw.map (·.1) = r.wire ∧
      r.closed = hasDiscP pkts ∧
      ∀ (last : Bool) (segsOut : Segs),
        segsOut.flatten = (clientWireT z.toZlibOps P cpC.enc t0 (thrTags thr pkts tw)).flatten →
        serverDecodeRepliesM P cpC.dec t0 z.toZlibOps ((thrTags thr pkts tw).map (·.2.isSome)) last
          segsOut = (due P pkts, .eof) := by
  have ha := client_decodes_server_stream cpS s0 z thr P pkts hP hwf hokS sends hsends segsIn hin
  obtain ⟨r, tw, h, ht, hfst, hrec, he⟩ :=
    server_recovers_replies cpC t0 z thr P pkts true capW capR hR hSb hwf hokC
  obtain ⟨r', h', -, -, hcl⟩ := run_facts P pkts true capW capR hR
  have hrr : r' = r := Option.some.inj (h'.symm.trans h)
  refine ⟨inboxOf pkts, r, tw, ha, h, ht, hfst, by rw [← hrr]; exact hcl,
    fun last segsOut hout => ?_⟩
  rw [← he (Or.inl rfl)]
  exact hrec last segsOut hout

/-- (d) The keep-alive echo is byte-transparent, for both id widths.
Packet level, for ANY payload bytes `raw` (whatever server wrote them): if `read_packet` decodes
`(kaCb, raw)` to a keep-alive with id `id`, then the field bytes of the reply are — Long layout —
the first eight bytes of `raw`, verbatim (through the signed `unpack('>q')`/`pack('>q')` trip);
— VarInt layout — an encoding of the same number as the bytes `used` that were consumed, and those
very bytes whenever `used` is the canonical (shortest) encoding, which is what every VarInt writer
emits (a Java server's negative id arrives as five bytes and goes back as the same five bytes).
Run level (via `C11.keepalive_echo`): the field bytes of the keep-alive replies on the wire are
exactly the field bytes of the keep-alive requests received before any server disconnect — same
order, each once. -/
theorem keepalive_echo_bytes (P : Profile) :
    (∀ raw id, clientDecode P (P.kaCb, raw) = .ok (.keepAlive id) →
      (replyFields P (.keepAlive id)).1 = P.kaSb ∧
      ∃ used rest, raw = used ++ rest ∧
        (P.kaLong = true → used.length = 8 ∧ (replyFields P (.keepAlive id)).2 = used) ∧
        (P.kaLong = false → leValue used = id ∧
          leValue (replyFields P (.keepAlive id)).2 = id ∧
          (Canonical used → (replyFields P (.keepAlive id)).2 = used))) ∧
    (∀ (pkts : List SrvPkt) (po : Bool) (capW capR : Nat), 1 ≤ capR →
      (po = true ∨ hasDiscP pkts = false) →
      ∃ r, runLoop P.newer107 po capW capR (inboxOf pkts) = some r ∧
        (r.wire.filter Reply.isKeepAlive).map (fun q => (replyFields P q).2) =
          ((beforeDiscP pkts).filter SrvPkt.isKeepAlive).map (fun p => (serverFields P p).2)) := by
  constructor
  · intro raw id h
    refine ⟨rfl, ?_⟩
    have h' : readKeepAlive P raw = .ok (.keepAlive id) := by
      simpa [clientDecode] using h
    obtain ⟨hl, hv⟩ := readKeepAlive_ok P raw id h'
    cases hk : P.kaLong
    · obtain ⟨r, hr⟩ := hv hk
      obtain ⟨used, e1, e2, -, e4⟩ := decVarInt_ok_used raw id r hr
      refine ⟨used, r, e1, fun hh => (by cases hh), fun _ => ?_⟩
      have hf : (replyFields P (.keepAlive id)).2 = encVarInt id := by simp [replyFields, hk]
      rw [hf]
      exact ⟨e2, leValue_enc id, e4⟩
    · obtain ⟨r, hr, -⟩ := hl hk
      refine ⟨beBytes 8 id, r, hr, fun _ => ⟨beBytes_length 8 id, ?_⟩, fun hh => (by cases hh)⟩
      rw [replyFields_kaField]; simp [kaField, hk]
  · intro pkts po capW capR hR hc
    obtain ⟨r, h, -, he⟩ := C11.keepalive_echo P.newer107 po capW capR hR (inboxOf pkts)
    refine ⟨r, h, ?_⟩
    rw [hasDisc_inboxOf] at he
    rw [ka_filter_fields, he hc, beforeDisc_inboxOf, ka_filter_server]

/-- (e₁) The teleport confirm carries the teleport id as read (protocol ≥ 107).
Packet level, for ANY payload `raw`: if `read_packet` decodes `(posLookCb, raw)` to a
position-and-look with teleport id `tid`, then behind the 33 bytes of position, look and flags `raw`
holds bytes `used` denoting `tid`, and the reply is `(teleportConfirmSb, VarInt(tid))` — those very
bytes when they are canonical.  Run level (via `C11.teleport_ack`): the non-keep-alive replies on
the wire are, as `(id, field bytes)`, exactly the acknowledgements `ackOf` of the position-and-look
packets received before any server disconnect, in order, each once. -/
theorem teleport_ack_bytes (P : Profile) (hP : P.cbDistinct = true) :
    (P.newer107 = true → ∀ raw x y z yaw pitch flags tid,
      clientDecode P (P.posLookCb, raw) = .ok (.posLook x y z yaw pitch flags tid) →
      replyTo P.newer107 (.posLook x y z yaw pitch flags tid) = [.teleportConfirm tid] ∧
      replyFields P (.teleportConfirm tid) = (P.teleportConfirmSb, encVarInt tid) ∧
      ∃ head used rest, raw = head ++ (used ++ rest) ∧ head.length = 33 ∧ leValue used = tid ∧
        (Canonical used → (replyFields P (.teleportConfirm tid)).2 = used)) ∧
    (∀ (pkts : List SrvPkt) (po : Bool) (capW capR : Nat), 1 ≤ capR →
      (po = true ∨ hasDiscP pkts = false) →
      ∃ r, runLoop P.newer107 po capW capR (inboxOf pkts) = some r ∧
        (r.wire.filter fun q => !q.isKeepAlive).map (replyFields P) =
          (beforeDiscP pkts).filterMap (ackOf P)) := by
  constructor
  · intro hn raw x y z yaw pitch flags tid h
    rw [clientDecode_posLook P hP] at h
    obtain ⟨r6, hb, -, hnew, -⟩ := readPosLook_ok P raw x y z yaw pitch flags tid h
    obtain ⟨r7, hr7⟩ := hnew hn
    obtain ⟨used, e1, e2, -, e4⟩ := decVarInt_ok_used r6 tid r7 hr7
    refine ⟨by simp [replyTo, hn], rfl, ?_⟩
    refine ⟨beBytes 8 x.toNat ++ (beBytes 8 y.toNat ++ (beBytes 8 z.toNat ++
      (beBytes 4 yaw.toNat ++ (beBytes 4 pitch.toNat ++ beBytes 1 flags)))), used, r7, ?_, ?_, e2,
      e4⟩
    · rw [hb, e1]; simp
    · simp [beBytes_length]
  · intro pkts po capW capR hR hc
    obtain ⟨r, h, ha, -⟩ := C11.teleport_ack P.newer107 po capW capR hR (inboxOf pkts)
    refine ⟨r, h, ?_⟩
    rw [hasDisc_inboxOf] at ha
    rw [ha hc, beforeDisc_inboxOf, ack_filter_server]

/-- (e₂) The position echo carries the same bit patterns (protocol < 107).  For ANY payload `raw`:
if `read_packet` decodes `(posLookCb, raw)` to a position-and-look, the reactor's reply is the
serverbound position-and-look whose field bytes are THE FIRST 32 BYTES OF `raw` — x, y (as feet_y),
z, yaw, pitch, bit for bit — followed by `on_ground = 1`, and nothing else. -/
theorem position_echo_bytes (P : Profile) (hP : P.cbDistinct = true) (hn : P.newer107 = false)
    (raw : Bytes) (x y z yaw pitch : Int) (flags tid : Nat)
    (h : clientDecode P (P.posLookCb, raw) = .ok (.posLook x y z yaw pitch flags tid)) :
    replyTo P.newer107 (.posLook x y z yaw pitch flags tid) =
        [.positionEcho x y z yaw pitch true] ∧
      33 ≤ raw.length ∧
      replyFields P (.positionEcho x y z yaw pitch true) = (P.posLookSb, raw.take 32 ++ [1]) := by
  rw [clientDecode_posLook P hP] at h
  obtain ⟨r6, hb, -, -, -⟩ := readPosLook_ok P raw x y z yaw pitch flags tid h
  refine ⟨by simp [replyTo, hn], by rw [hb]; simp [beBytes_length]; omega, ?_⟩
  rw [hb, take32 _ _ _ _ _ _ (beBytes_length _ _) (beBytes_length _ _) (beBytes_length _ _)
    (beBytes_length _ _) (beBytes_length _ _)]
  simp [replyFields]

/-- (d)+(e) in one: the whole client stream is the echo specification.  Unless the peer has closed
at a disconnect, the `(id, field bytes)` sequence the client writes is, packet by packet of the
server's stream before the first disconnect: for a keep-alive the serverbound keep-alive id with
THE SERVER'S OWN field bytes; for a position-and-look the acknowledgement `ackOf`; for anything else
nothing (`echoOf`). -/
theorem replies_are_echo_of_server_bytes (P : Profile) (pkts : List SrvPkt) (po : Bool)
    (capW capR : Nat) (hR : 1 ≤ capR) (hc : po = true ∨ hasDiscP pkts = false) :
    ∃ r, runLoop P.newer107 po capW capR (inboxOf pkts) = some r ∧
      r.wire.map (replyFields P) = (beforeDiscP pkts).flatMap (echoOf P) := by
  obtain ⟨r, h, he⟩ := C11.wire_order P.newer107 po capW capR hR (inboxOf pkts)
    (by rw [hasDisc_inboxOf]; exact hc)
  exact ⟨r, h, by rw [he, due_eq, due_fields]⟩

/-- The field writer never raises on what the reactor builds: on every reply that is due to
well-formed packets, `write_fields` with `struct.pack`'s and `VarInt.send`'s range checks
(`replyFieldsPy`) succeeds with exactly `replyFields`. -/
theorem replies_writable (P : Profile) (pkts : List SrvPkt) (hwf : ∀ p ∈ pkts, p.wf P = true) :
    ∀ q ∈ due P pkts, replyFieldsPy P q = .ok (replyFields P q) :=
  fun q hq => replyFieldsPy_ok P q (due_wf P pkts hwf q hq)

/-- (f) Negative witness: the statements have teeth.  On the concrete runs `demo47` / `demo757`
(store-only zlib, threshold 20 — the position echo is compressed-framed —, CFB8 over a toy block
function) the reference server recovers the replies from the client's bytes; but had the client
echoed the keep-alive id in the OTHER width (`wrongWidthFields`), swapped yaw and pitch in the
position echo (`swapLookFields`), or confirmed teleport id + 1 (`offByOneFields`), the same server
would NOT recover them: it stops with an exception, or delivers a different reply list. -/
theorem wrong_echo_detected :
    let want47 := demoRun p47 demo47
    let want757 := demoRun p757 demo757
    demoServer p47 (demoWire (replyFields p47) want47) = (want47, .eof) ∧
      demoServer p757 (demoWire (replyFields p757) want757) = (want757, .eof) ∧
      (demoServer p47 (demoWire (wrongWidthFields p47) want47)).1 ≠ want47 ∧
      (demoServer p47 (demoWire (wrongWidthFields p47) want47)).2 ≠ .eof ∧
      (demoServer p757 (demoWire (wrongWidthFields p757) want757)).1 ≠ want757 ∧
      (demoServer p757 (demoWire (wrongWidthFields p757) want757)).2 ≠ .eof ∧
      (demoServer p47 (demoWire (swapLookFields p47) want47)).1 ≠ want47 ∧
      (demoServer p757 (demoWire (offByOneFields p757) want757)).1 ≠ want757 := by
  decide +kernel

/-! ### Non-vacuity: concrete profiles and runs (kernel-evaluated) -/

/-- The two profiles have distinct ids where required — protocol 47 with keep-alive id 0x00 in BOTH
directions and equal to the (unused) teleport-confirm id. -/
example : p757.cbDistinct = true ∧ p757.sbDistinct = true ∧ p47.cbDistinct = true ∧
    p47.sbDistinct = true ∧ p47.kaSb = p47.teleportConfirmSb := by decide

/-- The demo packets are well-formed and pass the VarInt guard, compressed or not. -/
example : (∀ p ∈ demo757, p.wf p757 = true) ∧ (∀ p ∈ demo47, p.wf p47 = true) := by
  decide +kernel
example : ServerOK Zlib.ident.toZlibOps p757 demoThr demo757 ∧
    ServerOK Zlib.ident.toZlibOps p47 none demo47 ∧
    (∀ p ∈ demo757, FrameOK Zlib.ident.toZlibOps demoThr (serverFields p757 p)) ∧
    (∀ p ∈ demo47, FrameOK Zlib.ident.toZlibOps none (serverFields p47 p)) ∧
    (∀ q ∈ due p757 demo757, FrameOK Zlib.ident.toZlibOps demoThr (replyFields p757 q)) ∧
    (∀ q ∈ due p47 demo47, FrameOK Zlib.ident.toZlibOps demoThr (replyFields p47 q)) := by
  decide +kernel

/-- The server's bytes for protocol 757, threshold 20: `0a 00 21 fffffffffffffffe` keep-alive −2
(Long); `25 24 38 …` position-and-look, compressed-framed (data length 0x24 = 36), teleport id 7,
dismount flag 0; `03 00 7e aa` unknown; the chat message; keep-alive 2; `05 00 1a 02 7b7d`
disconnect "{}"; keep-alive 3. -/
example : hexOfBytes (serverBytes Zlib.ident.toZlibOps demoThr p757 demo757) =
    "0a0021fffffffffffffffe" ++
    "25243840240000000000004050000000000000c00800000000000042b4000000000000000700" ++
    "03007eaa" ++ "06000f027b7d00" ++ "0a00210000000000000002" ++ "05001a027b7d" ++
    "0a00210000000000000003" := by decide +kernel

/-- (a) instantiated: that stream, CFB8-encrypted in two `send` calls and arriving in three segments
that cut through a length prefix and a Double, is decoded to the seven events. -/
example :
    let s := serverBytes Zlib.ident.toZlibOps demoThr p757 demo757
    let c := (encSends (cfb8EncX toyE) [9, 9] [s.take 5, s.drop 5]).2.flatten
    clientRead p757 (cfb8DecX toyE) [9, 9] Zlib.ident.toZlibOps true
        [c.take 1, c.drop 1 |>.take 20, c.drop 21] =
      ([.keepAlive 0xFFFFFFFFFFFFFFFE,
        .posLook 0x4024000000000000 0x4050000000000000 0xC008000000000000 0x42B40000 0 0 7,
        .unknown 0x7E [], .other "chat message", .keepAlive 2, .disconnect, .keepAlive 3], .eof) :=
  client_decodes_server_stream (cfb8Pair toyE) [9, 9] Zlib.ident demoThr p757 demo757 (by decide)
    (by decide +kernel) (by decide +kernel)
    [(serverBytes Zlib.ident.toZlibOps demoThr p757 demo757).take 5,
     (serverBytes Zlib.ident.toZlibOps demoThr p757 demo757).drop 5] (by decide +kernel) _
    (by decide +kernel)

/-- The replies of the two demo runs … -/
example : demoRun p757 demo757 =
    [.keepAlive 0xFFFFFFFFFFFFFFFE, .teleportConfirm 7, .keepAlive 2] := by decide +kernel
example : demoRun p47 demo47 =
    [.keepAlive 0xFFFFFFFE,
     .positionEcho 0x4024000000000000 0x4050000000000000 0xC008000000000000 0x42B40000 0x3F800000
       true, .keepAlive 2] := by decide +kernel

/-- … and the client's plaintext bytes.  757: `0a 00 0f fffffffffffffffe` (keep-alive, the server's
eight bytes), `03 00 00 07` (teleport confirm 7), keep-alive 2.  47, no compression:
`06 00 feffffff0f` (the five VarInt bytes of the Java int −2 come back unchanged), `22 06 …` the
position echo (32 bytes of the request + `01`), `02 00 02`. -/
example : hexOfBytes (clientWire Zlib.ident.toZlibOps demoThr p757 idXform ()
      (demoRun p757 demo757)).flatten =
    "0a000ffffffffffffffffe" ++ "03000007" ++ "0a000f0000000000000002" := by decide +kernel
example : hexOfBytes (clientWire Zlib.ident.toZlibOps none p47 idXform ()
      (demoRun p47 demo47)).flatten =
    "0600feffffff0f" ++
    "220640240000000000004050000000000000c00800000000000042b400003f80000001" ++
    "020002" := by decide +kernel

/-- (c) instantiated: the hypotheses are satisfiable (protocol 47, CFB8, threshold 20, real caps),
and the conclusion for every arrival. -/
example : ∃ r tw, runLoop p47.newer107 true 300 50 (inboxOf demo47) = some r ∧
    runT p47.newer107 true 300 50 (inboxOf demo47) = some tw ∧ tw.map (·.1) = r.wire ∧
    (∀ (last : Bool) (segs : Segs),
      segs.flatten = (clientWireT Zlib.ident.toZlibOps p47 (cfb8Pair toyE).enc [1, 2, 3]
        (thrTags demoThr demo47 tw)).flatten →
      serverDecodeRepliesM p47 (cfb8Pair toyE).dec [1, 2, 3] Zlib.ident.toZlibOps
        ((thrTags demoThr demo47 tw).map (·.2.isSome)) last segs = (r.wire, .eof)) ∧
    ((true = true ∨ hasDiscP demo47 = false) → r.wire = due p47 demo47) :=
  server_recovers_replies (cfb8Pair toyE) [1, 2, 3] Zlib.ident demoThr p47 demo47 true 300 50
    (by decide) (by decide) (by decide +kernel) (by decide +kernel)

/-! #### set compression in the play state (protocol 47) -/

/-- The stream `demo47sc` — keep-alive 1, SET COMPRESSION 20, position-and-look, keep-alive 2, SET
COMPRESSION 1000, keep-alive 3, disconnect — from "no compression": it is well-formed, passes the
guard, and its bytes are `02 00 01` (no data-length field yet), `02 46 14` (the set-compression packet
itself still in the old framing), then `23 22 08 …` (the position-and-look, 34 bytes > 20:
compressed-framed, data length 0x22), `03 00 00 02` (data length 0), `04 00 46 e8 07` (threshold
1000), `03 00 00 03`, `05 00 40 02 7b 7d`. -/
example : (∀ p ∈ demo47sc, p.wf p47 = true) ∧ ServerOK Zlib.ident.toZlibOps p47 none demo47sc ∧
    hexOfBytes (serverBytes Zlib.ident.toZlibOps none p47 demo47sc) =
      "020001" ++ "024614" ++
      "23220840240000000000004050000000000000c00800000000000042b400003f80000000" ++
      "03000002" ++ "040046e807" ++ "03000003" ++ "050040027b7d" ∧
    (List.range 8).map (thrAt none demo47sc) =
      [none, none, some 20, some 20, some 20, some 1000, some 1000, some 1000] := by
  decide +kernel

/-- (a) instantiated on it, byte by byte arrival, no cipher: the reader switches its flag behind the
first set-compression packet (had it not, the fourth frame's `00` would be taken for the packet id)
and hands the reactor the seven events. -/
example : clientRead p47 idXform () Zlib.ident.toZlibOps false
      ((serverBytes Zlib.ident.toZlibOps none p47 demo47sc).map fun b => [b]) =
    ([.keepAlive 1, .other "set compression",
      .posLook 0x4024000000000000 0x4050000000000000 0xC008000000000000 0x42B40000 0x3F800000 0 0,
      .keepAlive 2, .other "set compression", .keepAlive 3, .disconnect], .eof) :=
  client_decodes_plain_stream Zlib.ident none p47 demo47sc (by decide) (by decide +kernel)
    (by decide +kernel) ((serverBytes Zlib.ident.toZlibOps none p47 demo47sc).map fun b => [b])
    (by induction serverBytes Zlib.ident.toZlibOps none p47 demo47sc <;> simp_all)

/-- (b) instantiated: WHEN a reply is written decides its framing, not which packet it answers.  With
the real caps (300/50) all seven packets are read in one batch and the four replies are flushed by
`disconnect()` — after BOTH set-compression packets: all framed under threshold 1000, the reply to
keep-alive 1 (sent before any set compression) included.  With `capR = 2` the loop alternates:
keep-alive 1 is answered after 2 packets (threshold 20, data length 0), the position echo after 3
(34 bytes > 20: compressed-framed, `23 22 06 …`), keep-alive 2 after 4, keep-alive 3 in the final
flush (threshold 1000). -/
example : demoRunT p47 300 50 demo47sc =
      [(.keepAlive 1, 7),
       (.positionEcho 0x4024000000000000 0x4050000000000000 0xC008000000000000 0x42B40000 0x3F800000
          true, 7), (.keepAlive 2, 7), (.keepAlive 3, 7)] ∧
    (demoRunT p47 300 2 demo47sc).map (·.2) = [2, 3, 4, 7] ∧
    (thrTags none demo47sc (demoRunT p47 300 2 demo47sc)).map (·.2) =
      [some 20, some 20, some 20, some 1000] ∧
    hexOfBytes (clientWireT Zlib.ident.toZlibOps p47 idXform ()
        (thrTags none demo47sc (demoRunT p47 300 2 demo47sc))).flatten =
      "03000001" ++ "23220640240000000000004050000000000000c00800000000000042b400003f80000001" ++
      "03000002" ++ "03000003" ∧
    hexOfBytes (clientWireT Zlib.ident.toZlibOps p47 idXform ()
        (thrTags none demo47sc (demoRunT p47 300 50 demo47sc))).flatten =
      "03000001" ++ "23000640240000000000004050000000000000c00800000000000042b400003f80000001" ++
      "03000002" ++ "03000003" := by decide +kernel

/-- (b′) instantiated (`capR = 2`): the position echo is reply 1; the first two packets (keep-alive
1, set compression 20) cause only one reply, so it is written with more than two packets processed —
here three — and therefore under threshold 20, never uncompressed-framed. -/
example : ((demo47sc.take 2).flatMap fun p => replyTo p47.newer107 p.ev).length = 1 ∧
    ((demoRunT p47 300 2 demo47sc).map (·.2))[1]? = some 3 ∧
    thrAt none demo47sc 2 = some 20 ∧ thrAt none demo47sc 3 = some 20 := by decide +kernel

/-- (c)/(end to end) instantiated on it (CFB8 both ways, `capR = 2`): the hypotheses are satisfiable,
and the reference server, told the four flags, recovers the four replies. -/
example : ∃ inbox r tw,
    clientRead p47 (cfb8Pair toyE).dec [9, 9] Zlib.ident.toZlibOps false
      [(encSends (cfb8Pair toyE).enc [9, 9] [serverBytes Zlib.ident.toZlibOps none p47 demo47sc]).2.flatten]
      = (inbox, .eof) ∧
    runLoop p47.newer107 true 300 2 inbox = some r ∧
    runT p47.newer107 true 300 2 inbox = some tw ∧ tw.map (·.1) = r.wire ∧
    r.closed = hasDiscP demo47sc ∧
    ∀ (last : Bool) (segsOut : Segs),
      segsOut.flatten = (clientWireT Zlib.ident.toZlibOps p47 (cfb8Pair toyE).enc [1, 2, 3]
        (thrTags none demo47sc tw)).flatten →
      serverDecodeRepliesM p47 (cfb8Pair toyE).dec [1, 2, 3] Zlib.ident.toZlibOps
        ((thrTags none demo47sc tw).map (·.2.isSome)) last segsOut = (due p47 demo47sc, .eof) :=
  session_end_to_end (cfb8Pair toyE) [9, 9] (cfb8Pair toyE) [1, 2, 3] Zlib.ident none p47 demo47sc
    300 2 (by decide) (by decide) (by decide) (by decide +kernel) (by decide +kernel)
    (by decide +kernel) [serverBytes Zlib.ident.toZlibOps none p47 demo47sc] (by simp) _ (by simp)

/-- A reader that does NOT switch (one flag for the whole stream)
misreads the same bytes: with the flag off throughout it takes the data-length octet of the fourth
frame for a packet id. -/
example : decodeEach (clientDecode p47)
      (readAll Zlib.ident.toZlibOps false [serverBytes Zlib.ident.toZlibOps none p47 demo47sc]).1
      (readAll Zlib.ident.toZlibOps false [serverBytes Zlib.ident.toZlibOps none p47 demo47sc]).2 ≠
    (inboxOf demo47sc, .eof) := by decide +kernel

/-- (d)/(e) packet level, on concrete raw payloads: a Long keep-alive with trailing garbage, a
non-canonical VarInt keep-alive (`80 00` = 0, echoed as `00`: same number, canonical bytes), and a
protocol-47 position-and-look. -/
example : clientDecode p757 (0x21, [0xff, 0, 0, 0, 0, 0, 0, 1, 0xee]) =
    .ok (.keepAlive 0xff00000000000001) ∧
    (replyFields p757 (.keepAlive 0xff00000000000001)).2 = [0xff, 0, 0, 0, 0, 0, 0, 1] := by
  decide +kernel
example : clientDecode p47 (0x00, [0x80, 0x00]) = .ok (.keepAlive 0) ∧
    (replyFields p47 (.keepAlive 0)).2 = [0x00] ∧ ¬ Canonical [0x80, 0x00] := by
  refine ⟨by decide +kernel, by decide +kernel, ?_⟩
  simp [Canonical, leValue]
example : clientDecode p47 (0x08, (serverFields p47 (demo47.getD 1 (.keepAlive 0))).2) =
    .ok (.posLook 0x4024000000000000 0x4050000000000000 0xC008000000000000 0x42B40000 0x3F800000
      0 0) := by decide +kernel

/-- (e₂) instantiated: the hypotheses of `position_echo_bytes` are satisfiable, and its conclusion
for that payload. -/
example : replyFields p47 (.positionEcho 0x4024000000000000 0x4050000000000000 0xC008000000000000
      0x42B40000 0x3F800000 true) =
    (0x06, ((serverFields p47 (demo47.getD 1 (.keepAlive 0))).2).take 32 ++ [1]) :=
  (position_echo_bytes p47 (by decide) rfl _ _ _ _ _ _ 0 0 (by decide +kernel)).2.2

/-- The echo specification of the protocol-47 demo stream. -/
example : (beforeDiscP demo47).flatMap (echoOf p47) =
    [(0x00, [0xfe, 0xff, 0xff, 0xff, 0x0f]),
     (0x06, [0x40, 0x24, 0, 0, 0, 0, 0, 0, 0x40, 0x50, 0, 0, 0, 0, 0, 0, 0xc0, 0x08, 0, 0, 0, 0, 0, 0,
             0x42, 0xb4, 0, 0, 0x3f, 0x80, 0, 0, 1]),
     (0x00, [0x02])] := by decide +kernel

/-- A packet that is NOT well-formed: an "unknown" packet whose id is the keep-alive id — the client
would decode it as a keep-alive (here: fail on the short payload). -/
example : (SrvPkt.unknown 0x21 [0xaa]).wf p757 = false ∧
    clientDecode p757 (serverFields p757 (.unknown 0x21 [0xaa])) = .error .struct := by
  decide +kernel

end PyCraft.C11Wire
