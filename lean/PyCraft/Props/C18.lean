import PyCraft.Lemmas.Cfb8
/-!
# C18 — the encrypted channel is AES-128-CFB8 keyed by the shared secret

`E` is the block function (key already applied); every structural theorem holds for EVERY
`E : Bytes → Bytes`, every register, every byte string and every split.  The instance pyCraft uses
is `E = aes128 secret`, register = `secret` (`Chan.init`); the Lean AES and CFB8 are tied to the
standards by the kernel-checked FIPS-197 and SP 800-38A vectors at the end.

Only property theorems and non-vacuity examples live here; helper lemmas are in
`Lemmas/Cfb8.lean` and next to the definitions in `Model/Cfb8.lean`.
-/
namespace PyCraft.C18
open PyCraft

/-- Output length = input length, for the bare contexts and for the wrappers: `send` hands the
inner socket exactly as many bytes as it was given, `recv`/`read` return exactly as many bytes as
the inner socket/file returned. -/
theorem cfb8_len (E : Bytes → Bytes) (reg x : Bytes) (c : Chan) :
    (cfb8Enc E reg x).2.length = x.length ∧ (cfb8Dec E reg x).2.length = x.length ∧
      (c.send E x).2.length = x.length ∧ (c.recv E x).2.length = x.length ∧
      (c.read E x).2.length = x.length :=
  ⟨cfb8Enc_length E reg x, cfb8Dec_length E reg x, cfb8Enc_length E _ x, cfb8Dec_length E _ x,
    cfb8Dec_length E _ x⟩

/-- One call on `a ++ b` = a call on `a` followed by a call on `b` on the same context: same
final register, outputs concatenated.  For the encryptor and for the decryptor. -/
theorem cfb8_chunking (E : Bytes → Bytes) (reg a b : Bytes) :
    cfb8Enc E reg (a ++ b) =
        ((cfb8Enc E (cfb8Enc E reg a).1 b).1,
          (cfb8Enc E reg a).2 ++ (cfb8Enc E (cfb8Enc E reg a).1 b).2) ∧
      cfb8Dec E reg (a ++ b) =
        ((cfb8Dec E (cfb8Dec E reg a).1 b).1,
          (cfb8Dec E reg a).2 ++ (cfb8Dec E (cfb8Dec E reg a).1 b).2) :=
  ⟨cfb8Enc_append E reg a b, cfb8Dec_append E reg a b⟩

/-- n-ary form: for ANY list of chunks, calling `update` once per chunk gives outputs whose
concatenation is the one-shot result on the concatenated input, and the same final register. -/
theorem cfb8_chunks (E : Bytes → Bytes) (reg : Bytes) (cs : List Bytes) :
    (cfb8EncChunks E reg cs).2.flatten = (cfb8Enc E reg cs.flatten).2 ∧
      (cfb8EncChunks E reg cs).1 = (cfb8Enc E reg cs.flatten).1 ∧
      (cfb8DecChunks E reg cs).2.flatten = (cfb8Dec E reg cs.flatten).2 ∧
      (cfb8DecChunks E reg cs).1 = (cfb8Dec E reg cs.flatten).1 := by
  have he := encChunks_flatten E reg cs
  have hd := decChunks_flatten E reg cs
  exact ⟨congrArg Prod.snd he, congrArg Prod.fst he, congrArg Prod.snd hd, congrArg Prod.fst hd⟩

/-- Hence the split does not matter: two ways of cutting the same stream into calls give the same
stream of output bytes and leave the context in the same state. -/
theorem cfb8_split_irrelevant (E : Bytes → Bytes) (reg : Bytes) (cs cs' : List Bytes)
    (h : cs.flatten = cs'.flatten) :
    (cfb8EncChunks E reg cs).2.flatten = (cfb8EncChunks E reg cs').2.flatten ∧
      (cfb8EncChunks E reg cs).1 = (cfb8EncChunks E reg cs').1 ∧
      (cfb8DecChunks E reg cs).2.flatten = (cfb8DecChunks E reg cs').2.flatten ∧
      (cfb8DecChunks E reg cs).1 = (cfb8DecChunks E reg cs').1 := by
  obtain ⟨a1, a2, a3, a4⟩ := cfb8_chunks E reg cs
  obtain ⟨b1, b2, b3, b4⟩ := cfb8_chunks E reg cs'
  rw [a1, a2, a3, a4, b1, b2, b3, b4, h]
  exact ⟨rfl, rfl, rfl, rfl⟩

/-- Decryption inverts encryption for any chunking on either side: the sender encrypts the chunks
`cs` from register `reg`; the receiver, from the same initial register, decrypts the ciphertext
stream cut in ANY other way `ds`; the concatenated plaintext is the concatenated input, and the
two registers end equal (so the property continues to hold for whatever follows). -/
theorem cfb8_dec_enc (E : Bytes → Bytes) (reg : Bytes) (cs ds : List Bytes)
    (h : ds.flatten = (cfb8EncChunks E reg cs).2.flatten) :
    (cfb8DecChunks E reg ds).2.flatten = cs.flatten ∧
      (cfb8DecChunks E reg ds).1 = (cfb8EncChunks E reg cs).1 := by
  obtain ⟨a1, a2, _, _⟩ := cfb8_chunks E reg cs
  obtain ⟨_, _, b3, b4⟩ := cfb8_chunks E reg ds
  have inv := cfb8Dec_enc E reg cs.flatten
  rw [b3, b4, h, a1, a2]
  exact inv

/-- The shift register keeps the length of the IV (16 bytes under `Chan.create`), so the block
function is only ever applied to 16-byte blocks. -/
theorem cfb8_reg_length (E : Bytes → Bytes) (reg x : Bytes) (h : reg.length = 16) :
    (cfb8Enc E reg x).1.length = 16 ∧ (cfb8Dec E reg x).1.length = 16 := by
  have hne : reg ≠ [] := by intro h0; simp [h0] at h
  exact ⟨(cfb8Enc_reg_length E reg x hne).trans h, (cfb8Dec_reg_length E reg x hne).trans h⟩

/-- The AES block function returns a 16-byte block for every key and input, so the key-stream
byte CFB8 uses is its genuine first byte (the `headD` default is never taken). -/
theorem aes_block_length (key block : Bytes) :
    (aes128 key block).length = 16 ∧ cfb8Key (aes128 key) block = (aes128 key block)[0]! := by
  have h := aes128_length key block
  refine ⟨h, ?_⟩
  unfold cfb8Key
  cases hb : aes128 key block with
  | nil => simp [hb] at h
  | cons a as => rfl

/-- The wrappers, over ANY interleaved sequence of `send` / `recv` / `read` calls, from the state
`create_AES_cipher(secret)` sets up: the bytes handed to the inner socket, concatenated, are the
CFB8 encryption (register initially = secret) of all the data passed to `send`, concatenated; the
bytes returned by `recv` and `read` (which share the one decryptor), concatenated in call order,
are the CFB8 decryption (register initially = secret) of all the bytes the inner socket / file
returned, concatenated; and the final registers are those of the two one-shot computations. -/
theorem wrapper_stream (E : Bytes → Bytes) (secret : Bytes) (ops : List Op) :
    let r := Chan.run E (Chan.init secret) ops
    (outsOf Op.isSend ops r.2).flatten = (cfb8Enc E secret (ops.flatMap Op.sent)).2 ∧
      (outsOf Op.isRecv ops r.2).flatten = (cfb8Dec E secret (ops.flatMap Op.rcvd)).2 ∧
      r.1.encReg = (cfb8Enc E secret (ops.flatMap Op.sent)).1 ∧
      r.1.decReg = (cfb8Dec E secret (ops.flatMap Op.rcvd)).1 ∧
      r.2.length = ops.length := by
  have hs := run_sent E (Chan.init secret) ops
  have hr := run_rcvd E (Chan.init secret) ops
  exact ⟨congrArg Prod.snd hs, congrArg Prod.snd hr, congrArg Prod.fst hs, congrArg Prod.fst hr,
    run_length E _ ops⟩

/-- … and the same from any reachable state `c` (any registers), not only the initial one. -/
theorem wrapper_stream_from (E : Bytes → Bytes) (c : Chan) (ops : List Op) :
    let r := Chan.run E c ops
    (outsOf Op.isSend ops r.2).flatten = (cfb8Enc E c.encReg (ops.flatMap Op.sent)).2 ∧
      (outsOf Op.isRecv ops r.2).flatten = (cfb8Dec E c.decReg (ops.flatMap Op.rcvd)).2 ∧
      r.1.encReg = (cfb8Enc E c.encReg (ops.flatMap Op.sent)).1 ∧
      r.1.decReg = (cfb8Dec E c.decReg (ops.flatMap Op.rcvd)).1 := by
  have hs := run_sent E c ops
  have hr := run_rcvd E c ops
  exact ⟨congrArg Prod.snd hs, congrArg Prod.snd hr, congrArg Prod.fst hs, congrArg Prod.fst hr⟩

/-- The directions are independent, call by call: two sequences of calls that contain the same
receiving calls (`recv`/`read`, in the same order) return the same result for each of them,
whatever `send`s are interleaved; and two sequences that contain the same `send`s hand the same
bytes to the inner socket for each of them, whatever receiving calls are interleaved. -/
theorem wrapper_independent (E : Bytes → Bytes) (secret : Bytes) (ops ops' : List Op) :
    (ops.filter Op.isRecv = ops'.filter Op.isRecv →
        outsOf Op.isRecv ops (Chan.run E (Chan.init secret) ops).2 =
          outsOf Op.isRecv ops' (Chan.run E (Chan.init secret) ops').2) ∧
      (ops.filter Op.isSend = ops'.filter Op.isSend →
        outsOf Op.isSend ops (Chan.run E (Chan.init secret) ops).2 =
          outsOf Op.isSend ops' (Chan.run E (Chan.init secret) ops').2) := by
  -- each side is a function of the filtered list alone
  have hr := run_recvs E (Chan.init secret)
  have hs := run_sends E (Chan.init secret)
  simp only [Prod.ext_iff] at hr hs
  exact ⟨fun h => by rw [(hr ops).2, (hr ops').2, h], fun h => by rw [(hs ops).2, (hs ops').2, h]⟩

/-- Two peers that set up the cipher from the same secret interoperate: whatever peer A `send`s
(in any calls, interleaved with anything), if the bytes A's inner socket was handed are what
B's inner socket/file returns (cut into `recv`/`read` calls in any way, interleaved with anything),
then what B's `recv`/`read` calls return, concatenated, is what A sent, concatenated. -/
theorem wrapper_roundtrip (E : Bytes → Bytes) (secret : Bytes) (opsA opsB : List Op)
    (h : opsB.flatMap Op.rcvd =
      (outsOf Op.isSend opsA (Chan.run E (Chan.init secret) opsA).2).flatten) :
    (outsOf Op.isRecv opsB (Chan.run E (Chan.init secret) opsB).2).flatten =
      opsA.flatMap Op.sent := by
  obtain ⟨a1, _, _, _, _⟩ := wrapper_stream E secret opsA
  obtain ⟨_, b2, _, _, _⟩ := wrapper_stream E secret opsB
  rw [b2, h, a1]
  exact (cfb8Dec_enc E secret _).1

/-- `create_AES_cipher` accepts exactly the 16-byte secrets (then both contexts start from
register = secret) and raises `ValueError` otherwise. -/
theorem create_ok_iff (secret : Bytes) :
    (secret.length = 16 ∧ Chan.create secret = .ok ⟨secret, secret⟩) ∨
      (secret.length ≠ 16 ∧ Chan.create secret = .error .value) := by
  unfold Chan.create Chan.init
  by_cases h : secret.length = 16
  · left
    simp [h]
  · right
    simp [h]

/-! ### The Lean AES and CFB8 are the standard ones

The S-box, the FIPS-197 vectors and the F.3.7 encryption are evaluated by the kernel; the F.3.8
decryption and the run through the wrappers follow from F.3.7 by the inverse and chunk laws. -/

/-- The literal S-box table (FIPS-197 Figure 7) is the function FIPS-197 §5.1.1 defines:
multiplicative inverse in GF(2^8) followed by the affine map — on all 256 bytes. -/
theorem sbox_table_correct (b : Nat) (h : b < 256) : aesSbox b = aesSboxSpec b := by
  simpa using List.all_eq_true.mp sbox_table_all b (List.mem_range.mpr h)

/-- FIPS-197 Appendix C.1: key `000102…0f`, block `00112233445566778899aabbccddeeff` ↦
`69c4e0d86a7b0430d8cdb78070b4c55a`. -/
theorem fips197_c1 :
    aes128 [0x00, 0x01, 0x02, 0x03, 0x04, 0x05, 0x06, 0x07, 0x08, 0x09, 0x0a, 0x0b, 0x0c, 0x0d, 0x0e, 0x0f]
        [0x00, 0x11, 0x22, 0x33, 0x44, 0x55, 0x66, 0x77, 0x88, 0x99, 0xaa, 0xbb, 0xcc, 0xdd, 0xee, 0xff] =
      [0x69, 0xc4, 0xe0, 0xd8, 0x6a, 0x7b, 0x04, 0x30, 0xd8, 0xcd, 0xb7, 0x80, 0x70, 0xb4, 0xc5, 0x5a] := by
  decide +kernel

/-- FIPS-197 Appendix A.1 (key expansion of `2b7e151628aed2a6abf7158809cf4f3c`): eleven round
keys, the last being `w40..w43 = d014f9a8 c9ee2589 e13f0cc8 b6630ca6`. -/
theorem fips197_a1 :
    (aesKeySchedule [0x2b, 0x7e, 0x15, 0x16, 0x28, 0xae, 0xd2, 0xa6, 0xab, 0xf7, 0x15, 0x88, 0x09, 0xcf, 0x4f, 0x3c]).length = 11 ∧
      (aesKeySchedule [0x2b, 0x7e, 0x15, 0x16, 0x28, 0xae, 0xd2, 0xa6, 0xab, 0xf7, 0x15, 0x88, 0x09, 0xcf, 0x4f, 0x3c]).getLast? =
        some [0xd0, 0x14, 0xf9, 0xa8, 0xc9, 0xee, 0x25, 0x89, 0xe1, 0x3f, 0x0c, 0xc8, 0xb6, 0x63, 0x0c, 0xa6] := by
  decide +kernel

/-- SP 800-38A F.3.7 key. -/
def nistKey : Bytes :=
  [0x2b, 0x7e, 0x15, 0x16, 0x28, 0xae, 0xd2, 0xa6, 0xab, 0xf7, 0x15, 0x88, 0x09, 0xcf, 0x4f, 0x3c]
/-- SP 800-38A F.3.7 IV. -/
def nistIV : Bytes :=
  [0x00, 0x01, 0x02, 0x03, 0x04, 0x05, 0x06, 0x07, 0x08, 0x09, 0x0a, 0x0b, 0x0c, 0x0d, 0x0e, 0x0f]
/-- SP 800-38A F.3.7 plaintext `6bc1bee22e409f96e93d7e117393172aae2d`. -/
def nistPlain : Bytes :=
  [0x6b, 0xc1, 0xbe, 0xe2, 0x2e, 0x40, 0x9f, 0x96, 0xe9, 0x3d, 0x7e, 0x11, 0x73, 0x93, 0x17, 0x2a,
   0xae, 0x2d]
/-- SP 800-38A F.3.7 ciphertext `3b79424c9c0dd436bace9e0ed4586a4f32b9`. -/
def nistCipher : Bytes :=
  [0x3b, 0x79, 0x42, 0x4c, 0x9c, 0x0d, 0xd4, 0x36, 0xba, 0xce, 0x9e, 0x0e, 0xd4, 0x58, 0x6a, 0x4f,
   0x32, 0xb9]

/-- NIST SP 800-38A F.3.7 (CFB8-AES128.Encrypt), all 18 segments. -/
theorem sp800_38a_cfb8_encrypt : (cfb8Enc (aes128 nistKey) nistIV nistPlain).2 = nistCipher := by
  decide +kernel

/-- NIST SP 800-38A F.3.8 (CFB8-AES128.Decrypt), all 18 segments. -/
theorem sp800_38a_cfb8_decrypt : (cfb8Dec (aes128 nistKey) nistIV nistCipher).2 = nistPlain := by
  rw [← sp800_38a_cfb8_encrypt]
  exact (cfb8Dec_enc _ _ _).1

/-- The same vector through the wrapper model with an arbitrary split into calls (`send` 3 + 0 + 15
bytes interleaved with `recv`/`read` of 9 + 9 ciphertext bytes): per-call outputs. -/
theorem sp800_38a_through_wrappers :
    (Chan.run (aes128 nistKey) ⟨nistIV, nistIV⟩
        [.send (nistPlain.take 3), .recv (nistCipher.take 9), .send [], .read (nistCipher.drop 9),
          .send (nistPlain.drop 3)]).2 =
      [nistCipher.take 3, nistPlain.take 9, [], nistPlain.drop 9, nistCipher.drop 3] := by
  -- call by call, then each output as a segment of the two one-shot streams
  rw [Chan.run_send, Chan.run_recv, Chan.run_send, Chan.run_read, Chan.run_recv, Chan.run_send,
    Chan.run_nil, cfb8Enc_nil, cfb8Enc_take, cfb8Enc_drop, cfb8Dec_take, cfb8Dec_drop,
    sp800_38a_cfb8_encrypt, sp800_38a_cfb8_decrypt]

/-! ### non-vacuity: the hypotheses are met by concrete, non-trivial values -/

/-- a toy block function, to show the generic theorems have content without AES -/
def toyE : Bytes → Bytes := fun r => [r.foldl (fun a b => 3 * a + b) 7]

-- `cfb8_chunking` / `cfb8_chunks`: a stream of 5 bytes cut 2 + 0 + 3, outputs differ from inputs
example : (cfb8EncChunks toyE [1, 2, 3] [[10, 20], [], [30, 40, 50]]).2 = [[197, 137], [], [174, 219, 65]] ∧
    (cfb8Enc toyE [1, 2, 3] [10, 20, 30, 40, 50]).2 = [197, 137, 174, 219, 65] := by decide
-- `cfb8_split_irrelevant`: hypothesis satisfiable with genuinely different splits
example : ([[10, 20], [], [30, 40, 50]] : List Bytes).flatten = [[10], [20, 30, 40], [50]].flatten := by
  decide
-- `cfb8_dec_enc`: sender splits 2 + 0 + 3, receiver splits the ciphertext 1 + 4
example : ([[197], [137, 174, 219, 65]] : List Bytes).flatten =
      (cfb8EncChunks toyE [1, 2, 3] [[10, 20], [], [30, 40, 50]]).2.flatten ∧
    (cfb8DecChunks toyE [1, 2, 3] [[197], [137, 174, 219, 65]]).2 = [[10], [20, 30, 40, 50]] := by decide
-- `cfb8_reg_length`: a 16-byte register
example : nistIV.length = 16 := by decide
-- `wrapper_independent`: two different interleavings with the same receiving calls
example : ([.send [1], .recv [2, 3], .send [4], .read [5]] : List Op).filter Op.isRecv =
    ([.recv [2, 3], .read [5], .send [9, 9]] : List Op).filter Op.isRecv := by decide
-- `wrapper_roundtrip`: A sends 2 + 1 bytes, B receives the 3 ciphertext bytes as read 1 + recv 2
example :
    let opsA : List Op := [.send [10, 20], .recv [99], .send [30]]
    let opsB : List Op := [.read [197], .send [1, 2, 3], .recv [137, 174]]
    opsB.flatMap Op.rcvd = (outsOf Op.isSend opsA (Chan.run toyE (Chan.init [1, 2, 3]) opsA).2).flatten ∧
      (outsOf Op.isRecv opsB (Chan.run toyE (Chan.init [1, 2, 3]) opsB).2).flatten = [10, 20, 30] := by
  decide
-- `create_ok_iff`: both branches occur
example : Chan.create nistKey = .ok ⟨nistKey, nistKey⟩ ∧ Chan.create [1, 2, 3] = .error .value := by
  decide
-- `sbox_table_correct`: e.g. FIPS-197 §5.1.1's example `S({53}) = {ed}`
example : aesSbox 0x53 = 0xed ∧ aesSboxSpec 0x53 = 0xed := by decide +kernel

end PyCraft.C18
