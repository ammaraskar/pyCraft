import PyCraft.Lemmas.C15Thread
import PyCraft.Lemmas.HandshakeWire
import PyCraft.Props.C14
import PyCraft.Props.C15
import PyCraft.Model.Cfb8
import PyCraft.Generated.C15Thread
/-!
# C15 (whole thread) — a server that stops mid-conversation: the "error OR documented fallback"
split, the phased reader, and the bound for the whole `connect()` session

Covers item 1 of `docs/audit_report.md`.  `Props/C15.lean` speaks about `readAllK` on a
homogeneous stream (one compression flag, one cipher from byte 0, no reactor);
`C14.handleException` takes the reactor handler's answer as a free parameter; `C09.evalStatus`
takes the end of stream as the symbolic input `closedBeforeReply`.  Here they are connected:

* `Model/C15Thread.lean`: `threadLoop` (the read loop of `NetworkingThread._run` with the reactor,
  the compression flag and the decryptor stack switching BETWEEN `read_packet` calls),
  `reactorHandle` (`PacketReactor.handle_exception` / `PlayingStatusReactor.handle_exception`),
  `threadsFuel`/`connectRun` (the threads of one `connect()`, including reconnects issued from the
  networking thread);
* every statement below is for ALL reaction functions (`React`: what `packet.read` + `_react` do
  with a delivered frame), all cipher pairs, all lawful zlibs, all handler chains, all exception
  hierarchies — except the `live_*` theorems, which check the model's reactor handler, the
  exception classes and the reactor installed by `connect()`/`status()` against tables generated
  from the LIVE code (`harness/gen/c15thread.py` → `Generated/C15Thread.lean`).

Modelling decisions:
* (b) the reactor's handler is `reactorHandle` on exception CLASSES, with `isinstance` =
  `isSub hier` (so "testing `isinstance(exc, Exception)`" is a statement about the hierarchy,
  refuted below), and with the outcome of the fallback `connect()` as an input: when that
  `connect()` raises, `handle_exception` raises and the exception is NOT swallowed but replaced.
  Hence `swallowed ↔ kind = playingStatus ∧ e = eof` alone is false for the code as written; the
  third conjunct "the fallback connection is accepted" is needed (`cut_outcome`).
* (d) the phased theorem is for ANY number and order of switches, each taking effect right behind
  the packet that triggers it, and for NESTED decryptors (a second encryption request wraps the
  wrapped file object: `stackDec`), against a reference server (`srvWire`) that switches at the
  same points.
* (c) the bound "at most two connections" is not built into the model: `threadsFuel` follows every
  reconnect; that it stops after two threads is the theorem `connect_bounded`, under the explicit
  hypothesis `ReactOK` (only `PlayingStatusReactor` reaches `handle_proto_version`).
-/
namespace PyCraft.C15Thread
open PyCraft

/-! ## (a) the status response cut anywhere -/

/-- The status response for ANY JSON text, cut after ANY number `k` of bytes short of its full
length and delivered in ANY segmentation, then end of stream: the reader delivers nothing and raises
`EOFError` — as `readAll` of C15, and as the whole thread under ANY reactor (in particular
`PlayingStatusReactor`, whose handler turns exactly this into the fallback: `cut_outcome`). -/
theorem status_cut_eof {σ κ : Type} (cp : CipherPair σ) (init : κ → σ) (z : Zlib) (react : React κ)
    (json : String) (hj : HsWire.StrOK json) (k : Nat)
    (hk : k < (HsWire.responseBytes json).length) (segs : Segs)
    (hseg : segs.flatten = (HsWire.responseBytes json).take k) :
    readAll HsWire.noZlib false segs = ([], .eof) ∧
    ∀ kind, (runThread (stackClient cp init z.toZlibOps react) kind segs).view =
      ([], .raised .eof, ⟨kind, false⟩) := by
  have hfo : FrameOK z.toZlibOps none (0, HsWire.encString json) :=
    HsWire.frameOK_string 0 json (by omega) hj
  have hwire : ∀ kind, srvWire (stackPair cp).enc (stackInstall init) z.toZlibOps react
      ⟨kind, none, []⟩ [(0, HsWire.encString json)] = HsWire.responseBytes json := by
    intro kind
    simp only [srvWire_cons, srvWire_nil, List.append_nil]
    rfl
  -- the response is one plain frame
  have hflat : ([((0 : Nat), HsWire.encString json)].map
      (packetFrame Zlib.ident.toZlibOps none)).flatten = HsWire.responseBytes json := by
    simp [HsWire.responseBytes, HsWire.plainFrame, HsWire.noZlib]
  constructor
  · obtain ⟨n, -, h2, h3, -⟩ := C15.prefix_delivers_complete_only Zlib.ident none
      [(0, HsWire.encString json)]
      (fun p hp => List.mem_singleton.mp hp ▸ HsWire.frameOK_string 0 json (by omega) hj) k
      (by rw [hflat]; omega) segs (by rw [hseg, hflat])
    -- no frame lies wholly inside the first `k` bytes
    cases n with
    | zero => exact h2
    | succ n => rw [List.take_of_length_le (by simp), hflat] at h3; omega
  · intro kind
    exact threadLoop_cut (stackPair cp) [] (stackInstall init) z react
      [(0, HsWire.encString json)] ⟨kind, false⟩ ⟨kind, none, []⟩ (Sock.enc [] segs) k
      (segs.flatten.length + 1) 0 rfl rfl rfl ⟨hfo, trivial⟩
      (by rw [hwire]; exact hseg) (Nat.lt_succ_self _) (by simp) (by simp [srvWire_nil])
      (fun _ => by
        show k < (srvWire _ _ _ _ _ [(0, HsWire.encString json)]).length
        rw [hwire]; exact hk)

/-! ## (d) the phased reader: any switches, any cut -/

/-- THE CUT THEOREM FOR THE WHOLE THREAD.  A reference server runs the conversation `ps` with a
client whose reactor is `kind` on a fresh connection: every packet framed under the threshold in
force and encrypted by the encryptor context(s) in force, where `set compression`, `encryption
request` (also several: nested contexts) and `login success` take effect right behind the packet
that carries them — as determined by the SAME reaction function the client uses.  Cut that stream
after ANY number `k` of bytes, deliver it in ANY segmentation, then end the stream.  Then, with `n`
the number of frames lying wholly inside the first `k` bytes (it exists and is pinned by the two
length inequalities), the thread does exactly what the reference run does on the first `n`
packets followed by end of stream: hands them to `_react` in order until a reaction stops the loop,
otherwise `EOFError`.  In particular what was delivered is a prefix of those `n` packets: no packet
the server did not send completely is delivered.  Any cipher pair, any wrapping operation, any
lawful zlib, any reaction function. -/
theorem cut_delivers_complete_only {τ κ : Type} (cp : CipherPair τ) (st0 : τ)
    (install : τ → κ → τ) (z : Zlib) (react : React κ) (kind : ReactorKind)
    (ps : List (Nat × Bytes)) (hok : WireOK z.toZlibOps react kind none ps) (k : Nat) (segs : Segs)
    (hseg : segs.flatten =
      (srvWire cp.enc install z.toZlibOps react ⟨kind, none, st0⟩ ps).take k) :
    ∃ n, n ≤ ps.length ∧
      (runThread ⟨cp.dec, st0, install, z.toZlibOps, react⟩ kind segs).view =
        refRun react ⟨kind, false⟩ (ps.take n) ∧
      (srvWire cp.enc install z.toZlibOps react ⟨kind, none, st0⟩ (ps.take n)).length ≤ k ∧
      (n < ps.length →
        k < (srvWire cp.enc install z.toZlibOps react ⟨kind, none, st0⟩ (ps.take (n + 1))).length) ∧
      (runThread ⟨cp.dec, st0, install, z.toZlibOps, react⟩ kind segs).delivered <+: ps.take n := by
  obtain ⟨n, h1, h2, h3⟩ := srvWire_count cp.enc install z.toZlibOps react ps ⟨kind, none, st0⟩ k
  have hv := threadLoop_cut cp st0 install z react ps ⟨kind, false⟩ ⟨kind, none, st0⟩
    (Sock.enc st0 segs) k (segs.flatten.length + 1) n rfl rfl rfl hok hseg (Nat.lt_succ_self _)
    h1 h2 h3
  refine ⟨n, h1, hv, h2, h3, ?_⟩
  have hd : (runThread ⟨cp.dec, st0, install, z.toZlibOps, react⟩ kind segs).delivered =
      (refRun react ⟨kind, false⟩ (ps.take n)).1 := congrArg Prod.fst hv
  rw [hd]
  exact refRun_prefix react _ _

/-- The same for pyCraft's client as it is: plain socket file at first, one more CFB8-style
decryptor wrapped around the current file object at every encryption request (`stackClient`), the
server applying the matching encryptors, newest first.  If moreover no reaction of the conversation
stops the loop (`Quiet`: an otherwise valid conversation that simply breaks off), ALL `n` complete
packets are delivered and the thread ends with `EOFError`. -/
theorem cut_delivers_complete_only_nested {σ κ : Type} (cp : CipherPair σ) (init : κ → σ)
    (z : Zlib) (react : React κ) (kind : ReactorKind) (ps : List (Nat × Bytes))
    (hok : WireOK z.toZlibOps react kind none ps) (k : Nat) (segs : Segs)
    (hseg : segs.flatten = (srvWire (stackEnc cp.enc) (stackInstall init) z.toZlibOps react
      ⟨kind, none, []⟩ ps).take k) :
    ∃ n, n ≤ ps.length ∧
      (runThread (stackClient cp init z.toZlibOps react) kind segs).view =
        refRun react ⟨kind, false⟩ (ps.take n) ∧
      (srvWire (stackEnc cp.enc) (stackInstall init) z.toZlibOps react ⟨kind, none, []⟩
        (ps.take n)).length ≤ k ∧
      (n < ps.length →
        k < (srvWire (stackEnc cp.enc) (stackInstall init) z.toZlibOps react ⟨kind, none, []⟩
          (ps.take (n + 1))).length) ∧
      (Quiet react kind ps →
        (runThread (stackClient cp init z.toZlibOps react) kind segs).delivered = ps.take n ∧
        (runThread (stackClient cp init z.toZlibOps react) kind segs).ending = .raised .eof) := by
  obtain ⟨n, h1, h2, h3, h4, -⟩ := cut_delivers_complete_only (stackPair cp) []
    (stackInstall init) z react kind ps hok k segs hseg
  refine ⟨n, h1, h2, h3, h4, ?_⟩
  exact fun hq => view_quiet h2 (quiet_take react ps kind n hq)

/-! ## the whole-thread bound -/

/-- For ANY byte stream of `N` bytes (well-formed or not, any segmentation), any client and any
reactor, the networking thread issues at most `N + 2` reads, at most two of them after the end of
the stream, hands at most `N` packets to `_react`, and more fuel than `N + 1` `read_packet` calls
changes nothing (the fuel is never the reason to stop).  It ends by one of the four framing
exceptions of `read_packet` (`EOFError`, the VarInt `ValueError`, `zlib.error`, `AssertionError`) or
by a stopping reaction; and its reactor at that moment is the one it started with or
`PlayingReactor`. -/
theorem thread_bounded {τ κ : Type} (C : Client τ κ) (kind : ReactorKind) (segs : Segs) :
    (runThread C kind segs).sock.reads ≤ segs.flatten.length + 2 ∧
    (runThread C kind segs).sock.empties ≤ 2 ∧
    (runThread C kind segs).delivered.length ≤ segs.flatten.length ∧
    (∀ fuel, segs.flatten.length < fuel →
      threadLoop C fuel ⟨kind, false⟩ (Sock.enc C.st0 segs) = runThread C kind segs) ∧
    (((runThread C kind segs).ending = .raised .eof ∨
      (runThread C kind segs).ending = .raised .tooLong ∨
      (runThread C kind segs).ending = .raised .zlib ∨
      (runThread C kind segs).ending = .raised .assertion) ∨
     ∃ kind' p d, (C.react kind' p).stop = some (d, (runThread C kind segs).ending)) ∧
    ((runThread C kind segs).mode.kind = kind ∨ (runThread C kind segs).mode.kind = .playing) := by
  obtain ⟨b1, b2, b3⟩ := mkLog_bounds C (.direct 0) kind segs none
  have hrem : (Sock.enc C.st0 segs).rem = segs.flatten.length := rfl
  refine ⟨b1, b2, b3, ?_, ?_, ?_⟩
  · intro fuel hf
    exact threadLoop_fuel_free C fuel _ _ _ (by rw [hrem]; exact hf) (by rw [hrem]; omega)
  · exact threadLoop_ending C _ _ _ (by rw [hrem]; omega)
  · exact (threadLoop_kinds C _ ⟨kind, false⟩ _).1

/-! ## (b) error OR documented fallback -/

/-- THE SPLIT.  Run `_handle_exception` with the reactor handler the code has
(`reactorHandle`), for ANY exception class hierarchy, reactor, exception, handler chain, final
handler and outcome `fb` of the fallback `connect()`:

1. the exception is swallowed (nothing recorded, no handler and no final handler called, nothing
   re-raised) IF AND ONLY IF the reactor is `PlayingStatusReactor`, the exception is an instance of
   `EOFError`, and the fallback connection was started (`connect()` returned);
2. `connect()` is called for the fallback exactly under the first two conditions, and then with
   the default version (`fallbackVersion`);
3. in every other case the error is REPORTED: it (or what replaced it) is recorded on the
   connection, the first entry of the trace is the reactor's handler called with the original
   exception, a callable final handler is called last, exactly once, with the last exception in
   play (`C14.final_always_runs`), and with no user handlers and a returning final handler the
   final handler receives precisely the original exception — or, when the fallback `connect()`
   raised `e'`, precisely `e'`. -/
theorem cut_outcome {α : Type} (hier : Hier) (eofCls : Nat) (kind : ReactorKind)
    (fb : Except Exc α) (dflt : Nat) (e : Exc) (hs : List Handler) (fin : Final) :
    ((handleException hier (reactorHandle hier eofCls kind fb e) hs fin e).swallowedByReactor = true ↔
      kind = .playingStatus ∧ isSub hier e.cls eofCls = true ∧ ∃ a, fb = .ok a) ∧
    ((handleException hier (reactorHandle hier eofCls kind fb e) hs fin e).swallowedByReactor = true →
      handleException hier (reactorHandle hier eofCls kind fb e) hs fin e =
        { trace := [.reactor e none], caught := false, loopExc := none, recorded := none,
          reraised := none, swallowedByReactor := true }) ∧
    (fallbackVersion hier eofCls kind dflt e =
      if kind = .playingStatus ∧ isSub hier e.cls eofCls = true then some dflt else none) ∧
    ((handleException hier (reactorHandle hier eofCls kind fb e) hs fin e).swallowedByReactor = false →
      (handleException hier (reactorHandle hier eofCls kind fb e) hs fin e).recorded =
        some (lastExc e (handleException hier (reactorHandle hier eofCls kind fb e) hs fin e).trace) ∧
      (∃ raised, (handleException hier (reactorHandle hier eofCls kind fb e) hs fin e).trace.head? =
        some (.reactor e raised) ∧
        (raised = none ∨ ∃ e', fb = .error e' ∧ raised = some e')) ∧
      (∀ b, fin = .fn b → ∃ pre x,
        (handleException hier (reactorHandle hier eofCls kind fb e) hs fin e).trace =
          pre ++ [CallEv.final x b.raised] ∧ (∀ ev ∈ pre, ev.isFinal = false) ∧
          x = lastExc e pre) ∧
      (hs = [] → fin = .fn .returns →
        (handleException hier (reactorHandle hier eofCls kind fb e) hs fin e).trace =
          [.reactor e (reactorHandle hier eofCls kind fb e).raisedExc,
           .final ((reactorHandle hier eofCls kind fb e).replace e) none] ∧
        ((reactorHandle hier eofCls kind fb e).replace e = e ∨
          ∃ e', fb = .error e' ∧ kind = .playingStatus ∧ isSub hier e.cls eofCls = true ∧
            (reactorHandle hier eofCls kind fb e).replace e = e'))) := by
  have hiff : reactorHandle hier eofCls kind fb e = .retTrue ↔
      kind = .playingStatus ∧ isSub hier e.cls eofCls = true ∧ ∃ a, fb = .ok a := by
    cases kind <;> cases fb <;> by_cases hsub : isSub hier e.cls eofCls = true <;>
      simp [reactorHandle, hsub]
  have hsw : ∀ r, (handleException hier r hs fin e).swallowedByReactor = true ↔ r = .retTrue := by
    intro r
    by_cases hr : r = .retTrue
    · subst hr; simp [handleException_retTrue]
    · rw [handleException_of_ne _ _ _ _ _ hr]; simp [hr]
  refine ⟨(hsw _).trans hiff, ?_, ?_, ?_⟩
  · intro h
    rw [(hsw _).mp h]; rfl
  · cases kind <;> by_cases hsub : isSub hier e.cls eofCls = true <;>
      simp [fallbackVersion, hsub]
  · intro h
    have hr : reactorHandle hier eofCls kind fb e ≠ .retTrue := by
      intro hc; rw [(hsw _).mpr hc] at h; cases h
    refine ⟨(C14.recorded_is_last hier _ hs fin e hr).1, ?_, ?_, ?_⟩
    · rw [handleException_of_ne _ _ _ _ _ hr]
      refine ⟨_, rfl, ?_⟩
      cases kind <;> cases fb <;> by_cases hsub : isSub hier e.cls eofCls = true <;>
        simp [reactorHandle, hsub, RBeh.raisedExc]
    · intro b hb
      subst hb
      obtain ⟨pre, x, h1, h2, h3, -⟩ := C14.final_always_runs hier _ hs b e hr
      exact ⟨pre, x, h1, h2, h3⟩
    · intro hhs hfin
      subst hhs; subst hfin
      rw [handleException_of_ne _ _ _ _ _ hr]
      refine ⟨by simp [tryExceptChain, finCalls, ChainResult.exc, Beh.raised], ?_⟩
      cases kind <;> cases fb <;> by_cases hsub : isSub hier e.cls eofCls = true <;>
        simp [reactorHandle, hsub, RBeh.replace]

/-! ## (c) the session: at most two connections, `≤ N₁ + N₂ + 4` reads -/

/-- For ANY server streams (cut or not, well-formed or not), any dial outcomes, any handlers: a
`connect()` whose reactions reach `handle_proto_version` only from `PlayingStatusReactor` starts at
most TWO networking threads (the fuel of `connectRun` is never the reason to stop: 2 is as good as
any larger amount); every thread after the first is a direct login (`Plan.direct v`: one allowed
version, `LoginReactor`) that does not reconnect; every thread issues at most (bytes of its stream
+ 2) reads, at most two of them after the end of its stream, and hands at most (bytes) packets to
`_react`; in total at most `N₁ + N₂ + 4` reads. -/
theorem connect_bounded {τ κ : Type} (C : Client τ κ) (H : Handling) (env : Neg.VEnv)
    (allowed : List Nat) (dflt : Nat) (srv : Segs) (dial : Nat → Except Exc Segs)
    (hr : ReactOK C.react) (fuel : Nat) (logs : List ThreadLog)
    (h : connectRun C H env allowed dflt srv dial (fuel + 2) = .ok logs) :
    logs.length ≤ 2 ∧
    connectRun C H env allowed dflt srv dial 2 = .ok logs ∧
    (∀ t ∈ logs.tail, ∃ v s, t = soleLog C H (.direct v) s) ∧
    (∀ t ∈ logs, t.reads ≤ t.streamLen + 2 ∧ t.empties ≤ 2 ∧ t.delivered.length ≤ t.streamLen) ∧
    (logs.map (·.reads)).sum ≤ (logs.map (·.streamLen)).sum + 4 := by
  unfold connectRun at h ⊢
  cases hp : Neg.connectPlan env allowed with
  | error e => rw [hp] at h; cases h
  | ok plan =>
    rw [hp] at h
    injection h with h
    subst h
    obtain ⟨l, hl, hlen, htail⟩ := threadsFuel_two C H env dflt dial hr 0 plan srv
    have hb := threadsFuel_bounds C H env dflt dial (fuel + 2) 0 plan srv
    rw [hl fuel] at hb ⊢
    refine ⟨hlen, by rw [← hl 0], htail, hb, ?_⟩
    have := sum_reads_le _ (fun t ht => (hb t ht).1)
    omega

/-- THE FALLBACK, BYTES IN.  `connect()` with several allowed versions (`connectPlan` = a status
query) against a server whose status connection breaks off after ANY `k` bytes of ANY conversation
`ps`, such that the `n` complete packets before the cut stop nothing and leave the reactor in place
(for the real status exchange: `ps = [response]`, `n = 0` — see `status_cut_takes_fallback`), with
`EOFError` an instance of the class the reactor tests for:
* if the second connection is accepted (`dial 0 = .ok s2`): exactly two threads; the first
  delivered the `n` packets, ended by `EOFError`, and its exception was swallowed — nothing
  recorded, no handler called; the second is a direct login with the DEFAULT version on the new
  connection, which (having `LoginReactor`) reports whatever ends it;
* if it is refused with `e'`: one thread, and `e'` (not the `EOFError`) is what the handlers get.
The plans of these connections are exactly those of C09's symbolic `Neg.session … closedBeforeReply`
— the end of stream is no longer an assumption there. -/
theorem cut_takes_fallback {τ κ : Type} (cp : CipherPair τ) (st0 : τ) (install : τ → κ → τ)
    (z : Zlib) (react : React κ) (hr : ReactOK react) (H : Handling) (env : Neg.VEnv)
    (allowed : List Nat) (dflt hq : Nat) (hplan : Neg.connectPlan env allowed = .ok (.query hq))
    (heof : isSub H.hier (H.excOf .eof).cls H.eofCls = true)
    (ps : List (Nat × Bytes)) (hok : WireOK z.toZlibOps react .playingStatus none ps)
    (k n : Nat) (hn : n ≤ ps.length)
    (h1 : (srvWire cp.enc install z.toZlibOps react ⟨.playingStatus, none, st0⟩
      (ps.take n)).length ≤ k)
    (h2 : n < ps.length → k < (srvWire cp.enc install z.toZlibOps react ⟨.playingStatus, none, st0⟩
      (ps.take (n + 1))).length)
    (hquiet : Quiet react .playingStatus (ps.take n))
    (hkind : (refRun react ⟨.playingStatus, false⟩ (ps.take n)).2.2.kind = .playingStatus)
    (srv : Segs)
    (hsrv : srv.flatten =
      (srvWire cp.enc install z.toZlibOps react ⟨.playingStatus, none, st0⟩ ps).take k)
    (dial : Nat → Except Exc Segs) (fuel : Nat) (p : Neg.ConnParams) :
    (runThread ⟨cp.dec, st0, install, z.toZlibOps, react⟩ .playingStatus srv).delivered =
      ps.take n ∧
    (runThread ⟨cp.dec, st0, install, z.toZlibOps, react⟩ .playingStatus srv).ending =
      .raised .eof ∧
    (∀ s2, dial 0 = .ok s2 →
      connectRun ⟨cp.dec, st0, install, z.toZlibOps, react⟩ H env allowed dflt srv dial (fuel + 2) =
        .ok [mkLog (.query hq) srv
              (runThread ⟨cp.dec, st0, install, z.toZlibOps, react⟩ .playingStatus srv)
              (some { trace := [.reactor (H.excOf .eof) none], caught := false, loopExc := none,
                      recorded := none, reraised := none, swallowedByReactor := true }),
             soleLog ⟨cp.dec, st0, install, z.toZlibOps, react⟩ H (.direct dflt) s2]) ∧
    (∀ e', dial 0 = .error e' →
      connectRun ⟨cp.dec, st0, install, z.toZlibOps, react⟩ H env allowed dflt srv dial (fuel + 2) =
        .ok [mkLog (.query hq) srv
              (runThread ⟨cp.dec, st0, install, z.toZlibOps, react⟩ .playingStatus srv)
              (some (handleException H.hier (.raises e') H.hs H.fin (H.excOf .eof)))]) ∧
    Neg.session env p allowed dflt .closedBeforeReply =
      .ok ⟨[Neg.firstFrames p (.query hq), Neg.firstFrames p (.direct dflt)], .connect dflt⟩ := by
  have hv := threadLoop_cut cp st0 install z react ps ⟨.playingStatus, false⟩
    ⟨.playingStatus, none, st0⟩ (Sock.enc st0 srv) k (srv.flatten.length + 1) n rfl rfl rfl hok
    hsrv (Nat.lt_succ_self _) hn h1 h2
  have hv' : (runThread ⟨cp.dec, st0, install, z.toZlibOps, react⟩ .playingStatus srv).view =
      refRun react ⟨.playingStatus, false⟩ (ps.take n) := hv
  obtain ⟨hd, he⟩ := view_quiet hv' hquiet
  have hk : (runThread ⟨cp.dec, st0, install, z.toZlibOps, react⟩ .playingStatus srv).mode.kind =
      .playingStatus := (congrArg (fun x => x.2.2.kind) hv').trans hkind
  refine ⟨hd, he, ?_, ?_, ?_⟩
  · intro s2 hd0
    unfold connectRun
    rw [hplan]
    simp only []
    rw [threadsFuel_raised _ H env dflt dial (fuel + 1) 0 (.query hq) srv .eof he]
    simp only [kindOfPlan, hk, hd0, reconnect_ok, reactorHandle_eof_ok _ _ _ _ heof]
    rw [threadsFuel_login _ H env dflt dial hr fuel 1 (.direct dflt) s2 rfl]
    rfl
  · intro e' hd0
    unfold connectRun
    rw [hplan]
    simp only []
    rw [threadsFuel_raised _ H env dflt dial (fuel + 1) 0 (.query hq) srv .eof he]
    simp only [kindOfPlan, hk, hd0, reconnect_error, reactorHandle_eof_error _ _ _ _ heof]
  · simp [Neg.session, hplan, Neg.evalStatus, Neg.handleFailure, Neg.handleProtoVersion,
      connectPlan_single]

/-- … for the real status exchange: the server's whole answer on the status connection is ONE
packet `resp` (any id, any content — the response), and the stream ends after any `k` bytes short
of it. -/
theorem status_cut_takes_fallback {τ κ : Type} (cp : CipherPair τ) (st0 : τ)
    (install : τ → κ → τ) (z : Zlib) (react : React κ) (hr : ReactOK react) (H : Handling)
    (env : Neg.VEnv) (allowed : List Nat) (dflt hq : Nat)
    (hplan : Neg.connectPlan env allowed = .ok (.query hq))
    (heof : isSub H.hier (H.excOf .eof).cls H.eofCls = true)
    (resp : Nat × Bytes) (hok : FrameOK z.toZlibOps none resp) (k : Nat)
    (hk : k < (packetFrame z.toZlibOps none resp).length) (srv : Segs)
    (hsrv : srv.flatten = (cp.enc.update st0 (packetFrame z.toZlibOps none resp)).2.take k)
    (dial : Nat → Except Exc Segs) (fuel : Nat) :
    (∀ s2, dial 0 = .ok s2 →
      ∃ t1, connectRun ⟨cp.dec, st0, install, z.toZlibOps, react⟩ H env allowed dflt srv dial
          (fuel + 2) =
        .ok [t1, soleLog ⟨cp.dec, st0, install, z.toZlibOps, react⟩ H (.direct dflt) s2] ∧
        t1.delivered = [] ∧ t1.ending = .raised .eof ∧
        (∃ o, t1.outcome = some o ∧ o.swallowedByReactor = true ∧ o.recorded = none ∧
          o.reraised = none)) ∧
    (∀ e', dial 0 = .error e' →
      ∃ t1, connectRun ⟨cp.dec, st0, install, z.toZlibOps, react⟩ H env allowed dflt srv dial
          (fuel + 2) = .ok [t1] ∧
        t1.delivered = [] ∧ t1.ending = .raised .eof ∧
        t1.outcome = some (handleException H.hier (.raises e') H.hs H.fin (H.excOf .eof)) ∧
        (∃ o, t1.outcome = some o ∧ o.swallowedByReactor = false ∧ o.recorded ≠ none)) := by
  have hwire : srvWire cp.enc install z.toZlibOps react ⟨.playingStatus, none, st0⟩ [resp] =
      (cp.enc.update st0 (packetFrame z.toZlibOps none resp)).2 := by
    simp only [srvWire_cons, srvWire_nil, List.append_nil]
  obtain ⟨g1, g2, g3, g4, -⟩ := cut_takes_fallback cp st0 install z react hr H env allowed dflt hq
    hplan heof [resp] ⟨hok, trivial⟩ k 0 (by simp) (by simp [srvWire_nil])
    (fun _ => by
      show k < (srvWire _ _ _ _ _ [resp]).length
      rw [hwire, cp.enc.len]; exact hk)
    trivial rfl srv (by rw [hwire]; exact hsrv) dial fuel ⟨"", 0, none, none⟩
  constructor
  · intro s2 hd0
    refine ⟨_, g3 s2 hd0, ?_, g2, ?_⟩
    · simpa [mkLog] using g1
    · exact ⟨_, rfl, rfl, rfl, rfl⟩
  · intro e' hd0
    refine ⟨_, g4 e' hd0, ?_, g2, rfl, ?_⟩
    · simpa [mkLog] using g1
    · refine ⟨_, rfl, ?_, ?_⟩
      · rw [handleException_of_ne _ _ _ _ _ (by simp)]
      · rw [handleException_of_ne _ _ _ _ _ (by simp)]; simp

/-- NO FALLBACK ANYWHERE ELSE.  `connect()` with a single allowed version (`connectPlan` = a
direct login) against ANY server stream: exactly one thread, whatever the dial outcomes; if it ends
by an exception `e` (for a conversation that breaks off: `EOFError`, by
`cut_delivers_complete_only_nested`), `_handle_exception` runs with the reactor answering `False`:
the exception is recorded on the connection, never swallowed. -/
theorem login_cut_reports {τ κ : Type} (C : Client τ κ) (hr : ReactOK C.react) (H : Handling)
    (env : Neg.VEnv) (allowed : List Nat) (dflt v : Nat)
    (hplan : Neg.connectPlan env allowed = .ok (.direct v)) (srv : Segs)
    (dial : Nat → Except Exc Segs) (fuel : Nat) :
    connectRun C H env allowed dflt srv dial (fuel + 1) = .ok [soleLog C H (.direct v) srv] ∧
    (∀ e, (runThread C .login srv).ending = .raised e →
      (soleLog C H (.direct v) srv).outcome =
        some (handleException H.hier .retFalse H.hs H.fin (H.excOf e)) ∧
      (handleException H.hier .retFalse H.hs H.fin (H.excOf e)).swallowedByReactor = false ∧
      (handleException H.hier .retFalse H.hs H.fin (H.excOf e)).recorded ≠ none) := by
  constructor
  · unfold connectRun
    rw [hplan]
    simp only []
    rw [threadsFuel_login C H env dflt dial hr fuel 0 (.direct v) srv rfl]
  · intro e he
    refine ⟨?_, ?_, ?_⟩
    · simp only [soleLog, mkLog, kindOfPlan, he]
    · rw [handleException_of_ne _ _ _ _ _ (by simp)]
    · rw [handleException_of_ne _ _ _ _ _ (by simp)]; simp

/-! ## the model against the LIVE code (tables regenerated from /repo on every run) -/

/-- The model's reactor handler IS the code's: for every reactor class (`StatusReactor`,
`PlayingStatusReactor`, `LoginReactor`, `PlayingReactor`) × every probed exception class × both
outcomes of the fallback `connect()`, the real `Connection._handle_exception` (no user handlers,
recording final handler) did what `handleException ∘ reactorHandle` predicts on the live class
hierarchy: same "swallowed", same version handed to `connect()` (the default version, or no call),
same exception class given to the final handler, same class recorded on the connection.  The table
is not empty or partial: it has the rows of all four reactors for `EOFError`, both outcomes. -/
theorem live_reactor_handlers :
    (∀ row ∈ Gen.c15Handle, rowOK (fun h c k fb e => reactorHandle h c k fb e) row = true) ∧
    (∀ kind ∈ [0, 1, 2, 3], ∀ fails ∈ [0, 1],
      ∃ row ∈ Gen.c15Handle, row.1 = kind ∧ row.2.1 = Gen.c15Eof ∧ row.2.2.1 = fails) ∧
    80 ≤ Gen.c15Handle.length := by
  decide +kernel

/-- The exception classes are what the model assumes: the generated edge list reproduces Python's
own `issubclass(·, EOFError)` on every class involved; the real `read_packet` raises an instance of
`EOFError` on an exhausted stream and on a frame cut inside its body, and on the three other
framing failures (VarInt too long, bad zlib data, wrong decompressed size) an `Exception` that is
NOT an `EOFError` — so of all the ways `read_packet` can fail only the end of the stream can take
the fallback. -/
theorem live_exception_classes :
    (∀ row ∈ Gen.c15SubEof, isSub Gen.c15Hier row.1 Gen.c15Eof = (row.2 == 1)) ∧
    Gen.c15SubEof.map (·.1) = Gen.c15Classes.map (·.1) ∧
    isSub Gen.c15Hier (readerCls 0) Gen.c15Eof = true ∧
    isSub Gen.c15Hier (readerCls 4) Gen.c15Eof = true ∧
    (∀ code ∈ [1, 2, 3], readerCls code ≠ 0 ∧
      isSub Gen.c15Hier (readerCls code) Gen.c15Eof = false ∧
      isSub Gen.c15Hier (readerCls code) Gen.c15Exception = true) ∧
    isSub Gen.c15Hier Gen.c15Refused Gen.c15Eof = false := by
  decide +kernel

/-- `kindOfPlan` is what the code installs: `status()` → `StatusReactor`; `connect()` with one
allowed version → `LoginReactor`, with two → `PlayingStatusReactor`. -/
theorem live_installed_reactor :
    Gen.c15Install.map (fun r => (r.1, kindOfCode r.2)) =
      [(0, some .status), (1, some (kindOfPlan (.direct 0))), (2, some (kindOfPlan (.query 0)))] := by
  decide +kernel

/-! ## negative witnesses: the seeded changes are refuted -/

/-- Moving the EOF fallback into `StatusReactor` or into `LoginReactor`, or testing
`isinstance(exc, Exception)`: each changed handler (a) violates the characterisation of
`cut_outcome` on a concrete instance — it swallows an exception that `cut_outcome` says must be
reported — and (b) disagrees with the live table. -/
theorem moved_fallback_refuted :
    -- (a) against `cut_outcome` (1): swallowed although the reactor is not PlayingStatusReactor /
    --     the exception is not an EOFError
    ((handleException demoHier (reactorHandleMovedToStatus demoHier 2 .status (.ok ()) ⟨2, 0⟩)
        [] (.fn .returns) ⟨2, 0⟩).swallowedByReactor = true ∧
      (handleException demoHier (reactorHandle demoHier 2 .status (.ok ()) ⟨2, 0⟩)
        [] (.fn .returns) ⟨2, 0⟩).swallowedByReactor = false) ∧
    ((handleException demoHier (reactorHandleMovedToLogin demoHier 2 .login (.ok ()) ⟨2, 0⟩)
        [] (.fn .returns) ⟨2, 0⟩).swallowedByReactor = true ∧
      (handleException demoHier (reactorHandleMovedToLogin demoHier 2 .playingStatus (.ok ()) ⟨2, 0⟩)
        [] (.fn .returns) ⟨2, 0⟩).swallowedByReactor = false) ∧
    ((handleException demoHier (reactorHandleAnyException demoHier 1 .playingStatus (.ok ()) ⟨3, 0⟩)
        [] (.fn .returns) ⟨3, 0⟩).swallowedByReactor = true ∧
      isSub demoHier 3 2 = false) ∧
    -- (b) against the live code
    (∃ row ∈ Gen.c15Handle,
      rowOK (fun h c k fb e => reactorHandleMovedToStatus h c k fb e) row = false) ∧
    (∃ row ∈ Gen.c15Handle,
      rowOK (fun h c k fb e => reactorHandleMovedToLogin h c k fb e) row = false) ∧
    (∃ row ∈ Gen.c15Handle,
      rowOK (fun h _ k fb e => reactorHandleAnyException h Gen.c15Exception k fb e) row = false) := by
  decide +kernel

/-- A reader that enables decompression one frame late, or whose `encrypt` reaction leaves the
file object used by `read_packet` unwrapped, is refuted by `cut_delivers_complete_only_nested`
already on the UNCUT demo conversation: the first hands a wrong packet to the listeners (id 4
instead of 5), the second stops delivering behind the encryption request — while the real loop
delivers the conversation exactly. -/
theorem late_switch_refuted :
    (runThread demoClient .login [demoWire .login demoLogin]).view =
      refRun demoReact ⟨.login, false⟩ demoLogin ∧
    (threadLoopLateComp demoClient 33 false ⟨.login, false⟩
        (Sock.enc [] [demoWire .login demoLogin])).view ≠
      refRun demoReact ⟨.login, false⟩ demoLogin ∧
    (threadLoopLateComp demoClient 33 false ⟨.login, false⟩
        (Sock.enc [] [demoWire .login demoLogin])).delivered.take 3 =
      [(4, [9]), (3, [2]), (4, [5, 0x61, 0x62, 0x63])] ∧
    (threadLoopNoDecrypt demoClient 33 ⟨.login, false⟩
        (Sock.enc [] [demoWire .login demoLogin])).view ≠
      refRun demoReact ⟨.login, false⟩ demoLogin ∧
    (threadLoopNoDecrypt demoClient 33 ⟨.login, false⟩
        (Sock.enc [] [demoWire .login demoLogin])).delivered = demoLogin.take 5 := by
  decide +kernel

/-! ## non-vacuity -/

-- the hypotheses of the cut theorems hold for the demo conversation (compression switched on at
-- packet 2, cipher at packet 5, reactor at packet 7), cut inside the encrypted part, in three
-- segments; the conclusion with its concrete numbers: 5 complete frames in 22 bytes
example := cut_delivers_complete_only_nested (cfb8Pair toyE) (fun key : Bytes => key) Zlib.ident
  demoReact .login demoLogin (by decide +kernel) 22
  [(demoWire .login demoLogin).take 7, [], ((demoWire .login demoLogin).take 22).drop 7]
  (by decide +kernel)
example : Quiet demoReact .login demoLogin := by decide +kernel
example : (demoWire .login (demoLogin.take 5)).length ≤ 22 ∧
    22 < (demoWire .login (demoLogin.take 6)).length ∧
    (runThread demoClient .login
      [(demoWire .login demoLogin).take 7, [], ((demoWire .login demoLogin).take 22).drop 7]).view =
      (demoLogin.take 5, .raised .eof, ⟨.login, true⟩) := by decide +kernel
-- a stopping reaction inside the complete part: the login disconnect is delivered, then
-- `LoginDisconnect`, not `EOFError`; nothing behind it is read
example : (runThread demoClient .login [demoWire .login [(4, []), (0, [0x22]), (5, [])]]).view =
    ([(4, []), (0, [0x22])], .raised .other, ⟨.login, false⟩) := by decide +kernel
-- two encryption requests: two nested decryptors, still exact
example : (runThread demoClient .login
      [demoWire .login [(1, []), (5, [1]), (1, []), (5, [2]), (2, [])]]).view =
    ([(1, []), (5, [1]), (1, []), (5, [2]), (2, [])], .raised .eof, ⟨.playing, false⟩) := by
  decide +kernel
-- the stream ends at a frame boundary of the status connection (here: before any byte): the thread
-- raises `EOFError` — and so does `HsWire.clientRecvStatus`: `([], .eof)`
example : (runThread demoClient .playingStatus []).view = ([], .raised .eof, ⟨.playingStatus, false⟩)
    ∧ HsWire.clientRecvStatus [] = ([], .eof) := by decide +kernel
-- `status_cut_eof`, `status_cut_takes_fallback`: hypotheses satisfiable
example := status_cut_eof (cfb8Pair toyE) (fun key : Bytes => key) Zlib.ident demoReact "{}"
  (by decide +kernel) 3 (by decide +kernel) [[0x04], [0x00, 0x02]] (by decide +kernel)
example := status_cut_takes_fallback (stackPair (cfb8Pair toyE)) [] (stackInstall fun key => key)
  Zlib.ident demoReact demoReact_ok demoHandling demoEnv [47, 340] 47 340 (by decide +kernel)
  (by decide +kernel) (0, [0x7b, 0x7d]) (by decide +kernel) 2 (by decide +kernel)
  [(demoWire .playingStatus [(0, [0x7b, 0x7d])]).take 2] (by decide +kernel)
  (fun _ => .ok [(demoWire .login demoLogin).take 10]) 0
-- … and the whole session computed: status query cut after 2 bytes → EOFError swallowed, fallback
-- login with the default version 47 on the second connection, which is cut after 10 bytes → two
-- packets delivered, EOFError reported (recorded, class 2 = EOFError, final handler called)
example : ∃ l, connectRun demoClient demoHandling demoEnv [47, 340] 47
      [(demoWire .playingStatus [(0, [0x7b, 0x7d])]).take 2]
      (fun _ => .ok [(demoWire .login demoLogin).take 10]) 2 = .ok l ∧
    l.map (fun t => (t.plan, t.delivered, t.ending)) =
      [(.query 340, [], .raised .eof), (.direct 47, [(4, [9]), (3, [2])], .raised .eof)] ∧
    l.map (fun t => (t.reads, t.empties)) = [(3, 1), (7, 1)] ∧
    l.map (fun t => (t.outcome.map (·.swallowedByReactor), t.outcome.map (·.recorded),
      t.outcome.map finalArgCls)) =
      [(some true, some none, some 0), (some false, some (some ⟨2, 0⟩), some 2)] :=
  ⟨_, rfl, by decide +kernel, by decide +kernel, by decide +kernel⟩
-- the fallback connection refused: one thread, ConnectionRefusedError (class 5) reported
example : ∃ l, connectRun demoClient demoHandling demoEnv [47, 340] 47
      [(demoWire .playingStatus [(0, [0x7b, 0x7d])]).take 2] (fun _ => .error ⟨5, 9⟩) 2 = .ok l ∧
    l.map (fun t => (t.plan, t.ending)) = [(.query 340, .raised .eof)] ∧
    l.map (fun t => (t.outcome.map (·.swallowedByReactor), t.outcome.map (·.recorded),
      t.outcome.map finalArgCls)) = [(some false, some (some ⟨5, 9⟩), some 5)] :=
  ⟨_, rfl, by decide +kernel, by decide +kernel⟩
-- the uncut status answer: negotiated, second thread a direct login with the server's version
example : ∃ l, connectRun demoClient demoHandling demoEnv [47, 340] 340
      [demoWire .playingStatus [(0, [0x7b, 0x7d])]] (fun _ => .ok []) 2 = .ok l ∧
    l.map (fun t => (t.plan, t.delivered, t.ending)) =
      [(.query 340, [(0, [0x7b, 0x7d])], .negotiated 47), (.direct 47, [], .raised .eof)] ∧
    l.map (fun t => t.outcome.map (·.recorded)) = [none, some (some ⟨2, 0⟩)] :=
  ⟨_, rfl, by decide +kernel, by decide +kernel⟩
example := connect_bounded demoClient demoHandling demoEnv [47, 340] 47
  [(demoWire .playingStatus [(0, [0x7b, 0x7d])]).take 2]
  (fun _ => .ok [(demoWire .login demoLogin).take 10]) demoReact_ok 0 _ rfl
example := login_cut_reports demoClient demoReact_ok demoHandling demoEnv [47] 340 47
  (by decide +kernel) [(demoWire .login demoLogin).take 10] (fun _ => .error ⟨5, 0⟩) 0

end PyCraft.C15Thread
