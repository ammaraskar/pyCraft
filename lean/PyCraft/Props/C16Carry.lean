import PyCraft.Lemmas.C16Carry
import PyCraft.Model.Frame
/-!
# C16 (with C11, C10): what one `Connection` object carries from a session into the next

Model: `PyCraft/Model/C16Carry.lean` (`minecraft/networking/connection.py`).  All theorems are about
the unchanged program `Variant.real`; the two CHANGED programs `Variant.chg1` / `Variant.chg2`
appear only in the refutations at the end.
-/
namespace PyCraft.C16Carry
open PyCraft PyCraft.Carry

/-! ## every session starts clean -/

/-- **Every session starts clean.**  Take a fresh object (any allowed versions, any default
version, with or without an exit callback) and ANY history of operations on it — any number of
earlier sessions, each with any compression threshold and/or encryption negotiated, in login, play
or status state, ended by a user `disconnect` (immediate or flushing, the flush failing or not), a
server disconnect packet, an error with or without a handler that reconnects, a refused or
unresolvable TCP connect; packets left in the queue or not.  Then EVERY `connect()` / `status()` of
that history that returned normally — including those made from inside an exception handler, the
exit callback or `PlayingStatusReactor` — left the object in exactly the state of the first
`connect()` on a fresh object with the same allowed versions: compression off (threshold −1), plain
socket and plain file object, the outgoing queue holding just the handshake and the login start
(or the status request), the login (or status) reactor, `spawned = False`, `connected = True`.
(`run … ops).starts` is the log of the views taken right after each such call; the proof is an
invariant (`Carry.Inv`) carried by induction over the list of operations.) -/
theorem every_session_starts_clean (c : Cfg) (ops : List Op) :
    ∀ e ∈ (run .real (fresh c) ops).starts, e.clean = true :=
  (inv_run ops (inv_fresh c)).starts

/-- The same, one call at a time and without any assumption on the state (reachable or not): a
`connect()` that returns normally produces the view of the first `connect()` of a fresh object with
the same allowed versions. -/
theorem connect_resets_everything (s s' : Obj) (r : Net) (c : Cfg)
    (h : connect .real s r = (s', .ok)) (hc : c.allowed = s.allowed) :
    s'.view = (connect .real (fresh c) .ok).1.view ∧ s'.view = cleanConnectView s.allowed := by
  have h1 := connect_ok_view h
  refine ⟨?_, h1⟩
  rw [h1, ← hc]
  by_cases hl : c.allowed.length = 1 <;>
    simp [connect, busy, fresh, connectSock, Variant.real, startThread, push, logStart, Obj.view,
      cleanConnectView, hl]

/-- … and in a history: whatever came before, if the next `connect()` returns normally, the object
is in the clean start state (spelled out field by field for the single-version case). -/
theorem connect_after_any_history (c : Cfg) (ops : List Op) (r : Net) (s' : Obj)
    (h : connect .real (run .real (fresh c) ops) r = (s', .ok))
    (h1 : (run .real (fresh c) ops).allowed.length = 1) :
    s'.compEnabled = false ∧ s'.compThreshold = -1 ∧ s'.socket = .open false ∧
    s'.file = .open false ∧
    s'.queue = some [.handshake (latest (run .real (fresh c) ops).allowed) 2, .loginStart] ∧
    s'.reactor = .login ∧ s'.spawned = some false ∧ s'.connected = true := by
  have hv := connect_ok_view h
  simp only [cleanConnectView, h1, if_true] at hv
  simp only [Obj.view, View.mk.injEq] at hv
  exact hv

/-- A refused TCP connect (`socket.connect` raises at line 451) has reset NOTHING but the queue and
the socket object: compression options, `connected`, `file_object`, reactor, `exception` are those
of the previous session, and no thread was started. -/
theorem refused_connect_resets_only_queue (s : Obj) (hb : busy s = false) :
    let s' := (connect .real s .refused).1
    (connect .real s .refused).2 = .exc .refused ∧
    s'.queue = some [] ∧ s'.socket = .unconnected ∧
    s'.compEnabled = s.compEnabled ∧ s'.compThreshold = s.compThreshold ∧
    s'.connected = s.connected ∧ s'.file = s.file ∧ s'.reactor = s.reactor ∧ s'.exc = s.exc ∧
    s'.nt = s.nt ∧ s'.newNt = s.newNt ∧ s'.spawned = some false := by
  simp [connect, hb, connectSock]

/-! ## what is written matches what was negotiated on THIS transport -/

/-- **Every frame is written the way the current transport negotiated.**  In every history, every
frame ever written used as `compression_threshold` argument exactly the threshold the server OF THAT
TRANSPORT had set (none if it had set none), and went through an `EncryptedSocketWrapper` iff that
server had requested encryption.  Nothing negotiated on an earlier transport leaks. -/
theorem frames_match_transport (c : Cfg) (ops : List Op) :
    ∀ w ∈ (run .real (fresh c) ops).wire, w.thr = w.srvThr ∧ w.enc = w.srvEnc :=
  (inv_run ops (inv_fresh c)).wire

/-- **Byte-level corollary: the first frames of every session carry no data-length field.**  For
any serialisation `payload` of the packets and any zlib: every frame written on a transport whose
server had not (yet) sent Set Compression is `VarInt(len(payload)) ++ payload` (`Model/Frame.lean`'s
`frame` with `thr = none`), and it is written to the plain socket if the server had not requested
encryption. -/
theorem first_frames_have_no_data_length (c : Cfg) (ops : List Op) (z : ZlibOps)
    (payload : Pkt → Bytes) :
    ∀ w ∈ (run .real (fresh c) ops).wire, w.srvThr = none →
      frame z w.thr (payload w.pkt) = encVarInt (payload w.pkt).length ++ payload w.pkt ∧
      (w.srvEnc = false → w.enc = false) := by
  intro w hw hs
  obtain ⟨h1, h2⟩ := frames_match_transport c ops w hw
  rw [h1, hs]
  exact ⟨rfl, fun h => by rw [h2, h]⟩

/-! ## the exit callback -/

/-- **`_handle_exit` runs the callback exactly when `connected` is False** — whatever `exception`
holds from earlier sessions (and appends exactly one entry to the callback log when it does). -/
theorem exit_callback_iff_not_connected (s : Obj) (t : Thr) (hx : s.hasExit = true) :
    ((handleExit .real s t).2 = true ↔ s.connected = false) ∧
    (handleExit .real s t).1.exits = (if s.connected then s.exits else s.exits ++ [t.sess]) := by
  cases hc : s.connected <;> simp [handleExit, hc, hx, Variant.real]

/-- **After a server disconnect packet the exit callback runs exactly once**, in any state reached
by any earlier history — in particular with `exception` still holding the error of a failed earlier
attempt: if a networking thread `t` is running un-interrupted in play state (no successor pending),
then [disconnect packet arrives; the thread leaves `_run`] appends exactly one call (that thread's)
to the callback log, closes the socket and leaves `connected = False`. -/
theorem server_disconnect_runs_exit_once (s : Obj) (t : Thr) (fail : Option Nat) (h : Handler)
    (hnt : s.nt = some t) (hi : t.intr = false) (hnew : s.newNt = none)
    (hre : s.reactor = .play) (hx : s.hasExit = true) :
    let s' := run .real s [.recv (.disconnect fail) h, .exit none]
    s'.exits = s.exits ++ [t.sess] ∧ s'.connected = false ∧ s'.nt = none := by
  obtain ⟨w, q, fl, sk, ce, ct, hd⟩ := disconnect_frame .real s false fail
  have hstep1 : (step .real s (.recv (.disconnect fail) h)).1 = disconnect .real s false fail := by
    simp [step, hnt, hi, react, hre, reactPlay]
  simp only [run, hstep1, hd, interruptTarget, hnew, hnt]
  simp [step, endByExit, handleExit, hx, epilogue, Variant.real]

/-! ## the recorded exception -/

/-- **The recorded exception is the last session's.**  When thread `t` ends with an error `e`
(anything but the `EOFError` that `PlayingStatusReactor` swallows), `exception` afterwards was
recorded by `t` itself — never a leftover of an earlier session, never `None` — and it is `e`
unless a handler's own `connect()` raised (then it is that exception, as documented): also when a
handler started a successor session. -/
theorem recorded_exception_is_last (s : Obj) (t : Thr) (e : ExcKind) (h : Handler)
    (hnt : s.nt = some t) (hre : ¬(s.reactor = .playingStatus ∧ e = .eof)) :
    ∃ k, (step .real s (.error e h)).1.exc = some ⟨t.sess, k⟩ ∧
      (h.reconnects = false → k = e) ∧
      (∀ s1, connect .real { s with nt := some { t with intr := true } } h.net = (s1, .ok) →
        k = e) := by
  simp only [step, hnt, endByError_exc s t e h hnt hre]
  refine ⟨_, rfl, ?_, ?_⟩
  · intro hr; simp [userHandlers, hr]
  · intro s1 hc
    unfold userHandlers
    split
    · simp [hc]
    · rfl

/-- … and the successor the handler started is untouched by the failing thread's clean-up: after
[error `e`; a handler calls `connect()`, which succeeds] the object is connected on a NEW transport
in the clean start state, the new thread owns `networking_thread`, and `exception` is the failed
session's `e`. -/
theorem handler_successor_survives (s : Obj) (t : Thr) (e : ExcKind)
    (hnt : s.nt = some t) (hnew : s.newNt = none)
    (hre : ¬(s.reactor = .playingStatus ∧ e = .eof)) :
    let s' := (step .real s (.error e ⟨true, .ok⟩)).1
    s'.view = cleanConnectView s.allowed ∧ s'.nt = some ⟨false, s.sess + 1⟩ ∧ s'.newNt = none ∧
    s'.exc = some ⟨t.sess, e⟩ ∧ s'.sess = s.sess + 1 := by
  by_cases h1 : s.allowed.length = 1 <;>
    simp [step, hnt, endByError, handleException, reactorHandles, hre, userHandlers, connect, busy,
      hnew, connectSock, Variant.real, startThread, push, logStart, finalCheck, epilogue, Obj.view,
      cleanConnectView, h1]

/-! ## the two changed programs are told apart -/

/-- CHANGED PROGRAM (1) (compression reset moved from `_connect` to `disconnect`) violates
`every_session_starts_clean`: login with Set Compression 64, the transport dies (EOF), an exception
handler reconnects — the new session starts with compression still enabled. -/
theorem chg1_violates_starts_clean :
    ¬ ∀ e ∈ (run .chg1 (fresh ⟨[340], 340, true⟩)
        [.connect .ok, .flush 300 none, .recv (.setCompression 64) Handler.none,
         .error .eof ⟨true, .ok⟩]).starts, e.clean = true := by
  decide +kernel

/-- … and `frames_match_transport` / the byte-level corollary: the handshake of the new session is
written WITH a data-length field (threshold 64) although the new server negotiated nothing. -/
theorem chg1_violates_frames_match :
    ¬ ∀ w ∈ (run .chg1 (fresh ⟨[340], 340, true⟩)
        [.connect .ok, .flush 300 none, .recv (.setCompression 64) Handler.none,
         .error .eof ⟨true, .ok⟩, .flush 300 none]).wire, w.thr = w.srvThr ∧ w.enc = w.srvEnc := by
  decide +kernel

/-- The unchanged program on the same two histories (so the refutations are about the change). -/
example :
    (∀ e ∈ (run .real (fresh ⟨[340], 340, true⟩)
        [.connect .ok, .flush 300 none, .recv (.setCompression 64) Handler.none,
         .error .eof ⟨true, .ok⟩]).starts, e.clean = true) ∧
    (∀ w ∈ (run .real (fresh ⟨[340], 340, true⟩)
        [.connect .ok, .flush 300 none, .recv (.setCompression 64) Handler.none,
         .error .eof ⟨true, .ok⟩, .flush 300 none]).wire, w.thr = w.srvThr ∧ w.enc = w.srvEnc) :=
  ⟨every_session_starts_clean _ _, frames_match_transport _ _⟩

/-- The history of C11's scenario: a first attempt fails (the server rejects the login), the user
connects again, logs in, the server sends a disconnect packet, the thread leaves `_run`. -/
def retryHistory : List Op :=
  [.connect .ok, .flush 300 none, .recv (.disconnect none) Handler.none,
   .connect .ok, .flush 300 none, .recv .loginSuccess Handler.none,
   .recv (.disconnect none) Handler.none, .exit none]

/-- Unchanged program: after [failed attempt; connect; server disconnect packet] the callback has
run exactly once (for the second session), although `exception` still holds the first session's
`LoginDisconnect`. -/
theorem exit_once_after_failed_attempt :
    (run .real (fresh ⟨[340], 340, true⟩) retryHistory).exits = [2] ∧
    (run .real (fresh ⟨[340], 340, true⟩) retryHistory).exc = some ⟨1, .loginDisconnect⟩ := by
  decide +kernel

/-- CHANGED PROGRAM (2) (`_handle_exit` also tests `self.exception is None`) violates
`exit_callback_iff_not_connected` … -/
theorem chg2_violates_exit_iff :
    ¬ ∀ (s : Obj) (t : Thr), s.hasExit = true →
      ((handleExit .chg2 s t).2 = true ↔ s.connected = false) := by
  intro h
  have := h { fresh ⟨[340], 340, true⟩ with exc := some ⟨1, .eof⟩ } ⟨true, 2⟩ rfl
  revert this
  decide +kernel

/-- … and on the retry history the exit callback never runs. -/
theorem chg2_violates_exit_once :
    (run .chg2 (fresh ⟨[340], 340, true⟩) retryHistory).exits = [] := by
  decide +kernel

/-! ## non-vacuity: the hypotheses are met by real multi-session histories -/

/-- Two sessions, the first with compression AND encryption negotiated and ended by an error whose
handler reconnects; every call returns normally, two transports, two clean starts, frames written
compressed + encrypted on the first transport and plain on the second. -/
example :
    let ops : List Op :=
      [.connect .ok, .flush 300 none, .recv (.setCompression 64) Handler.none,
       .recv .encryptionRequest Handler.none, .recv .loginSuccess Handler.none,
       .recv (.keepAlive 5) Handler.none, .flush 300 none, .write 1,
       .error .eof ⟨true, .ok⟩, .flush 300 none]
    let s := run .real (fresh ⟨[340], 340, true⟩) ops
    s.sess = 2 ∧ s.starts.length = 2 ∧ s.wire.length = 6 ∧
    s.wire.map (fun w => (w.sess, w.thr, w.enc)) =
      [(1, none, false), (1, none, false), (1, some 64, false), (1, some 64, true),
       (2, none, false), (2, none, false)] ∧
    s.exc = some ⟨1, .eof⟩ ∧ s.connected = true := by
  decide +kernel

/-- Three sessions: (1) status query that yields the version, (2) login with compression 256 and
encryption, play, server disconnect packet, exit callback reconnects, (3) login with another
threshold, user disconnect with a packet left unflushed. -/
example :
    let ops : List Op :=
      [.connect .ok, .flush 300 none, .recv (.response (some 47) .ok) Handler.none, .exit none,
       .flush 300 none, .recv (.setCompression 256) Handler.none,
       .recv .encryptionRequest Handler.none, .recv .loginSuccess Handler.none,
       .recv (.position 3) Handler.none, .recv (.setCompression 0) Handler.none,
       .recv (.disconnect none) Handler.none, .exit (some .ok),
       .flush 300 none, .recv (.setCompression 1) Handler.none, .recv .loginSuccess Handler.none,
       .write 7, .disconnect true none, .exit none]
    let s := run .real (fresh ⟨[47, 340], 340, true⟩) ops
    s.sess = 3 ∧ s.starts.length = 3 ∧ (∀ e ∈ s.starts, e.clean = true) ∧ s.exits = [2, 3] ∧
    s.queue = some [.user 7] ∧ s.compEnabled = true ∧ s.compThreshold = 1 ∧
    (outcomes .real (fresh ⟨[47, 340], 340, true⟩) ops).all (· == .ok) = true := by
  decide +kernel

/-- The hypotheses of `server_disconnect_runs_exit_once`, `recorded_exception_is_last` and
`handler_successor_survives` hold in a state reached by a real history (a failed first attempt, a
retry that got to play state with compression and encryption on). -/
example :
    let s := run .real (fresh ⟨[340], 340, true⟩)
      [.connect .ok, .flush 300 none, .recv (.disconnect none) Handler.none, .connect .ok,
       .flush 300 none, .recv (.setCompression 64) Handler.none,
       .recv .encryptionRequest Handler.none, .recv .loginSuccess Handler.none]
    s.nt = some ⟨false, 2⟩ ∧ s.newNt = none ∧ s.reactor = .play ∧ s.hasExit = true ∧
    s.exc = some ⟨1, .loginDisconnect⟩ ∧ s.compEnabled = true ∧ s.socket = .open true := by
  decide +kernel

/-- `connect_resets_everything` / `connect_after_any_history`: a normally returning `connect()`
after such a history exists. -/
example :
    (connect .real (run .real (fresh ⟨[340], 340, true⟩)
      [.connect .ok, .flush 300 none, .recv (.setCompression 64) Handler.none,
       .recv .encryptionRequest Handler.none, .write 3, .disconnect true none]) .ok).2 = .ok := by
  decide +kernel

/-- `refused_connect_resets_only_queue`: its hypothesis holds after a session that negotiated
compression and ended by an error, and the stale options are indeed still there. -/
example :
    let s := run .real (fresh ⟨[340], 340, true⟩)
      [.connect .ok, .flush 300 none, .recv (.setCompression 64) Handler.none,
       .error .eof Handler.none]
    busy s = false ∧ (connect .real s .refused).1.compEnabled = true := by
  decide +kernel

end PyCraft.C16Carry
