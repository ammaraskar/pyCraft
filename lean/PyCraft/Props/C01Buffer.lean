import PyCraft.Lemmas.PacketBuffer
/-!
# C01 (extension) — the scratch buffer between the codec and the socket (`PacketBuffer`)

`Packet.write` assembles every frame in a `PacketBuffer` (sends, then `get_writable`) and
`PacketReactor.read_packet` reads every frame back out of one (sends, `reset_cursor`, then reads).
The frame theorems of `Props/C01` treat that buffer as a byte list; this file proves that the real
object — one cursor shared by `write` and `read`, `write` overwriting at the cursor — behaves as a
byte list under exactly that discipline, for every sequence of operations, and shows where it does
not (a `send` after `reset_cursor` overwrites).  Tie: `pbuf.run` against the live `PacketBuffer`
over random operation sequences (`corr/c01.py`).
-/
namespace PyCraft.C01Buffer
open PyCraft PyCraft.PBuf

/-- The cursor never passes the end of the contents. -/
def Inv (s : St) : Prop := s.pos ≤ s.buf.length

theorem step_inv (s : St) (op : Op) (h : Inv s) : Inv (step s op).1 := by
  unfold Inv at *
  cases op with
  | send v => simp [step, List.length_append, List.length_take, List.length_drop]; omega
  | read n =>
    cases n with
    | none => simp [step, List.length_drop]; omega
    | some n => simp [step, List.length_take, List.length_drop]; omega
  | reset => simp [step, init]
  | rewind => simp [step]
  | getw => simpa [step] using h

/-- … in every reachable state (so `BytesIO`'s zero padding of a write beyond the end never occurs). -/
theorem run_inv (ops : List Op) : ∀ s, Inv s → Inv (run s ops).1 := by
  induction ops with
  | nil => intro s h; simpa [run] using h
  | cons op ops ih => intro s h; simpa [run] using ih _ (step_inv s op h)

theorem reachable_inv (ops : List Op) : Inv (run init ops).1 :=
  run_inv ops init (by simp [Inv, init])

theorem run_append (a b : List Op) : ∀ s,
    run s (a ++ b) = ((run (run s a).1 b).1, (run s a).2 ++ (run (run s a).1 b).2) := by
  induction a with
  | nil => intro s; simp [run]
  | cons op a ih =>
    intro s
    simp only [List.cons_append, run, ih]
    cases (step s op).2 <;> simp

/-- Write phase.  With the cursor at the end (a fresh or reset buffer, or after earlier sends), any
number of `send`s appends: contents = old contents ++ all values in order, cursor at the end again,
nothing returned. -/
theorem sends_append (vs : List Bytes) : ∀ s, s.pos = s.buf.length →
    run s (vs.map .send) = (⟨s.buf ++ vs.flatten, s.buf.length + vs.flatten.length⟩, []) := by
  induction vs with
  | nil => intro s h; cases s; simp_all [run]
  | cons v vs ih =>
    intro s h
    simp only [List.map_cons, run, step_send_at_end s v h]
    rw [ih ⟨s.buf ++ v, s.buf.length + v.length⟩ (by simp)]
    simp [List.append_assoc, Nat.add_assoc]

/-- Read phase.  Any number of sized `read`s returns the consecutive pieces of what lies after the
cursor, and never changes the contents. -/
theorem reads_chunk (ns : List Nat) : ∀ s,
    (run s (ns.map (fun n => .read (some n)))).2 = chunks (s.buf.drop s.pos) ns ∧
    (run s (ns.map (fun n => .read (some n)))).1.buf = s.buf := by
  induction ns with
  | nil => intro s; simp [run, chunks]
  | cons n ns ih =>
    intro s
    obtain ⟨h1, h2⟩ := ih ⟨s.buf, s.pos + ((s.buf.drop s.pos).take n).length⟩
    simp only [List.map_cons, run, step, chunks]
    refine ⟨?_, h2⟩
    rw [h1]
    congr 1
    show chunks (List.drop (s.pos + _) s.buf) ns = _
    rw [← List.drop_drop, drop_take_length]

/-- The pieces, concatenated, are a prefix of the byte string — nothing skipped, nothing twice. -/
theorem chunks_flatten (ns : List Nat) : ∀ bs, (chunks bs ns).flatten = bs.take ns.sum := by
  induction ns with
  | nil => intro bs; simp [chunks]
  | cons n ns ih => intro bs; simp [chunks, ih, List.take_add]

/-- The discipline of `read_packet` (fresh buffer: sends, `reset_cursor`, sized reads): the reads
return the consecutive pieces of the concatenation of everything sent. -/
theorem write_then_read (vs : List Bytes) (ns : List Nat) :
    (run init (vs.map .send ++ [.rewind] ++ ns.map (fun n => .read (some n)))).2
      = chunks vs.flatten ns := by
  rw [List.append_assoc, run_append, sends_append vs init rfl]
  simp only [init, List.nil_append, List.length_nil, Nat.zero_add, List.cons_append, run, step]
  exact (reads_chunk ns ⟨vs.flatten, 0⟩).1

/-- The discipline of `Packet.write` (fresh buffer: sends, then `get_writable`): the concatenation. -/
theorem write_then_get (vs : List Bytes) :
    (run init (vs.map .send ++ [.getw])).2 = [vs.flatten] := by
  rw [run_append, sends_append vs init rfl]
  simp [init, run, step]

/-- `read()` with no length returns everything after the cursor and leaves the cursor at the end. -/
theorem read_all (s : St) (h : Inv s) :
    step s (.read none) = (⟨s.buf, s.buf.length⟩, some (s.buf.drop s.pos)) := by
  unfold Inv at h
  simp [step, List.length_drop]; omega

/-- `reset` forgets everything, from any state. -/
theorem reset_fresh (s : St) : (step s .reset).1 = init := rfl

/-- Outside the discipline the buffer is NOT a byte list: a `send` after `reset_cursor` overwrites
the beginning instead of appending (`BytesIO.write` stores at the cursor). -/
theorem send_after_rewind_overwrites :
    (run init [.send [1, 2, 3], .rewind, .send [9], .getw]).2 = [[9, 2, 3]] := by decide

-- non-vacuity
example : (run init [.send [1, 2], .send [3], .rewind, .read (some 1), .read (some 5), .read (some 1)]).2
    = [[1], [2, 3], []] := by decide
example : (run init ([[1, 2], [3]].map .send ++ [.getw])).2 = [[1, 2, 3]] := write_then_get _
example : Inv (run init [.send [1, 2], .rewind, .read none, .send [7]]).1 := reachable_inv _

end PyCraft.C01Buffer
