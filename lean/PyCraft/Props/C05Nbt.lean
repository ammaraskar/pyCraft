import PyCraft.Lemmas.C05Nbt
import PyCraft.Generated.C05Nbt
import PyCraft.Props.C05
/-!
# C05, the NBT-bearing classes (audit gap 13)

`Props/C05.lean` says nothing about a layout with an NBT field: `realDom .nbt _ = False`, so
`generated_layouts_rt` is vacuous for JoinGamePacket at every version ≥ 718 and RespawnPacket ≥ 748,
and `generated_layouts_inhabited` excludes exactly those.  Here:

1. (the reviewer's formulation) the NBT codec is a PARAMETER `n : NbtCodec` with an explicit law
   `NbtLaw n nd`; with it `realCustomWith n` obeys `CustomLaw`, hence every C02/C05 theorem holds for
   every layout, NBT included (`layout_rt_nbt`, `generated_layouts_rt_nbt`), and every generated layout
   has in-domain values as soon as `nd` is inhabited (`generated_layouts_inhabited_all`).
2. (stronger than proposed) the law is not left as a trusted assumption about pynbt: `NBT.send` /
   `NBT.read` (`types/basic.py:349-359`) and the pynbt code they run are modelled literally
   (`Model/C05Nbt.lean`) and the law is PROVED for the model (`pynbt_law`), assuming only the
   round trip of the `mutf8` string codec below pynbt (`Mutf8Law`, two equations; satisfied by
   `Mutf8.utf8`).  So a change of `NBT.read` / `NBT.send` is a change of the model — three such
   changes are refuted below (`*_refuted`) — and the instantiated theorems
   (`generated_layouts_rt_pynbt`, `generated_layouts_inhabited_pynbt`) have no NBT hypothesis left.
3. the model is pinned to the live code by tables generated on every run (`Generated/C05Nbt.lean`):
   what the live `NBT.send` wrote, what the live `NBT.read` returned (regular inputs, every strict
   prefix, irregular inputs), and what `write_fields` of the NBT-bearing classes produced under the
   first and last supported version of every distinct layout (`live_*`).

Why the reviewer's `NbtLaw` alone is imprecise: with `n` abstract, `basic.py:349-359` has no
counterpart in Lean at all — any edit of those lines is still invisible; and the law cannot be
discharged by "prefix ⇒ error" per tag as for the other types, because pynbt does NOT detect a short
`src.read(n)` (byte arrays, strings): a truncated payload is read "successfully".  The law holds only
because the root compound ends with a `TAG_End` byte read by `struct` (`Lemmas/C05Nbt.lean`, `Soft0`).
-/
namespace PyCraft.C05Nbt
open PyCraft PyCraft.Gen PyCraft.LayoutCheck PyCraft.Nbt

/-! ## 1. any lawful NBT codec -/

section generic
variable {n : NbtCodec} {nd : Value → Prop}

/-- With an NBT codec obeying `NbtLaw` in the `.nbt` slot, ALL custom types of the library — NBT
included — obey the law C02 asks for: in-domain values encode to non-empty bytes that are read back
exactly whatever follows, and no strict prefix of which is accepted. -/
theorem real_custom_law_with (h : NbtLaw n nd) : CustomLaw (realCustomWith n) (realDomWith nd) := by
  refine ⟨fun c v rest hw => ?_, fun c v bs hw he p hp hne => ?_⟩
  · cases c with
    | nbt => exact h.rt v rest hw
    | _ => exact realCustomLaw.rt _ v rest hw
  · cases c with
    | nbt => exact h.prefixErr v bs hw he p hp hne
    -- `by exact`: which custom type `hw` speaks of is only known once `he` has been matched
    | _ => exact realCustomLaw.prefixErr _ v bs (by exact hw) he p hp hne

/-- Plugging an NBT codec in changes nothing else: on a layout without NBT field the new codec
writes and reads exactly what `realCustom` does, and values in the old domain are in the new one — so
the theorems of `Props/C05.lean` are instances of the ones below. -/
theorem conservative (L : Layout) (hL : Layout.hasNbt L = false) :
    (∀ vals, encodeFields (realCustomWith n) L vals = encodeFields realCustom L vals) ∧
    (∀ bs, decodeFields (realCustomWith n) L bs = decodeFields realCustom L bs) ∧
    ∀ vals, WellTypedFields realDom L vals → WellTypedFields (realDomWith nd) L vals :=
  ⟨encodeFields_with_eq n L hL, decodeFields_with_eq n L hL, wellTypedFields_with nd L⟩

/-- C05 round trip for ANY admissible layout, NBT fields allowed (anywhere, also inside arrays):
writing in-domain values succeeds; reading the bytes back returns exactly the values and consumes
the payload exactly; when every field is self-delimiting the same holds with any continuation. -/
theorem layout_rt_nbt (h : NbtLaw n nd) (L : Layout) (vals : List Value) (hok : L.ok = true)
    (hw : WellTypedFields (realDomWith nd) L vals) :
    ∃ bs, encodeFields (realCustomWith n) L vals = .ok bs ∧
      (L.allSD = true → ∀ rest, decodeFields (realCustomWith n) L (bs ++ rest) = .ok (vals, rest)) ∧
      decodeFields (realCustomWith n) L bs = .ok (vals, []) :=
  C05.layout_rt (real_custom_law_with h) L vals hok hw

/-- Truncation is detected also with NBT fields: reading a strict prefix of a written body of
self-delimiting fields raises. -/
theorem layout_prefix_err_nbt (h : NbtLaw n nd) (L : Layout) (vals : List Value)
    (hs : L.allSD = true) (hw : WellTypedFields (realDomWith nd) L vals) (bs : Bytes)
    (he : encodeFields (realCustomWith n) L vals = .ok bs) (p : Bytes) (hp : p <+: bs)
    (hne : p ≠ bs) : ∃ e, decodeFields (realCustomWith n) L p = .error e :=
  C05.layout_prefix_err (real_custom_law_with h) L vals hs hw bs he p hp hne

/-- C05 on the live tables, NO layout excepted: every generated field layout — every packet class of
every table whose codec is the generic one, under every protocol version it is registered for,
JoinGamePacket ≥ 718 and RespawnPacket ≥ 748 included — round-trips. -/
theorem generated_layouts_rt_nbt (h : NbtLaw n nd) :
    ∀ t ∈ layoutTables, ∀ row ∈ t.2, ∀ var ∈ row.2, ∀ L, var.1 = some L →
      ∀ vals, WellTypedFields (realDomWith nd) L vals →
        ∃ bs, encodeFields (realCustomWith n) L vals = .ok bs ∧
          (Layout.allSD L = true → ∀ rest,
            decodeFields (realCustomWith n) L (bs ++ rest) = .ok (vals, rest)) ∧
          decodeFields (realCustomWith n) L bs = .ok (vals, []) :=
  fun t ht row hrow var hvar L hL vals hw =>
    layout_rt_nbt h L vals (C05.generated_layouts_ok t ht row hrow var hvar L hL).1 hw

/-- Non-vacuity on the live tables, NO layout excepted: as soon as one value is in the NBT domain,
every generated layout has in-domain values. -/
theorem generated_layouts_inhabited_all (hv : ∃ v, nd v) :
    ∀ t ∈ layoutTables, ∀ row ∈ t.2, ∀ var ∈ row.2, ∀ L, var.1 = some L →
      ∃ vals, WellTypedFields (realDomWith nd) L vals := by
  obtain ⟨nv, hnv⟩ := hv
  exact fun _ _ _ _ _ _ L _ => ⟨_, sampleWith_wellTypedFields hnv L⟩

end generic

/-! ## 2. the NBT codec the library really has: `NBT.send` / `NBT.read` over pynbt -/

section real
variable {m : Mutf8}

/-- The model of `NBT.send` / `NBT.read` (basic.py:349-359, pynbt.py) obeys the law: a root named
`''` whose tags are in range (`nbtDom`: `struct` ranges, strings ≤ 32767 encoded bytes, homogeneous
lists, distinct keys, nesting ≤ 512) is written to a non-empty byte string starting `0A 00 00`, read
back EXACTLY (same tags, same order, root name `''`) whatever follows, and no strict prefix of it is
accepted.  Only assumption: `mutf8` decodes what it encodes and encodes `''` as no bytes. -/
theorem pynbt_law (hm : Mutf8Law m) : NbtLaw (pynbt m) (nbtDom m) := by
  have key : ∀ v, nbtDom m v → ∃ es bs, v = rootValue "" es ∧ nbtSend m v = .ok bs ∧ bs ≠ [] ∧
      (∀ rest, nbtRead m (bs ++ rest) = .ok (v, rest)) ∧
      ∀ p, p <+: bs → p ≠ bs → ∃ e, nbtRead m p = .error e := by
    intro v hv
    obtain ⟨es, rfl, hw⟩ := (nbtDom_iff m v).mp hv
    simp only [rootWf, Bool.and_eq_true, decide_eq_true_eq] at hw
    obtain ⟨bs, h1, h2, h3, h4⟩ := file_rt hm es maxDepth hw.1.1 hw.1.2 hw.2
    refine ⟨es, bs, rfl, ?_, h2, fun rest => ?_, fun p hp hne => ?_⟩
    · unfold nbtSend; rw [ofRootValue_rootValue]; exact h1
    · unfold nbtRead; rw [h3]; rfl
    · obtain ⟨e, he⟩ := h4 p hp hne
      exact ⟨e, by unfold nbtRead; rw [he]; rfl⟩
  refine ⟨fun v rest hv => ?_, fun v bs hv he p hp hne => ?_⟩
  · obtain ⟨_, bs, _, h1, h2, h3, _⟩ := key v hv
    exact ⟨bs, h1, h2, h3 rest⟩
  · obtain ⟨_, bs', _, h1, _, _, h4⟩ := key v hv
    have : bs = bs' := by
      have := he.symm.trans h1
      cases this; rfl
    subst this
    exact h4 p hp hne

/-- what the domain is, without the `Value` encoding -/
theorem nbtDom_spec (v : Value) : nbtDom m v ↔ ∃ es, v = rootValue "" es ∧ rootWf m es = true :=
  nbtDom_iff m v

/-- the same at the level of tags, with the bytes: `NBTFile(value=es).save` then `NBTFile(io=…)` -/
theorem file_roundtrip (hm : Mutf8Law m) (es : Entries) (hw : rootWf m es = true) :
    ∃ bs, saveFile m "" es = .ok bs ∧ bs ≠ [] ∧
      (∀ rest, loadFile m maxDepth (bs ++ rest) = .ok (("", es), rest)) ∧
      ∀ p, p <+: bs → p ≠ bs → ∃ e, loadFile m maxDepth p = .error e := by
  simp only [rootWf, Bool.and_eq_true, decide_eq_true_eq] at hw
  exact file_rt hm es maxDepth hw.1.1 hw.1.2 hw.2

/-- `NBT.send` ignores the root name of what it is given: the bytes are those of the root named `''`
— so a value with another root name is written, but does not come back equal. -/
theorem send_drops_root_name (name : String) (es : Entries) :
    nbtSend m (rootValue name es) = nbtSend m (rootValue "" es) := by
  rw [nbtSend_rootValue, nbtSend_rootValue]

theorem real_custom_law_nbt (hm : Mutf8Law m) : CustomLaw (realCustomNbt m) (realDomNbt m) :=
  real_custom_law_with (pynbt_law hm)

/-- C05 on the live tables with the real NBT codec: every generated layout round-trips — no
hypothesis about NBT left. -/
theorem generated_layouts_rt_pynbt (hm : Mutf8Law m) :
    ∀ t ∈ layoutTables, ∀ row ∈ t.2, ∀ var ∈ row.2, ∀ L, var.1 = some L →
      ∀ vals, WellTypedFields (realDomNbt m) L vals →
        ∃ bs, encodeFields (realCustomNbt m) L vals = .ok bs ∧
          (Layout.allSD L = true → ∀ rest,
            decodeFields (realCustomNbt m) L (bs ++ rest) = .ok (vals, rest)) ∧
          decodeFields (realCustomNbt m) L bs = .ok (vals, []) :=
  generated_layouts_rt_nbt (pynbt_law hm)

/-- … and every generated layout, the NBT ones included, has in-domain values (the empty dict for
the NBT fields), whatever `mutf8` is. -/
theorem generated_layouts_inhabited_pynbt :
    ∀ t ∈ layoutTables, ∀ row ∈ t.2, ∀ var ∈ row.2, ∀ L, var.1 = some L →
      ∃ vals, WellTypedFields (realDomNbt m) L vals :=
  generated_layouts_inhabited_all ⟨_, nbtDom_empty m⟩

end real

/-- strict UTF-8 is a lawful `mutf8` (so the hypotheses above are satisfiable, and the executable
instance used by the driver and by the live vectors is covered by the theorems) -/
theorem utf8_lawful : Mutf8Law Mutf8.utf8 :=
  ⟨fun s => by
    show (match utf8Decode (utf8 s) with
      | some s => Except.ok s
      | none => Except.error Err.decode) = _
    rw [utf8_roundtrip], by decide +kernel⟩

/-! ## 3. the model agrees with the live code -/

/-- Every value tabulated from the live `NBT.send` (all tag kinds, boundary numbers, empty and nested
lists and compounds, a miniature dimension codec, a NAMED root): the model writes the same bytes. -/
theorem live_send_vectors :
    ∀ r ∈ nbtSendVectors, nbtSend Mutf8.utf8 (rootValue r.1 r.2.1) = .ok r.2.2 := by
  have h : ∀ r ∈ nbtSendVectors, saveFile Mutf8.utf8 "" r.2.1 = .ok r.2.2 := by decide +kernel
  exact fun r hr => (nbtSend_rootValue _ _ _).trans (h r hr)

/-- Every input tabulated from the live `NBT.read` — the sent bytes followed by stray bytes, every
strict prefix of two of them, and the irregular inputs (wrong first byte, negative / unknown tag
bytes, duplicate keys, TAG_End lists, negative lengths, short byte arrays and strings) — the model
returns the same root name, the same tags, the same unread rest, or the same error class. -/
theorem live_read_vectors :
    ∀ r ∈ nbtReadVectors, loadFile Mutf8.utf8 maxDepth r.1 = r.2 := by decide +kernel

/-- The NBT-bearing packet classes under the first and last supported version of every distinct
layout: the live `write_fields` / `read` round trip succeeded, the layout table has an NBT layout for
that class and version, the model writes the same bytes and reads the same values back, consuming
the bytes exactly. -/
theorem live_packet_vectors :
    ∀ r ∈ nbtPacketVectors, packetRowOk (realCustomNbt Mutf8.utf8) layoutTables r = true := by
  decide +kernel

/-! ## the theorems notice a changed `NBT.read` / `NBT.send` -/

private def exV : Value := rootValue "" [("a", .int 1)]
private def exB : Bytes := [0x0a, 0, 0, 3, 0, 1, 0x61, 0, 0, 0, 1, 0]
private theorem exDom : nbtDom Mutf8.utf8 exV := by decide +kernel

/-- `NBT.read` reading "the rest of the packet" into its own buffer first: the field after the NBT
field is lost — the law (hence `pynbt_law`) fails for that code. -/
theorem read_whole_rest_refuted :
    ¬ NbtLaw ⟨nbtSend Mutf8.utf8, nbtReadWholeRest Mutf8.utf8⟩ (nbtDom Mutf8.utf8) := by
  intro h
  obtain ⟨bs, h1, _, h3⟩ := h.rt exV [7] exDom
  have e : nbtSend Mutf8.utf8 exV = .ok exB := by decide +kernel
  rw [show (NbtCodec.mk (nbtSend Mutf8.utf8) (nbtReadWholeRest Mutf8.utf8)).enc exV
    = nbtSend Mutf8.utf8 exV from rfl, e] at h1
  cases h1
  have d : (nbtReadWholeRest Mutf8.utf8 (exB ++ [7])).map (·.2) = .ok [] := by decide +kernel
  rw [show (NbtCodec.mk (nbtSend Mutf8.utf8) (nbtReadWholeRest Mutf8.utf8)).dec (exB ++ [7])
    = nbtReadWholeRest Mutf8.utf8 (exB ++ [7]) from rfl] at h3
  rw [h3] at d
  exact absurd d (by decide)

/-- `NBT.send` writing a nameless root (`NBTFile(name=None, …)`): the reader rejects the bytes. -/
theorem send_nameless_refuted :
    ¬ NbtLaw ⟨nbtSendNameless Mutf8.utf8, nbtRead Mutf8.utf8⟩ (nbtDom Mutf8.utf8) := by
  intro h
  obtain ⟨bs, h1, _, h3⟩ := h.rt exV [] exDom
  have e : nbtSendNameless Mutf8.utf8 exV = .ok (exB.drop 3) := by decide +kernel
  rw [show (NbtCodec.mk (nbtSendNameless Mutf8.utf8) (nbtRead Mutf8.utf8)).enc exV
    = nbtSendNameless Mutf8.utf8 exV from rfl, e] at h1
  cases h1
  have d : (nbtRead Mutf8.utf8 (exB.drop 3 ++ [])).map (·.2) = .error .other := by decide +kernel
  rw [show (NbtCodec.mk (nbtSendNameless Mutf8.utf8) (nbtRead Mutf8.utf8)).dec (exB.drop 3 ++ [])
    = nbtRead Mutf8.utf8 (exB.drop 3 ++ []) from rfl] at h3
  rw [h3] at d
  exact absurd d (by decide)

/-- `NBT.send` that forgets `socket.send(buffer.getvalue())`: nothing is written. -/
theorem send_nothing_refuted :
    ¬ NbtLaw ⟨nbtSendNothing Mutf8.utf8, nbtRead Mutf8.utf8⟩ (nbtDom Mutf8.utf8) := by
  intro h
  obtain ⟨bs, h1, h2, _⟩ := h.rt exV [] exDom
  have e : nbtSendNothing Mutf8.utf8 exV = .ok [] := by decide +kernel
  rw [show (NbtCodec.mk (nbtSendNothing Mutf8.utf8) (nbtRead Mutf8.utf8)).enc exV
    = nbtSendNothing Mutf8.utf8 exV from rfl, e] at h1
  cases h1
  exact h2 rfl

private def exL : Layout :=
  [("dimension", .custom .nbt), ("world_name", .string), ("hashed_seed", .int .i64),
   ("game_mode", .int .u8), ("previous_game_mode", .int .u8), ("is_debug", .bool),
   ("is_flat", .bool), ("copy_metadata", .bool)]
private def exVals : List Value :=
  [exV, .str "w", .int 5, .int 1, .int 2, .bool true, .bool false, .bool true]
private def exBody : Bytes := exB ++ [1, 0x77, 0, 0, 0, 0, 0, 0, 0, 5, 1, 2, 1, 0, 1]

/-- … and at the level of a whole packet: the RespawnPacket layout of protocol 757 round-trips with
the real codec (an instance of `generated_layouts_rt_pynbt`), but with the "whole rest" reader the
fields after `dimension` are not found any more -/
example :
    layoutAt layoutTables "cbPlay" "RespawnPacket" 757 = some exL ∧
    WellTypedFields (realDomNbt Mutf8.utf8) exL exVals ∧
    encodeFields (realCustomNbt Mutf8.utf8) exL exVals = .ok exBody ∧
    decodeFields (realCustomNbt Mutf8.utf8) exL exBody = .ok (exVals, []) ∧
    (decodeFields (realCustomWith ⟨nbtSend Mutf8.utf8, nbtReadWholeRest Mutf8.utf8⟩) exL exBody).map
      (·.2) = .error .eof := by
  have hw : WellTypedFields (realDomNbt Mutf8.utf8) exL exVals :=
    ⟨exDom, (by decide +kernel : (utf8 "w").length < 2 ^ 31), (by decide : IntT.i64.inDom 5),
      (by decide : IntT.u8.inDom 1), (by decide : IntT.u8.inDom 2), trivial, trivial, trivial,
      trivial⟩
  have he : encodeFields (realCustomNbt Mutf8.utf8) exL exVals = .ok exBody := by decide +kernel
  refine ⟨by decide +kernel, hw, he, ?_, by decide +kernel⟩
  obtain ⟨bs, h1, _, h3⟩ := layout_rt_nbt (pynbt_law utf8_lawful) exL exVals (by decide) hw
  rw [show encodeFields (realCustomWith (pynbt Mutf8.utf8)) exL exVals
    = encodeFields (realCustomNbt Mutf8.utf8) exL exVals from rfl, he] at h1
  cases h1
  exact h3

/-! ## non-vacuity -/

/-- a value with every kind of tag is in the domain … -/
private def exEs : Entries :=
  [("b", .byte (-1)), ("s", .short 300), ("i", .int 7), ("l", .long (-9)), ("f", .float 0x3fc00000),
   ("d", .double 0), ("ba", .byteArray [1, 2]), ("st", .string "hé"),
   ("li", .list 10 [.compound [("x", .list 0 [])], .compound []]),
   ("ia", .intArray [1, -1]), ("la", .longArray [])]
example : rootWf Mutf8.utf8 exEs = true := by decide +kernel
example : nbtDom Mutf8.utf8 (rootValue "" exEs) := by decide +kernel
/-- … and `file_roundtrip` applies to it -/
example : ∃ bs, saveFile Mutf8.utf8 "" exEs = .ok bs ∧
    loadFile Mutf8.utf8 maxDepth (bs ++ [9]) = .ok (("", exEs), [9]) := by
  obtain ⟨bs, h1, _, h3, _⟩ := file_roundtrip utf8_lawful exEs (by decide +kernel)
  exact ⟨bs, h1, h3 [9]⟩
/-- the bytes of the small example, and one of its strict prefixes rejected -/
example : nbtSend Mutf8.utf8 exV = .ok exB := by decide +kernel
example : ∃ e, nbtRead Mutf8.utf8 (exB.take 11) = .error e :=
  (pynbt_law utf8_lawful).prefixErr exV exB exDom (by decide +kernel) _ (by decide) (by decide)
/-- the hypotheses of the generic theorems are satisfiable: a lawful codec with a non-empty domain -/
example : ∃ (n : NbtCodec) (nd : Value → Prop), NbtLaw n nd ∧ ∃ v, nd v :=
  ⟨pynbt Mutf8.utf8, nbtDom Mutf8.utf8, pynbt_law utf8_lawful, exV, exDom⟩
/-- a named root is written but is outside the domain (it comes back named `''`) -/
example : nbtSend Mutf8.utf8 (rootValue "x" [("a", .int 1)]) = .ok exB ∧
    ¬ nbtDom Mutf8.utf8 (rootValue "x" [("a", .int 1)]) := ⟨by decide +kernel, by decide +kernel⟩
/-- pynbt does not notice a short byte array: this is why the per-tag property is only `Soft0` -/
example : readPayload Mutf8.utf8 1 7 [0, 0, 0, 5, 1, 2] = .ok (.byteArray [1, 2], []) := by
  decide +kernel
/-- the NBT layouts exist in the live table and are exactly those the old theorems skipped -/
example : (C05.nbtClasses.map fun x => x.2.2.length).sum ≥ 40 := by decide +kernel
example : nbtPacketVectors.length ≥ 10 ∧ nbtReadVectors.length ≥ 60 ∧ nbtSendVectors.length ≥ 8 := by
  decide +kernel

end PyCraft.C05Nbt
