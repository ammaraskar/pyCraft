import PyCraft.Generated.Enums
import PyCraft.Generated.C20Live
import PyCraft.Lemmas.C20Live
import PyCraft.Props.C20
/-!
# C20 — flag bits, flag names and the add-player mapping, tied to the LIVE code

(Item 16 of `docs/audit_report.md`.)

`Generated/C20Live.lean` is written by `harness/gen/c20live.py` from what the repository's code DOES
(the class attributes, the strings `name_from_value` returns, the target after `apply`, the player
list after a packet history); the theorems of this file compare those observations with the models,
so a change of the Python changes the table and breaks the theorem.

* Position flags: `posflags_live`, `position_apply_observed`, `flag_truthy_is_bit`,
  `flagsOfByte_bit`, `position_apply_signed`, `position_apply_live`, `position_apply_bits`.
* Flag names: `flagLive_matches_flagEnums`, `names_live`, `names_live_at`, `names_live_nat`,
  `live_names_parse_back`, `negative_values_unnamed`, `int_model_extends_nat_model`.
* Player list: `add_field_mapping`, `playerlist_full_simulates`, `name_properties_from_last_add`,
  `playerlist_probe_live`.

Models: `Model/C20Live.lean`; helper lemmas: `Lemmas/C20Live.lean`.
-/
namespace PyCraft.C20Live
open PyCraft PyCraft.Trackers PyCraft.Enums PyCraft.TrackLive PyCraft.Gen PyCraft.Gen.C20Live

/-! ## Position flags -/

/-- The qualified name under which the position packet appears in the generated enum tables. -/
abbrev posClass : String :=
  "minecraft.networking.packets.clientbound.play.player_position_and_look_packet.PlayerPositionAndLookPacket"

/-- The constants `FLAG_REL_X … FLAG_REL_PITCH` of `Model/Trackers.lean` ARE the live class
attributes: as `apply` reads them (`getattr`), as they stand in the class's `__dict__`, and as they
stand in the table `Gen.flagEnums` of `Generated/Enums.lean`. -/
theorem posflags_live :
    PosFlagsTied posFlagAttrs ∧
    (∃ e ∈ flagLive, e.1 = posClass ∧ PosFlagsTied e.2.1) ∧
    (∃ e ∈ flagEnums, e.1 = posClass ∧
      lookupName "FLAG_REL_X" e.2 = some FLAG_REL_X ∧ lookupName "FLAG_REL_Y" e.2 = some FLAG_REL_Y ∧
      lookupName "FLAG_REL_Z" e.2 = some FLAG_REL_Z ∧
      lookupName "FLAG_REL_YAW" e.2 = some FLAG_REL_YAW ∧
      lookupName "FLAG_REL_PITCH" e.2 = some FLAG_REL_PITCH) := by
  decide +kernel

/-- A table as the generator would write it after swapping `FLAG_REL_YAW = 0x10` /
`FLAG_REL_PITCH = 0x08` in the Python: `posflags_live` is false for it. -/
example : ¬ PosFlagsTied [("FLAG_REL_X", 1), ("FLAG_REL_Y", 2), ("FLAG_REL_Z", 4),
    ("FLAG_REL_YAW", 16), ("FLAG_REL_PITCH", 8)] := by decide +kernel

/-- The live `PlayerPositionAndLookPacket.apply` was run for EVERY signed flags byte −128 … 127 on
the probe (current `(10, 20, 30, 350, 355)`, packet `(1, 2, 3, 20, −30)`: every coordinate tells
"added" from "assigned", both angles wrap): the model computes the same target every time — both the
signed-flags model over the flag table and `Trackers.applyPosLook` on the two's-complement byte. -/
theorem position_apply_observed :
    posApplyLive.map Prod.fst = (List.range 256).map (fun (i : Nat) => (i : Int) - 128) ∧
    (∀ r ∈ posApplyLive, PosRowAgrees modelPosFlags posProbePkt posProbeCur r) ∧
    (∀ r ∈ posApplyLive, ∀ pkt cur, posOfInts posProbePkt = some pkt →
      posOfInts posProbeCur = some cur →
      posOfInts r.2 = some (applyPosLook (flagsOfByte r.1) pkt cur)) := by
  have h2 : ∀ r ∈ posApplyLive, PosRowAgrees modelPosFlags posProbePkt posProbeCur r := by decide +kernel
  refine ⟨by decide +kernel, h2, ?_⟩
  intro r hr pkt cur hp hc
  obtain ⟨pkt', cur', hp', hc', h⟩ := h2 r hr
  rw [hp] at hp'; rw [hc] at hc'
  cases hp'; cases hc'
  rw [h, applyPosLookWith_model]

/-- With YAW/PITCH swapped in the MODEL (equivalently: the Python swapped and the model left alone),
some observed row disagrees. -/
example : ¬ ∀ r ∈ posApplyLive, PosRowAgrees ⟨1, 2, 4, 16, 8⟩ posProbePkt posProbeCur r := by decide +kernel

/-- `if self.flags & FLAG:` for a one-bit flag tests exactly binary digit `k` of the (possibly
negative) flags value in two's complement — for every int, not only bytes. -/
theorem flag_truthy_is_bit (flags : Int) (k : Nat) :
    pyAnd flags ((2 ^ k : Nat) : Int) ≠ 0 ↔ flags / 2 ^ k % 2 = 1 := by
  rw [pyAnd_two_pow_ne_zero]
  simp [pyBit]

/-- Python's `&` and `|` on ints are the bitwise operations of infinite two's complement. -/
theorem pyAnd_pyOr_bitwise (a b : Int) (k : Nat) :
    pyBit (pyAnd a b) k = (pyBit a k && pyBit b k) ∧ pyBit (pyOr a b) k = (pyBit a k || pyBit b k) := by
  -- by the sign of `a` and of `b`: both sides are then bits of naturals
  constructor
  all_goals
    cases a <;> cases b
  all_goals
    simp only [pyAnd, pyOr, pyBit_ofNat, pyBit_negSucc, Nat.testBit_and, Nat.testBit_or,
      Nat.testBit_xor]
  all_goals
    cases Nat.testBit _ k <;> cases Nat.testBit _ k <;> rfl

/-- The signed `Byte` the packet carries (`struct '>b'`: −128 … 127) and the natural number
`flagsOfByte b` the tracker model works with: `flagsOfByte b` is the unsigned reading of the same
byte, and for each of the eight bits Python's `b & 2**k` is truthy iff bit `k` of `flagsOfByte b` is
set. -/
theorem flagsOfByte_bit (b : Int) (hlo : -128 ≤ b) (hhi : b < 128) :
    (flagsOfByte b : Int) = (if b < 0 then b + 256 else b) ∧ flagsOfByte b < 256 ∧
    ∀ k, k < 8 → (pyAnd b ((2 ^ k : Nat) : Int) ≠ 0 ↔ flagsOfByte b / 2 ^ k % 2 = 1) := by
  refine ⟨by unfold flagsOfByte; split <;> omega, by unfold flagsOfByte; omega, ?_⟩
  intro k hk
  rw [pyAnd_two_pow_ne_zero, pyBit_byte b k hk]
  simp

/-- `apply` with Python's `&` on the signed flags and the flag constants of the model is
`Trackers.applyPosLook` on `flagsOfByte flags` — for every int `flags`.  So every theorem of
`Props/C20.lean` about `applyPosLook` speaks about the signed-byte code path. -/
theorem position_apply_signed (flags : Int) (pkt cur : Pos) :
    applyPosLookWith modelPosFlags flags pkt cur = applyPosLook (flagsOfByte flags) pkt cur :=
  applyPosLookWith_model flags pkt cur

/-- … and the same with the flag constants READ FROM THE LIVE CLASS (whatever table the generator
found, if it is a table at all). -/
theorem position_apply_live (F : PosFlagTable) (hF : posFlagTable posFlagAttrs = some F)
    (flags : Int) (pkt cur : Pos) :
    applyPosLookWith F flags pkt cur = applyPosLook (flagsOfByte flags) pkt cur := by
  have h : posFlagTable posFlagAttrs = some modelPosFlags := posflags_live.1
  rw [h] at hF
  cases hF
  exact applyPosLookWith_model flags pkt cur

/-- "Relative flags add and angles wrap", on the signed flags and the live constants: coordinate
`i` (x, y, z, yaw, pitch = bit 0 … 4) is `current + packet` if binary digit `i` of `flags` (two's
complement) is set and `packet` otherwise; yaw and pitch are then reduced into `[0, 360)` by a whole
number of turns. -/
theorem position_apply_bits (F : PosFlagTable) (hF : posFlagTable posFlagAttrs = some F)
    (flags : Int) (pkt cur : Pos) :
    let r := applyPosLookWith F flags pkt cur
    let yaw₀ := if flags / 8 % 2 = 1 then cur.yaw + pkt.yaw else pkt.yaw
    let pitch₀ := if flags / 16 % 2 = 1 then cur.pitch + pkt.pitch else pkt.pitch
    r.x = (if flags % 2 = 1 then cur.x + pkt.x else pkt.x) ∧
    r.y = (if flags / 2 % 2 = 1 then cur.y + pkt.y else pkt.y) ∧
    r.z = (if flags / 4 % 2 = 1 then cur.z + pkt.z else pkt.z) ∧
    (0 ≤ r.yaw ∧ r.yaw < 360 ∧ ∃ n : Int, yaw₀ = r.yaw + 360 * (n : Rat)) ∧
    (0 ≤ r.pitch ∧ r.pitch < 360 ∧ ∃ n : Int, pitch₀ = r.pitch + 360 * (n : Rat)) := by
  -- `position_apply` on the byte read unsigned, whose low binary digits are those of `flags`
  have e0 := flagsOfByte_digit flags 0 (by decide)
  have e1 := flagsOfByte_digit flags 1 (by decide)
  have e2 := flagsOfByte_digit flags 2 (by decide)
  have e3 := flagsOfByte_digit flags 3 (by decide)
  have e4 := flagsOfByte_digit flags 4 (by decide)
  simp only [Nat.pow_zero, Nat.div_one, Int.pow_zero, Int.ediv_one, Nat.reducePow, Int.reducePow]
    at e0 e1 e2 e3 e4
  have h := C20.position_apply (flagsOfByte flags) pkt cur
  simp only [e0, e1, e2, e3, e4] at h
  rw [position_apply_live F hF]
  exact h

/-! ## Flag names -/

/-- `flagLive` lists the same classes with the same members as `Gen.flagEnums`, and no class has
a negative member — so the `v ≥ 0` filter of `extract.py` dropped nothing. -/
theorem flagLive_matches_flagEnums :
    flagEnums = flagLive.map (fun e => (e.1, natMembers e.2.1)) ∧
    (∀ e ∈ flagLive, ∀ p ∈ e.2.1, 0 ≤ p.2) ∧
    flagLive.map (fun e => (e.1, e.2.1)) = flagEnums.map (fun e => (e.1, intMembers e.2)) := by
  decide +kernel

/-- THE LIVE STRINGS.  For every flag enum of the library and every value −128 … 255, the string (or
`None`) returned by the live `cls.name_from_value(v)` is what the model computes: the model of
`BitFieldEnum.name_from_value` is observed against Python on every run. -/
theorem names_live : NamesAgree flagLive nameLo nameCount ∧ nameLo = -128 ∧ nameCount = 384 ∧ flagLive.length ≥ 3 := by
  -- below zero nothing is printed because no member is negative; the rest is compared
  have h : ∀ e ∈ flagLive, e.2.2 = List.replicate 128 none ++ namesFrom e.2.1 0 256 := by
    decide +kernel
  refine ⟨fun e he => ?_, rfl, rfl, by decide⟩
  rw [h e he]
  exact (namesFrom_neg_prefix e.2.1 (flagLive_matches_flagEnums.2.1 e he) 128 256).symm

/-- … pointwise. -/
theorem names_live_at : ∀ e ∈ flagLive, ∀ v : Int, -128 ≤ v → v < 256 →
    liveName flagLive nameLo e.1 v = some (nameFromValueZ e.2.1 v) ∧
    e.2.2[(v + 128).toNat]? = some (nameFromValueZ e.2.1 v) := by
  have hkeys : (flagLive.map Prod.fst).Nodup := by decide +kernel
  obtain ⟨hagree, hnameLo, hnameCount, _⟩ := names_live
  intro e he v hlo hhi
  have hrow : e.2.2[(v + 128).toNat]? = some (nameFromValueZ e.2.1 v) := by
    rw [hagree e he]
    have h1 : (v + 128).toNat < nameCount := by omega
    have h2 : nameLo + ((v + 128).toNat : Int) = v := by omega
    simp only [namesFrom, List.getElem?_map, List.getElem?_range h1, Option.map_some, h2]
  refine ⟨?_, hrow⟩
  unfold liveName
  rw [find?_key_of_mem_nodup Prod.fst flagLive e hkeys he]
  have h3 : ¬ v < nameLo := by omega
  have h4 : (v - nameLo).toNat = (v + 128).toNat := by omega
  simp only [h3, if_false, h4, hrow]

/-- The same for the natural-number model `Enums.nameFromValue` that the theorems
of `Props/C20.lean` are about: for every class of `Gen.flagEnums` and every value 0 … 255 the live
printed name is `nameFromValue`. -/
theorem names_live_nat : ∀ e ∈ flagEnums, ∀ v : Nat, v < 256 →
    liveName flagLive nameLo e.1 (v : Int) = some (nameFromValue e.2 v) := by
  intro e he v hv
  have hmem : (e.1, intMembers e.2) ∈ flagLive.map (fun e => (e.1, e.2.1)) := by
    rw [flagLive_matches_flagEnums.2.2]; exact List.mem_map.2 ⟨e, he, rfl⟩
  obtain ⟨row, hrow, heq⟩ := List.mem_map.1 hmem
  have h1 : row.1 = e.1 := congrArg Prod.fst heq
  have h2 : row.2.1 = intMembers e.2 := congrArg Prod.snd heq
  have h := (names_live_at row hrow (v : Int) (by omega) (by omega)).1
  rw [h1, h2, nameFromValueZ_cast] at h
  exact h

/-- The printed name of a flag value parses back to that value — stated about the strings the LIVE
function returned: for every flag enum in the library and every value 0 … 255. -/
theorem live_names_parse_back : ∀ e ∈ flagEnums, ∀ v : Nat, v < 256 → ∀ s,
    liveName flagLive nameLo e.1 (v : Int) = some (some s) → parseName e.2 s = some v := by
  intro e he v hv s hs
  rw [names_live_nat e he v hv] at hs
  exact C20.library_flag_names_parse_back e he v hv s (Option.some.inj hs)

/-- Negative values (the flags field of the position packet is a SIGNED byte): a class whose
upper-case members are all non-negative names no negative value (the loop's `ret_value` stays
non-negative) — in the model for every int, and observed live for −128 … −1 in every library
enum. -/
theorem negative_values_unnamed :
    (∀ (members : List (String × Int)), (∀ p ∈ members, pyIsUpper p.1 = true → 0 ≤ p.2) →
      ∀ value : Int, value < 0 → nameFromValueZ members value = none) ∧
    (∀ e ∈ flagLive, ∀ v : Int, -128 ≤ v → v < 0 → liveName flagLive nameLo e.1 v = some none) := by
  refine ⟨nameFromValueZ_neg, ?_⟩
  intro e he v hlo hhi
  rw [(names_live_at e he v hlo (by omega)).1]
  have hnn : ∀ e ∈ flagLive, ∀ p ∈ e.2.1, 0 ≤ p.2 := flagLive_matches_flagEnums.2.1
  rw [nameFromValueZ_neg e.2.1 (fun p hp _ => hnn e he p hp) v hhi]

/-- On natural members and a natural value the int model coincides with `Enums.nameFromValue`, so
everything proved about the latter (`C20.bitfield_name_parses_back`, `bitfield_name_none_iff`, …)
holds for the int model there. -/
theorem int_model_extends_nat_model (members : List (String × Nat)) (value : Nat) :
    nameFromValueZ (intMembers members) (value : Int) = nameFromValue members value :=
  nameFromValueZ_cast members value

/-! ### Refutations: one-token edits of `enum.py:40-44` -/

/-- The variant machinery with all switches as in the code reproduces the live table (here: its
entries for −4 … 67) … -/
example : variantTable .faithful flagLive (-4) 72 =
    flagLive.map (fun e => (e.1, e.2.1, (e.2.2.drop 124).take 72)) := by
  rw [variantTable_faithful]
  apply List.map_congr_left
  intro e he
  obtain ⟨hagree, hnameLo, hnameCount, _⟩ := names_live
  rw [hagree e he, hnameLo, hnameCount, namesFrom_drop_take (by decide)]
  rfl

/-- … and on the window of values 0 … 3 it agrees with the model, whereas the table written for
`','.join(...)` instead of `'|'.join(...)` … -/
example : NamesAgree (variantTable .faithful flagLive 0 4) 0 4 ∧
    ¬ NamesAgree (variantTable { NameVariant.faithful with sep := ',' } flagLive 0 4) 0 4 := by
  decide +kernel

/-- … for dropping `reversed(...)` … -/
example : ¬ NamesAgree (variantTable { NameVariant.faithful with reversed := false } flagLive 0 4) 0 4 := by
  decide +kernel

/-- … and for dropping `or cls_value == value` (value 0 then prints `0` instead of `NONE` /
`SURVIVAL`) each violate the statement of `names_live`. -/
example : ¬ NamesAgree (variantTable { NameVariant.faithful with eqClause := false } flagLive 0 4) 0 4 := by
  decide +kernel

/-- Small instances of the three, readable: -/
example : nameFromValueZ [("FLAG_REL_X", 1), ("FLAG_REL_Y", 2), ("FLAG_REL_Z", 4)] 3 =
      some "FLAG_REL_X|FLAG_REL_Y" ∧
    nameFromValueV { NameVariant.faithful with sep := ',' }
      [("FLAG_REL_X", 1), ("FLAG_REL_Y", 2), ("FLAG_REL_Z", 4)] 3 = some "FLAG_REL_X,FLAG_REL_Y" ∧
    nameFromValueV { NameVariant.faithful with reversed := false }
      [("FLAG_REL_X", 1), ("FLAG_REL_Y", 2), ("FLAG_REL_Z", 4)] 3 = some "FLAG_REL_Y|FLAG_REL_X" := by
  decide +kernel
example : nameFromValueZ [("SURVIVAL", 0), ("CREATIVE", 1)] 0 = some "SURVIVAL" ∧
    nameFromValueV { NameVariant.faithful with eqClause := false } [("SURVIVAL", 0), ("CREATIVE", 1)] 0 =
      some "0" := by decide +kernel

/-! ## Player list: the slots of `AddPlayerAction` -/

/-- `AddPlayerAction.apply`: afterwards the action's uuid is bound to a `PlayerListItem` whose six
slots are the action's six slots of the same name (`uuid, name, properties, gamemode, ping,
display_name`), every other uuid is bound as before, and the key order is unchanged for a known uuid
/ extended at the end for a new one. -/
theorem add_field_mapping (l : PlayerListF) (a : AddPlayer) :
    dictGet a.uuid (applyActionF l (.add a)) =
      some ⟨a.uuid, a.name, a.properties, a.gamemode, a.ping, a.displayName⟩ ∧
    (∀ k, k ≠ a.uuid → dictGet k (applyActionF l (.add a)) = dictGet k l) ∧
    (applyActionF l (.add a)).map Prod.fst =
      (if a.uuid ∈ l.map Prod.fst then l.map Prod.fst else l.map Prod.fst ++ [a.uuid]) := by
  refine ⟨by simp [applyActionF, dictGet_dictSet, AddPlayer.item], ?_, keys_dictSet a.uuid a.item l⟩
  intro k hk
  simp [applyActionF, dictGet_dictSet, hk]

/-- Forgetting the contents of the property lists (any numbering `enc` of them) turns the
spelled-out model into `Model/Trackers.lean`'s: replaying a history and then forgetting equals
forgetting and then replaying with `Trackers.replay`.  So `C20.playerlist_replay`, `add_overwrites`,
`update_unknown_noop`, … hold of the spelled-out model. -/
theorem playerlist_full_simulates (enc : List PlayerProperty → Nat) (hist : List (List ActionF))
    (l : PlayerListF) :
    absList enc (replayF hist l) = replay (hist.map (List.map (ActionF.abs enc))) (absList enc l) := by
  rw [replay, List.foldl_map]
  exact (List.foldl_hom (absList enc) fun l p => (absList_packet enc p l).symm).symm

/-- The slots no update action writes: after any history applied to the empty `PlayerList()`, a
player is present iff the last add-or-remove of its uuid was an add, and its `uuid`, `name` and
`properties` are those of that LAST add (properties of an earlier add, or of another player, never
leak). -/
theorem name_properties_from_last_add (hist : List (List ActionF)) (k : Int) :
    (dictGet k (replayF hist [])).map (fun p => (p.uuid, p.name, p.properties)) =
      (lastAdd k none hist.flatten).map (fun a => (a.uuid, a.name, a.properties)) := by
  have h : replayF hist [] = hist.flatten.foldl applyActionF [] := by
    rw [List.foldl_flatten]; rfl
  rw [h]
  exact lastAdd_spec hist.flatten [] none k (by simp) rfl

/-- The live `PlayerListItemPacket.apply` was run on the probe history (all five action kinds,
property lists, an overwrite, updates and removals of unknown players, a removal and re-add — the
re-added player moves to the end); the spelled-out model ends in the same `items()`, with all six
slots of every item equal. -/
theorem playerlist_probe_live :
    (histOfRows plistProbe).map (fun h => replayF h []) =
      .ok (plistProbeLive.map fun r => (r.1, itemOfRow r.2)) ∧
    plistProbeLive.length = 3 := by
  decide +kernel

/-- Changed code `properties=[]` (or any other slot lost) in the constructor call of
`AddPlayerAction.apply`, and `gamemode=self.ping, ping=self.gamemode`: the probe tells. -/
example : (histOfRows plistProbe).map (fun h => replayF (mutateAdds (fun a => { a with properties := [] }) h) []) ≠
    .ok (plistProbeLive.map fun r => (r.1, itemOfRow r.2)) := by decide +kernel
example : (histOfRows plistProbe).map (fun h =>
      replayF (mutateAdds (fun a => { a with gamemode := a.ping, ping := a.gamemode }) h) []) ≠
    .ok (plistProbeLive.map fun r => (r.1, itemOfRow r.2)) := by decide +kernel

/-! ## Non-vacuity -/

section examples

-- the live table really contains the position packet with five members and a printed name
example : (∃ e ∈ flagLive, e.1 = posClass ∧ e.2.1.length = 5 ∧ e.2.2.length = 384) ∧
    liveName flagLive nameLo posClass 24 = some (some "FLAG_REL_YAW|FLAG_REL_PITCH") ∧
    liveName flagLive nameLo posClass (-1) = some none ∧
    liveName flagLive nameLo posClass 32 = some none := by decide +kernel

-- `position_apply_live` / `position_apply_bits`: the hypothesis is satisfied (by the live table)
example : posFlagTable posFlagAttrs = some ⟨1, 2, 4, 8, 16⟩ := by decide +kernel

-- a negative flags byte: −104 = 0x98 has bits 3, 4 (and 7) set: yaw and pitch relative, x y z absolute
example : applyPosLookWith modelPosFlags (-104) ⟨1, 2, 3, 20, -30⟩ ⟨10, 20, 30, 350, 355⟩ =
    ⟨1, 2, 3, 10, 325⟩ ∧ flagsOfByte (-104) = 152 ∧ pyAnd (-104) 8 = 8 ∧ pyAnd (-104) 4 = 0 := by
  decide +kernel

-- Python: -3 & 6 == 4, -3 | 6 == -1, -8 | -3 == -3, 5 & -2 == 4, 5 | -8 == -3
example : pyAnd (-3) 6 = 4 ∧ pyOr (-3) 6 = -1 ∧ pyOr (-8) (-3) = -3 ∧ pyAnd 5 (-2) = 4 ∧
    pyOr 5 (-8) = -3 := by decide +kernel

-- a class WITH a negative member names negative values (hypothesis of `negative_values_unnamed`
-- is needed): Python prints 'NEG' for -1 and 'NEG|A' … the model agrees with a run of the real
-- `BitFieldEnum.name_from_value` on `class E(BitFieldEnum): A = 1; NEG = -2`
example : nameFromValueZ [("A", 1), ("NEG", -2)] (-1) = some "NEG|A" ∧
    nameFromValueZ [("A", 1), ("NEG", -2)] (-2) = some "NEG" ∧
    nameFromValueZ [("A", 1), ("NEG", -2)] 1 = some "A" := by decide +kernel

-- `name_properties_from_last_add`: an update of a KNOWN uuid between two adds, a removal, a re-add
private def pA : AddPlayer := ⟨7, "alice", [⟨"textures", "x", some "sig"⟩], 1, 42, some "A"⟩
private def pB : AddPlayer := ⟨7, "alice2", [], 0, 8, none⟩
example : lastAdd 7 none [.add pA, .gamemode 7 3, .add pB] = some pB ∧
    lastAdd 7 none [.add pA, .gamemode 7 3] = some pA ∧
    lastAdd 7 none [.add pA, .remove 7] = none ∧
    dictGet 7 (replayF [[.add pA], [.gamemode 7 3, .latency 7 5]] []) =
      some ⟨7, "alice", [⟨"textures", "x", some "sig"⟩], 3, 5, some "A"⟩ := by decide +kernel

end examples

end PyCraft.C20Live
