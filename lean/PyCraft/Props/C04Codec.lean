import PyCraft.Lemmas.C04Codec
import PyCraft.Props.C04
/-!
# C04 (rank 6 of `docs/audit_report.md`) — the encoder's AND the decoder's version switch, for every known version

`Props/C04.lean` proves the round trips with ONE shared layout flag and tabulates the live
`Position.send_with_context` only.  The Python has four independent version tests
(`types/basic.py:322` read / `:345` send, `block_change_packet.py:116` read / `:132` send).  Here:

* `Model/C04Codec.lean` models each of the four methods with its own test
  (`posReadV`, `posSendV`, `recReadV`, `recSendV`; with the literal as a parameter: `…At`);
* `Generated/C04Codec.lean` (written by `harness/gen/c04codec.py` from the LIVE code, regenerated
  on every run) lists for every known protocol version which layout the live encoder and which
  layout the live decoder use — `posCodec`, `recCodec : List (version × encoder × decoder)`;
* the theorems below say: per version the round trip holds EXACTLY when the two tests agree
  (`*_rt_iff_same_layout`), the live tables cover exactly the known versions in order, the two
  live flags agree on every row and are the outcome of the model's test (443 / 741), and hence
  the round trip holds under every known version both for the model and for the observed flags.

Only property theorems and non-vacuity examples live here; helpers are in `Lemmas/C04Codec.lean`.
-/
namespace PyCraft.C04Codec
open PyCraft PyCraft.Gen

/-! ## Per version: the round trip holds exactly when reader and writer pick the same layout -/

/-- `Position`, any version tables `t`, any context version `v`, ANY two literals in the writer's
and the reader's version test (`sthr`, `rthr`; the code has 443 and 443).  If both tests are
defined at `v` (outcomes `es`, `ed`), then: "every in-range position written under `v` is 8 bytes
and is read back under `v` as the same signed coordinates, leaving exactly the bytes that followed"
holds IF AND ONLY IF the two tests have the same outcome at `v`. -/
theorem pos_rt_iff_same_layout (sthr rthr : Nat) (t : Tables) (v : Nat) (es ed : Bool)
    (hs : laterEq t v sthr = .ok es) (hd : laterEq t v rthr = .ok ed) :
    (∀ x y z : Int, -2 ^ 25 ≤ x → x < 2 ^ 25 → -2 ^ 11 ≤ y → y < 2 ^ 11 → -2 ^ 25 ≤ z →
        z < 2 ^ 25 → ∀ rest : Bytes,
        ∃ w, posSendAt sthr t v x y z = .ok w ∧ w.length = 8 ∧
          posReadAt rthr t v (w ++ rest) = .ok ((x, y, z), rest)) ↔ es = ed := by
  constructor
  · intro h
    obtain ⟨w, hw, _, hr⟩ := h 1 2 3 (by omega) (by omega) (by omega) (by omega) (by omega)
      (by omega) []
    rw [posSendAt_eq sthr t v es 1 2 3 hs] at hw
    rw [posReadAt_eq rthr t v ed _ hd] at hr
    exact pos_cross es ed w hw hr
  · rintro rfl x y z hx1 hx2 hy1 hy2 hz1 hz2 rest
    simp only [posSendAt_eq sthr t v es x y z hs, posReadAt_eq rthr t v es _ hd]
    exact C04.pos_rt es x y z rest hx1 hx2 hy1 hy2 hz1 hz2

/-- `MultiBlockChangePacket.Record`, likewise (`x, y, z ∈ [0, 16)`, `block_state_id ∈ [0, 2^42)`:
the values representable in BOTH formats): the round trip under `v` holds for all of them IF AND
ONLY IF the writer's test (`sthr`, code: 741) and the reader's test (`rthr`, code: 741) have the
same outcome at `v`. -/
theorem rec_rt_iff_same_layout (sthr rthr : Nat) (t : Tables) (v : Nat) (es ed : Bool)
    (hs : laterEq t v sthr = .ok es) (hd : laterEq t v rthr = .ok ed) :
    (∀ x y z b : Int, 0 ≤ x → x < 16 → 0 ≤ y → y < 16 → 0 ≤ z → z < 16 → 0 ≤ b → b < 2 ^ 42 →
        ∀ rest : Bytes,
        ∃ w, recSendAt sthr t v x y z b = .ok w ∧
          recReadAt rthr t v (w ++ rest) = .ok ((x, y, z, b), rest)) ↔ es = ed := by
  constructor
  · intro h
    obtain ⟨w, hw, hr⟩ := h 1 2 3 5 (by omega) (by omega) (by omega) (by omega) (by omega)
      (by omega) (by omega) (by omega) []
    rw [recSendAt_eq sthr t v es 1 2 3 5 hs] at hw
    rw [recReadAt_eq rthr t v ed _ hd] at hr
    exact rec_cross es ed w hw hr
  · rintro rfl x y z b hx1 hx2 hy1 hy2 hz1 hz2 hb1 hb2 rest
    simp only [recSendAt_eq sthr t v es x y z b hs, recReadAt_eq rthr t v es _ hd]
    -- the ranges common to both formats lie inside each format's own
    have hy : y < if es then 16 else 256 := by split <;> omega
    have hb : b < if es then 2 ^ 65 else 2 ^ 42 := by split <;> omega
    exact C04.record_rt es x y z b rest hx1 hx2 hy1 hy hz1 hz2 hb1 hb

/-- An unknown context version: both `Position` methods raise `KeyError` — the writer before
sending anything, the reader after having consumed its 8 bytes (on fewer than 8 bytes it raises
`struct.error` first, whatever the version). -/
theorem pos_unknown_version (t : Tables) (v : Nat) (e : Err) (h : laterEq t v 443 = .error e)
    (x y z : Int) (w rest bs : Bytes) (hw : w.length = 8) (hbs : bs.length < 8) :
    posSendV t v x y z = .error e ∧ posReadV t v (w ++ rest) = .error e ∧
      posReadV t v bs = .error .struct :=
  ⟨by simp only [posSendV, posSendAt, h], posReadAt_undefined 443 t v e w rest hw h,
    posReadAt_short 443 t v bs hbs⟩

/-! ## The live tables: which layout the live encoder / decoder use under every known version -/

/-- The two tables have one row per known protocol version, in `KNOWN_PROTOCOL_VERSIONS`
(chronological) order — "all known versions" is a checked fact, not a comment.  (`liveTables` is
tabulated from the same running module by `harness/extract.py` and tied to the model by
`C08.model_eq_live`.) -/
theorem tables_cover_known_versions :
    posCodec.map (·.1) = liveTables.knownProtocols ∧
      recCodec.map (·.1) = liveTables.knownProtocols := by
  decide +kernel

/-- The encoder column of `posCodec` is the older table `posLayout` of `Props/C04.lean` (probed by
`harness/extract.py`), so `C04.layout_new_from_477`, `layout_old_upto_404`, `layout_single_switch`
speak about the same data; in particular `posLayout` too lists exactly the known versions. -/
theorem encoder_column_is_posLayout :
    posCodec.map (fun r => (r.1, r.2.1)) = posLayout ∧
      posLayout.map (·.1) = liveTables.knownProtocols := by
  decide +kernel

/-- `Position`: under every known version the live encoder and the live decoder use the SAME
layout, and it is one of the two documented ones. -/
theorem pos_flags_agree : ∀ r ∈ posCodec, r.2.1 = r.2.2 ∧ r.2.1 < 2 := by decide +kernel

/-- `Record`: under every known version the live encoder and the live decoder use the SAME format,
and it is one of the two documented ones. -/
theorem rec_flags_agree : ∀ r ∈ recCodec, r.2.1 = r.2.2 ∧ r.2.1 < 2 := by decide +kernel

/-- `Position`: the observed layout of BOTH directions is the outcome of
`ConnectionContext(protocol_version = v).protocol_later_eq(443)` on the live version tables — the
test written in the model (`posSendV`, `posReadV`) is the one the live code was seen to apply,
at every known version (ties C04 to C08's order). -/
theorem pos_switch_is_443 :
    ∀ r ∈ posCodec, laterEq liveTables r.1 443 = .ok (r.2.1 == 1) ∧
      laterEq liveTables r.1 443 = .ok (r.2.2 == 1) :=
  switchOk_sound liveTables live_indices_nodup 443 posCodec (by decide +kernel)

/-- `Record`: the observed format of BOTH directions is the outcome of `protocol_later_eq(741)`. -/
theorem rec_switch_is_741 :
    ∀ r ∈ recCodec, laterEq liveTables r.1 741 = .ok (r.2.1 == 1) ∧
      laterEq liveTables r.1 741 = .ok (r.2.2 == 1) :=
  switchOk_sound liveTables live_indices_nodup 741 recCodec (by decide +kernel)

/-- `Position`, DECODER column: x,y,z up to 1.13.2 (protocol 404), x,z,y from 1.14 (protocol 477)
on, and a single switch-over in between (a run of "old" followed by a run of "new"). -/
theorem decoder_layout_by_version :
    (∀ r ∈ posCodec.take ((posCodec.takeWhile (·.1 != 404)).length + 1), r.2.2 = 0) ∧
      (∀ r ∈ posCodec.dropWhile (·.1 != 477), r.2.2 = 1) ∧
      posCodec.map (·.2.2) =
        List.replicate ((posCodec.map (·.2.2)).count 0) 0 ++
          List.replicate ((posCodec.map (·.2.2)).count 1) 1 := by
  decide +kernel

/-- `Record`, both columns: byte/byte/VarInt strictly before protocol 741 in the chronological
list, one VarLong from 741 on (741 is a known version, so neither range is cut short). -/
theorem record_format_by_version :
    (∀ r ∈ recCodec.takeWhile (·.1 != 741), r.2.1 = 0 ∧ r.2.2 = 0) ∧
      (∀ r ∈ recCodec.dropWhile (·.1 != 741), r.2.1 = 1 ∧ r.2.2 = 1) ∧
      (recCodec.dropWhile (·.1 != 741)).head? = some (741, 1, 1) := by
  decide +kernel

/-! ## Every known version: the round trip, for the model and for the observed flags -/

/-- `Position`, observed flags only (no hand-written version test involved): for every row
`(v, e, d)` of the live table, the layout `e` the live ENCODER uses under `v` and the layout `d`
the live DECODER uses under `v` are documented ones, and writing any in-range position in layout
`e` and reading it in layout `d` returns the same signed coordinates and the untouched rest. -/
theorem pos_rt_live (r : Nat × Nat × Nat) (hr : r ∈ posCodec) (x y z : Int) (rest : Bytes)
    (hx1 : -2 ^ 25 ≤ x) (hx2 : x < 2 ^ 25) (hy1 : -2 ^ 11 ≤ y) (hy2 : y < 2 ^ 11)
    (hz1 : -2 ^ 25 ≤ z) (hz2 : z < 2 ^ 25) :
    r.2.1 < 2 ∧ r.2.2 < 2 ∧
      ∃ w, encPos (r.2.1 == 1) x y z = .ok w ∧ w.length = 8 ∧
        decPos (r.2.2 == 1) (w ++ rest) = .ok ((x, y, z), rest) := by
  obtain ⟨he, hlt⟩ := pos_flags_agree r hr
  refine ⟨hlt, he ▸ hlt, ?_⟩
  rw [← he]
  exact C04.pos_rt _ x y z rest hx1 hx2 hy1 hy2 hz1 hz2

/-- `Position`, every known protocol version `v` of the live tables: there is a row `(v, e, d)`
of live observations; encoder and decoder flag coincide (`d = e`), are 0 or 1, and are the outcome
of the model's test `protocol_later_eq(443)` at `v`; and for every position in the signed
26/12/26-bit ranges the modelled `send_with_context` under `v` succeeds with 8 bytes — the same 8
bytes as the flag codec in the OBSERVED layout — and the modelled `read_with_context` under `v`
returns the same signed coordinates and leaves exactly the bytes that followed. -/
theorem pos_rt_every_known_version (v : Nat) (hv : v ∈ liveTables.knownProtocols) :
    ∃ e d, (v, e, d) ∈ posCodec ∧ d = e ∧ e < 2 ∧ laterEq liveTables v 443 = .ok (e == 1) ∧
      ∀ (x y z : Int) (rest : Bytes), -2 ^ 25 ≤ x → x < 2 ^ 25 → -2 ^ 11 ≤ y → y < 2 ^ 11 →
        -2 ^ 25 ≤ z → z < 2 ^ 25 →
        ∃ w, posSendV liveTables v x y z = .ok w ∧ encPos (e == 1) x y z = .ok w ∧ w.length = 8 ∧
          posReadV liveTables v (w ++ rest) = .ok ((x, y, z), rest) ∧
          decPos (d == 1) (w ++ rest) = .ok ((x, y, z), rest) := by
  obtain ⟨e, d, hm⟩ := known_row tables_cover_known_versions.1 v hv
  obtain ⟨he, hlt⟩ := pos_flags_agree _ hm
  obtain ⟨hs, _⟩ := pos_switch_is_443 _ hm
  simp only at he hlt hs
  subst he
  refine ⟨e, e, hm, rfl, hlt, hs, ?_⟩
  intro x y z rest hx1 hx2 hy1 hy2 hz1 hz2
  obtain ⟨w, hw, hl, hdec⟩ := C04.pos_rt (e == 1) x y z rest hx1 hx2 hy1 hy2 hz1 hz2
  refine ⟨w, ?_, hw, hl, ?_, hdec⟩
  · rw [posSendV, posSendAt_eq 443 _ v _ x y z hs, hw]
  · rw [posReadV, posReadAt_eq 443 _ v _ _ hs, hdec]

/-- `Record`, every known protocol version `v`: there is a row `(v, e, d)` of live observations
with `d = e < 2`, `e` the outcome of `protocol_later_eq(741)` at `v`; and for `x, z ∈ [0, 16)`,
`y ∈ [0, 16)` (VarLong format) or `[0, 256)` (old format), `block_state_id ∈ [0, 2^65)` resp.
`[0, 2^42)`, the modelled `send_with_context` under `v` succeeds with the bytes of the observed
format and the modelled `read_with_context` under `v` returns the same record and the untouched
rest. -/
theorem rec_rt_every_known_version (v : Nat) (hv : v ∈ liveTables.knownProtocols) :
    ∃ e d, (v, e, d) ∈ recCodec ∧ d = e ∧ e < 2 ∧ laterEq liveTables v 741 = .ok (e == 1) ∧
      ∀ (x y z b : Int) (rest : Bytes), 0 ≤ x → x < 16 → 0 ≤ y →
        (y < if e == 1 then 16 else 256) → 0 ≤ z → z < 16 → 0 ≤ b →
        (b < if e == 1 then 2 ^ 65 else 2 ^ 42) →
        ∃ w, recSendV liveTables v x y z b = .ok w ∧ encRecord (e == 1) x y z b = .ok w ∧
          recReadV liveTables v (w ++ rest) = .ok ((x, y, z, b), rest) ∧
          decRecord (d == 1) (w ++ rest) = .ok ((x, y, z, b), rest) := by
  obtain ⟨e, d, hm⟩ := known_row tables_cover_known_versions.2 v hv
  obtain ⟨he, hlt⟩ := rec_flags_agree _ hm
  obtain ⟨hs, _⟩ := rec_switch_is_741 _ hm
  simp only at he hlt hs
  subst he
  refine ⟨e, e, hm, rfl, hlt, hs, ?_⟩
  intro x y z b rest hx1 hx2 hy1 hy2 hz1 hz2 hb1 hb2
  obtain ⟨w, hw, hdec⟩ := C04.record_rt (e == 1) x y z b rest hx1 hx2 hy1 hy2 hz1 hz2 hb1 hb2
  refine ⟨w, ?_, hw, ?_, hdec⟩
  · rw [recSendV, recSendAt_eq 741 _ v _ x y z b hs, hw]
  · rw [recReadV, recReadAt_eq 741 _ v _ _ hs, hdec]

/-! ## A reader switched at another version is refuted

Changing only `basic.py:322` to `protocol_later_eq(477)` breaks the round trip on the 34 known
snapshots 443–476 while every theorem of `Props/C04.lean` stays true.  The model of that changed
code is `posSendAt 443` (unchanged writer) with `posReadAt 477` (changed reader). -/

/-- For every known version at or after 443 and before 477, the changed code does NOT have the
round-trip property that `pos_rt_every_known_version` states for the real code. -/
theorem changed_reader_477_breaks (v : Nat) (h443 : laterEq liveTables v 443 = .ok true)
    (h477 : laterEq liveTables v 477 = .ok false) :
    ¬ ∀ x y z : Int, -2 ^ 25 ≤ x → x < 2 ^ 25 → -2 ^ 11 ≤ y → y < 2 ^ 11 → -2 ^ 25 ≤ z →
        z < 2 ^ 25 → ∀ rest : Bytes,
        ∃ w, posSendAt 443 liveTables v x y z = .ok w ∧ w.length = 8 ∧
          posReadAt 477 liveTables v (w ++ rest) = .ok ((x, y, z), rest) := by
  rw [pos_rt_iff_same_layout 443 477 liveTables v true false h443 h477]
  decide

/-- Likewise for a record reader switched at 748 instead of 741 (`block_change_packet.py:116`). -/
theorem changed_record_reader_748_breaks (v : Nat) (h741 : laterEq liveTables v 741 = .ok true)
    (h748 : laterEq liveTables v 748 = .ok false) :
    ¬ ∀ x y z b : Int, 0 ≤ x → x < 16 → 0 ≤ y → y < 16 → 0 ≤ z → z < 16 → 0 ≤ b → b < 2 ^ 42 →
        ∀ rest : Bytes,
        ∃ w, recSendAt 741 liveTables v x y z b = .ok w ∧
          recReadAt 748 liveTables v (w ++ rest) = .ok ((x, y, z, b), rest) := by
  rw [rec_rt_iff_same_layout 741 748 liveTables v true false h741 h748]
  decide

-- the hypotheses of the two refutations are satisfiable: by each of the 34 known versions listed
-- from 443 up to (excluding) 477 — the snapshots 443 … 476 — resp. the 4 from 741 up to 748
example : ((posCodec.dropWhile (·.1 != 443)).takeWhile (·.1 != 477)).length = 34 ∧
    ∀ r ∈ (posCodec.dropWhile (·.1 != 443)).takeWhile (·.1 != 477),
      laterEq liveTables r.1 443 = .ok true ∧ laterEq liveTables r.1 477 = .ok false := by
  decide +kernel
example : ((recCodec.dropWhile (·.1 != 741)).takeWhile (·.1 != 748)).map (·.1) = [741, 743, 744, 746] ∧
    ∀ v ∈ [741, 743, 744, 746],
      laterEq liveTables v 741 = .ok true ∧ laterEq liveTables v 748 = .ok false := by
  decide +kernel
-- concretely, at protocol 443 the changed reader turns (1, 2, 3) into (1, 0, 12290) …
example : posSendAt 443 liveTables 443 1 2 3 = .ok [0, 0, 0, 64, 0, 0, 48, 2] ∧
    posReadAt 477 liveTables 443 [0, 0, 0, 64, 0, 0, 48, 2] = .ok ((1, 0, 12290), []) := by
  decide +kernel
-- … where the real one returns (1, 2, 3)
example : posReadV liveTables 443 [0, 0, 0, 64, 0, 0, 48, 2] = .ok ((1, 2, 3), []) := by
  decide +kernel
example : recSendAt 741 liveTables 741 1 2 3 5 = .ok [0xb2, 0xa2, 0x01] ∧
    recReadAt 748 liveTables 741 [0xb2, 0xa2, 0x01] = .ok ((11, 162, 2, 1), []) ∧
    recReadV liveTables 741 [0xb2, 0xa2, 0x01] = .ok ((1, 2, 3, 5), []) := by
  decide +kernel
-- the rows that `harness/gen/c04codec.py` emits for the changed code (observed by running it on a
-- copy of /repo with `basic.py:322` changed: `(443, 1, 0) … (476, 1, 0)`) violate `pos_flags_agree` and
-- `pos_switch_is_443`, so the regenerated table alone already reports the change
example : ¬ ∀ r ∈ [(404, 0, 0), (443, 1, 0), (476, 1, 0), (477, 1, 1)],
    r.2.1 = r.2.2 ∧ r.2.1 < 2 := by decide
example : ¬ ∀ r ∈ [(404, 0, 0), (443, 1, 0), (476, 1, 0), (477, 1, 1)],
    laterEq liveTables r.1 443 = .ok (r.2.1 == 1) ∧
      laterEq liveTables r.1 443 = .ok (r.2.2 == 1) := by decide +kernel
example : ¬ ∀ r ∈ [(740, 0, 0), (741, 1, 0), (746, 1, 0), (748, 1, 1)],
    r.2.1 = r.2.2 ∧ r.2.1 < 2 := by decide

/-! ## Non-vacuity -/

-- the tables are the full version list, and both layouts / formats occur in them
example : posCodec.length = liveTables.knownProtocols.length ∧ posCodec.length > 300 := by
  decide +kernel
example : (404, 0, 0) ∈ posCodec ∧ (443, 1, 1) ∈ posCodec ∧ (476, 1, 1) ∈ posCodec ∧
    (757, 1, 1) ∈ posCodec := by decide +kernel
example : (47, 0, 0) ∈ recCodec ∧ (736, 0, 0) ∈ recCodec ∧ (741, 1, 1) ∈ recCodec ∧
    (757, 1, 1) ∈ recCodec := by decide +kernel
example : ((posCodec.take ((posCodec.takeWhile (·.1 != 404)).length + 1)).getLast? = some (404, 0, 0))
    ∧ (posCodec.dropWhile (·.1 != 477)).head? = some (477, 1, 1)
    ∧ (posCodec.dropWhile (·.1 != 477)).length > 100 := by decide +kernel
example : (recCodec.takeWhile (·.1 != 741)).length > 300 ∧
    (recCodec.dropWhile (·.1 != 741)).length > 10 := by decide +kernel
-- hypotheses of the `iff` theorems: defined tests with equal and with different outcomes
example : laterEq liveTables 476 443 = .ok true ∧ laterEq liveTables 476 477 = .ok false ∧
    laterEq liveTables 404 443 = .ok false := by decide +kernel
-- instances of the per-version theorems at a snapshot between the two switches, at an old and at
-- the newest version
example : ∃ w, posSendV liveTables 476 (2 ^ 25 - 1) (-2 ^ 11) (-2 ^ 25) = .ok w ∧
    posReadV liveTables 476 (w ++ [7]) = .ok ((2 ^ 25 - 1, -2 ^ 11, -2 ^ 25), [7]) := by
  obtain ⟨e, d, _, _, _, _, h⟩ := pos_rt_every_known_version 476 (by decide +kernel)
  obtain ⟨w, h1, _, _, h2, _⟩ := h (2 ^ 25 - 1) (-2 ^ 11) (-2 ^ 25) [7] (by omega) (by omega)
    (by omega) (by omega) (by omega) (by omega)
  exact ⟨w, h1, h2⟩
example : posSendV liveTables 47 (-1) 70 5 = .ok [0xff, 0xff, 0xff, 0xc1, 0x18, 0x00, 0x00, 0x05] ∧
    posReadV liveTables 47 [0xff, 0xff, 0xff, 0xc1, 0x18, 0x00, 0x00, 0x05, 9] = .ok ((-1, 70, 5), [9]) := by
  decide +kernel
example : posSendV liveTables 757 (-1) 70 5 = .ok [0xff, 0xff, 0xff, 0xc0, 0x00, 0x00, 0x50, 0x46] ∧
    posReadV liveTables 757 [0xff, 0xff, 0xff, 0xc0, 0x00, 0x00, 0x50, 0x46, 9] = .ok ((-1, 70, 5), [9]) := by
  decide +kernel
example : recSendV liveTables 740 1 200 3 300 = .ok [0x13, 0xc8, 0xac, 0x02] ∧
    recReadV liveTables 740 [0x13, 0xc8, 0xac, 0x02, 0x77] = .ok ((1, 200, 3, 300), [0x77]) := by
  decide +kernel
-- an unknown version: KeyError from both methods, but a short read is reported first
example : posSendV liveTables 9999 1 2 3 = .error .other ∧
    posReadV liveTables 9999 [0, 0, 0, 64, 0, 0, 48, 2] = .error .other ∧
    posReadV liveTables 9999 [0, 0, 0] = .error .struct ∧
    recReadV liveTables 9999 [0xb2, 0xa2, 0x01] = .error .other ∧
    recSendV liveTables 9999 1 2 3 5 = .error .other := by decide +kernel

end PyCraft.C04Codec
