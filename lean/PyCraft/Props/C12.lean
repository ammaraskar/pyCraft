import PyCraft.Lemmas.Writers
/-!
# C12 — concurrent writers: every packet hits the wire once, whole and in order

Model: `Model/Writers.lean` (a deterministic transition system driven by a schedule; one atomic
action per step).  Every theorem below is for ALL programs `progs` (any number of user threads,
any operations) with pairwise distinct packet ids, ALL schedules `sched : List Tid` of any length
(entries that are not enabled are skipped), and ALL batch caps `cfg`.

Vocabulary: `s := run cfg (init progs) sched` is an arbitrary reachable state;
`sentPkts s.wire` = the packets whose body chunk is on the wire, in wire order;
`frames ps` = the wire image `[(p₁,0),(p₁,1),(p₂,0),(p₂,1),…]` of whole frames;
`cur s` = the program counter of the lock holder (`idle` if the lock is free), and
`(cur s).infl` = the packet the holder has taken (forced: at `acq`, queued: at `pop`) and not yet
completely sent; `progOf progs t` = the program of thread `t` (`progs[t-1]`).  Of a program counter
`pc`: `pc.crit` = inside a `with lock:` block; `pc.half` = the length prefix sent whose body is not
(`[(p,0)]` between `snd p 0` and `snd p 1`); `pc.popped` = the in-flight packet when it came from
the queue; `pc.atPop` = about to `popleft`; `pc.dctx` = the ghost context of a running
`disconnect`; `pc.flushing` = inside its flush loop.

Only property theorems and non-vacuity examples live here; helper lemmas are in `Lemmas/`.
-/
namespace PyCraft.C12
open PyCraft PyCraft.Writers

/-- `step_inv`: the invariant `WInv` (lock discipline, wire shape, accounting of issued packets,
freshness, per-thread progress) is preserved by every atomic step of every thread. -/
theorem step_inv (cfg : Cfg) (progs : List (List Op)) (s s' : Sys) (t : Tid)
    (h : WInv progs s) (hs : step cfg s t = some s') : WInv progs s' :=
  Writers.step_inv cfg progs s s' t h hs

/-- `run_inv`: hence it holds after any schedule, and in particular in every state reachable from
the initial state of any programs with distinct packet ids. -/
theorem run_inv (cfg : Cfg) (progs : List (List Op)) (hnd : (progs.flatMap pktsOf).Nodup)
    (sched : List Tid) : WInv progs (run cfg (init progs) sched) :=
  reach_inv cfg progs hnd sched

/-- Only the lock holder is ever between `snd p 0` and `snd p 1`, and only the lock holder is
inside a `with lock:` block at all. -/
theorem only_holder_mid_frame (cfg : Cfg) (progs : List (List Op))
    (hnd : (progs.flatMap pktsOf).Nodup) (sched : List Tid) (t : Tid) :
    let s := run cfg (init progs) sched
    ((s.thr t).pc.half ≠ [] → s.owner = some t) ∧ ((s.thr t).pc.crit = true ↔ s.owner = some t) := by
  intro s
  have h := reach_inv cfg progs hnd sched
  exact ⟨fun hh => (h.lock.crit_owner t).mp (half_crit _ hh), h.lock.crit_owner t⟩

/-- `frames_contiguous`: in every reachable state the wire is a sequence of whole frames
`(p,0),(p,1)` of pairwise distinct packets, followed by at most one open length prefix `(p,0)`,
which belongs to the current lock holder (who is about to send the body) and to a packet that has
no frame yet. -/
theorem frames_contiguous (cfg : Cfg) (progs : List (List Op))
    (hnd : (progs.flatMap pktsOf).Nodup) (sched : List Tid) :
    let s := run cfg (init progs) sched
    ∃ ps : List Pkt, ps.Nodup ∧
      (s.wire = frames ps ∨
       ∃ t p, s.owner = some t ∧ (s.thr t).pc.half = [(p, 0)] ∧ p ∉ ps ∧
         s.wire = frames ps ++ [(p, 0)]) := by
  have h := reach_inv cfg progs hnd sched
  exact ⟨_, h.wire.disj.1, wire_cases h.wire⟩

/-- `exactly_once`: no packet has two frames; every chunk on the wire belongs to a packet of some
program; the packets issued so far (appended to the queue, or forced) are without repetition and
are exactly — as a permutation — the sent packets, the packet in flight at the lock holder, the
queue and the failed forced writes, which are therefore pairwise disjoint. -/
theorem exactly_once (cfg : Cfg) (progs : List (List Op))
    (hnd : (progs.flatMap pktsOf).Nodup) (sched : List Tid) :
    let s := run cfg (init progs) sched
    (sentPkts s.wire).Nodup ∧
    (∀ c ∈ s.wire, c.1 ∈ progs.flatMap pktsOf) ∧
    s.issued.Nodup ∧
    (∀ p ∈ s.issued, p ∈ progs.flatMap pktsOf) ∧
    (sentPkts s.wire ++ (cur s).infl ++ s.queue ++ s.failed).Nodup ∧
    s.issued.Perm (sentPkts s.wire ++ (cur s).infl ++ s.queue ++ s.failed) := by
  intro s
  have h := reach_inv cfg progs hnd sched
  have hn : (sentPkts s.wire ++ (cur s).infl ++ s.queue ++ s.failed).Nodup := h.wire.nodup
  have hm := h.wire.mem_issued
  have hip : ∀ p ∈ s.issued, p ∈ progs.flatMap pktsOf := fun p hp => by
    obtain ⟨u, hu⟩ := h.prog.issued_prog p hp
    exact progOf_mem_flat progs u p hu
  refine ⟨h.wire.disj.1, ?_, h.fresh.issued_nodup, hip, hn, ?_⟩
  · intro c hc
    rw [h.wire.wire_eq] at hc
    apply hip
    rcases List.mem_append.mp hc with hc | hc
    · exact (hm _).mpr (Or.inl (mem_frames _ _ hc))
    · exact (hm _).mpr (Or.inr (Or.inl (half_infl _ _ hc).1))
  · rw [List.perm_ext_iff_of_nodup h.fresh.issued_nodup hn]
    intro p; simp only [List.mem_append, or_assoc]; exact hm p

/-- `per_thread_fifo`: if thread `t`'s program queues `p` and later queues `q`, then as soon as
`q` has a frame on the wire `p` has one too, and `p`'s whole frame precedes `q`'s whole frame. -/
theorem per_thread_fifo (cfg : Cfg) (progs : List (List Op))
    (hnd : (progs.flatMap pktsOf).Nodup) (sched : List Tid) (t : Tid) (p q : Pkt)
    (hpq : [Op.queued p, Op.queued q].Sublist (progOf progs t)) :
    let s := run cfg (init progs) sched
    q ∈ sentPkts s.wire →
      p ∈ sentPkts s.wire ∧ [p, q].Sublist (sentPkts s.wire) ∧
      ∃ w₁ w₂ w₃, s.wire = w₁ ++ [(p, 0), (p, 1)] ++ w₂ ++ [(q, 0), (q, 1)] ++ w₃ := by
  intro s hq
  have h := reach_inv cfg progs hnd sched
  have hsub := fifo_sent progs s h t p q hpq hq
  refine ⟨hsub.subset (by simp), hsub, ?_⟩
  obtain ⟨x, y, z, hxyz⟩ := pair_split p q _ hsub
  refine ⟨frames x, frames y, frames z ++ (cur s).half, ?_⟩
  have hw : s.wire = frames (sentPkts s.wire) ++ (cur s).half := h.wire.wire_eq
  rw [hxyz] at hw
  rw [hw]; simp [frames]

/-- The ghost context of a `disconnect` is what it claims to be: when an idle thread whose next
operation is `disconnect imm` acquires the lock, its context records `imm`, the queue, the wire
and the socket state of that moment (and the operation is consumed) … -/
theorem disconnect_ctx_set (cfg : Cfg) (s s' : Sys) (t : Tid) (imm : Bool) (rest : List Op)
    (hpc : (s.thr t).pc = .user .idle) (htd : (s.thr t).todo = .disconnect imm :: rest)
    (hs : step cfg s t = some s') :
    (s'.thr t).pc.dctx = some ⟨imm, s.queue, s.wire, s.sockOpen⟩ ∧ (s'.thr t).todo = rest := by
  unfold step at hs
  rw [hpc, htd] at hs
  simp only [stepUser, afterFlush, afterSti] at hs
  split at hs
  · simp only [Option.some.injEq] at hs; subst hs
    constructor
    · simp only [upd, if_pos]
      split <;> (try split) <;> (try split) <;> simp [Pc.dctx]
    · simp [upd]
  · cases hs

/-- … and no step of any thread changes it until that thread's own `rel` ends the disconnect. -/
theorem disconnect_ctx_stable (cfg : Cfg) (s s' : Sys) (t u : Tid) (c : DCtx)
    (hc : (s.thr u).pc.dctx = some c) (hs : step cfg s t = some s') :
    (s'.thr u).pc.dctx = some c ∨ (t = u ∧ (s'.thr u).pc = .user .idle) := by
  obtain ⟨ev, pc', td', htr, rfl⟩ := step_char cfg s s' t hs
  by_cases hu : u = t
  · subst hu
    rw [commit_thr_self]
    generalize (s.thr u).pc = pc at htr hc
    generalize (s.thr u).todo = td at htr
    cases htr <;> simp_all [Pc.dctx]
  · rw [commit_thr_other _ _ _ _ _ _ u hu]; exact Or.inl hc

/-- `graceful_flushes_then_closes`: when a thread completes a `disconnect` — it is at the final
`rel` (program counter `dRel c`) and takes that step, reaching `s'` — the socket is closed; and if
the disconnect was graceful and found the socket open, every packet that was in the queue when it
acquired the lock (`c.snap`, see `disconnect_ctx_set`) has a whole frame on the wire.  Both already
hold just before the `rel`. -/
theorem graceful_flushes_then_closes (cfg : Cfg) (progs : List (List Op))
    (hnd : (progs.flatMap pktsOf).Nodup) (sched : List Tid) (t : Tid) (c : DCtx) (s' : Sys) :
    let s := run cfg (init progs) sched
    (s.thr t).pc = .user (.dRel c) → step cfg s t = some s' →
      s'.log = s.log ++ [(t, .rel)] ∧ (s'.thr t).pc = .user .idle ∧
      s.sockOpen = false ∧ s'.sockOpen = false ∧ s'.wire = s.wire ∧
      (c.imm = false → c.open0 = true → ∀ p ∈ c.snap, p ∈ sentPkts s'.wire) := by
  intro s hpc hs
  have h := reach_inv cfg progs hnd sched
  obtain ⟨e1, e2, e3, e4⟩ := drel_step cfg s s' t c hpc hs
  have hcur : cur s = .user (.dRel c) := by
    rw [cur_of_crit h.lock t (by rw [hpc]; rfl), hpc]
  have hcl : s.sockOpen = false := h.wire.rel_closed c hcur
  refine ⟨e4, e3, hcl, by rw [e2]; exact hcl, e1, fun hi ho p hp => ?_⟩
  have := h.wire.snap c (by rw [hcur]; rfl) hi ho p hp
  rw [hcur] at this
  rw [e1]
  simpa [Pc.flushing] using this

/-- … and all the way through a graceful disconnect the snapshot is accounted for: each of its
packets is sent, in flight at this very thread, or still in the queue (so nobody else takes
them), and after the flush loop (`sti`, `shut`, `cls`, `rel`) all of them are sent. -/
theorem graceful_flush_progress (cfg : Cfg) (progs : List (List Op))
    (hnd : (progs.flatMap pktsOf).Nodup) (sched : List Tid) (t : Tid) (c : DCtx) :
    let s := run cfg (init progs) sched
    (s.thr t).pc.dctx = some c → c.imm = false → c.open0 = true → ∀ p ∈ c.snap,
      p ∈ sentPkts s.wire ∨
        ((s.thr t).pc.flushing = true ∧ (p ∈ (s.thr t).pc.popped ∨ p ∈ s.queue)) := by
  intro s hc hi ho p hp
  have h := reach_inv cfg progs hnd sched
  have hcur : cur s = (s.thr t).pc := cur_of_crit h.lock t (dctx_crit _ c hc)
  have := h.wire.snap c (by rw [hcur]; exact hc) hi ho p hp
  rwa [hcur] at this

/-- `immediate_sends_nothing_more`: once the socket is closed (the `cls` step of any disconnect,
immediate or not, sets `sockOpen := false`), no continuation of the schedule changes the wire or
re-opens the socket. -/
theorem immediate_sends_nothing_more (cfg : Cfg) (progs : List (List Op))
    (hnd : (progs.flatMap pktsOf).Nodup) (sched more : List Tid) :
    let s := run cfg (init progs) sched
    s.sockOpen = false →
      (run cfg (init progs) (sched ++ more)).wire = s.wire ∧
      (run cfg (init progs) (sched ++ more)).sockOpen = false := by
  intro s hc
  rw [run_append]
  exact closed_run cfg progs more s (reach_inv cfg progs hnd sched) hc

/-- `immediate_disconnect_wire_unchanged`: while a thread is anywhere inside `disconnect(True)` the
wire is exactly what it was when that thread acquired the lock — neither it nor anybody else has
appended a chunk. -/
theorem immediate_disconnect_wire_unchanged (cfg : Cfg) (progs : List (List Op))
    (hnd : (progs.flatMap pktsOf).Nodup) (sched : List Tid) (t : Tid) (c : DCtx) :
    let s := run cfg (init progs) sched
    (s.thr t).pc.dctx = some c → c.imm = true → s.wire = c.wire0 := by
  intro s hc hi
  have h := reach_inv cfg progs hnd sched
  have hcur : cur s = (s.thr t).pc := cur_of_crit h.lock t (dctx_crit _ c hc)
  exact h.wire.imm_wire c (by rw [hcur]; exact hc) hi

/-- `closed_socket_discipline`: a `fail`ed write exists only if the socket is closed, the open
length prefix of a frame exists only while the socket is open, and `popleft` is never executed on
an empty queue.  (That nothing is sent once the socket is closed is
`immediate_sends_nothing_more`.) -/
theorem closed_socket_discipline (cfg : Cfg) (progs : List (List Op))
    (hnd : (progs.flatMap pktsOf).Nodup) (sched : List Tid) :
    let s := run cfg (init progs) sched
    (s.failed ≠ [] → s.sockOpen = false) ∧ ((cur s).half ≠ [] → s.sockOpen = true) ∧
    ((cur s).atPop = true → s.queue ≠ []) := by
  intro s
  have h := reach_inv cfg progs hnd sched
  exact ⟨h.wire.failed_closed, fun hh => h.wire.needs_open (half_needsOpen _ hh), h.wire.pop_ok⟩

/-- The `fail` branches of the flush loop and of the networking thread's write loop are
unreachable: in a reachable state, a step that logs `fail` is a forced write that found the socket
closed (the exception goes to the caller of `write_packet(force=True)`), and its packet is the one
recorded in `failed`. -/
theorem fail_only_forced_write (cfg : Cfg) (progs : List (List Op))
    (hnd : (progs.flatMap pktsOf).Nodup) (sched : List Tid) (t : Tid) (s' : Sys) :
    let s := run cfg (init progs) sched
    step cfg s t = some s' → s'.log = s.log ++ [(t, .fail)] →
      ∃ p, (s.thr t).pc = .user (.fSnd0 p) ∧ s.sockOpen = false ∧ s'.failed = s.failed ++ [p] := by
  intro s hs hf
  exact fail_only_forced cfg progs s s' t (reach_inv cfg progs hnd sched) hs hf

/-- `all_sent_or_dropped_after_disconnect_partial`: in a final state (every thread at `end`) — the
networking thread can only finish after a disconnect has interrupted it, so a disconnect has
necessarily been executed — the socket is closed, the lock is free, the wire consists of whole
frames only, every program has been executed completely, and every packet of every program is in
exactly one of three places: framed on the wire, left in the queue, or failed.  WHEN the packets
left in the queue or failed were handed over (after the disconnect's last `chk 0` (graceful) / after
the `acq` of an immediate disconnect or the close) is not said here; that timing is
`C12Final.all_sent_or_dropped_after_disconnect`.  Note that "appended after the close" is not true
in general: a packet appended between the last `chk 0` of a graceful disconnect and its `cls` stays
in the queue. -/
theorem all_sent_or_dropped_after_disconnect_partial (cfg : Cfg) (progs : List (List Op))
    (hnd : (progs.flatMap pktsOf).Nodup) (sched : List Tid) :
    let s := run cfg (init progs) sched
    (∀ t, (s.thr t).pc.isDone = true) →
      s.sockOpen = false ∧ s.interrupt = true ∧ s.owner = none ∧
      s.wire = frames (sentPkts s.wire) ∧
      (∀ t, (s.thr t).todo = []) ∧
      (∀ p ∈ progs.flatMap pktsOf, p ∈ sentPkts s.wire ∨ p ∈ s.queue ∨ p ∈ s.failed) ∧
      (sentPkts s.wire ++ s.queue ++ s.failed).Nodup := by
  intro s hdone
  have h := reach_inv cfg progs hnd sched
  have hown : s.owner = none := by
    cases ho : s.owner with
    | none => rfl
    | some t =>
      have hc := (h.lock.crit_owner t).mpr ho
      have hd := hdone t
      revert hc hd
      cases (s.thr t).pc with
      | user pc => cases pc <;> simp [Pc.isDone, Pc.crit, UPc.crit]
      | net pc n => cases pc <;> simp [Pc.isDone, Pc.crit, NPc.crit]
  have hcur : cur s = .user .idle := cur_of_free hown
  have hint : s.interrupt = true := by
    obtain ⟨pc, n, h0⟩ := h.lock.nt_net
    have hd := hdone 0
    rw [h0] at hd
    have : pc = .done := by cases pc <;> simp [Pc.isDone] at hd ⊢
    exact h.lock.nt_exit pc n h0 (by rw [this]; rfl)
  have hclosed : s.sockOpen = false := by
    rcases h.wire.int_closed hint with hc | hc
    · exact hc
    · rw [hcur] at hc; simp [Pc.pastSti] at hc
  have htodo : ∀ t, (s.thr t).todo = [] := by
    intro t
    have hd := hdone t
    cases hpc : (s.thr t).pc with
    | user pc =>
      rw [hpc] at hd
      have : pc = .done := by cases pc <;> simp [Pc.isDone] at hd ⊢
      exact h.prog.done_empty t (by rw [hpc, this])
    | net pc n =>
      have h0 := h.lock.net_zero t pc n hpc
      subst h0
      obtain ⟨done, hd1, -, -⟩ := h.prog.prog 0
      have : progOf progs 0 = [] := rfl
      rw [this] at hd1
      exact (List.append_eq_nil_iff.mp hd1.symm).2
  have hw := h.wire.wire_eq
  have hn := h.wire.nodup
  rw [hcur] at hw hn
  refine ⟨hclosed, hint, hown, by simpa [Pc.half] using hw, htodo, ?_, by simpa [Pc.infl] using hn⟩
  intro p hp
  obtain ⟨t, ht⟩ := flat_mem_progOf progs p hp
  obtain ⟨done, hd1, -, hd3⟩ := h.prog.prog t
  rw [htodo t, List.append_nil] at hd1
  have := (h.wire.mem_issued p).mp (hd3 p (by rw [← hd1]; exact ht))
  rw [hcur] at this
  simpa [Pc.infl] using this

/-! ### Non-vacuity -/

/-- Two user threads: `1` queues 1, forces 2 and disconnects gracefully; `2` queues 3 and 4. -/
def exProgs : List (List Op) :=
  [[.queued 1, .forced 2, .disconnect false], [.queued 3, .queued 4]]

/-- A complete schedule in which the networking thread sends the three queued packets while
thread 2 keeps appending, thread 1 then forces packet 2 and disconnects. -/
def exSched : List Tid :=
  [
    1, 0, 0, 0, 2, 0, 0, 0, 0, 2, 0, 0, 0, 0, 2, 0, 0, 0, 0, 0, 0, 0, 0, 0, 0, 0, 0, 0, 1, 1,
    1, 1, 0, 0, 0, 0, 0, 0, 0, 0, 1, 1, 1, 1, 1, 1, 0, 0, 0, 0, 1, 0, 0, 0, 0, 0]

/-- Thread `1` queues 1, disconnects immediately and then forces 2; thread `2` queues 3. -/
def exProgsImm : List (List Op) := [[.queued 1, .disconnect true, .forced 2], [.queued 3]]

def exSchedImm : List Tid :=
  [
    1, 0, 2, 1, 2, 1, 1, 1, 1, 0, 0, 0, 0, 1, 0, 1, 0, 1, 0, 1, 0, 0]

example : (exProgs.flatMap pktsOf).Nodup := by decide
example : (exProgsImm.flatMap pktsOf).Nodup := by decide

/-- The run ends with all threads at `end`, the socket closed, and a non-empty wire of whole
frames in which 3 precedes 4 (same thread, FIFO). -/
example :
    let s := run ⟨300, 50⟩ (init exProgs) exSched
    allDoneUpTo s 2 = true ∧ s.sockOpen = false ∧ s.queue = [] ∧
    s.wire = [(1, 0), (1, 1), (3, 0), (3, 1), (4, 0), (4, 1), (2, 0), (2, 1)] ∧
    skipped ⟨300, 50⟩ (init exProgs) exSched = 0 := by decide

/-- With tiny caps the same schedule prefix makes the networking thread stop after one packet. -/
example :
    (run ⟨1, 1⟩ (init exProgs) (exSched.take 12)).wire = [(1, 0), (1, 1)] := by decide

/-- An immediate disconnect: nothing reaches the wire, the queued packets stay in the queue and
the forced write after the close fails; all threads finish. -/
example :
    let s := run ⟨300, 50⟩ (init exProgsImm) exSchedImm
    allDoneUpTo s 2 = true ∧ s.sockOpen = false ∧ s.wire = [] ∧ s.queue = [1, 3] ∧
    s.failed = [2] := by decide

/-- The hypotheses of `per_thread_fifo` and of `graceful_flushes_then_closes` are satisfiable:
thread 2 queues 3 before 4, and some reachable state has thread 1 at the final `rel` of a
graceful disconnect that found the socket open with a non-empty queue snapshot. -/
example : [Op.queued 3, Op.queued 4].Sublist (progOf exProgs 2) := by decide
example :
    ∃ c, ((run ⟨300, 50⟩ (init exProgs) ([1, 2] ++ List.replicate 17 1)).thr 1).pc
        = .user (.dRel c) ∧ c.imm = false ∧ c.open0 = true ∧ c.snap = [1, 3] ∧
      (step ⟨300, 50⟩ (run ⟨300, 50⟩ (init exProgs) ([1, 2] ++ List.replicate 17 1)) 1).isSome :=
  ⟨⟨false, [1, 3], [(2, 0), (2, 1)], true⟩, by decide⟩

end PyCraft.C12
