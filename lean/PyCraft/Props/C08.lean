import PyCraft.Lemmas.Versions
import PyCraft.Lemmas.VersionsLive
/-!
# C08 — Protocol versions are totally ordered by publication; derived tables agree

Every theorem is for ALL record lists `recs` (`KNOWN_MINECRAFT_VERSION_RECORDS`), hence also for a
list extended at run time.  `initKnown recs` is `initglobals(use_known_records=True)`.  "Known
version" means a member of `(initKnown recs).knownProtocols`.

Specification vocabulary (defined in `Lemmas/Versions.lean`, independently of the model's loops):
`dedup` (keep first occurrences), `odFromList` (`OrderedDict(pairs)`), `lastVal` (value of the last
pair with a given key), `recPairs recs` (the `(id, protocol)` pairs), `specTables`.

Only property theorems and non-vacuity examples live here.
-/
namespace PyCraft.C08
open PyCraft

/-- Master statement: all seven tables are the closed-form projections of the record list. -/
theorem tables_are_projections (recs : List Rec) : initKnown recs = specTables recs :=
  initKnown_eq_spec recs

/-- `KNOWN_PROTOCOL_VERSIONS` is the order-preserving duplicate-free projection of the records'
protocol numbers: it equals `dedup`, has no duplicates, has exactly the records' protocol numbers
as members, is a sublist of them, and lists them in order of FIRST occurrence. -/
theorem known_protocols_dedup (recs : List Rec) :
    (initKnown recs).knownProtocols = dedup (recs.map (·.protocol)) ∧
    (initKnown recs).knownProtocols.Nodup ∧
    (∀ p, p ∈ (initKnown recs).knownProtocols ↔ p ∈ recs.map (·.protocol)) ∧
    (initKnown recs).knownProtocols.Sublist (recs.map (·.protocol)) ∧
    (∀ a b, (initKnown recs).knownProtocols.idxOf a < (initKnown recs).knownProtocols.idxOf b ↔
      (recs.map (·.protocol)).idxOf a < (recs.map (·.protocol)).idxOf b) := by
  rw [knownProtocols_eq]
  exact ⟨rfl, nodup_dedup _, mem_dedup _, dedup_sublist _, idxOf_dedup_lt _⟩

/-- `KNOWN_MINECRAFT_VERSIONS` is `OrderedDict((r.id, r.protocol) for r in records)`: its keys are
the ids in order of first occurrence without duplicates, and each id maps to the protocol of the
LAST record with that id. -/
theorem known_versions_projection (recs : List Rec) :
    (initKnown recs).knownVersions = odFromList (recPairs recs) ∧
    (initKnown recs).knownVersions.map (·.1) = dedup (recs.map (·.id)) ∧
    (∀ k, odGet (initKnown recs).knownVersions k = lastVal (recPairs recs) k) := by
  refine ⟨knownVersions_eq recs, knownVersions_keys recs, fun k => ?_⟩
  rw [knownVersions_eq, odGet_odFromList]

/-- `PROTOCOL_VERSION_INDICES` maps each known protocol number to its position in
`KNOWN_PROTOCOL_VERSIONS` and nothing else: the table is literally the list zipped with positions,
`index pv = some i` iff `pv` is the `i`-th known version, unknown numbers have no index
(`KeyError`), and the index is injective. -/
theorem indices_spec (recs : List Rec) :
    (initKnown recs).indices = (initKnown recs).knownProtocols.zipIdx ∧
    (∀ pv i, index (initKnown recs) pv = some i ↔ (initKnown recs).knownProtocols[i]? = some pv) ∧
    (∀ pv, index (initKnown recs) pv = none ↔ pv ∉ (initKnown recs).knownProtocols) ∧
    (∀ a b i, index (initKnown recs) a = some i → index (initKnown recs) b = some i → a = b) := by
  have hI := indexed_initKnown recs
  refine ⟨hI.indices, hI.index_eq_some_iff, ?_, ?_⟩
  · intro pv
    rw [hI.index]
    by_cases h : pv ∈ (initKnown recs).knownProtocols <;> simp [h]
  · intro a b i ha hb
    have h1 := (hI.index_eq_some_iff a i).1 ha
    have h2 := (hI.index_eq_some_iff b i).1 hb
    rw [h1] at h2
    exact Option.some.inj h2

/-- On known versions `protocol_earlier` is a strict total order that coincides with position:
comparing the `i`-th and `j`-th known version answers `i < j`; it is irreflexive, transitive and
trichotomous (exactly one of `a` earlier `b`, `a = b`, `b` earlier `a`); it agrees with the order
of first occurrence in the record list; and it raises (`KeyError`) exactly when an argument is
unknown. -/
theorem order_strict_total (recs : List Rec) :
    (∀ i j (hi : i < (initKnown recs).knownProtocols.length)
        (hj : j < (initKnown recs).knownProtocols.length),
      earlier (initKnown recs) (initKnown recs).knownProtocols[i]
        (initKnown recs).knownProtocols[j] = .ok (decide (i < j))) ∧
    (∀ a ∈ (initKnown recs).knownProtocols, earlier (initKnown recs) a a = .ok false) ∧
    (∀ a ∈ (initKnown recs).knownProtocols, ∀ b ∈ (initKnown recs).knownProtocols,
      ∀ c ∈ (initKnown recs).knownProtocols,
      earlier (initKnown recs) a b = .ok true → earlier (initKnown recs) b c = .ok true →
      earlier (initKnown recs) a c = .ok true) ∧
    (∀ a ∈ (initKnown recs).knownProtocols, ∀ b ∈ (initKnown recs).knownProtocols,
      (earlier (initKnown recs) a b = .ok true ∧ a ≠ b ∧ earlier (initKnown recs) b a = .ok false) ∨
      (earlier (initKnown recs) a b = .ok false ∧ a = b ∧ earlier (initKnown recs) b a = .ok false) ∨
      (earlier (initKnown recs) a b = .ok false ∧ a ≠ b ∧ earlier (initKnown recs) b a = .ok true)) ∧
    (∀ a ∈ (initKnown recs).knownProtocols, ∀ b ∈ (initKnown recs).knownProtocols,
      earlier (initKnown recs) a b
        = .ok (decide ((recs.map (·.protocol)).idxOf a < (recs.map (·.protocol)).idxOf b))) ∧
    (∀ a b, earlier (initKnown recs) a b = .error .other ↔
      (a ∉ (initKnown recs).knownProtocols ∨ b ∉ (initKnown recs).knownProtocols)) := by
  have hE : ∀ a ∈ (initKnown recs).knownProtocols, ∀ b ∈ (initKnown recs).knownProtocols,
      earlier (initKnown recs) a b = .ok (decide ((initKnown recs).knownProtocols.idxOf a
        < (initKnown recs).knownProtocols.idxOf b)) :=
    fun a ha b hb => ((indexed_initKnown recs).earlier_known ha hb).1
  have hnd := knownProtocols_nodup recs
  refine ⟨?_, ?_, ?_, ?_, ?_, ?_⟩
  · intro i j hi hj
    rw [hE _ (List.getElem_mem hi) _ (List.getElem_mem hj),
      hnd.idxOf_getElem i hi, hnd.idxOf_getElem j hj]
  · intro a ha
    rw [hE a ha a ha]; simp
  · intro a ha b hb c hc
    rw [hE a ha b hb, hE b hb c hc, hE a ha c hc]
    simp only [Except.ok.injEq, decide_eq_true_eq]
    omega
  · intro a ha b hb
    rw [hE a ha b hb, hE b hb a ha]
    have := idxOf_inj_of_mem ha hb
    simp only [Except.ok.injEq, decide_eq_true_eq, decide_eq_false_iff_not, ne_eq]
    by_cases hab : a = b
    · subst hab; simp
    · have hne : (initKnown recs).knownProtocols.idxOf a ≠ (initKnown recs).knownProtocols.idxOf b :=
        fun e => hab (this e)
      simp only [hab, not_false_eq_true, false_and, and_false, true_and, false_or]
      omega
  · intro a ha b hb
    rw [hE a ha b hb]
    congr 1
    rw [knownProtocols_eq]
    exact decide_eq_decide.2 (idxOf_dedup_lt _ a b)
  · intro a b
    by_cases h : a ∈ (initKnown recs).knownProtocols ∧ b ∈ (initKnown recs).knownProtocols
    · rw [hE a h.1 b h.2]; simp [h.1, h.2]
    · have h' := Classical.not_and_iff_not_or_not.1 h
      simp [((indexed_initKnown recs).earlier_unknown h').1, h']

/-- The five `ConnectionContext` predicates are expressed through the one order, as equalities of
results (value or `KeyError`) for ALL arguments:
`earlier_eq a b` = `earlier a b or a == b`; `later a b` = `earlier b a`;
`later_eq a b` = `not earlier a b`; and `in_range v s e` is true exactly when `later_eq v s` and
`earlier v e` are both true.  When all three arguments are known, `in_range` equals the
conjunction outright. -/
theorem predicates_consistent (recs : List Rec) (a b : Nat) :
    earlierEq (initKnown recs) a b
      = (earlier (initKnown recs) a b).map (fun x => x || decide (a = b)) ∧
    later (initKnown recs) a b = earlier (initKnown recs) b a ∧
    laterEq (initKnown recs) a b = (earlier (initKnown recs) a b).map (fun x => !x) ∧
    (∀ v s e, inRange (initKnown recs) v s e = .ok true ↔
      (laterEq (initKnown recs) v s = .ok true ∧ earlier (initKnown recs) v e = .ok true)) ∧
    (∀ v ∈ (initKnown recs).knownProtocols, ∀ s ∈ (initKnown recs).knownProtocols,
      ∀ e ∈ (initKnown recs).knownProtocols,
      inRange (initKnown recs) v s e
        = (do let l ← laterEq (initKnown recs) v s
              let r ← earlier (initKnown recs) v e
              pure (l && r))) := by
  have hI := indexed_initKnown recs
  refine ⟨?_, rfl, ?_, ?_, ?_⟩
  · by_cases h : a ∈ (initKnown recs).knownProtocols ∧ b ∈ (initKnown recs).knownProtocols
    · obtain ⟨ha, hb⟩ := h
      rw [(hI.earlier_known ha hb).1, (hI.earlier_known ha hb).2]
      simp only [Except.map, Except.ok.injEq]
      by_cases hab : a = b
      · subst hab; simp
      · have hne : (initKnown recs).knownProtocols.idxOf a
            ≠ (initKnown recs).knownProtocols.idxOf b := fun e => hab (idxOf_inj_of_mem ha hb e)
        simp only [hab, decide_false, Bool.or_false, decide_eq_decide]
        omega
    · have := hI.earlier_unknown (Classical.not_and_iff_not_or_not.1 h)
      rw [this.1, this.2]; rfl
  · show earlierEq (initKnown recs) b a = _
    rcases indexE_cases (initKnown recs) a with ⟨i, ha⟩ | ha
    · rcases indexE_cases (initKnown recs) b with ⟨j, hb⟩ | hb
      · rw [earlier_ok _ a b i j ha hb, earlierEq_ok _ b a j i hb ha]
        simp only [Except.map, Except.ok.injEq]
        by_cases h : i < j <;> simp [h] <;> omega
      · rw [(earlier_err_right _ a b hb).1, (earlier_err_left _ b a hb).2]; rfl
    · rw [(earlier_err_left _ a b ha).1, (earlier_err_right _ b a ha).2]; rfl
  · intro v s e
    show _ ↔ (earlierEq (initKnown recs) s v = .ok true ∧ _)
    unfold inRange
    cases h : earlier (initKnown recs) v e with
    | error x => simp [bind, Except.bind]
    | ok r => cases r <;> simp [bind, Except.bind, pure, Except.pure]
  · intro v hv s hs e he
    show _ = (do let l ← earlierEq (initKnown recs) s v; let r ← earlier (initKnown recs) v e
                 pure (l && r))
    rw [hI.inRange_known hv hs he, (hI.earlier_known hv he).1, (hI.earlier_known hs hv).2]
    simp only [Bool.decide_and]
    rfl

/-- Python's `and` short-circuits in `protocol_in_range`: with `v` and `end` known and `v` NOT
earlier than `end`, the answer is `False` even if `start` is unknown (no `KeyError`), whereas with
`v` earlier than `end` an unknown `start` raises. -/
theorem in_range_short_circuit (recs : List Rec) (v s e : Nat)
    (hs : s ∉ (initKnown recs).knownProtocols) :
    (earlier (initKnown recs) v e = .ok false → inRange (initKnown recs) v s e = .ok false) ∧
    (earlier (initKnown recs) v e = .ok true → inRange (initKnown recs) v s e = .error .other) := by
  constructor
  · intro h; simp [inRange, h, bind, Except.bind, pure, Except.pure]
  · intro h
    simp only [inRange, h, bind, Except.bind, if_true]
    exact ((indexed_initKnown recs).earlier_unknown (Or.inl hs)).2

/-- `SUPPORTED_MINECRAFT_VERSIONS` is the ordered dict of the `(id, protocol)` pairs of the
supported records (keys in order of first insertion, no duplicate keys, LAST protocol wins for a
repeated id); `SUPPORTED_PROTOCOL_VERSIONS` is the duplicate-free projection of its values in
order; every supported protocol is known and every supported id is a known id. -/
theorem supported_projection (recs : List Rec) :
    (initKnown recs).supportedVersions = odFromList (recPairs (recs.filter (·.supported))) ∧
    (initKnown recs).supportedVersions.map (·.1)
      = dedup ((recs.filter (·.supported)).map (·.id)) ∧
    (∀ k v, (k, v) ∈ (initKnown recs).supportedVersions ↔
      lastVal (recPairs (recs.filter (·.supported))) k = some v) ∧
    (initKnown recs).supportedProtocols
      = dedup ((initKnown recs).supportedVersions.map (·.2)) ∧
    (∀ p ∈ (initKnown recs).supportedProtocols, p ∈ (initKnown recs).knownProtocols) ∧
    (∀ k ∈ (initKnown recs).supportedVersions.map (·.1),
      k ∈ (initKnown recs).knownVersions.map (·.1)) := by
  refine ⟨supportedVersions_eq recs, supportedVersions_keys recs, fun k v => ?_,
    supportedProtocols_eq recs, supportedProtocols_known recs, fun k hk => ?_⟩
  · rw [supportedVersions_eq, mem_iff_odGet _ (odFromList_keys_nodup _), odGet_odFromList]
  · rw [supportedVersions_keys, mem_dedup] at hk
    obtain ⟨r, hr, rfl⟩ := List.mem_map.1 hk
    rw [knownVersions_keys, mem_dedup]
    exact List.mem_map.2 ⟨r, (List.mem_filter.1 hr).1, rfl⟩

/-- `RELEASE_MINECRAFT_VERSIONS` is `SUPPORTED_MINECRAFT_VERSIONS` filtered by the release-name
pattern (same order, same values); `RELEASE_PROTOCOL_VERSIONS` is the duplicate-free projection of
its values in order; every release protocol is a supported protocol. -/
theorem release_projection (recs : List Rec) :
    (initKnown recs).releaseVersions
      = (initKnown recs).supportedVersions.filter (fun e => isRelease e.1) ∧
    (∀ k v, (k, v) ∈ (initKnown recs).releaseVersions ↔
      ((k, v) ∈ (initKnown recs).supportedVersions ∧ isRelease k = true)) ∧
    (initKnown recs).releaseVersions.Sublist (initKnown recs).supportedVersions ∧
    (initKnown recs).releaseProtocols = dedup ((initKnown recs).releaseVersions.map (·.2)) ∧
    (∀ p ∈ (initKnown recs).releaseProtocols, p ∈ (initKnown recs).supportedProtocols) := by
  refine ⟨releaseVersions_eq recs, fun k v => ?_, ?_, releaseProtocols_eq recs,
    releaseProtocols_supported recs⟩
  · rw [releaseVersions_eq, List.mem_filter]
  · rw [releaseVersions_eq]; exact List.filter_sublist

/-- The backward-compatible mode `initglobals()` run on ANY state `t` after the user has replaced
`SUPPORTED_MINECRAFT_VERSIONS` by a dict `sv` (distinct keys): the known tables and the index map
are untouched and the three dependent tables are the projections of `sv`. -/
theorem supported_only_projection (t : Tables) (sv : List (String × Nat))
    (hsv : (sv.map (·.1)).Nodup) :
    initSupportedOnly t sv =
      { knownVersions := t.knownVersions
        knownProtocols := t.knownProtocols
        supportedVersions := sv
        indices := t.indices
        supportedProtocols := dedup (sv.map (·.2))
        releaseVersions := sv.filter (fun e => isRelease e.1)
        releaseProtocols := dedup ((sv.filter (fun e => isRelease e.1)).map (·.2)) } := by
  unfold initSupportedOnly
  rw [rebuildSupported_eq]
  simp only [odFromList_of_nodup _ ((List.filter_sublist.map _).nodup hsv)]

/-- Re-initialising is idempotent: `initglobals(True)` ignores the previous contents of the
globals, so running it again on its own output (or on anything else) gives the same tables; and
`initglobals(False)` run on that output changes nothing. -/
theorem init_idempotent (recs : List Rec) :
    (∀ prev, initKnownFrom prev recs = initKnown recs) ∧
    initglobals true recs (initKnown recs) = initKnown recs ∧
    initglobals false recs (initKnown recs) = initKnown recs ∧
    initSupportedOnly (initKnown recs) (initKnown recs).supportedVersions = initKnown recs := by
  have h1 : ∀ prev, initKnownFrom prev recs = initKnown recs := fun prev => by
    rw [initKnownFrom_eq_spec, initKnown_eq_spec]
  have h2 : initSupportedOnly (initKnown recs) (initKnown recs).supportedVersions
      = initKnown recs := by
    rw [supported_only_projection _ _ (supportedVersions_keys_nodup recs)]
    rw [initKnown_eq_spec]; rfl
  exact ⟨h1, h1 _, h2, h2⟩

/-- Run-time extension, part 1: after appending records and re-running `initglobals(True)` on the
live state, every law above holds for the extended list (they are quantified over all lists; this
is the explicit instantiation). -/
theorem extend_then_init (recs ext : List Rec) :
    initglobals true (recs ++ ext) (initKnown recs) = initKnown (recs ++ ext) ∧
    initKnown (recs ++ ext) = specTables (recs ++ ext) ∧
    type_of% (known_protocols_dedup (recs ++ ext)) ∧
    type_of% (known_versions_projection (recs ++ ext)) ∧
    type_of% (indices_spec (recs ++ ext)) ∧
    type_of% (order_strict_total (recs ++ ext)) ∧
    (∀ a b, type_of% (predicates_consistent (recs ++ ext) a b)) ∧
    type_of% (supported_projection (recs ++ ext)) ∧
    type_of% (release_projection (recs ++ ext)) ∧
    type_of% (init_idempotent (recs ++ ext)) :=
  ⟨(init_idempotent (recs ++ ext)).1 _, tables_are_projections _, known_protocols_dedup _,
    known_versions_projection _, indices_spec _, order_strict_total _,
    fun a b => predicates_consistent _ a b, supported_projection _, release_projection _,
    init_idempotent _⟩

/-- Run-time extension, part 2 (monotonicity): appending records never disturbs what was there.
The old known-protocol list is a prefix of the new one, every old index is unchanged, all
comparisons between previously known versions give the same answers, and the old id lists (known
and supported) are prefixes of the new ones. -/
theorem extend_monotone (recs ext : List Rec) :
    (initKnown recs).knownProtocols <+: (initKnown (recs ++ ext)).knownProtocols ∧
    (∀ pv i, index (initKnown recs) pv = some i → index (initKnown (recs ++ ext)) pv = some i) ∧
    (∀ a ∈ (initKnown recs).knownProtocols, ∀ b ∈ (initKnown recs).knownProtocols,
      earlier (initKnown (recs ++ ext)) a b = earlier (initKnown recs) a b ∧
      earlierEq (initKnown (recs ++ ext)) a b = earlierEq (initKnown recs) a b) ∧
    (∀ v ∈ (initKnown recs).knownProtocols, ∀ s ∈ (initKnown recs).knownProtocols,
      ∀ e ∈ (initKnown recs).knownProtocols,
      inRange (initKnown (recs ++ ext)) v s e = inRange (initKnown recs) v s e) ∧
    (initKnown recs).knownVersions.map (·.1) <+: (initKnown (recs ++ ext)).knownVersions.map (·.1) ∧
    (initKnown recs).supportedVersions.map (·.1)
      <+: (initKnown (recs ++ ext)).supportedVersions.map (·.1) := by
  have hpre : (initKnown recs).knownProtocols <+: (initKnown (recs ++ ext)).knownProtocols := by
    rw [knownProtocols_eq, knownProtocols_eq, List.map_append]
    exact dedup_prefix_append _ _
  have hidx : ∀ pv i, index (initKnown recs) pv = some i →
      index (initKnown (recs ++ ext)) pv = some i := by
    intro pv i h
    rw [(indexed_initKnown _).index_eq_some_iff] at h ⊢
    obtain ⟨l, hl⟩ := hpre
    rw [← hl, List.getElem?_append_left (by
      rcases List.getElem?_eq_some_iff.1 h with ⟨hi, _⟩; exact hi)]
    exact h
  have hE : ∀ a ∈ (initKnown recs).knownProtocols,
      indexE (initKnown (recs ++ ext)) a = indexE (initKnown recs) a := by
    intro a ha
    have h1 : index (initKnown recs) a = some ((initKnown recs).knownProtocols.idxOf a) := by
      rw [(indexed_initKnown recs).index, if_pos ha]
    unfold indexE
    rw [hidx a _ h1, h1]
  have hcmp : ∀ a ∈ (initKnown recs).knownProtocols, ∀ b ∈ (initKnown recs).knownProtocols,
      earlier (initKnown (recs ++ ext)) a b = earlier (initKnown recs) a b ∧
      earlierEq (initKnown (recs ++ ext)) a b = earlierEq (initKnown recs) a b := by
    intro a ha b hb
    simp only [earlier, earlierEq, hE a ha, hE b hb, and_self]
  refine ⟨hpre, hidx, hcmp, ?_, ?_, ?_⟩
  · intro v hv s hs e he
    simp only [inRange, (hcmp v hv e he).1, (hcmp s hs v hv).2]
  · rw [knownVersions_keys, knownVersions_keys, List.map_append]
    exact dedup_prefix_append _ _
  · rw [supportedVersions_keys, supportedVersions_keys, List.filter_append, List.map_append]
    exact dedup_prefix_append _ _

/-! ### The release-name recogniser on sample ids -/

example : isRelease "1.18.1" = true ∧ isRelease "1.7" = true ∧ isRelease "1.18\n" = true := by
  decide +kernel
example : isRelease "1" = false ∧ isRelease "1." = false ∧ isRelease ".1" = false ∧
    isRelease "1..2" = false ∧ isRelease "" = false ∧ isRelease "21w44a" = false ∧
    isRelease "1.18-rc4" = false ∧ isRelease "1.18\n\n" = false ∧ isRelease "1.18 " = false ∧
    isRelease "\n" = false ∧ isRelease "1.1\n8" = false := by decide +kernel

/-! ### Non-vacuity: a concrete record list with a duplicate protocol (`757`), a repeated id
(`"1.18"`: first supported with protocol 757, later re-listed unsupported with protocol 758),
supported and unsupported records, release and snapshot ids. -/

def sample : List Rec :=
  [⟨"1.17", 755, true⟩, ⟨"21w44a", 1073741872, false⟩, ⟨"1.18-rc4", 1073741884, true⟩,
   ⟨"1.18", 757, true⟩, ⟨"1.18.1", 757, true⟩, ⟨"1.18", 758, false⟩, ⟨"1.17", 756, true⟩]

example : initKnown sample =
    { knownVersions := [("1.17", 756), ("21w44a", 1073741872), ("1.18-rc4", 1073741884),
                        ("1.18", 758), ("1.18.1", 757)]
      knownProtocols := [755, 1073741872, 1073741884, 757, 758, 756]
      supportedVersions := [("1.17", 756), ("1.18-rc4", 1073741884), ("1.18", 757), ("1.18.1", 757)]
      indices := [(755, 0), (1073741872, 1), (1073741884, 2), (757, 3), (758, 4), (756, 5)]
      supportedProtocols := [756, 1073741884, 757]
      releaseVersions := [("1.17", 756), ("1.18", 757), ("1.18.1", 757)]
      releaseProtocols := [756, 757] } := by decide +kernel

-- the order is by position, not by number: the snapshot 2^30+48 is earlier than release 757
example : earlier (initKnown sample) 1073741872 757 = .ok true ∧
    earlier (initKnown sample) 757 1073741872 = .ok false ∧
    earlier (initKnown sample) 757 757 = .ok false ∧
    earlierEq (initKnown sample) 757 757 = .ok true ∧
    later (initKnown sample) 758 757 = .ok true ∧
    laterEq (initKnown sample) 755 757 = .ok false ∧
    inRange (initKnown sample) 757 1073741872 758 = .ok true ∧
    inRange (initKnown sample) 758 1073741872 758 = .ok false ∧
    earlier (initKnown sample) 757 999 = .error .other ∧
    inRange (initKnown sample) 758 999 757 = .ok false ∧
    inRange (initKnown sample) 755 999 757 = .error .other := by decide +kernel

-- hypotheses of the "known version" clauses are satisfiable
example : 757 ∈ (initKnown sample).knownProtocols ∧ 999 ∉ (initKnown sample).knownProtocols := by
  decide +kernel

-- a repeated id can make the supported table disagree with the known table on that id's protocol
-- (supported keeps 757 from the supported record, known has 758 from the later unsupported one)
example : odGet (initKnown sample).supportedVersions "1.18" = some 757 ∧
    odGet (initKnown sample).knownVersions "1.18" = some 758 := by decide +kernel

-- extension at run time: new records appended, old indices unchanged, new version is latest
example : index (initKnown (sample ++ [⟨"1.19", 759, true⟩])) 759 = some 6 ∧
    index (initKnown (sample ++ [⟨"1.19", 759, true⟩])) 757 = index (initKnown sample) 757 := by
  decide +kernel

-- backward-compatible mode with a user-edited supported dict
example : (initSupportedOnly (initKnown sample) [("1.19", 759), ("22w11a", 1073741900)]).releaseProtocols
    = [759] ∧
    (initSupportedOnly (initKnown sample) [("1.19", 759)]).knownProtocols
      = (initKnown sample).knownProtocols := by decide +kernel

/-! ### Instantiation on the live data

`PyCraft/Generated/Versions.lean` (written by the translator) defines `liveRecords : List Rec` and
`liveTables : Tables` from the running Python module.  The correspondence is established by the
verified checker `checkTables` (`Lemmas/VersionsCheck.lean`), which the kernel evaluates once in
`Lemmas/VersionsLive.lean`. -/

/-- The model applied to the live version records reproduces the live module-level tables (known,
supported, release names and numbers and the index map): a kernel-checked correspondence on the real
data, re-established on every run from the regenerated `Generated/Versions.lean`. -/
theorem model_eq_live : initKnown liveRecords = liveTables :=
  initKnown_live

/-- Ordinary protocol numbers (without the 2^30 pre-release bit) appear in the chronological list in
strictly increasing numeric order. -/
theorem ordinary_numbers_monotone :
    (liveTables.knownProtocols.filter (· < 2 ^ 30)).Pairwise (· < ·) :=
  pairwise_lt_of_increasing _ (by decide +kernel)

/-- Pre-release numbers (2^30 bit set) are ordered by the list (publication) — and, on the live
data, their low parts increase as well. -/
theorem pre_numbers_monotone :
    (liveTables.knownProtocols.filter (2 ^ 30 ≤ ·)).Pairwise (· < ·) :=
  pairwise_lt_of_increasing _ (by decide +kernel)

/-- The supported protocol list is in chronological order: its ranks are strictly increasing. -/
theorem supported_sorted_by_index :
    (liveTables.supportedProtocols.map fun v => (liveTables.knownProtocols.idxOf v)).Pairwise (· < ·) :=
  live_supported_sorted

example : liveRecords.length ≥ 400 ∧ liveTables.knownProtocols.length ≥ 300 := by decide +kernel

end PyCraft.C08
