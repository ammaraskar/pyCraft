import PyCraft.Lemmas.Dispatch
/-!
# C13 — Listeners fire in documented order, once each; ignore stops later stages

Model: `PyCraft/Model/Dispatch.lean` (`callPacket`, `reactIncoming`, `writeOutgoing`, `register`).
Specification vocabulary (`Listener.matches`, `cutAfterFirst`, `stage`, `specIncoming`,
`specOutgoing`, `slotOf`) and helper lemmas: `PyCraft/Lemmas/Dispatch.lean`.

Every statement is for ALL class hierarchies (edge lists, cyclic or not — `isSub` is proved to be
exactly reachability, `isSub_iff_reach`), ALL listener lists and ALL packet histories.
Only property theorems and non-vacuity examples live here.
-/
namespace PyCraft.C13
open PyCraft

/-- `call_packet` invokes the callback iff one of the registered types is the packet's class or a
superclass of it, and then exactly once (the result is one `(called, raisedIgnore)` pair, however
many registered types match); `IgnorePacket` propagates iff the callback was invoked and raises it.
"Superclass" is reflexive-transitive reachability along the `(child, parent)` edges. -/
theorem call_packet_matches (hier : Hier) (l : Listener) (c : Nat) :
    callPacket hier l c = (if l.matches hier c then (true, l.ignores) else (false, false)) ∧
    (l.matches hier c = true ↔ ∃ t ∈ l.types, Reach hier c t) := by
  refine ⟨callPacket_eq hier l c, ?_⟩
  simp [Listener.matches, isSub_iff_reach]

/-- Documented order: the call log of one incoming packet is
(matching early listeners in registration order) ++ [reaction] ++ (matching ordinary listeners in
registration order), cut just after the first call that raises `IgnorePacket`; the packet counts as
ignored iff some call of that uncut sequence ignores.  The right-hand side is built from `filter`,
`takeWhile` and `find?` only. -/
theorem incoming_order (hier : Hier) (early ordinary : List Listener) (rIgn : Bool) (c : Nat) :
    reactIncoming hier early ordinary rIgn c = specIncoming hier early ordinary rIgn c :=
  reactIncoming_eq_spec hier early ordinary rIgn c

/-- Exactly once: with distinct listener ids within each list, no entry of the log of one packet
repeats (every entry occurs at most once), and
* the early listener at a given position is called exactly once iff it matches and no matching
  early listener before it ignored;
* the built-in reaction runs exactly once iff no matching early listener ignored;
* the ordinary listener at a given position is called exactly once iff it matches, no matching
  early listener ignored, the reaction did not ignore and no matching ordinary listener before it
  ignored. -/
theorem exactly_once (hier : Hier) (early ordinary : List Listener) (rIgn : Bool) (c : Nat)
    (hE : (early.map (·.id)).Nodup) (hO : (ordinary.map (·.id)).Nodup) :
    (∀ ev, (reactIncoming hier early ordinary rIgn c).1.count ev ≤ 1) ∧
    (∀ pre l post, early = pre ++ l :: post →
      ((reactIncoming hier early ordinary rIgn c).1.count (Ev.early l.id) = 1 ↔
        l.matches hier c = true ∧
          ∀ l' ∈ pre, l'.matches hier c = true → l'.ignores = false)) ∧
    ((reactIncoming hier early ordinary rIgn c).1.count Ev.reaction = 1 ↔
        ∀ l' ∈ early, l'.matches hier c = true → l'.ignores = false) ∧
    (∀ pre l post, ordinary = pre ++ l :: post →
      ((reactIncoming hier early ordinary rIgn c).1.count (Ev.ordinary l.id) = 1 ↔
        l.matches hier c = true ∧
          (∀ l' ∈ early, l'.matches hier c = true → l'.ignores = false) ∧ rIgn = false ∧
          ∀ l' ∈ pre, l'.matches hier c = true → l'.ignores = false)) := by
  have hn := reactIncoming_nodup hier early ordinary rIgn c hE hO
  refine ⟨List.nodup_iff_count.mp hn, ?_, ?_, ?_⟩
  · intro pre l post he
    subst he
    rw [count_eq_one_iff_mem hn, mem_reactIncoming_early]
    exact mem_runListeners hier Ev.early (by intro a b h; cases h; rfl) c l post pre hE
  · rw [count_eq_one_iff_mem hn, mem_reactIncoming_reaction, runListeners_not_ignored]
  · intro pre l post ho
    subst ho
    rw [count_eq_one_iff_mem hn, mem_reactIncoming_ordinary, runListeners_not_ignored,
      mem_runListeners hier Ev.ordinary (by intro a b h; cases h; rfl) c l post pre hO]
    constructor
    · rintro ⟨h1, h2, h3, h4⟩; exact ⟨h3, h1, h2, h4⟩
    · rintro ⟨h3, h1, h2, h4⟩; exact ⟨h1, h2, h3, h4⟩

/-- Ignore is local to one packet: in ANY history, the result recorded for the packet at position
`k` is the result of reacting to that packet alone — it depends neither on the packets before or
after it nor on whether any of them was ignored (by a listener or by the built-in reaction: `rI`
and `rI'` may differ arbitrarily on the other packets).  In particular two histories that have the
same packet somewhere produce the same log for it.  One result per packet, in order. -/
theorem ignore_is_local (hier : Hier) (early ordinary : List Listener) (rI rI' : Nat → Bool)
    (pre post pre' post' : List Nat) (c : Nat) (hc : rI c = rI' c) :
    (runHistory hier early ordinary rI (pre ++ c :: post))[pre.length]? =
        some (reactIncoming hier early ordinary (rI c) c) ∧
    (runHistory hier early ordinary rI (pre ++ c :: post))[pre.length]? =
        (runHistory hier early ordinary rI' (pre' ++ c :: post'))[pre'.length]? ∧
    (runHistory hier early ordinary rI (pre ++ c :: post)).length = (pre ++ c :: post).length := by
  simp [runHistory_eq_map, hc]

/-- An early listener that ignores suppresses everything after it: if some matching early listener
raises `IgnorePacket`, the built-in reaction does not run, no ordinary listener runs, no early
listener registered after the first such ignoring one runs, and the packet is reported ignored. -/
theorem early_ignore_suppresses_reaction (hier : Hier) (early ordinary : List Listener)
    (rIgn : Bool) (c : Nat)
    (h : ∃ l ∈ early, l.matches hier c = true ∧ l.ignores = true) :
    Ev.reaction ∉ (reactIncoming hier early ordinary rIgn c).1 ∧
    (∀ i, Ev.ordinary i ∉ (reactIncoming hier early ordinary rIgn c).1) ∧
    (reactIncoming hier early ordinary rIgn c).2 = true ∧
    (reactIncoming hier early ordinary rIgn c).1 =
      (cutAfterFirst (fun x => x.2) (stage hier Ev.early c early)).map (fun x => x.1) := by
  have hi := (runListeners_ignored hier Ev.early c early).mpr h
  refine ⟨?_, ?_, ?_, ?_⟩
  · rw [mem_reactIncoming_reaction, hi]; simp
  · intro i; rw [mem_reactIncoming_ordinary, hi]; simp
  · rw [reactIncoming_ignored, hi]; simp
  · rw [reactIncoming_log, hi, runListeners_eq]; simp

/-- Conversely the reaction is the ONLY thing an ignoring reaction lets through after the early
stage: if no matching early listener ignores but the reaction does, the log is exactly the matching
early listeners followed by the reaction, and no ordinary listener runs. -/
theorem reaction_ignore_suppresses_ordinary (hier : Hier) (early ordinary : List Listener)
    (c : Nat) (h : ∀ l ∈ early, l.matches hier c = true → l.ignores = false) :
    reactIncoming hier early ordinary true c =
      ((early.filter (fun l => l.matches hier c)).map (fun l => Ev.early l.id) ++ [Ev.reaction],
        true) := by
  have hi := (runListeners_not_ignored hier Ev.early c early).mpr h
  have hlog := reactIncoming_log hier early ordinary true c
  have hign := reactIncoming_ignored hier early ordinary true c
  rw [hi] at hlog hign
  have hA : (stage hier Ev.early c early).any (fun x => x.2) = false := by
    rw [runListeners_eq] at hi; exact hi
  rw [runListeners_eq, cutAfterFirst_of_not_any _ _ hA] at hlog
  apply Prod.ext
  · rw [hlog]; simp [stage]
  · rw [hign]; simp

/-- Outgoing packets: the log is (matching early-outgoing listeners) ++ [written] ++ (matching
ordinary-outgoing listeners), cut just after the first ignoring call (`specOutgoing`).  Hence:
* the packet is written iff no matching early-outgoing listener ignores, and at most once;
* when it is written, everything before the write is exactly the matching early-outgoing listeners
  in registration order and everything after it is ordinary-outgoing listeners only (the matching
  ones in registration order up to and including the first that ignores);
* when it is suppressed, only early-outgoing listeners ran. -/
theorem outgoing_order (hier : Hier) (earlyOut ordOut : List Listener) (c : Nat) :
    writeOutgoing hier earlyOut ordOut c = specOutgoing hier earlyOut ordOut c ∧
    (OutEv.written ∈ writeOutgoing hier earlyOut ordOut c ↔
      ∀ l ∈ earlyOut, l.matches hier c = true → l.ignores = false) ∧
    (writeOutgoing hier earlyOut ordOut c).count OutEv.written ≤ 1 ∧
    ((∀ l ∈ earlyOut, l.matches hier c = true → l.ignores = false) →
      writeOutgoing hier earlyOut ordOut c =
        (earlyOut.filter (fun l => l.matches hier c)).map (fun l => OutEv.earlyOut l.id) ++
          OutEv.written ::
          (cutAfterFirst (fun x => x.2) (stage hier OutEv.ordOut c ordOut)).map (fun x => x.1)) ∧
    ((∃ l ∈ earlyOut, l.matches hier c = true ∧ l.ignores = true) →
      ∀ e ∈ writeOutgoing hier earlyOut ordOut c, ∃ i, e = OutEv.earlyOut i) ∧
    (∀ i, OutEv.ordOut i ∈ writeOutgoing hier earlyOut ordOut c →
      OutEv.written ∈ writeOutgoing hier earlyOut ordOut c) := by
  have h1 := not_mem_runListeners_of_tag hier OutEv.earlyOut c earlyOut OutEv.written (by simp)
  have h2 := not_mem_runListeners_of_tag hier OutEv.ordOut c ordOut OutEv.written (by simp)
  have h3 := fun i =>
    not_mem_runListeners_of_tag hier OutEv.earlyOut c earlyOut (OutEv.ordOut i) (by simp)
  refine ⟨writeOutgoing_eq_spec hier earlyOut ordOut c, ?_⟩
  -- the log is the early stage's log, followed — unless that stage ignored — by the write and
  -- the ordinary stage's log
  simp only [← runListeners_not_ignored hier OutEv.earlyOut c earlyOut,
    ← runListeners_ignored hier OutEv.earlyOut c earlyOut, writeOutgoing_log]
  cases hi : (runListeners hier OutEv.earlyOut c earlyOut).2
  · have hA : (stage hier OutEv.earlyOut c earlyOut).any (fun x => x.2) = false := by
      rw [runListeners_eq] at hi; exact hi
    refine ⟨by simp,
      by simp [List.count_append, List.count_eq_zero.mpr h1, List.count_eq_zero.mpr h2],
      fun _ => ?_, nofun, by simp⟩
    rw [runListeners_eq, runListeners_eq, cutAfterFirst_of_not_any _ _ hA]
    simp [stage]
  · refine ⟨by simp [h1], by simp [List.count_eq_zero.mpr h1], nofun, fun _ e he => ?_,
      fun i hi => by simp [h3 i] at hi⟩
    obtain ⟨l, _, _, h⟩ := runListeners_log_mem hier OutEv.earlyOut c earlyOut e (by simpa using he)
    exact ⟨l.id, h⟩

/-- Registration: `(early, outgoing) ↦ list` is the documented table `slotOf`, which is a
bijection between the four flag combinations and the four lists; a registration appends its
listener at the END of exactly that list and leaves the other three untouched; consequently after
any sequence of registrations each list holds, in registration order, exactly the listeners
registered for it. -/
theorem register_target :
    (∀ e o e' o', slotOf e o = slotOf e' o' → e = e' ∧ o = o') ∧
    (∀ s, ∃ e o, slotOf e o = s) ∧
    (∀ (cfg : Cfg) (l : Listener) (e o : Bool) (s : Slot),
      (register cfg l e o).get s = if s = slotOf e o then cfg.get s ++ [l] else cfg.get s) ∧
    (∀ (cfg : Cfg) (rs : List Reg) (s : Slot),
      (registerAll cfg rs).get s =
        cfg.get s ++ (rs.filter (fun r => slotOf r.early r.outgoing == s)).map (·.l)) ∧
    (∀ (cfg : Cfg) (l : Listener) (e o e' o' : Bool),
      register cfg l e o = register cfg l e' o' → e = e' ∧ o = o') := by
  have hinj : ∀ e o e' o', slotOf e o = slotOf e' o' → e = e' ∧ o = o' := by decide
  refine ⟨hinj, ?_, register_get, fun cfg rs s => registerAll_get rs cfg s, ?_⟩
  · intro s
    cases s
    · exact ⟨false, false, rfl⟩
    · exact ⟨true, false, rfl⟩
    · exact ⟨false, true, rfl⟩
    · exact ⟨true, true, rfl⟩
  · intro cfg l e o e' o' h
    have h1 := congrArg (fun c => (c.get (slotOf e o)).length) h
    simp only [register_get] at h1
    apply hinj
    by_cases hs : slotOf e o = slotOf e' o'
    · exact hs
    · simp [hs] at h1

/-! ## Non-vacuity -/

/-- Hierarchy used below: 1 = `Packet`, 2 = `KeepAlive(Packet)`, 3 = `Special(KeepAlive)`,
4 = unrelated, plus a diamond 5 → {2, 4}. -/
private def h₀ : Hier := [(2, 1), (3, 2), (5, 2), (5, 4)]

example : isSub h₀ 3 1 = true ∧ isSub h₀ 1 3 = false ∧ isSub h₀ 5 4 = true ∧ isSub h₀ 3 4 = false :=
  by decide
-- a cyclic edge list is handled too (every class of the cycle reaches every other one)
example : isSub [(1, 2), (2, 3), (3, 1)] 3 2 = true ∧ isSub [(1, 2), (2, 3), (3, 1)] 3 4 = false :=
  by decide

-- two registered types both match: still one call
example : callPacket h₀ ⟨7, [1, 2], false⟩ 3 = (true, false) := by decide
-- no registered type: never called
example : callPacket h₀ ⟨7, [], true⟩ 3 = (false, false) := by decide

-- full three-stage log, nothing ignores
example :
    reactIncoming h₀ [⟨10, [1], false⟩, ⟨11, [4], false⟩] [⟨20, [2], false⟩, ⟨21, [3], false⟩]
      false 3 = ([.early 10, .reaction, .ordinary 20, .ordinary 21], false) := by decide
-- an ordinary listener ignoring stops the remaining ordinary listeners only
example :
    reactIncoming h₀ [⟨10, [1], false⟩] [⟨20, [2], true⟩, ⟨21, [3], false⟩] false 3 =
      ([.early 10, .reaction, .ordinary 20], true) := by decide
-- an early listener ignoring suppresses the reaction (hypothesis of
-- `early_ignore_suppresses_reaction` is satisfiable)
example :
    reactIncoming h₀ [⟨10, [1], true⟩, ⟨11, [1], false⟩] [⟨20, [2], false⟩] false 3 =
      ([.early 10], true) := by decide
example : ∃ l ∈ [(⟨10, [1], true⟩ : Listener), ⟨11, [1], false⟩],
    l.matches h₀ 3 = true ∧ l.ignores = true := ⟨⟨10, [1], true⟩, by decide⟩
-- the nodup hypotheses of `exactly_once` are satisfiable with several listeners
example : (([⟨10, [1], true⟩, ⟨11, [1], false⟩] : List Listener).map (·.id)).Nodup := by decide
-- ignore is local: the ignored first packet does not affect the second one
example :
    runHistory h₀ [⟨10, [2], true⟩] [⟨20, [1], false⟩] (fun _ => false) [3, 4, 1] =
      [([.early 10], true), ([.reaction], false), ([.reaction, .ordinary 20], false)] := by decide
-- outgoing: suppressed write / normal write
example : writeOutgoing h₀ [⟨30, [1], true⟩] [⟨40, [1], false⟩] 2 = [.earlyOut 30] := by decide
example :
    writeOutgoing h₀ [⟨30, [1], false⟩] [⟨40, [1], true⟩, ⟨41, [1], false⟩] 2 =
      [.earlyOut 30, .written, .ordOut 40] := by decide
-- registration: four flag combinations, four different lists, order preserved
example :
    registerAll {} [⟨⟨1, [1], false⟩, false, false⟩, ⟨⟨2, [1], false⟩, true, false⟩,
        ⟨⟨3, [1], false⟩, false, true⟩, ⟨⟨4, [1], false⟩, true, true⟩,
        ⟨⟨5, [1], false⟩, false, false⟩] =
      { packetListeners := [⟨1, [1], false⟩, ⟨5, [1], false⟩],
        earlyPacketListeners := [⟨2, [1], false⟩],
        outgoingPacketListeners := [⟨3, [1], false⟩],
        earlyOutgoingPacketListeners := [⟨4, [1], false⟩] } := by decide

end PyCraft.C13
