import PyCraft.Lemmas.SessionWire
import PyCraft.Props.C01
import PyCraft.Props.C09Wire
import PyCraft.Props.C10Wire
import PyCraft.Props.C11Wire
import PyCraft.Props.C18
import PyCraft.Model.Aes
/-!
# One session on the wire — handshake → login → play as ONE byte stream

Composes the three byte-level layers `Props/C09Wire.lean` (handshake / login start),
`Props/C10Wire.lean` (login: cipher switch, threshold) and `Props/C11Wire.lean` (play: keep-alive
and teleport replies) — and underneath C01 (frames, any segmentation) and C18 (CFB8 chunking) — into
statements about the WHOLE client → server stream of a direct-login session
(`Session.clientBytes`, `Model/SessionWire.lean`) and about ONE reference server reading it
(`Session.serverRecoverSession`).  The point of the composition is what happens at the
login → play boundary: `connection.socket` (wrapped once, at the encryption response) and
`connection.options.compression_threshold` are the SAME objects before and after `login success`,
so the CFB8 stream and the threshold continue.

Everything is quantified over ALL sessions (`Session.Session`: any connection parameters, any
negotiated protocol and login-start id, any login parameters, any server step list — every order of
login packets and every placement of the client's write phases —, any pair of login packet ids, any
play profile, any play packets, any caps with `capR ≥ 1`), every zlib, every block function and
every segmentation.  Guards are explicit and decidable: `HsWire.FirstOK` (C09Wire), `ReachesPlay`
(the login run ends in the play state without an exception), C01's `FrameOK` for the login frames
and the play replies, `SrvPkt.wf`, `Profile.sbDistinct` (C11Wire); the RSA law `dec ∘ enc = id` is
the field `Rsa.law` of the parameter, used through `matching pk priv`; the zlib law is the field
`Zlib.rt`.

Scope of the play part.  `Session.clientBytes` frames every play reply with ONE threshold, the one
of the final login mode: that is what the client writes when the server's play stream contains no
play-state "set compression" packet (`SrvPkt.isSetCompression`; such a packet exists only for
protocols ≤ 47) — `C11Wire.server_recovers_replies_one_threshold`, last clause.  With such packets
the threshold changes inside the play phase; that is `C11Wire.client_wire_is_frames_of_replies` /
`server_recovers_replies` (a threshold per reply), not composed into the session here.

Only property theorems and non-vacuity examples live here; helper lemmas and the concrete example
sessions are in `Lemmas/SessionWire.lean`.
-/
namespace PyCraft.SessionProps
open PyCraft PyCraft.Login PyCraft.Play PyCraft.LoginWire PyCraft.Session

/-- (a) The stream decomposes into the three layers.  For a session whose first frames can be
written (port in `0..65535`, a login name exists) and whose login reaches the play state, the
bytes handed to the socket are, in this order and with nothing in between:
1. `HsWire.firstBytes` — handshake and login start, plaintext, uncompressed (C09Wire);
2. `LoginWire.wireBytes` of the login outbox — which is (C10Wire) the PLAINTEXT frames up to and
   including the encryption response followed by ONE CFB8 stream (register initially the secret)
   over the later login frames;
3. the frames of the play replies (`PlayWire.replyFrame`, C11Wire), every one framed with the
   threshold of the final login mode — as they are if no cipher was installed, else encrypted from
   `loginReg`, THE REGISTER THE ENCRYPTOR WAS LEFT IN by the login part (which is the register the
   one-shot encryption of the encrypted login frames ends in — not the IV).
The chunks (`clientChunks`) concatenate to that stream.  The cipher is on exactly when an
encryption response is in the outbox, the threshold is the last one the server announced before
`login success`, and the replies are a prefix of — unless the peer closed at a disconnect, exactly
— the replies due to the packets before the first server disconnect. -/
theorem session_bytes_decompose (S : Session) (z : ZlibOps) (E : Bytes → Bytes)
    (hport : S.conn.port < 65536) (hname : Neg.loginName S.conn ≠ none)
    (hplay : ReachesPlay S) (hR : 1 ≤ S.capR) :
    let m := finalMode S
    let plainPart := (splitAtEncResp (outbox S)).1
    let cipherPart := (splitAtEncResp (outbox S)).2
    let pf := (playReplies S).map (PlayWire.replyFrame z m.threshold S.profile)
    clientBytes z E S =
        (HsWire.firstBytes S.lsId S.conn S.plan ++
          (wireBytes z E S.lp.secret S.ids (outbox S) ++
            (match m.cipher with
             | none => pf.flatten
             | some _ => (cfb8Enc E (loginReg z E S) pf.flatten).2)), none) ∧
      (clientChunks z E S).1.flatten = (clientBytes z E S).1 ∧
      wireBytes z E S.lp.secret S.ids (outbox S) =
        (plainPart.map (frameOfSent z S.ids)).flatten ++
          (cfb8Enc E S.lp.secret (cipherPart.map (frameOfSent z S.ids)).flatten).2 ∧
      loginReg z E S =
        (cfb8Enc E S.lp.secret (cipherPart.map (frameOfSent z S.ids)).flatten).1 ∧
      m.cipher = (if (outbox S).any (fun f => isEncResp f.pkt) then some S.lp.secret else none) ∧
      m.threshold = announced (events S.steps) ∧
      playReplies S <+: PlayWire.due S.profile S.pkts ∧
      ((S.peerOpen = true ∨ PlayWire.hasDiscP S.pkts = false) →
        playReplies S = PlayWire.due S.profile S.pkts) := by
  intro m plainPart cipherPart pf
  have hinv := wireInv_exec S.lp S.loginSteps
  obtain ⟨hw, -⟩ := C10Wire.wire_prefix_plain_suffix_cipher S.lp S.loginSteps z E S.ids
  obtain ⟨hpre, heq⟩ := playReplies_facts S hR
  refine ⟨?_, by simp only [clientBytes, clientBytesWith, clientChunks], hw,
    wireRun_split z E S.ids (outbox S) S.lp.secret hinv.sw, ?_, ?_, hpre, heq⟩
  · show clientBytesWith .carry z E S = _
    rw [clientBytesWith_ok .carry z E S hport hname, playWire_carry z E S hplay]
    simp only [playFrames, m, pf]
    generalize (finalMode S).cipher = c
    cases c <;> rfl
  · show (if (loginEnd S).encrypted then some S.lp.secret else none) = _
    rw [loginEnd_encrypted]; rfl
  · show (exec S.lp .init S.loginSteps).threshold = _
    rw [threshold_exec, events_loginSteps]

/-- (b) The reference server recovers the session.  Let the whole stream of ANY session within
the guards of the three layers — `FirstOK` (C09Wire); the login reaches play, the server holds the
private key of every public key it sent, the two login ids differ, every login frame passes the
VarInt guard (C10Wire); `capR ≥ 1`, well-formed play packets, distinct serverbound play ids, every
reply due passes the VarInt guard under the final threshold, the peer has not closed (C11Wire) —
arrive in ANY segmentation.  The ONE server — plaintext for handshake and login start, plaintext
login frames until the encryption response, RSA-decrypting the secret from it, ONE CFB8 decryptor
from the next byte on for the remaining login frames AND the play replies, ONE compression flag
switched by its own announcements and kept across `login success` — returns exactly: the handshake
record with the negotiated protocol, host, port and next state 2; the login name; `(id, field
bytes)` of every login frame in order; the client's secret as key iff encryption was switched on;
the play replies due; no exception, and the play loop ends with the stream exhausted at a frame
boundary.  Nothing is lost, merged, split or reordered across the two state changes. -/
theorem server_recovers_session (S : Session) (z : Zlib) (EK : Bytes → Bytes → Bytes)
    (priv : Bytes) (segs : Segs)
    (hfirst : HsWire.FirstOK S.lsId S.conn S.plan) (hplay : ReachesPlay S)
    (hids : S.ids.encResp ≠ S.ids.plugResp)
    (hkey : ∀ sid pk tok, LoginEv.encRequest sid pk tok ∈ events S.steps →
      S.lp.rsa.matching pk priv)
    (hokL : ∀ f ∈ outbox S, FrameOK z.toZlibOps f.threshold (wirePkt S.ids f))
    (hR : 1 ≤ S.capR) (hSb : S.profile.sbDistinct = true)
    (hwf : ∀ p ∈ S.pkts, p.wf S.profile = true)
    (hokP : ∀ q ∈ PlayWire.due S.profile S.pkts,
      FrameOK z.toZlibOps (finalMode S).threshold (PlayWire.replyFields S.profile q))
    (hpo : S.peerOpen = true ∨ PlayWire.hasDiscP S.pkts = false)
    (hseg : segs.flatten = (clientBytes z.toZlibOps (EK S.lp.secret) S).1) :
    (clientBytes z.toZlibOps (EK S.lp.secret) S).2 = none ∧
    ∃ name, Neg.loginName S.conn = some name ∧
      serverRecoverSession z.toZlibOps EK (S.lp.rsa.dec priv) S.lsId S.ids.encResp S.profile
          (serverScript S) segs =
        { hs := some ⟨S.proto, S.conn.host, S.conn.port, 2⟩
          name := some name
          login := (outbox S).map (wirePkt S.ids)
          key := (finalMode S).cipher
          replies := PlayWire.due S.profile S.pkts
          err := none
          playEnd := some .eof } := by
  obtain ⟨hhost, hport, hproto, hlsId, name, hn, hnameOK⟩ :=
    HsWire.firstOK_direct S.lsId S.conn S.proto hfirst
  have hne : Neg.loginName S.conn ≠ none := by rw [hn]; simp
  have hb : clientBytes z.toZlibOps (EK S.lp.secret) S = _ :=
    clientBytesWith_ok .carry z.toZlibOps (EK S.lp.secret) S hport hne
  rw [hb] at hseg ⊢
  refine ⟨rfl, name, hn, ?_⟩
  have hfb : HsWire.firstBytes S.lsId S.conn S.plan = _ :=
    HsWire.firstBytes_direct S.lsId S.conn S.proto name hport hn
  simp only [hfb, List.map_cons, List.map_nil, List.flatten_cons, List.flatten_nil,
    List.append_nil, List.append_assoc] at hseg
  obtain ⟨k2, hk2, hsrv⟩ := server_first z.toZlibOps EK (S.lp.rsa.dec priv) S.lsId S.ids.encResp
    S.profile (serverScript S) segs ⟨S.proto, S.conn.host, S.conn.port, 2⟩
    ⟨hproto, hhost, hport, by show (2 : Nat) < 2 ^ 32; omega⟩ rfl name hlsId hnameOK _ hseg
  rw [hsrv]
  have hinv := wireInv_exec S.lp S.loginSteps
  have hrep : playReplies S = PlayWire.due S.profile S.pkts := (playReplies_facts S hR).2 hpo
  have henc : (loginEnd S).encrypted = hasEncResp (outbox S) := loginEnd_encrypted S
  have hk : k2.segs.flatten =
      (wireGo z.toZlibOps (EK S.lp.secret) S.ids S.lp.secret (outbox S)).flatten ++
        (playChunks z.toZlibOps (EK S.lp.secret) (finalMode S).threshold S.profile
          (if hasEncResp (outbox S) then
            some (regAfter z.toZlibOps (EK S.lp.secret) S.ids S.lp.secret (outbox S)) else none)
          (PlayWire.due S.profile S.pkts)).flatten := by
    rw [hk2, ← hrep]
    unfold playWireWith playChunksWith
    rw [if_pos hplay]
    simp only [finalMode, henc, Boundary.carry, loginReg, loginRun, wireBytes, wireChunks,
      wireRun_eq]
    cases hasEncResp (outbox S) <;> rfl
  have hmain := sessPlain_outbox z EK (S.lp.rsa.dec priv) S.lp.secret S.ids hids S.profile
    (finalMode S).threshold (PlayWire.due S.profile S.pkts) hSb
    (PlayWire.due_wf S.profile S.pkts hwf) hokP (outbox S) false k2 hinv.sw hokL
    (session_key S priv hkey) hk
  have hscr : serverScript S =
      expectOf false (modesOf (outbox S)) (finalMode S).threshold.isSome := rfl
  rw [hscr, hmain]
  simp only [finalMode, henc]

/-- (b′) The ONE server agrees with the three layer servers.  Under the hypotheses of (b): cut the
stream at the two layer boundaries and give each part, in any segmentation, to the reference server
of its own layer — `HsWire.serverRecv` (C09Wire) gets the handshake record and the login start,
`LoginWire.serverRecover` (C10Wire) gets the login frames and the key, and
`PlayWire.serverDecodeReplies` (C11Wire) gets the replies due PROVIDED its decryptor is started from
`loginReg`, the register carried over from the login part (resp. on a plain socket if no cipher was
installed) and its compression flag is the one of the final login mode.  These are literally the
three layer theorems `C09Wire.server_recovers_first_frames`, `C10Wire.server_recovers_outbox`,
`C11Wire.server_recovers_replies_one_threshold`; the components are those `serverRecoverSession` returns in (b). -/
theorem layer_servers_agree (S : Session) (z : Zlib) (EK : Bytes → Bytes → Bytes)
    (priv : Bytes) (segsH segsL segsP : Segs)
    (hfirst : HsWire.FirstOK S.lsId S.conn S.plan) (hplay : ReachesPlay S)
    (hids : S.ids.encResp ≠ S.ids.plugResp)
    (hkey : ∀ sid pk tok, LoginEv.encRequest sid pk tok ∈ events S.steps →
      S.lp.rsa.matching pk priv)
    (hokL : ∀ f ∈ outbox S, FrameOK z.toZlibOps f.threshold (wirePkt S.ids f))
    (hR : 1 ≤ S.capR) (hSb : S.profile.sbDistinct = true)
    (hwf : ∀ p ∈ S.pkts, p.wf S.profile = true)
    (hokP : ∀ q ∈ PlayWire.due S.profile S.pkts,
      FrameOK z.toZlibOps (finalMode S).threshold (PlayWire.replyFields S.profile q))
    (hpo : S.peerOpen = true ∨ PlayWire.hasDiscP S.pkts = false)
    (hH : segsH.flatten = HsWire.firstBytes S.lsId S.conn S.plan)
    (hL : segsL.flatten = wireBytes z.toZlibOps (EK S.lp.secret) S.lp.secret S.ids (outbox S))
    (hP : segsH.flatten ++ (segsL.flatten ++ segsP.flatten) =
      (clientBytes z.toZlibOps (EK S.lp.secret) S).1) :
    (∃ r name, HsWire.serverRecv segsH = .ok r ∧ Neg.loginName S.conn = some name ∧
      r.hs = ⟨S.proto, S.conn.host, S.conn.port, 2⟩ ∧ r.decoded S.lsId = [.loginStart name] ∧
      r.err = none) ∧
    (let r :=
        serverRecover z.toZlibOps EK (S.lp.rsa.dec priv) S.ids.encResp (modesOf (outbox S)) segsL;
      r.packets = (outbox S).map (wirePkt S.ids) ∧ r.key = (finalMode S).cipher ∧ r.err = none ∧
        r.rest = []) ∧
    (match (finalMode S).cipher with
     | some _ =>
       PlayWire.serverDecodeReplies S.profile (cfb8DecX (EK S.lp.secret))
           (loginReg z.toZlibOps (EK S.lp.secret) S) z.toZlibOps (finalMode S).threshold.isSome
           segsP = (PlayWire.due S.profile S.pkts, .eof)
     | none =>
       PlayWire.serverDecodeReplies S.profile idXform () z.toZlibOps
           (finalMode S).threshold.isSome segsP = (PlayWire.due S.profile S.pkts, .eof)) := by
  obtain ⟨-, hport, -, -, name, hn, -⟩ := HsWire.firstOK_direct S.lsId S.conn S.proto hfirst
  have hne : Neg.loginName S.conn ≠ none := by rw [hn]; simp
  -- the play part of the stream
  have hb : clientBytes z.toZlibOps (EK S.lp.secret) S = _ :=
    clientBytesWith_ok .carry z.toZlibOps (EK S.lp.secret) S hport hne
  rw [hb, hH, hL] at hP
  have hPw : segsP.flatten = playWireWith .carry z.toZlibOps (EK S.lp.secret) S :=
    List.append_cancel_left (List.append_cancel_left hP)
  have hrep : playReplies S = PlayWire.due S.profile S.pkts := (playReplies_facts S hR).2 hpo
  refine ⟨?_, ?_, ?_⟩
  · obtain ⟨r, e1, e2, e3, e4, -⟩ :=
      C09Wire.server_recovers_first_frames S.lsId S.conn S.plan segsH hfirst hH
    obtain ⟨nm, en, -, ed⟩ := e4 S.proto rfl
    exact ⟨r, nm, e1, en, e3, ed, e2⟩
  · intro r
    have hkey' : ∀ sid pk tok, LoginEv.encRequest sid pk tok ∈ events S.loginSteps →
        S.lp.rsa.matching pk priv := by
      rw [events_loginSteps]; exact hkey
    obtain ⟨a, b, c, d⟩ := C10Wire.server_recovers_outbox S.lp S.loginSteps z EK S.ids priv segsL
      hids hkey' hokL hL
    refine ⟨a, d.trans ?_, b, c⟩
    show _ = if (loginEnd S).encrypted then some S.lp.secret else none
    rw [loginEnd_encrypted]; rfl
  · have hwire := playWire_carry z.toZlibOps (EK S.lp.secret) S hplay
    -- C11Wire's server on the play part, whichever cipher pair it was written through
    have key : ∀ {τ : Type} (cp : CipherPair τ) (t0 : τ),
        playWireWith .carry z.toZlibOps (EK S.lp.secret) S =
          (cp.enc.update t0 (playFrames z.toZlibOps (finalMode S).threshold S.profile
            (playReplies S))).2 →
        PlayWire.serverDecodeReplies S.profile cp.dec t0 z.toZlibOps
          (finalMode S).threshold.isSome segsP = (PlayWire.due S.profile S.pkts, .eof) := by
      intro τ cp t0 hflat
      obtain ⟨r, hr, hsrv, hdue, -⟩ := C11Wire.server_recovers_replies_one_threshold cp t0 z
        (finalMode S).threshold S.profile S.pkts S.peerOpen S.capW S.capR hR hSb hwf hokP
      have hw : r.wire = playReplies S := by unfold playReplies; rw [hr]
      rw [← hdue hpo]
      apply hsrv
      rw [hPw, hflat, hw]
      exact (PlayWire.wireWith_flatten _ _ _ _ _ _).symm
    cases hc : (finalMode S).cipher with
    | some sec => rw [hc] at hwire; exact key (cfb8Pair (EK S.lp.secret)) _ hwire
    | none => rw [hc] at hwire; exact key PlayWire.plainPair () hwire

/-- (c) The cipher context continues across `login success`.  If the login switched encryption
on, then behind the first frames and the plaintext login frames (the last of which IS the
encryption response) the whole rest of the stream — the remaining login frames AND all play
frames — is `cfb8Enc secret secret (login frames ++ play frames)`: ONE CFB8 stream with
key = IV = secret, not two.  Equivalently (C18's chunking law) the play frames are encrypted from
the register the login frames left behind; a decryptor that started from the secret and has
consumed the login ciphertext is in exactly that register, and from there — and, as the negative
witness below shows, not from a fresh IV — the play ciphertext decrypts to the play frames. -/
theorem cipher_continues_across_login_to_play (S : Session) (z : ZlibOps) (E : Bytes → Bytes)
    (hport : S.conn.port < 65536) (hname : Neg.loginName S.conn ≠ none)
    (hplay : ReachesPlay S) (henc : (finalMode S).cipher ≠ none) :
    let plainPart := (splitAtEncResp (outbox S)).1
    let loginTail := ((splitAtEncResp (outbox S)).2.map (frameOfSent z S.ids)).flatten
    let play := playFrames z (finalMode S).threshold S.profile (playReplies S)
    (finalMode S).cipher = some S.lp.secret ∧
      (∃ before x, plainPart = before ++ [x] ∧ isEncResp x.pkt = true ∧
        ∀ f ∈ before, isEncResp f.pkt = false) ∧
      clientBytes z E S =
        (HsWire.firstBytes S.lsId S.conn S.plan ++
          ((plainPart.map (frameOfSent z S.ids)).flatten ++
            (cfb8Enc E S.lp.secret (loginTail ++ play)).2), none) ∧
      (cfb8Enc E S.lp.secret (loginTail ++ play)).2 =
        (cfb8Enc E S.lp.secret loginTail).2 ++ (cfb8Enc E (loginReg z E S) play).2 ∧
      loginReg z E S = (cfb8Enc E S.lp.secret loginTail).1 ∧
      (cfb8Dec E S.lp.secret (cfb8Enc E S.lp.secret loginTail).2).1 = loginReg z E S ∧
      (cfb8Dec E (loginReg z E S) (cfb8Enc E (loginReg z E S) play).2).2 = play ∧
      (cfb8Dec E S.lp.secret (cfb8Enc E S.lp.secret (loginTail ++ play)).2).2 =
        loginTail ++ play := by
  intro plainPart loginTail play
  have hinv := wireInv_exec S.lp S.loginSteps
  have hencr : (loginEnd S).encrypted = true := by
    cases h : (loginEnd S).encrypted
    · simp [finalMode, h] at henc
    · rfl
  have hcipher : (finalMode S).cipher = some S.lp.secret := by simp [finalMode, hencr]
  obtain ⟨hw, -, -, -, -, hshape⟩ :=
    C10Wire.wire_prefix_plain_suffix_cipher S.lp S.loginSteps z E S.ids
  have hhas : ∃ f ∈ outbox S, isEncResp f.pkt = true := by
    have : hasEncResp (outbox S) = true := by rw [← loginEnd_encrypted]; exact hencr
    exact List.any_eq_true.mp this
  have hreg : loginReg z E S = (cfb8Enc E S.lp.secret loginTail).1 :=
    wireRun_split z E S.ids (outbox S) S.lp.secret hinv.sw
  obtain ⟨c1, -⟩ := cfb8_continue E S.lp.secret loginTail play
  obtain ⟨d1, d2, d3⟩ := cfb8_continue_dec E S.lp.secret loginTail play
  refine ⟨hcipher, hshape hhas, ?_, by rw [c1, hreg], hreg, by rw [hreg]; exact d1,
    by rw [hreg]; exact d2, d3⟩
  show clientBytesWith .carry z E S = _
  rw [clientBytesWith_ok .carry z E S hport hname, playWire_carry z E S hplay, hcipher]
  have hw' : wireBytes z E S.lp.secret S.ids (outbox S) =
      (plainPart.map (frameOfSent z S.ids)).flatten ++ (cfb8Enc E S.lp.secret loginTail).2 := hw
  simp only [hw', c1, hreg, List.append_assoc, play]

/-- (c, negative witness) Restarting the cipher at the boundary is detected — on either side.
On the concrete session `demoSession` (protocol 757 ids; encryption, then threshold 8, a plugin
request, success; in play two keep-alives and a position-and-look) the reference server recovers
everything from pyCraft's stream.  Sender side: a client that installs a FRESH cipher for the play
state (`Boundary.restartCipher`: IV = secret again) writes the same bytes up to the boundary and
different bytes behind it, and the same server — whose ONE decryptor has moved on — gets the
handshake and the login frames but NOT the play replies out of them.  Receiver side: the play part
of pyCraft's real stream (its last 26 bytes, behind 48 plaintext bytes and the 5 encrypted bytes of
the plugin response) is decoded by C11Wire's server when its decryptor starts from the CARRIED
register `loginReg`, and is NOT when it starts from a fresh IV (= the secret). -/
theorem cipher_restart_detected :
    let E := toyEK demoLP.secret
    let z := Zlib.ident.toZlibOps
    let due := PlayWire.due demoSession.profile demoSession.pkts
    demoServer demoSession [demoBytes .carry demoSession] = expected demoSession "Steve" ∧
      demoBytes .restartCipher demoSession ≠ demoBytes .carry demoSession ∧
      (demoBytes .restartCipher demoSession).take 53 = (demoBytes .carry demoSession).take 53 ∧
      (demoServer demoSession [demoBytes .restartCipher demoSession]).login =
        (expected demoSession "Steve").login ∧
      (demoServer demoSession [demoBytes .restartCipher demoSession]).replies ≠ due ∧
      PlayWire.serverDecodeReplies demoSession.profile (cfb8DecX E) (loginReg z E demoSession) z
          true [(demoBytes .carry demoSession).drop 53] = (due, .eof) ∧
      loginReg z E demoSession ≠ demoLP.secret ∧
      (PlayWire.serverDecodeReplies demoSession.profile (cfb8DecX E) demoLP.secret z
          true [(demoBytes .carry demoSession).drop 53]).1 ≠ due := by
  decide +kernel

/-- (d) The threshold continues into play.  Let `thr` be the last `set compression` value the
server sent before `login success` (`none` if it sent none).  It is the threshold of the final
login mode, and the play part of the stream ON THE WIRE is — behind first frames and login frames,
in plaintext or continuing the cipher stream — the concatenation of one frame per reply, EVERY one
of them `Packet._write_buffer` under exactly `thr`: without an announcement the frame is
`VarInt(len payload) ++ payload` (no data-length field); with threshold `t` the frame body starts
with the data-length field — `VarInt(len payload)` followed by `zlib.compress(payload)` iff
`len payload > t` and `t ≠ -1`, else `0x00` followed by the payload as it is. -/
theorem threshold_continues_into_play (S : Session) (z : ZlibOps) (E : Bytes → Bytes)
    (hport : S.conn.port < 65536) (hname : Neg.loginName S.conn ≠ none)
    (hplay : ReachesPlay S) :
    let thr := announced (events S.steps)
    let frames := (playReplies S).map (PlayWire.replyFrame z thr S.profile)
    (finalMode S).threshold = thr ∧
      (clientBytes z E S).1 =
        HsWire.firstBytes S.lsId S.conn S.plan ++
          (wireBytes z E S.lp.secret S.ids (outbox S) ++
            (match (finalMode S).cipher with
             | none => frames.flatten
             | some _ => (cfb8Enc E (loginReg z E S) frames.flatten).2)) ∧
      ∀ q ∈ playReplies S,
        let pay := packetPayload (PlayWire.replyFields S.profile q).1
          (PlayWire.replyFields S.profile q).2
        PlayWire.replyFrame z thr S.profile q =
            encVarInt (frameBody z thr pay).length ++ frameBody z thr pay ∧
          (thr = none → frameBody z thr pay = pay) ∧
          (∀ t, thr = some t → ((pay.length : Int) > t ∧ t ≠ -1) →
            frameBody z thr pay = encVarInt pay.length ++ z.deflate pay) ∧
          (∀ t, thr = some t → ¬((pay.length : Int) > t ∧ t ≠ -1) →
            frameBody z thr pay = 0 :: pay) := by
  intro thr frames
  have hthr : (finalMode S).threshold = thr := by
    show (exec S.lp .init S.loginSteps).threshold = _
    rw [threshold_exec, events_loginSteps]
  refine ⟨hthr, ?_, ?_⟩
  · show (clientBytesWith .carry z E S).1 = _
    rw [clientBytesWith_ok .carry z E S hport hname, playWire_carry z E S hplay]
    simp only [playFrames, frames, hthr]
    generalize (finalMode S).cipher = c
    cases c <;> rfl
  · intro q _ pay
    refine ⟨rfl, ?_, ?_, ?_⟩
    · intro h; rw [h]; rfl
    · intro t h hc
      rw [h]
      simp only [frameBody]
      rw [if_pos hc]
    · intro t h hc
      rw [h]
      simp only [frameBody]
      rw [if_neg hc, HsWire.encVarInt_zero]
      rfl

/-- (d′) The server's ONE compression variable.  The script the reference server of a session
runs (`serverScript`, derived from the login outbox and the final mode) reads exactly one frame
per login frame and otherwise contains only "compression ON" entries — never "off": for EVERY run
the compression flags of the login frames are monotone (a threshold, once set, is never unset —
neither by a later login packet nor at `login success`) and the flag of the play phase is at least
the flag of the last login frame.  So the server's flag is a single variable that starts off, is
switched on when its `set compression` has taken effect, and is still on when play begins. -/
theorem server_flag_only_switched_on (S : Session) :
    (∀ e ∈ serverScript S, e = .frame ∨ e = .comp true) ∧
      ((serverScript S).filter (· == .frame)).length = (outbox S).length ∧
      (modesOf (outbox S)).Pairwise (fun a b => a = true → b = true) ∧
      (∀ f ∈ outbox S, f.threshold.isSome = true → (finalMode S).threshold.isSome = true) := by
  have hinv := thrInv_exec S.lp S.loginSteps
  refine ⟨?_, ?_, hinv.mono, fun f hf hft => hinv.le _ (List.mem_map.mpr ⟨f, hf, rfl⟩) hft⟩
  · apply expectOf_on
    rw [List.pairwise_cons, List.pairwise_append]
    refine ⟨fun x _ h => (by cases h), hinv.mono, List.pairwise_singleton _ _, ?_⟩
    intro x hx y hy hxt
    rw [List.mem_singleton.mp hy]
    exact hinv.le x hx hxt
  · unfold serverScript
    rw [expectOf_frames]
    simp [modesOf]

/-- (d, negative witness) Forgetting the threshold at the boundary is detected.  On `demoSession`
(threshold 8 announced during login) a client that writes the play frames WITHOUT the data-length
field (`Boundary.forgetThreshold`) produces a different stream — identical up to the boundary —
which the reference server, whose compression flag is still on, refuses: it reads the handshake and
the login frames, then raises in the play phase and delivers no reply.  A session without any
announcement (`demoPlainSession`) is recovered with the flag off throughout. -/
theorem threshold_forgotten_detected :
    demoBytes .forgetThreshold demoSession ≠ demoBytes .carry demoSession ∧
      (demoBytes .forgetThreshold demoSession).take 53 = (demoBytes .carry demoSession).take 53 ∧
      (demoServer demoSession [demoBytes .forgetThreshold demoSession]).login =
        (expected demoSession "Steve").login ∧
      (demoServer demoSession [demoBytes .forgetThreshold demoSession]).replies = [] ∧
      (demoServer demoSession [demoBytes .forgetThreshold demoSession]).playEnd =
        some .assertion ∧
      demoServer demoPlainSession [demoBytes .carry demoPlainSession] =
        expected demoPlainSession "Steve" := by
  decide +kernel

/-! ### Non-vacuity: concrete sessions (kernel-evaluated) -/

/-- The login part of `demoSession`: the encryption response in plaintext and uncompressed, the
plugin response encrypted and compressed-framed; final mode: threshold 8, cipher on; the script
of its server: a frame, "compression on", a frame. -/
example : outbox demoSession =
      [⟨.encResp (7 :: demoLP.secret) [7, 9], false, none, true⟩,
       ⟨.plugResp 5 false none, true, some 8, false⟩] ∧
    finalMode demoSession = ⟨some 8, some demoLP.secret⟩ ∧
    announced (events demoSession.steps) = some 8 ∧
    serverScript demoSession = [.frame, .comp true, .frame] ∧
    playReplies demoSession = [.keepAlive 1, .teleportConfirm 7, .keepAlive 2] := by
  decide +kernel

/-- The guards of (a)–(d) hold for `demoSession` (and `FirstOK`, `ReachesPlay` are decidable). -/
example : HsWire.FirstOK demoSession.lsId demoSession.conn demoSession.plan ∧
    ReachesPlay demoSession ∧ demoSession.ids.encResp ≠ demoSession.ids.plugResp ∧
    (∀ f ∈ outbox demoSession,
      FrameOK Zlib.ident.toZlibOps f.threshold (wirePkt demoSession.ids f)) ∧
    1 ≤ demoSession.capR ∧ demoSession.profile.sbDistinct = true ∧
    (∀ p ∈ demoSession.pkts, p.wf demoSession.profile = true) ∧
    (∀ q ∈ PlayWire.due demoSession.profile demoSession.pkts,
      FrameOK Zlib.ident.toZlibOps (finalMode demoSession).threshold
        (PlayWire.replyFields demoSession.profile q)) ∧
    (finalMode demoSession).cipher ≠ none := by
  decide +kernel

/-- The whole stream of `demoSession` with the cipher made visible (`E` = the constant block
`00…`, so the key stream is zero and ciphertext = plaintext):
`10 00 f505 09"localhost" 63dd 02` handshake (protocol 757, next state 2) ·
`07 00 05"Steve"` login start ·
`16 01 11 07 10…1f 02 0709` encryption response (id 1; RSA(secret) = 17 bytes, RSA(token)),
uncompressed format ·
`04 00 02 05 00` plugin response (id 2, message 5, unsuccessful) in COMPRESSED format (data length
0) ·
`0a 09 0f 0000000000000001` keep-alive 1 (id 0x0f): data length 9 > 8, the `compress` branch
(store-only zlib) ·
`03 00 00 07` teleport confirm 7 (id 0) ·
`0a 09 0f …02` keep-alive 2. -/
example : hexOfBytes (clientBytes Zlib.ident.toZlibOps (fun _ => [0]) demoSession).1 =
    "1000f505096c6f63616c686f737463dd02" ++ "070005" ++ "5374657665" ++
    "16011107101112131415161718191a1b1c1d1e1f020709" ++ "0400020500" ++
    "0a090f0000000000000001" ++ "03000007" ++ "0a090f0000000000000002" := by decide +kernel

/-- … its chunks as handed to `socket.send`: two per frame (length prefix, body). -/
example : ((clientChunks Zlib.ident.toZlibOps (fun _ => [0]) demoSession).1.map hexOfBytes) =
    ["10", "00f505096c6f63616c686f737463dd02", "07", "00055374657665", "16",
     "011107101112131415161718191a1b1c1d1e1f020709", "04", "00020500", "0a",
     "090f0000000000000001", "03", "000007", "0a", "090f0000000000000002"] := by decide +kernel

/-- … and the real thing under the toy block function: 48 plaintext bytes (first frames and
encryption response), then ONE cipher stream over the plugin response and the three play frames. -/
example : hexOfBytes (demoBytes .carry demoSession) =
    "1000f505096c6f63616c686f737463dd02" ++ "0700055374657665" ++
    "16011107101112131415161718191a1b1c1d1e1f020709" ++
    "13aabbb364" ++ "d472a0382ab18cb7228df96722c0e08e11e80df602c0719a530e" ∧
    (demoBytes .carry demoSession).drop 48 =
      (cfb8Enc (toyEK demoLP.secret) demoLP.secret
        ([0x04, 0x00, 0x02, 0x05, 0x00] ++
          [0x0a, 0x09, 0x0f, 0, 0, 0, 0, 0, 0, 0, 1, 0x03, 0x00, 0x00, 0x07,
           0x0a, 0x09, 0x0f, 0, 0, 0, 0, 0, 0, 0, 2])).2 := by decide +kernel

/-- … and under the block function pyCraft uses, AES-128 keyed with the secret (`Model/Aes.lean`,
tied to FIPS-197 / SP 800-38A in `Props/C18.lean`): the hex of the whole stream — 48 plaintext
bytes, then 31 bytes of ONE AES-128-CFB8 stream (key = IV = secret) over the plugin response and
the three play frames — and the reference server with AES recovering the session from it (an
instance of (b), whose guards do not mention the block function). -/
example : hexOfBytes (clientBytes Zlib.ident.toZlibOps (aes128 demoLP.secret) demoSession).1 =
    "1000f505096c6f63616c686f737463dd02" ++ "0700055374657665" ++
    "16011107101112131415161718191a1b1c1d1e1f020709" ++
    "b365670313" ++ "9bf577f8be86e6fb6248e509736f20bd4f53867ee43773aea01d" := by decide +kernel
example :
    serverRecoverSession Zlib.ident.toZlibOps aes128 (demoSession.lp.rsa.dec []) demoSession.lsId
        demoSession.ids.encResp demoSession.profile (serverScript demoSession)
        [(clientBytes Zlib.ident.toZlibOps (aes128 demoLP.secret) demoSession).1] =
      expected demoSession "Steve" := by
  obtain ⟨-, name, hn, h⟩ := server_recovers_session demoSession Zlib.ident aes128 []
    [(clientBytes Zlib.ident.toZlibOps (aes128 demoLP.secret) demoSession).1]
    (by decide +kernel) (by decide +kernel) (by decide) (fun _ _ _ _ => trivial)
    (by decide +kernel) (by decide) (by decide) (by decide +kernel) (by decide +kernel)
    (Or.inl rfl) (List.append_nil _)
  cases Option.some.inj hn
  exact h

/-- (b) instantiated: the hypotheses are satisfiable by `demoSession`, and the conclusion for an
arrival in four segments that cut through the handshake, the encryption response, the cipher
switch and the login → play boundary. -/
example :
    let w := demoBytes .carry demoSession
    demoServer demoSession [w.take 5, (w.drop 5).take 40, (w.drop 45).take 20, w.drop 65] =
      expected demoSession "Steve" := by
  intro w
  obtain ⟨-, name, hn, h⟩ := server_recovers_session demoSession Zlib.ident toyEK []
    [w.take 5, (w.drop 5).take 40, (w.drop 45).take 20, w.drop 65]
    (by decide +kernel) (by decide +kernel) (by decide) (fun _ _ _ _ => trivial)
    (by decide +kernel) (by decide) (by decide) (by decide +kernel) (by decide +kernel)
    (Or.inl rfl) (by decide +kernel)
  have : name = "Steve" := by
    have h2 : Neg.loginName demoSession.conn = some "Steve" := rfl
    rw [h2] at hn; exact (Option.some.inj hn).symm
  subst this
  exact h

/-- … evaluated: what the server returns. -/
example : demoServer demoSession [demoBytes .carry demoSession] =
    { hs := some ⟨757, "localhost", 25565, 2⟩
      name := some "Steve"
      login := [(1, [0x11, 7] ++ demoLP.secret ++ [2, 7, 9]), (2, [5, 0])]
      key := some demoLP.secret
      replies := [.keepAlive 1, .teleportConfirm 7, .keepAlive 2]
      err := none
      playEnd := some .eof } := by decide +kernel

/-- An offline-mode server without compression: the whole stream is plaintext,
`03 02 05 00` plugin response, `09 0f …01` keep-alive, `02 00 07` teleport confirm. -/
example : hexOfBytes (demoBytes .carry demoPlainSession) =
    "1000f505096c6f63616c686f737463dd02" ++ "0700055374657665" ++ "03020500" ++
    "090f0000000000000001" ++ "020007" ++ "090f0000000000000002" ∧
    finalMode demoPlainSession = ⟨none, none⟩ ∧ serverScript demoPlainSession = [.frame] := by
  decide +kernel

/-- A refused login never reaches play: the stream ends behind the encryption response, there is
no play part whatever the server "sends" afterwards, and the server sees the stream end. -/
example : ¬ ReachesPlay demoRefused ∧
    demoBytes .carry demoRefused = (demoBytes .carry demoSession).take 48 ∧
    (demoServer demoRefused [demoBytes .carry demoRefused]).replies = [] := by decide +kernel

/-- A first write phase that raises: port 65536 — nothing at all is sent; no login name — the
handshake is sent and nothing else, although the scripted server would have gone on. -/
example :
    clientBytes Zlib.ident.toZlibOps (toyEK demoLP.secret)
        { demoSession with conn := ⟨"localhost", 65536, none, some "Steve"⟩ } =
      ([], some .struct) ∧
    clientBytes Zlib.ident.toZlibOps (toyEK demoLP.secret)
        { demoSession with conn := ⟨"localhost", 25565, none, none⟩ } =
      ((demoBytes .carry demoSession).take 17, some .other) := by decide +kernel

end PyCraft.SessionProps
