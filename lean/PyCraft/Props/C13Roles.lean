import PyCraft.Lemmas.C13Roles
import PyCraft.Generated.C13Roles
/-!
# C13 — the registration flags decide the role; every packet is dispatched once

Covers item 17 of `docs/audit_report.md`.  `Props/C13.lean` is about ONE `_react` / `_write_packet`
call on GIVEN lists, and about the list `register_packet_listener` appends to.  This file ties the
two together — the list a listener lands in is the list that plays the matching ROLE (code that
iterates `early_outgoing_packet_listeners` in `_react`, or swaps the two lists in `_write_packet`,
is refuted below) — and speaks about every incoming / outgoing packet of a whole session.

Model: `Model/C13Roles.lean` (`Conn`: `register`, `writePacket force`, `popPacket`, `flush`, `react`
with the reaction's nested / queued writes, `runIter` = one iteration of `NetworkingThread._run`,
`Conn.run` = a whole session; a ghost `trace` of every `write_packet`, `_write_packet`, `_react` and
registration).  Vocabulary (`sel`, `entryOKRegs`, readers of the trace are in the model file) and
helper lemmas: `Lemmas/C13Roles.lean`.  Live table: `Generated/C13Roles.lean`
(harness/gen/c13roles.py).

All statements are for ALL hierarchies, reactors, batch caps and sessions (lists of operations).
-/
namespace PyCraft.C13Roles
open PyCraft PyCraft.Roles

/-! ## Flags → role, one dispatch -/

/-- **Registered role.**  After ANY sequence of
`register_packet_listener` calls on a fresh connection, `_react` on the connection's own lists
(`Cfg.react`) is the documented incoming sequence over — before the reaction — the listeners
registered with `early=True, outgoing=False` and — after it — those registered with
`early=False, outgoing=False`, each in registration order; `_write_packet` (`Cfg.write`) is the
documented outgoing sequence over those registered with `early=True, outgoing=True` before the
write and `early=False, outgoing=True` after it. -/
theorem registered_role (hier : Hier) (rs : List Reg) (rIgn : Bool) (c : Nat) :
    (registerAll {} rs).react hier rIgn c =
      specIncoming hier
        ((rs.filter (fun r => r.early == true && r.outgoing == false)).map (·.l))
        ((rs.filter (fun r => r.early == false && r.outgoing == false)).map (·.l)) rIgn c ∧
    (registerAll {} rs).write hier c =
      specOutgoing hier
        ((rs.filter (fun r => r.early == true && r.outgoing == true)).map (·.l))
        ((rs.filter (fun r => r.early == false && r.outgoing == true)).map (·.l)) c :=
  ⟨react_registerAll hier rs rIgn c, write_registerAll hier rs c⟩

/-- **Role read off the call log.**  Whatever was registered: a callback that runs BEFORE the
reaction on an incoming packet belongs to a registration with `early=True, outgoing=False` whose
types match; one that runs AFTER the reaction to one with `early=False, outgoing=False`; one that
runs before the write of an outgoing packet to one with `early=True, outgoing=True`; one that runs
after the write to one with `early=False, outgoing=True`.  In particular no listener registered for
one direction is ever called for the other. -/
theorem role_of_every_call (hier : Hier) (rs : List Reg) (rIgn : Bool) (c : Nat) :
    (∀ i, Ev.early i ∈ ((registerAll {} rs).react hier rIgn c).1 →
      ∃ r ∈ rs, r.l.id = i ∧ r.early = true ∧ r.outgoing = false ∧ r.l.matches hier c = true) ∧
    (∀ i, Ev.ordinary i ∈ ((registerAll {} rs).react hier rIgn c).1 →
      ∃ r ∈ rs, r.l.id = i ∧ r.early = false ∧ r.outgoing = false ∧ r.l.matches hier c = true) ∧
    (∀ i, OutEv.earlyOut i ∈ (registerAll {} rs).write hier c →
      ∃ r ∈ rs, r.l.id = i ∧ r.early = true ∧ r.outgoing = true ∧ r.l.matches hier c = true) ∧
    (∀ i, OutEv.ordOut i ∈ (registerAll {} rs).write hier c →
      ∃ r ∈ rs, r.l.id = i ∧ r.early = false ∧ r.outgoing = true ∧ r.l.matches hier c = true) := by
  -- a matching listener of the list registered with flags `e`, `o` is such a registration
  have role : ∀ {e o : Bool} {l : Listener}, l ∈ sel rs e o → l.matches hier c = true →
      ∃ r ∈ rs, r.l.id = l.id ∧ r.early = e ∧ r.outgoing = o ∧ r.l.matches hier c = true := by
    intro e o l hl hm
    obtain ⟨r, hr, rfl, h1, h2⟩ := mem_sel hl
    exact ⟨r, hr, rfl, h1, h2, hm⟩
  refine ⟨fun i h => ?_, fun i h => ?_, fun i h => ?_, fun i h => ?_⟩
  -- the entry's tag says which stage it belongs to
  · obtain ⟨l, hl, hm, he⟩ :=
      runListeners_log_mem _ _ _ _ _ ((mem_reactIncoming_early _ _ _ _ _ i).mp h)
    cases he
    exact role (registerAll_early rs ▸ hl) hm
  · obtain ⟨l, hl, hm, he⟩ :=
      runListeners_log_mem _ _ _ _ _ ((mem_reactIncoming_ordinary _ _ _ _ _ i).mp h).2.2
    cases he
    exact role (registerAll_ordinary rs ▸ hl) hm
  · rcases mem_writeOutgoing_cases hier _ _ c _ h with ⟨l, hl, hm, he⟩ | he | ⟨l, _, _, he⟩ <;>
      cases he
    exact role (registerAll_earlyOut rs ▸ hl) hm
  · rcases mem_writeOutgoing_cases hier _ _ c _ h with ⟨l, _, _, he⟩ | he | ⟨l, hl, hm, he⟩ <;>
      cases he
    exact role (registerAll_ordOut rs ▸ hl) hm

/-- **Directions are independent.**  Registrations with `outgoing=True` have no influence whatever
on the dispatch of incoming packets, and registrations with `outgoing=False` none on outgoing
packets. -/
theorem directions_independent (hier : Hier) (rs : List Reg) (rIgn : Bool) (c : Nat) :
    (registerAll {} rs).react hier rIgn c =
      (registerAll {} (rs.filter (fun r => r.outgoing == false))).react hier rIgn c ∧
    (registerAll {} rs).write hier c =
      (registerAll {} (rs.filter (fun r => r.outgoing == true))).write hier c := by
  simp only [react_registerAll, write_registerAll, sel_filter_outgoing, and_self]

/-! ## Whole sessions -/

/-- **Roles in every dispatch of every session** (and the frame property behind "ignore is local").
Take any session `ops` from a fresh connection and any further operation `op`.  `op` only APPENDS to
the trace, and every `_write_packet` call it performs — forced by a user, forced by the built-in
reaction in the middle of a `_react`, popped by `_pop_packet`, the flush loop or `_run` — and every
`_react` call it performs has exactly the documented call log over the listeners that the operations
BEFORE `op` registered with the matching flags.  The log therefore depends on nothing but those
registrations, the packet's class and (incoming) whether the reaction ignores this packet: not on
any other packet, nor on whether an earlier one was ignored, suppressed, queued or forced. -/
theorem session_roles (hier : Hier) (R : Reactor) (caps : Caps) (ops : List Op) (op : Op) :
    ∃ t, ((Conn.run hier R caps {} ops).step hier R caps op).trace =
        (Conn.run hier R caps {} ops).trace ++ t ∧
      (∀ site p evs, Tr.out site p evs ∈ t →
        evs = specOutgoing hier (sel (regOpsOf ops) true true) (sel (regOpsOf ops) false true)
          p.cls) ∧
      (∀ p evs ign, Tr.inc p evs ign ∈ t →
        (evs, ign) = specIncoming hier (sel (regOpsOf ops) true false)
          (sel (regOpsOf ops) false false) (R.ignores p) p.cls) := by
  obtain ⟨t, ht, h⟩ := step_roles hier R caps ops op
  exact ⟨t, ht, fun site p evs hm => h _ hm, fun p evs ign hm => h _ hm⟩

/-- **Ignore is local — across sessions.**  Two arbitrary sessions (possibly with different
reactors, caps, packets, ignored or not) whose registrations so far coincide: an incoming packet of
the same class (with the same reaction verdict) gets the same call log and the same "ignored"
answer in both, whatever happened to any other packet before. -/
theorem ignore_is_local (hier : Hier) (R R' : Reactor) (caps caps' : Caps) (ops ops' : List Op)
    (op op' : Op) (hregs : regOpsOf ops = regOpsOf ops') (p p' : Pkt) (evs evs' : List Ev)
    (ign ign' : Bool) (hc : p.cls = p'.cls) (hr : R.ignores p = R'.ignores p') (t t' : List Tr)
    (ht : ((Conn.run hier R caps {} ops).step hier R caps op).trace =
      (Conn.run hier R caps {} ops).trace ++ t)
    (ht' : ((Conn.run hier R' caps' {} ops').step hier R' caps' op').trace =
      (Conn.run hier R' caps' {} ops').trace ++ t')
    (h : Tr.inc p evs ign ∈ t) (h' : Tr.inc p' evs' ign' ∈ t') :
    evs = evs' ∧ ign = ign' := by
  obtain ⟨u, hu, _, h2⟩ := session_roles hier R caps ops op
  obtain ⟨u', hu', _, h2'⟩ := session_roles hier R' caps' ops' op'
  have e1 : t = u := List.append_cancel_left (ht.symm.trans hu)
  have e2 : t' = u' := List.append_cancel_left (ht'.symm.trans hu')
  subst e1; subst e2
  have a := h2 p evs ign h
  have b := h2' p' evs' ign' h'
  rw [← hregs, ← hc, ← hr] at b
  have := a.trans b.symm
  exact ⟨(Prod.mk.inj this).1, (Prod.mk.inj this).2⟩

/-- **Every packet is dispatched exactly once.**  In the state reached by ANY session:
* outgoing, unforced: the packets `_pop_packet` has handed to `_write_packet`, followed by the
  queue, are exactly the packets given to `write_packet(force=False)`, in call order — FIFO, none
  lost, none dispatched twice, those not yet dispatched are precisely the queue;
* outgoing, forced: the packets dispatched from `write_packet(force=True)` are exactly those given
  to it, in order;
* which `write_packet` calls there were: each `(packet, force)` pair was issued exactly as often as
  the user asked for it plus as often as a built-in reaction THAT RAN asked for it (a reaction
  suppressed by an early listener's ignore writes nothing);
* incoming: the packets `_react` was called with, followed by what is still unread, are exactly
  the packets that arrived, in order — each read packet gets one `_react` call;
* the registrations recorded are the session's registrations. -/
theorem every_packet_once (hier : Hier) (R : Reactor) (caps : Caps) (ops : List Op) :
    let s := Conn.run hier R caps {} ops
    outsOf .popped s.trace ++ s.queue = issuedOf false s.trace ∧
    outsOf .forced s.trace = issuedOf true s.trace ∧
    (∀ w, (allIssuedOf s.trace).count w =
      (userWritesOf ops).count w + (reactionWritesOf R s.trace).count w) ∧
    incsOf s.trace ++ s.inbox = arrivedOf ops ∧
    regsOf s.trace = regOpsOf ops := by
  have h := Top.run hier R caps ops
  exact ⟨h.acct.1, h.acct.2, h.issued, h.arrived, h.regs⟩

/-- The same as counts: a packet object is handed to `_write_packet` exactly as many times as it
was given to `write_packet`, minus the times it still sits in the queue; and to `_react` exactly
as many times as it arrived, minus the times it is still unread.  (With distinct packet objects:
at most once, and exactly once as soon as it has left the queue / the inbox.) -/
theorem dispatch_counts (hier : Hier) (R : Reactor) (caps : Caps) (ops : List Op) (p : Pkt) :
    let s := Conn.run hier R caps {} ops
    (outsOf .popped s.trace).count p + (outsOf .forced s.trace).count p + s.queue.count p =
      (issuedOf false s.trace).count p + (issuedOf true s.trace).count p ∧
    (incsOf s.trace).count p + s.inbox.count p = (arrivedOf ops).count p := by
  obtain ⟨h1, h2, _, h4, _⟩ := every_packet_once hier R caps ops
  constructor
  · rw [← h1, ← h2, List.count_append]; omega
  · rw [← h4, List.count_append]

/-- **The flush loop** (`disconnect`, connection.py l.467-468) empties the queue: afterwards every
packet ever given to `write_packet(force=False)` has been dispatched, once, in call order. -/
theorem flush_dispatches_all (hier : Hier) (R : Reactor) (caps : Caps) (ops : List Op) :
    let s := Conn.run hier R caps {} (ops ++ [.flush])
    s.queue = [] ∧ outsOf .popped s.trace = issuedOf false s.trace := by
  have h := (every_packet_once hier R caps (ops ++ [.flush])).1
  have hq : (Conn.run hier R caps {} (ops ++ [.flush])).queue = [] := by
    rw [run_snoc]
    exact (flushLoop_queue hier _ _ (Nat.le_refl _)).1
  simp only [hq, List.append_nil] at h
  exact ⟨hq, h⟩

/-- **One iteration of `_run`.**  From any reachable state with queue `q` and unread packets `i`:
`n = min capW |q|` queued packets are dispatched (the first `n`, in order), then
`m = min (capR - n) |i|` packets are read and reacted to (the first `m`, in order — the SAME counter
`num_packets` is used for both phases, so writes eat into the read budget); the rest of the inbox
stays; the queue afterwards is the undispatched rest followed by the unforced writes `δ` of the
reactions that ran. -/
theorem iter_progress (hier : Hier) (R : Reactor) (caps : Caps) (ops : List Op) :
    let s := Conn.run hier R caps {} ops
    let s' := Conn.run hier R caps {} (ops ++ [.iter])
    let n := min caps.capW s.queue.length
    let m := min (caps.capR - n) s.inbox.length
    outsOf .popped s'.trace = outsOf .popped s.trace ++ s.queue.take n ∧
    incsOf s'.trace = incsOf s.trace ++ s.inbox.take m ∧
    s'.inbox = s.inbox.drop m ∧
    ∃ δ, reactionWritesOf R s'.trace = reactionWritesOf R s.trace ++ δ ∧
      s'.queue = s.queue.drop n ++ (δ.filter (fun w => !w.2)).map (·.1) := by
  intro s s' n m
  have h := runIter_facts hier R caps s
  have hs : s' = s.runIter hier R caps := by
    show Conn.run hier R caps {} (ops ++ [.iter]) = _
    rw [run_snoc]; rfl
  rw [hs]
  obtain ⟨d, _, hd2, hd3⟩ := h.writes
  exact ⟨h.popped, h.incs, h.inbox, d, hd2, hd3⟩

/-- A consequence worth knowing (observed on the real code too: 50 queued packets and one arrived
packet, one iteration of `_run` → 50 `_write_packet` calls, no `_react`): because the write phase
and the read phase share `num_packets`, an iteration that starts with at least `capR` (50) queued
packets reads NOTHING — no incoming packet is dispatched in it, the inbox is untouched. -/
theorem writes_starve_reads (hier : Hier) (R : Reactor) (caps : Caps) (ops : List Op)
    (h : caps.capR ≤ min caps.capW (Conn.run hier R caps {} ops).queue.length) :
    incsOf (Conn.run hier R caps {} (ops ++ [.iter])).trace =
      incsOf (Conn.run hier R caps {} ops).trace ∧
    (Conn.run hier R caps {} (ops ++ [.iter])).inbox = (Conn.run hier R caps {} ops).inbox := by
  obtain ⟨_, h2, h3, _⟩ := iter_progress hier R caps ops
  have hm : min (caps.capR - min caps.capW (Conn.run hier R caps {} ops).queue.length)
      (Conn.run hier R caps {} ops).inbox.length = 0 := by omega
  rw [hm] at h2 h3
  exact ⟨by simpa using h2, by simpa using h3⟩

/-! ## Ties to the live code (re-generated and re-checked on every run) -/

open PyCraft.Gen.C13Roles in
/-- The live `register_packet_listener`, called in each of the nine ways of giving / omitting
`early=` and `outgoing=`, appended exactly one listener, to the list `slotOf early outgoing` of the
model (omitted = `False`). -/
theorem live_targets :
    ∀ x ∈ liveTargets, x.2.2 = [slotIndex (slotOf (x.1.getD false) (x.2.1.getD false))] := by
  decide +kernel

open PyCraft.Gen.C13Roles in
/-- The live `_react` and `_write_packet`, after the live interleaved registration sequence
`liveRunRegs` (every flag combination twice, plus non-matching listeners), for every choice of the
one callback that raises `IgnorePacket` and of the reaction raising it, entered the callbacks, the
reaction and the write in exactly the order `registerAll` + `Cfg.react` / `Cfg.write` compute. -/
theorem live_runs :
    ∀ x ∈ liveRuns,
      ((probeCfg liveRunRegs x.1).react liveHier x.2.1 liveRunClass).1.map evNum = x.2.2.1 ∧
      ((probeCfg liveRunRegs x.1).write liveHier liveRunClass).map outEvNum = x.2.2.2 := by
  decide +kernel

open PyCraft.Gen.C13Roles in
/-- Whole live sessions (registrations in between, forced / queued writes, `_pop_packet`, the flush
loop, iterations of the real `NetworkingThread._run`, a reaction that writes and one that ignores):
the model's final state — the four lists, the queue, the unread packets and the complete trace of
`write_packet` / `_write_packet` / `_react` calls with their call logs — is what the real code did. -/
theorem live_sessions :
    ∀ x ∈ liveSessions, Conn.run liveHier (Reactor.ofTable x.1.1 x.1.2) {} {} x.2.1 = x.2.2 := by
  decide +kernel

/-! ## Changed code is refuted -/

/-- `_react` iterating `early_outgoing_packet_listeners` violates `registered_role`: a listener
registered with `early=True, outgoing=True` would run on an incoming packet. -/
example : ¬ ∀ (hier : Hier) (rs : List Reg) (rIgn : Bool) (c : Nat),
    reactWrongList hier (registerAll {} rs) rIgn c =
      specIncoming hier (sel rs true false) (sel rs false false) rIgn c := fun h =>
  absurd (h [] [⟨⟨7, [1], false⟩, true, true⟩] false 1) (by decide +kernel)

/-- … and it also loses the early incoming listeners. -/
example : ¬ ∀ (hier : Hier) (rs : List Reg) (rIgn : Bool) (c : Nat),
    reactWrongList hier (registerAll {} rs) rIgn c =
      specIncoming hier (sel rs true false) (sel rs false false) rIgn c := fun h =>
  absurd (h [] [⟨⟨7, [1], true⟩, true, false⟩] false 1) (by decide +kernel)

/-- `_write_packet` with the two lists swapped violates `registered_role`: the listener registered
with `early=True` runs AFTER the write and can no longer suppress it. -/
example : ¬ ∀ (hier : Hier) (rs : List Reg) (c : Nat),
    writeSwapped hier (registerAll {} rs) c =
      specOutgoing hier (sel rs true true) (sel rs false true) c := fun h =>
  absurd (h [] [⟨⟨7, [1], true⟩, true, true⟩] 1) (by decide +kernel)

/-- `_pop_packet` that does not remove the packet violates `every_packet_once` (FIFO equation): the
packet is dispatched and still queued. -/
example : ¬ ∀ (hier : Hier) (s : Conn),
    outsOf .popped s.trace ++ s.queue = issuedOf false s.trace →
    outsOf .popped (popPacketPeek hier s).1.trace ++ (popPacketPeek hier s).1.queue =
      issuedOf false (popPacketPeek hier s).1.trace := fun h =>
  absurd (h [] (Conn.run [] ⟨fun _ => [], fun _ => false⟩ {} {} [.write ⟨1, 1⟩ false])
    (by decide +kernel)) (by decide +kernel)

/-- `write_packet` that queues a forced packet as well violates `every_packet_once`. -/
example : ¬ ∀ (hier : Hier) (s : Conn) (p : Pkt),
    outsOf .popped s.trace ++ s.queue = issuedOf false s.trace →
    outsOf .popped (writePacketNoElse hier s p true).trace ++ (writePacketNoElse hier s p true).queue
      = issuedOf false (writePacketNoElse hier s p true).trace := fun h =>
  absurd (h [] {} ⟨1, 1⟩ rfl) (by decide +kernel)

/-- Ignore handling moved from `_react` to the read loop violates `iter_progress`: after an ignored
packet the remaining arrived packets are not reacted to in this iteration. -/
example : ¬ ∀ (hier : Hier) (R : Reactor) (capR : Nat) (s : Conn),
    incsOf (readLoopIgnoreEnds hier R capR s.inbox s 0).trace =
      incsOf s.trace ++ s.inbox.take (min capR s.inbox.length) := fun h =>
  absurd (h [] ⟨fun _ => [], fun _ => false⟩ 50
    (Conn.run [] ⟨fun _ => [], fun _ => false⟩ {} {}
      [.register ⟨⟨1, [1], true⟩, true, false⟩, .arrive [⟨1, 1⟩, ⟨2, 1⟩]])) (by decide +kernel)

/-! ## Non-vacuity -/

/-- 1 = `Packet`, 2 = `KeepAlive(Packet)`, 3 = `Special(KeepAlive)`, 4 unrelated. -/
private def h₀ : Hier := [(2, 1), (3, 2)]

/-- all four flag combinations, interleaved -/
private def rs₀ : List Reg :=
  [⟨⟨1, [1], false⟩, false, false⟩, ⟨⟨2, [2], false⟩, true, true⟩, ⟨⟨3, [1], false⟩, true, false⟩,
   ⟨⟨4, [3], false⟩, false, true⟩, ⟨⟨5, [4], false⟩, true, false⟩, ⟨⟨6, [1], true⟩, false, true⟩,
   ⟨⟨7, [1], false⟩, false, true⟩]

-- `registered_role` on a configuration where all four roles are populated
example : (registerAll {} rs₀).react h₀ false 3 = ([.early 3, .reaction, .ordinary 1], false) ∧
    (registerAll {} rs₀).write h₀ 3 = [.earlyOut 2, .written, .ordOut 4, .ordOut 6] := by
  decide +kernel

-- the hypotheses of `role_of_every_call` are satisfiable for each of the four kinds of entry
example : Ev.early 3 ∈ ((registerAll {} rs₀).react h₀ false 3).1 ∧
    Ev.ordinary 1 ∈ ((registerAll {} rs₀).react h₀ false 3).1 ∧
    OutEv.earlyOut 2 ∈ (registerAll {} rs₀).write h₀ 3 ∧
    OutEv.ordOut 4 ∈ (registerAll {} rs₀).write h₀ 3 := by decide +kernel

/-- the reaction to class 3 writes a forced and a queued packet; the reaction to class 2 ignores -/
private def R₀ : Reactor := Reactor.ofTable [(3, [(⟨90, 2⟩, true), (⟨91, 2⟩, false)])] [2]

/-- a session using every kind of operation, with small caps -/
private def ops₀ : List Op :=
  [.register ⟨⟨1, [1], false⟩, true, false⟩, .write ⟨1, 3⟩ false, .write ⟨2, 2⟩ true,
   .register ⟨⟨2, [2], true⟩, true, true⟩, .write ⟨3, 2⟩ false, .write ⟨4, 1⟩ false,
   .arrive [⟨10, 3⟩, ⟨11, 2⟩, ⟨12, 3⟩], .pop, .iter]

-- what that session does (caps 2 / 3: one more packet popped, then two of the three arrived
-- packets reacted to; the reaction's forced write is dispatched inside the `_react`)
example : (Conn.run h₀ R₀ ⟨2, 3⟩ {} ops₀).trace =
    [.reg ⟨⟨1, [1], false⟩, true, false⟩, .issued ⟨1, 3⟩ false, .issued ⟨2, 2⟩ true,
     .out .forced ⟨2, 2⟩ [.written], .reg ⟨⟨2, [2], true⟩, true, true⟩, .issued ⟨3, 2⟩ false,
     .issued ⟨4, 1⟩ false, .out .popped ⟨1, 3⟩ [.earlyOut 2],
     .out .popped ⟨3, 2⟩ [.earlyOut 2], .out .popped ⟨4, 1⟩ [.written],
     .issued ⟨90, 2⟩ true, .out .forced ⟨90, 2⟩ [.earlyOut 2], .issued ⟨91, 2⟩ false,
     .inc ⟨10, 3⟩ [.early 1, .reaction] false] ∧
    (Conn.run h₀ R₀ ⟨2, 3⟩ {} ops₀).queue = [⟨91, 2⟩] ∧
    (Conn.run h₀ R₀ ⟨2, 3⟩ {} ops₀).inbox = [⟨11, 2⟩, ⟨12, 3⟩] := by decide +kernel

-- `session_roles` / `ignore_is_local`: the last operation of that session really produces `.out`
-- and `.inc` entries
example : ∃ t, (Conn.run h₀ R₀ ⟨2, 3⟩ {} ops₀).trace =
      (Conn.run h₀ R₀ ⟨2, 3⟩ {} ops₀.dropLast).trace ++ t ∧
    Tr.inc ⟨10, 3⟩ [.early 1, .reaction] false ∈ t ∧ Tr.out .popped ⟨3, 2⟩ [.earlyOut 2] ∈ t :=
  ⟨[.out .popped ⟨3, 2⟩ [.earlyOut 2], .out .popped ⟨4, 1⟩ [.written],
     .issued ⟨90, 2⟩ true, .out .forced ⟨90, 2⟩ [.earlyOut 2], .issued ⟨91, 2⟩ false,
     .inc ⟨10, 3⟩ [.early 1, .reaction] false], by decide +kernel⟩

-- an early ignore suppresses the reaction AND its writes, for that packet only
example : (Conn.run h₀ R₀ {} {}
      [.register ⟨⟨1, [3], true⟩, true, false⟩, .arrive [⟨10, 3⟩, ⟨11, 1⟩, ⟨12, 3⟩], .iter]).trace =
    [.reg ⟨⟨1, [3], true⟩, true, false⟩, .inc ⟨10, 3⟩ [.early 1] true,
     .inc ⟨11, 1⟩ [.reaction] false, .inc ⟨12, 3⟩ [.early 1] true] := by decide +kernel

-- the hypothesis of `writes_starve_reads` is satisfiable (caps 2 / 2, two queued packets)
example : (⟨2, 2⟩ : Caps).capR ≤ min (⟨2, 2⟩ : Caps).capW
    (Conn.run h₀ R₀ ⟨2, 2⟩ {} [.write ⟨1, 1⟩ false, .write ⟨2, 1⟩ false,
      .arrive [⟨3, 1⟩]]).queue.length := by decide +kernel

-- the live tables are not empty
example : Gen.C13Roles.liveTargets.length = 9 ∧ Gen.C13Roles.liveRuns.length = 26 ∧
    Gen.C13Roles.liveSessions.length = 3 := by decide

end PyCraft.C13Roles
