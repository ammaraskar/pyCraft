import PyCraft.Lemmas.C18Keys
/-!
# C18 — key = IV = the shared secret under AES-128, and the secret is a fresh draw per login

Closes the two clauses of C18 that `Props/C18.lean` / `Props/C10Wire.lean` leave without a theorem
(audit_report.md, ranks 9 and 10):

* "AES-128-CFB8 (key and IV both equal to the shared secret)": part A.  The channel state `KChan`
  carries the KEY; the block function is the concrete `aes128 key` (`Model/Aes.lean`), not an
  arbitrary `E`; `KChan.create` is `create_AES_cipher` + `encryptor()` + `decryptor()`.
* "The shared secret is 16 fresh random bytes per login": part B.  `os.urandom` is an oracle
  (`Urandom.draw n` = what the n-th call of the process returns, 16 bytes), `execK` the login
  reactor drawing from it, writing through the real NESTED wrapper stack.  "Fresh" = each reached
  request makes exactly one new call, the call numbers are consecutive and never repeat — within a
  login, across logins on any connections of the process — and that draw (nothing else) is what is
  RSA-encrypted into the reply, hashed for `join`, and installed as key and IV.
* "RSA PKCS#1 v1.5 … so that the key holder recovers them exactly": part C derives the recovery law
  that `Model/Login.lean` assumes of its `Rsa` parameter from RFC 8017 §7.2 over an abstract RSA
  permutation.
* `Props/C18KeysLive.lean` re-checks A–C against the LIVE code on every run
  (`Generated/C18Keys.lean`, produced by `harness/gen/c18keys.py` from the real
  `LoginReactor.react`).

Each clause comes with refutations: models of CHANGED code (constant secret, secret drawn once and
kept, reversed / constant key, constant IV, a separate decryptor for the file wrapper) violate the
corresponding theorem on a concrete instance (`decide +kernel`).

Only property theorems and non-vacuity examples live here; helper lemmas, the spec predicates
(`ChannelSpec`, `FreshSpec`) and the concrete parameters (`demoKP`, `demoLogin`, `demoTwice`) are in
`Lemmas/C18Keys.lean`, the definitions in `Model/C18Keys.lean`.
-/
namespace PyCraft.C18Keys
open PyCraft PyCraft.Login PyCraft.LoginWire PyCraft.Keys

/-! ## A. the channel is AES-128-CFB8 with key = IV = secret -/

/-- `create_AES_cipher(secret)` + `encryptor()` + `decryptor()` succeeds exactly on 16-byte
secrets, and then the AES key, the encryptor's register (IV) and the decryptor's register (IV) are
all the secret; otherwise `ValueError`. -/
theorem create_iff (secret : Bytes) :
    (secret.length = 16 ∧ KChan.create secret = .ok ⟨secret, secret, secret⟩) ∨
      (secret.length ≠ 16 ∧ KChan.create secret = .error .value) := by
  by_cases h : secret.length = 16
  · exact Or.inl ⟨h, create_of_len secret h⟩
  · exact Or.inr ⟨h, create_err secret h⟩

/-- The channel pyCraft sets up from a secret, over ANY interleaving of `send` / `recv` / `read`
calls on the two wrappers: the bytes handed to the inner socket, concatenated, are the CFB8
encryption UNDER AES-128 KEYED BY THE SECRET, with IV = THE SECRET, of everything passed to `send`;
the bytes returned by `recv` and `read` (one shared decryptor), concatenated in call order, are the
CFB8 decryption under the same key and IV of everything the inner socket / file returned; the key
never changes; both registers stay 16 bytes long (AES is only ever applied to whole blocks). -/
theorem pycraft_channel (secret : Bytes) (c : KChan) (ops : List Op)
    (h : KChan.create secret = .ok c) :
    let r := KChan.run c ops
    secret.length = 16 ∧ c = ⟨secret, secret, secret⟩ ∧
      (outsOf Op.isSend ops r.2).flatten =
        (cfb8Enc (aes128 secret) secret (ops.flatMap Op.sent)).2 ∧
      (outsOf Op.isRecv ops r.2).flatten =
        (cfb8Dec (aes128 secret) secret (ops.flatMap Op.rcvd)).2 ∧
      r.1.key = secret ∧
      r.1.encReg = (cfb8Enc (aes128 secret) secret (ops.flatMap Op.sent)).1 ∧
      r.1.decReg = (cfb8Dec (aes128 secret) secret (ops.flatMap Op.rcvd)).1 ∧
      r.1.encReg.length = 16 ∧ r.1.decReg.length = 16 ∧ r.2.length = ops.length := by
  intro r
  obtain ⟨hl, rfl⟩ := create_ok_inv secret c h
  obtain ⟨houts, hkey, hchan⟩ := KChan.run_toChan ⟨secret, secret, secret⟩ ops
  have hs := run_sent (aes128 secret) ⟨secret, secret⟩ ops
  have hr := run_rcvd (aes128 secret) ⟨secret, secret⟩ ops
  have hne : secret ≠ [] := by intro h0; simp [h0] at hl
  have he : r.1.encReg = (cfb8Enc (aes128 secret) secret (ops.flatMap Op.sent)).1 := by
    rw [← congrArg Prod.fst hs]
    exact congrArg Chan.encReg hchan
  have hd : r.1.decReg = (cfb8Dec (aes128 secret) secret (ops.flatMap Op.rcvd)).1 := by
    rw [← congrArg Prod.fst hr]
    exact congrArg Chan.decReg hchan
  refine ⟨hl, rfl, ?_, ?_, hkey, he, hd, ?_, ?_, ?_⟩
  · show (outsOf Op.isSend ops (KChan.run _ ops).2).flatten = _
    rw [houts]
    exact congrArg Prod.snd hs
  · show (outsOf Op.isRecv ops (KChan.run _ ops).2).flatten = _
    rw [houts]
    exact congrArg Prod.snd hr
  · rw [he, cfb8Enc_reg_length _ _ _ hne]
    exact hl
  · rw [hd, cfb8Dec_reg_length _ _ _ hne]
    exact hl
  · show (KChan.run _ ops).2.length = _
    rw [houts]
    exact run_length _ _ ops

/-- The same as a predicate on (constructor, wrappers), the form the refutations below negate. -/
theorem pycraft_channel_spec : ChannelSpec KChan.create fun c ops => (KChan.run c ops).2 := by
  intro secret c ops h
  obtain ⟨-, -, hsent, hrcvd, -⟩ := pycraft_channel secret c ops h
  exact ⟨hsent, hrcvd⟩

/-- Two peers that each run `create_AES_cipher` on the same secret interoperate, whatever the
chunking and interleaving on either side: if what A's inner socket was handed is what B's inner
socket / file returns, B's `recv`/`read` calls return exactly what A passed to `send`. -/
theorem pycraft_channel_roundtrip (secret : Bytes) (cA cB : KChan) (opsA opsB : List Op)
    (hA : KChan.create secret = .ok cA) (hB : KChan.create secret = .ok cB)
    (h : opsB.flatMap Op.rcvd = (outsOf Op.isSend opsA (KChan.run cA opsA).2).flatten) :
    (outsOf Op.isRecv opsB (KChan.run cB opsB).2).flatten = opsA.flatMap Op.sent := by
  obtain ⟨-, -, hsentA, -⟩ := pycraft_channel secret cA opsA hA
  obtain ⟨-, -, -, hrcvdB, -⟩ := pycraft_channel secret cB opsB hB
  rw [hrcvdB, h, hsentA]
  exact (cfb8Dec_enc (aes128 secret) secret _).1

/-- CFB8 as NIST SP 800-38A §6.3 (s = 8) states it, index by index and without reference to the
recursive definition: ciphertext byte `i` is plaintext byte `i` XOR the most significant byte of
the block function applied to the LAST `|iv|` BYTES OF `iv ‖ c[0..i)` (the shift register after `i`
steps); decryption XORs the same key-stream byte onto the ciphertext; the register after the whole
input is the last `|iv|` bytes of `iv ‖ c`.  For every block function and every non-empty IV. -/
theorem cfb8_spec (E : Bytes → Bytes) (iv p : Bytes) (hiv : iv ≠ []) :
    let c := (cfb8Enc E iv p).2
    (∀ i (hi : i < p.length),
        c[i]? = some (p[i] ^^^ cfb8Key E ((iv ++ c.take i).drop i)) ∧
          ((iv ++ c.take i).drop i).length = iv.length) ∧
      (∀ i (hi : i < c.length),
        (cfb8Dec E iv c).2[i]? = some (c[i] ^^^ cfb8Key E ((iv ++ c.take i).drop i))) ∧
      (cfb8Enc E iv p).1 = (iv ++ c).drop p.length := by
  intro c
  refine ⟨fun i hi => ⟨cfb8Enc_getElem E iv p hiv i hi, ?_⟩,
    fun i hi => cfb8Dec_getElem E iv c hiv i hi, cfb8Enc_reg_window E iv p hiv⟩
  apply window_length
  show i ≤ (cfb8Enc E iv p).2.length
  rw [cfb8Enc_length]
  omega

/-- SP 800-38A F.3.7's key, used here as the shared secret: key AND IV. -/
def katSecret : Bytes :=
  [0x2b, 0x7e, 0x15, 0x16, 0x28, 0xae, 0xd2, 0xa6, 0xab, 0xf7, 0x15, 0x88, 0x09, 0xcf, 0x4f, 0x3c]
/-- SP 800-38A F.3.7's plaintext `6bc1bee22e409f96e93d7e117393172aae2d`. -/
def katPlain : Bytes :=
  [0x6b, 0xc1, 0xbe, 0xe2, 0x2e, 0x40, 0x9f, 0x96, 0xe9, 0x3d, 0x7e, 0x11, 0x73, 0x93, 0x17, 0x2a,
   0xae, 0x2d]
/-- Its AES-128-CFB8 encryption with key = IV = `katSecret`, `14118e0710eb1b4ca30ae2de24747efb6173`,
as computed by two implementations that share no code with pyCraft or with this model
(`openssl enc -aes-128-cfb8 -K 2b7e…4f3c -iv 2b7e…4f3c` and a from-scratch Python AES). -/
def katCipher : Bytes :=
  [0x14, 0x11, 0x8e, 0x07, 0x10, 0xeb, 0x1b, 0x4c, 0xa3, 0x0a, 0xe2, 0xde, 0x24, 0x74, 0x7e, 0xfb,
   0x61, 0x73]

/-- A known answer with key = IV (the vectors of `Props/C18.lean` have key ≠ IV): one-shot, and
through the channel `create_AES_cipher` sets up with the first 7 bytes cut into `send` 3 + 4 and,
for the other direction, the first 5 bytes into `recv` 2 + file `read` 3. -/
theorem keyiv_known_answer :
    (cfb8Enc (aes128 katSecret) katSecret katPlain).2 = katCipher ∧
      KChan.create katSecret = .ok ⟨katSecret, katSecret, katSecret⟩ ∧
      (KChan.run ⟨katSecret, katSecret, katSecret⟩
          [.send (katPlain.take 3), .recv (katCipher.take 2), .send ((katPlain.drop 3).take 4),
            .read ((katCipher.drop 2).take 3)]).2 =
        [katCipher.take 3, katPlain.take 2, (katCipher.drop 3).take 4,
          (katPlain.drop 2).take 3] := by
  have henc : (cfb8Enc (aes128 katSecret) katSecret katPlain).2 = katCipher := by decide +kernel
  have hdec : (cfb8Dec (aes128 katSecret) katSecret katCipher).2 = katPlain := by
    rw [← henc]
    exact (cfb8Dec_enc _ _ _).1
  refine ⟨henc, rfl, ?_⟩
  -- the keyed channel is `Chan` at `E := aes128 key`; there call by call, then each output as a
  -- segment of the two one-shot streams
  rw [(KChan.run_toChan _ _).1]
  show (Chan.run (aes128 katSecret) ⟨katSecret, katSecret⟩ _).2 = _
  rw [Chan.run_send, Chan.run_recv, Chan.run_send, Chan.run_read, Chan.run_recv,
    Chan.run_nil, cfb8Enc_take, cfb8Enc_take, cfb8Enc_drop, cfb8Dec_take, cfb8Dec_take,
    cfb8Dec_drop, henc, hdec]

/-! ### refutations: changed constructors / wrappers violate `pycraft_channel_spec` -/

/-- `algorithms.AES(shared_secret[::-1])`: the first ciphertext byte is already wrong. -/
theorem reversed_key_refuted :
    ¬ ChannelSpec KChan.createRevKey fun c ops => (KChan.run c ops).2 := by
  intro h
  have := (h katSecret ⟨katSecret.reverse, katSecret, katSecret⟩ [.send [0x6b]] (by decide)).1
  revert this
  decide +kernel

/-- A constant AES key with `CFB8(shared_secret)`. -/
theorem constant_key_refuted :
    ¬ ChannelSpec KChan.createConstKey fun c ops => (KChan.run c ops).2 := by
  intro h
  have := (h katSecret ⟨List.replicate 16 0, katSecret, katSecret⟩ [.send [0x6b]] (by decide)).1
  revert this
  decide +kernel

/-- `AES(shared_secret)` with a constant IV. -/
theorem constant_iv_refuted :
    ¬ ChannelSpec KChan.createConstIV fun c ops => (KChan.run c ops).2 := by
  intro h
  have := (h katSecret ⟨katSecret, List.replicate 16 0, List.replicate 16 0⟩ [.recv [0x14]]
    (by decide)).2
  revert this
  decide +kernel

/-- A decryptor of its own for the file-object wrapper (`cipher.decryptor()` called twice): a
`read` after a `recv` starts from the IV again instead of continuing the stream. -/
theorem own_file_decryptor_refuted :
    ¬ ChannelSpec KChan.create fun c ops => (KChan.runOwnFileDec (c, c.decReg) ops).2 := by
  intro h
  have := (h katSecret ⟨katSecret, katSecret, katSecret⟩ [.recv [0x14], .read [0x11]]
    (by decide)).2
  revert this
  decide +kernel

/-! ## B. the secret is a fresh draw per request, hence per login -/

/-- The `k`-th encryption request a login reaches (counting from 0; `pre` is everything before it,
any schedule, nothing terminal) uses draw number `n0 + k` of the process — `n0` being the number
of `os.urandom` calls made before the login: that draw is 16 bytes, `create_AES_cipher` accepts it
and sets key = both registers = it; the reply written at that moment carries RSA(that draw) and
RSA(token) under the request's key; the `join` hash (if any) is taken over that draw; it is the
`k`-th installed key, the earlier keys being draws `n0 … n0 + k − 1`; and whatever follows removes
none of this.  The reactor never ends with the cipher constructor's `ValueError`. -/
theorem secret_fresh (P : KeyParams) (n0 : Nat) (pre post : List Step) (sid : String)
    (pk tok : Bytes) (hpre : ∀ e ∈ events pre, e.isTerminal = false) :
    let k := (reqs (events pre)).length
    let d := P.rng.draw (n0 + k)
    let s0 := execK P (.init n0) pre
    let s2 := execK P (.init n0) (pre ++ .recv (.encRequest sid pk tok) :: post)
    s0.nDraws = n0 + k ∧ d.length = 16 ∧ KChan.create d = .ok ⟨d, d, d⟩ ∧
      (∃ later, s2.log =
        s0.log ++ ⟨replyOf P d pk tok, !s0.layers.isEmpty, s0.threshold, true⟩ :: later) ∧
      (∃ later, s2.joins = s0.joins ++ joinOf P d sid pk ++ later) ∧
      (∃ later, s2.keys = (List.range' n0 (k + 1)).map P.rng.draw ++ later) ∧
      s2.keys[k]? = some d ∧ ∀ e, s2.err ≠ some (.cipher e) := by
  dsimp only
  obtain ⟨hn, hk⟩ := keys_execK P n0 pre
  rw [processed_of_live _ hpre] at hn hk
  have herr := err_not_cipher P (.init n0) (pre ++ .recv (.encRequest sid pk tok) :: post)
    (by intro e he; cases he)
  rw [execK_mid P _ pre post _ (init_alive n0) hpre] at herr ⊢
  -- the request's own effect, then whatever follows only appends
  obtain ⟨⟨l, hl⟩, ⟨j, hj⟩, ⟨ks, hks⟩⟩ := Grows.exec genUrandom KChan.create P
    (reactK P (execK P (.init n0) pre) (.encRequest sid pk tok)) post
  have hkr := keys_reactK P (execK P (.init n0) pre) (.encRequest sid pk tok)
  simp only [drawUpd, Prod.mk.injEq] at hkr
  rw [hkr.2, hk, hn, range'_map_snoc] at hks
  have hr := reactK_encRequest P (execK P (.init n0) pre) sid pk tok
  rw [congrArg KState.log hr, hn] at hl
  rw [congrArg KState.joins hr, hn] at hj
  exact ⟨hn, P.rng.len16 _, create_of_len _ (P.rng.len16 _), ⟨l, by rw [← hl]; simp⟩, ⟨j, hj.symm⟩,
    ⟨ks, hks.symm⟩, keys_at P.rng.draw n0 _ _ ks hks.symm, herr⟩

/-- After ANY run of a login that started when `n0` calls of `os.urandom` had been made: the
counter has advanced by exactly the number `k` of encryption requests the reactor reached; the
installed keys are, in installation order, exactly the draws `n0, …, n0 + k − 1` — one per
request, no call number twice; so if those draws are pairwise different (what "random" gives with
overwhelming probability) all keys of the login are pairwise different. -/
theorem keys_are_consecutive_draws (P : KeyParams) (n0 : Nat) (steps : List Step) :
    let s := execK P (.init n0) steps
    let k := (reqs (processed (events steps))).length
    s.nDraws = n0 + k ∧ s.keys = (List.range' n0 k).map P.rng.draw ∧ s.layers.length = k ∧
      (List.range' n0 k).Nodup ∧
      ((∀ i j, i < k → j < k → P.rng.draw (n0 + i) = P.rng.draw (n0 + j) → i = j) →
        s.keys.Nodup) := by
  intro s k
  obtain ⟨h1, h2⟩ := keys_execK P n0 steps
  refine ⟨h1, h2, ?_, List.nodup_range', fun hinj => ?_⟩
  · have := congrArg List.length h2
    simpa [KState.keys] using this
  · show (execK P (.init n0) steps).keys.Nodup
    rw [h2]
    exact nodup_draws _ _ _ hinj

/-- Several logins of one process, on any connections, each preceded by any number (`gap`) of
unrelated `os.urandom` calls: all keys installed by all of them, in order, are the draws with the
call numbers `drawIdxs` — which are STRICTLY INCREASING (and ≥ the starting count).  No secret is
carried from one login to the next, none is drawn before it is needed, none is used twice. -/
theorem logins_use_disjoint_draws (P : KeyParams) (n : Nat) (runs : List (Nat × List Step)) :
    let counts := runs.map fun r => (r.1, (reqs (processed (events r.2))).length)
    (logins P n runs).flatMap KState.keys = (drawIdxs n counts).map P.rng.draw ∧
      (drawIdxs n counts).Pairwise (· < ·) ∧ (∀ i ∈ drawIdxs n counts, n ≤ i) :=
  ⟨logins_keys P n runs, drawIdxs_pairwise n _, drawIdxs_ge n _⟩

/-- The first conjunct as a predicate on the secret generator, the form the refutations negate. -/
theorem fresh_spec : FreshSpec genUrandom := fun P n runs => logins_keys P n runs

/-- What an encryption request does to the WIRE, from any reachable state `s` (any number of
cipher layers already installed) and for any continuation `post`.  The reply goes out through the
layers in place BEFORE the request (`sent`); then a layer with key = IV = the new draw `d` is put on
top.  Everything the continuation writes is, as ONE continuous stream, encrypted with
AES-128-CFB8 under `d` and then passed through the older layers — where "everything the
continuation writes" is what the same continuation hands to the real socket of a connection
WITHOUT any of these layers (`inner.wire`), which may itself contain further replies and further
nested ciphers.  The log of the run is the log before, the reply, and the log of `inner`. -/
theorem wire_after_request (P : KeyParams) (s : KState) (hs : s.alive = true) (sid : String)
    (pk tok : Bytes) (post : List Step) :
    let d := P.rng.draw s.nDraws
    let reply := replyOf P d pk tok
    let sent := updates stackSend s.layers (frameSends P.z s.threshold (payloadOf P.ids reply))
    let s1 := reactK P s (.encRequest sid pk tok)
    let inner := execK P { s1 with layers := [], wire := [], log := [] } post
    let full := execK P s (.recv (.encRequest sid pk tok) :: post)
    s1.wire = s.wire ++ sent.2 ∧ s1.layers = ⟨d, d, d⟩ :: sent.1 ∧ s1.nDraws = s.nDraws + 1 ∧
      full.wire.flatten =
        s.wire.flatten ++ sent.2.flatten ++
          (stackSend sent.1 (cfb8Enc (aes128 d) d inner.wire.flatten).2).2 ∧
      full.log =
        s.log ++ ⟨reply, !s.layers.isEmpty, s.threshold, true⟩ :: inner.log.map flagged := by
  intro d reply sent s1 inner full
  have h0 := execK_recv P s (.encRequest sid pk tok) post hs
  obtain ⟨w, l⟩ := factored genUrandom KChan.create P _ (reactK_layers_ne P s sid pk tok) post
  have hr := reactK_encRequest P s sid pk tok
  have hw : s1.wire = s.wire ++ sent.2 := congrArg KState.wire hr
  have hl : s1.layers = ⟨d, d, d⟩ :: sent.1 := congrArg KState.layers hr
  have hg : s1.log = s.log ++ [⟨reply, !s.layers.isEmpty, s.threshold, true⟩] :=
    congrArg KState.log hr
  refine ⟨hw, hl, congrArg KState.nDraws hr, ?_, ?_⟩
  · show (execK P s _).wire.flatten = _
    rw [h0, w]
    show s1.wire.flatten ++ (stackSend s1.layers inner.wire.flatten).2 = _
    rw [hw, hl, List.flatten_append, stackSend_cons]
  · show (execK P s _).log = _
    rw [h0, l]
    show s1.log ++ inner.log.map flagged = _
    rw [hg, List.append_assoc, List.singleton_append]

/-- `secret_fresh` and `wire_after_request` together: in a login started at call number `n0`, from
the `k`-th reached request on (`k` = number of requests in `pre`, which is also the number of
cipher layers then in place) the wire is what was there, the reply through those `k` layers, and
then — through them as well — the AES-128-CFB8 stream with key = IV = draw number `n0 + k` of
everything the continuation writes. -/
theorem wire_from_kth_request (P : KeyParams) (n0 : Nat) (pre post : List Step) (sid : String)
    (pk tok : Bytes) (hpre : ∀ e ∈ events pre, e.isTerminal = false) :
    let k := (reqs (events pre)).length
    let d := P.rng.draw (n0 + k)
    let s0 := execK P (.init n0) pre
    let sent := updates stackSend s0.layers
      (frameSends P.z s0.threshold (payloadOf P.ids (replyOf P d pk tok)))
    let s1 := reactK P s0 (.encRequest sid pk tok)
    let inner := execK P { s1 with layers := [], wire := [], log := [] } post
    let s2 := execK P (.init n0) (pre ++ .recv (.encRequest sid pk tok) :: post)
    s0.layers.length = k ∧
      s2.wire.flatten =
        s0.wire.flatten ++ sent.2.flatten ++
          (stackSend sent.1 (cfb8Enc (aes128 d) d inner.wire.flatten).2).2 := by
  intro k d s0 sent s1 inner s2
  obtain ⟨hn, -, hlen, -⟩ := keys_are_consecutive_draws P n0 pre
  rw [processed_of_live _ hpre] at hn hlen
  have hal : s0.alive = true := execK_alive P _ pre (init_alive n0) hpre
  obtain ⟨-, -, -, hw, -⟩ := wire_after_request P s0 hal sid pk tok post
  have hd : P.rng.draw s0.nDraws = d := by
    show P.rng.draw (execK P (.init n0) pre).nDraws = _
    rw [hn]
  refine ⟨hlen, ?_⟩
  have hs2 : s2 = execK P s0 (.recv (.encRequest sid pk tok) :: post) := by
    show execWith genUrandom KChan.create P _ (pre ++ _) = _
    rw [execWith_append]
  rw [hs2]
  rw [hd] at hw
  exact hw

/-- The usual case written out.  A request reaching a connection with NO cipher yet (`Bare`: the
wire so far is the plaintext frames of the log), no further request afterwards: the wire is the
plaintext frames written before, the PLAINTEXT frame of the reply carrying RSA(d), RSA(token), and
then the AES-128-CFB8 encryption with key = IV = `d` — `d` being draw number `s.nDraws` — of the
frames of everything written afterwards, as one stream.  (`C10Wire.wire_switch_at_reply` with the
abstract block function replaced by AES under the secret and the constant secret by the draw.) -/
theorem wire_single_layer (P : KeyParams) (s : KState) (hs : s.alive = true) (hb : Bare P s)
    (sid : String) (pk tok : Bytes) (post : List Step)
    (hpost : ∀ e ∈ events post, e.isEncRequest = false) :
    let d := P.rng.draw s.nDraws
    let reply := replyOf P d pk tok
    let full := execK P s (.recv (.encRequest sid pk tok) :: post)
    ∃ later, full.log = s.log ++ ⟨reply, false, s.threshold, true⟩ :: later ∧
      (∀ f ∈ later, f.encrypted = true) ∧
      full.wire.flatten =
        (s.log.map (frameOfSent P.z P.ids)).flatten ++
          frame P.z s.threshold (payloadOf P.ids reply) ++
          (cfb8Enc (aes128 d) d (later.map (frameOfSent P.z P.ids)).flatten).2 := by
  dsimp only
  have h0 := execK_recv P s (.encRequest sid pk tok) post hs
  obtain ⟨-, hba, -, W, L⟩ := first_request_aux P s hs hb sid pk tok post _ _ rfl rfl
  have hin := Bare.exec genUrandom KChan.create hba post hpost
  refine ⟨_, by rw [h0]; exact L, flagged_all _, ?_⟩
  rw [h0, W, map_frames_flagged, hin.2.1]

/-- Two requests in one login (what `Model/Login.lean`, with its single cipher flag and single
secret, cannot express): plaintext up to and including the first reply; then the FIRST cipher
(key = IV = draw `n0`) encrypts as one stream the frames written between the requests, the SECOND
reply (RSA of draw `n0 + 1`), and the output of the SECOND cipher (key = IV = draw `n0 + 1`), which
encrypts the frames written after the second request. -/
theorem wire_two_requests (P : KeyParams) (n0 : Nat) (pre mid post : List Step)
    (sid1 : String) (pk1 tok1 : Bytes) (sid2 : String) (pk2 tok2 : Bytes)
    (hpre : ∀ e ∈ events pre, e.isTerminal = false ∧ e.isEncRequest = false)
    (hmid : ∀ e ∈ events mid, e.isTerminal = false ∧ e.isEncRequest = false)
    (hpost : ∀ e ∈ events post, e.isEncRequest = false) :
    let d1 := P.rng.draw n0
    let d2 := P.rng.draw (n0 + 1)
    let s0 := execK P (.init n0) pre
    let full := execK P (.init n0) (pre ++ .recv (.encRequest sid1 pk1 tok1) ::
      (mid ++ .recv (.encRequest sid2 pk2 tok2) :: post))
    ∃ (thr2 : Option Int) (L1 L2 : List Sent),
      full.log = s0.log ++ ⟨replyOf P d1 pk1 tok1, false, s0.threshold, true⟩ ::
        (L1 ++ ⟨replyOf P d2 pk2 tok2, true, thr2, true⟩ :: L2) ∧
      (∀ f ∈ L1, f.encrypted = true) ∧ (∀ f ∈ L2, f.encrypted = true) ∧
      full.wire.flatten =
        (s0.log.map (frameOfSent P.z P.ids)).flatten ++
          frame P.z s0.threshold (payloadOf P.ids (replyOf P d1 pk1 tok1)) ++
          (cfb8Enc (aes128 d1) d1
            ((L1.map (frameOfSent P.z P.ids)).flatten ++
              frame P.z thr2 (payloadOf P.ids (replyOf P d2 pk2 tok2)) ++
              (cfb8Enc (aes128 d2) d2 (L2.map (frameOfSent P.z P.ids)).flatten).2)).2 := by
  obtain ⟨-, hlog, hwire⟩ := two_requests_aux P n0 pre mid post sid1 pk1 tok1 sid2 pk2 tok2
    hpre hmid hpost _ _ _ _ rfl rfl rfl rfl
  refine ⟨_, _, _, hlog, flagged_all _, flagged_all _, ?_⟩
  rw [map_frames_flagged, map_frames_flagged, map_frames_flagged]
  exact hwire

/-- Tie to `Model/LoginWire.lean`.  For ANY run that reaches at most one encryption request, what
the real socket is handed is `LoginWire.wireBytes` of the log with the block function INSTANTIATED
to AES-128 under draw `n0` and the register to draw `n0`; the log has the switch discipline
(plaintext up to and including the reply, encrypted afterwards); and either no cipher was
installed and no reply written, or exactly one, keyed by draw `n0`, whose reply is
RSA(draw `n0`), RSA(token) under the key of a request of the script. -/
theorem wire_is_login_wire (P : KeyParams) (n0 : Nat) (steps : List Step)
    (h1 : (reqs (processed (events steps))).length ≤ 1) :
    let s := execK P (.init n0) steps
    let d := P.rng.draw n0
    s.wire.flatten = wireBytes P.z (aes128 d) d P.ids s.log ∧ switchOK false s.log = true ∧
      ((s.keys = [] ∧ hasEncResp s.log = false) ∨
        (s.keys = [d] ∧ hasEncResp s.log = true ∧
          ∃ sid pk tok, LoginEv.encRequest sid pk tok ∈ events steps ∧
            firstEncResp s.log = some (P.base.rsa.enc pk d, P.base.rsa.enc pk tok))) := by
  dsimp only
  -- what the log says is the login model's invariant, along the agreement of the two models
  have hsim := sim_execK P n0 steps h1
  have W := wireInv_exec (P.login (P.rng.draw n0)) steps
  have hhas : hasEncResp (execK P (.init n0) steps).log = !(execK P (.init n0) steps).layers.isEmpty := by
    rw [hsim.log, ← W.enc]; exact hsim.enc
  have hsw : switchOK false (execK P (.init n0) steps).log = true := hsim.log ▸ W.sw
  cases wired_execK P n0 steps with
  | more hn => rw [(keys_execK P n0 steps).1] at hn; omega
  | none _ hb =>
    rw [hb.1] at hhas
    refine ⟨?_, hsw, Or.inl ⟨by simp [KState.keys, hb.1], hhas⟩⟩
    rw [hb.2.1]
    exact (wireGo_allplain _ _ _ _ _ hb.2.2).symm
  | one _ a w0 l0 hb hl hw hf =>
    have hlay := hf.layers
    rw [hb.1, List.nil_append] at hlay
    have hkeys : (execK P (.init n0) steps).keys = [P.rng.draw n0] := by
      rw [KState.keys, hlay, List.map_reverse, updates_stackSend_keys]; rfl
    rw [hlay, updates_stackSend_isEmpty] at hhas
    refine ⟨?_, hsw, Or.inr ⟨hkeys, hhas, ?_⟩⟩
    · -- the bytes: plaintext up to the reply, then the frames of the bare state through the layer
      rw [hf.wire, hf.log, List.flatten_append, show (updates stackSend _ a.wire).2.flatten = _ from
          congrArg Prod.snd (updates_stack_flatten _ a.wire),
        stackSend_single, hw, hb.2.1, wireBytes, wireChunks, wireGo_plain_append _ _ _ _ _ _ hl,
        wireGo_enc _ _ _ _ _ (flagged_all _), map_frames_flagged]
    · cases hfe : firstEncResp (execK P (.init n0) steps).log with
      | none => rw [hasEncResp_iff_first, hfe] at hhas; cases hhas
      | some ab =>
        obtain ⟨f, hfm, hfp⟩ := firstEncResp_mem _ ab.1 ab.2 hfe
        obtain ⟨sid, pk, tok, hm, ha, hb⟩ := W.origin f (hsim.log ▸ hfm) _ _ hfp
        exact ⟨sid, pk, tok, hm, congrArg some (Prod.ext ha hb)⟩

/-- Hence the independent reference server of `Model/LoginWire.lean`, run with the REAL block
cipher (`aes128`) keyed by what it RSA-decrypts from the reply, recovers every packet of such a run
from the real socket's bytes in any segmentation — and the key it ends up with is the client's
draw (none if no request was reached). -/
theorem reference_server_recovers (P : KeyParams) (n0 : Nat) (steps : List Step) (zl : Zlib)
    (priv : Bytes) (segs : Segs) (hz : P.z = zl.toZlibOps)
    (h1 : (reqs (processed (events steps))).length ≤ 1)
    (hids : P.ids.encResp ≠ P.ids.plugResp)
    (hkey : ∀ sid pk tok, LoginEv.encRequest sid pk tok ∈ events steps →
      P.base.rsa.matching pk priv)
    (hok : ∀ f ∈ (execK P (.init n0) steps).log, FrameOK P.z f.threshold (wirePkt P.ids f))
    (hseg : segs.flatten = (execK P (.init n0) steps).wire.flatten) :
    let s := execK P (.init n0) steps
    let r := serverRecover P.z aes128 (P.base.rsa.dec priv) P.ids.encResp (modesOf s.log) segs
    r.packets = s.log.map (wirePkt P.ids) ∧ r.err = none ∧ r.rest = [] ∧ r.key = s.keys.head? := by
  intro s r
  obtain ⟨hw, hsw, hcase⟩ := wire_is_login_wire P n0 steps h1
  have hk : ∀ a b, firstEncResp s.log = some (a, b) →
      P.base.rsa.dec priv a = P.rng.draw n0 := by
    intro a b hab
    rcases hcase with ⟨-, hno⟩ | ⟨-, -, sid, pk, tok, hm, hf⟩
    · have : (firstEncResp s.log).isSome = false := by rw [← hasEncResp_iff_first]; exact hno
      rw [hab] at this
      cases this
    · have hf' : firstEncResp s.log = _ := hf
      rw [hf'] at hab
      simp only [Option.some.injEq, Prod.mk.injEq] at hab
      rw [← hab.1]
      exact P.base.rsa.law pk priv _ (hkey sid pk tok hm)
  have hrun : r = ⟨s.log.map (wirePkt P.ids),
      if hasEncResp s.log then some (P.rng.draw n0) else none, none, []⟩ := by
    show serverRecover P.z aes128 _ _ _ segs = _
    rw [hz] at hok hw ⊢
    exact recvPlain_outbox zl aes128 (P.base.rsa.dec priv) (P.rng.draw n0) P.ids hids s.log
      (Sock.plain segs) hsw hok hk (hseg.trans hw)
  rw [hrun]
  refine ⟨rfl, rfl, rfl, ?_⟩
  rcases hcase with ⟨hk0, hno⟩ | ⟨hk1, hhas, -⟩
  · have hk0' : s.keys = [] := hk0
    have hno' : hasEncResp s.log = false := hno
    simp [hk0', hno']
  · have hk1' : s.keys = [P.rng.draw n0] := hk1
    have hhas' : hasEncResp s.log = true := hhas
    simp [hk1', hhas']

/-- Tie to `Model/Login.lean`.  For ANY run that reaches at most one encryption request this model
and the login model of `Props/C10.lean` / `Props/C10Wire.lean` — run with its one `secret`
parameter set to draw `n0` — agree on everything the login model has: the written frames with
their modes, threshold, reactor, queue, `join` calls, the error, and the cipher flag.  So every C10 /
C10Wire theorem about such a run holds of this model with `secret := draw n0` and (by
`wire_is_login_wire`) `E := aes128 (draw n0)`; beyond one request the login model's single secret
and single cipher no longer describe the code (`second_request_nests`). -/
theorem login_model_agrees (P : KeyParams) (n0 : Nat) (steps : List Step)
    (h1 : (reqs (processed (events steps))).length ≤ 1) :
    let cs := exec (P.login (P.rng.draw n0)) .init steps
    let ks := execK P (.init n0) steps
    ks.log = cs.outbox ∧ ks.threshold = cs.threshold ∧ ks.reactor = cs.reactor ∧
      ks.queue = cs.queue ∧ ks.joins = cs.joins ∧ ks.err = cs.err.map KErr.login ∧
      cs.encrypted = !ks.layers.isEmpty := by
  intro cs ks
  obtain ⟨a, b, c, d, e, f, g⟩ := sim_execK P n0 steps h1
  exact ⟨a, b, c, d, e, f, g⟩

/-- A second request really nests: on the concrete run `demoTwice` (two requests, a plugin request
after each) the bytes the real socket gets are NOT the single-cipher wire of `Model/LoginWire.lean`
for the same log — the one-layer reading of `C10Wire.wire_switch_at_reply` "for any continuation"
does not describe the code there; `wire_two_requests` does. -/
theorem second_request_nests :
    let s := execK demoKP (.init 0) demoTwice
    s.keys = [demoKP.rng.draw 0, demoKP.rng.draw 1] ∧
      s.wire.flatten ≠
        wireBytes demoKP.z (aes128 (demoKP.rng.draw 0)) (demoKP.rng.draw 0) demoKP.ids s.log := by
  intro s
  refine ⟨by rw [(keys_execK demoKP 0 demoTwice).2]; decide +kernel, fun h => ?_⟩
  -- by `two_requests_single_iff` the second cipher would have to return its input unchanged
  have hcut : demoTwice =
      [.flush] ++ .recv (.encRequest "srv" [7, 8] [9]) ::
        ([.flush, .recv (.pluginRequest 5 "ch" [1]), .flush] ++ .recv (.encRequest "-" [3, 4] [6]) ::
          [.flush, .recv (.pluginRequest 6 "ch" []), .flush, .recv .success, .flush]) := by decide
  have := (two_requests_single_iff demoKP 0 _ _ _ "srv" [7, 8] [9] "-" [3, 4] [6] (by decide)
    (by decide) (by decide) _ _ _ s rfl rfl rfl (congrArg (execK demoKP (.init 0)) hcut)).mp h
  revert this
  decide +kernel

/-! ### refutations: changed secret generation violates `fresh_spec` -/

/-- Two logins with one request each (one unrelated draw in between). -/
def twoLogins : List (Nat × List Step) := [(0, demoLogin), (1, demoLogin)]

/-- `def generate_shared_secret(): return b'\0' * 16`. -/
theorem zero_secret_refuted : ¬ FreshSpec genZero := by
  intro h
  have := h demoKP 0 twoLogins
  revert this
  decide +kernel

/-- The secret drawn once — at import time, when the `Connection` is created, or at its first login
(whichever call number `c` that is) — and kept for later logins: two logins then install the same
key, while `fresh_spec` demands two different draws. -/
theorem kept_secret_refuted (c : Nat) : ¬ FreshSpec (genFixed c) := by
  intro h
  have h2 := h demoKP 0 twoLogins
  have hr : (drawIdxs 0 (twoLogins.map fun r => (r.1, (reqs (processed (events r.2))).length))).map
      demoKP.rng.draw = [demoKP.rng.draw 0, demoKP.rng.draw 2] := by decide +kernel
  have hall := logins_keys_from_gen (genFixed c) demoKP (· = demoKP.rng.draw c) (fun _ => rfl) 0
    twoLogins
  rw [h2, hr] at hall
  have h0 := hall (demoKP.rng.draw 0) (by simp)
  have h2' := hall (demoKP.rng.draw 2) (by simp)
  have h02 : demoKP.rng.draw 0 = demoKP.rng.draw 2 := h0.trans h2'.symm
  revert h02
  decide +kernel

/-! ## C. PKCS#1 v1.5: the key holder recovers secret and token exactly -/

/-- RSAES-PKCS1-v1_5 (RFC 8017 §7.2) over ANY RSA key pair — the only property of RSA used is that
the private-key operation inverts the public-key operation below the modulus — and for ANY lawful
padding string the library may draw (`k − mLen − 3` nonzero octets): every message of at most
`k − 11` octets is accepted, the ciphertext is `k` octets long, and decryption returns the message
exactly.  This is the recovery law `Model/Login.lean` assumes of its `Rsa` parameter (and
`C10.enc_reply_then_encrypted` concludes from), here derived; longer messages are refused
("message too long", Python `ValueError`). -/
theorem pkcs1_key_holder_recovers (T : Trapdoor) (ps m : Bytes) (hps : PsOK T.k ps m) :
    (m.length + 11 ≤ T.k →
      ∃ c, rsaesEncrypt T ps m = .ok c ∧ c.length = T.k ∧ rsaesDecrypt T c = .ok m) ∧
    (T.k < m.length + 11 → rsaesEncrypt T ps m = .error .value) :=
  ⟨rsaes_dec_enc T ps m hps, rsaes_too_long T ps m⟩

/-- What pyCraft sends fits: the 16-byte secret and any verify token of up to 64 bytes are within
the limit under 1024-bit (`k = 128`) and 2048-bit (`k = 256`) keys — so for those the key holder
recovers both exactly, whatever the padding. -/
theorem login_messages_recovered (T : Trapdoor) (hk : T.k = 128 ∨ T.k = 256) (secret token : Bytes)
    (ps1 ps2 : Bytes) (hs : secret.length = 16) (ht : token.length ≤ 64)
    (h1 : PsOK T.k ps1 secret) (h2 : PsOK T.k ps2 token) :
    (∃ c, rsaesEncrypt T ps1 secret = .ok c ∧ rsaesDecrypt T c = .ok secret) ∧
      (∃ c, rsaesEncrypt T ps2 token = .ok c ∧ rsaesDecrypt T c = .ok token) := by
  obtain ⟨c1, a1, -, b1⟩ := rsaes_dec_enc T ps1 secret h1 (by omega)
  obtain ⟨c2, a2, -, b2⟩ := rsaes_dec_enc T ps2 token h2 (by omega)
  exact ⟨⟨c1, a1, b1⟩, ⟨c2, a2, b2⟩⟩

/-! ## Non-vacuity -/

-- `create_iff`: both branches occur; 24- and 32-byte secrets are valid AES keys but not valid IVs
example : KChan.create katSecret = .ok ⟨katSecret, katSecret, katSecret⟩ ∧
    KChan.create [1, 2, 3] = .error .value ∧
    KChan.create (List.replicate 24 7) = .error .value ∧
    KChan.create (List.replicate 32 7) = .error .value := by decide

-- `pycraft_channel` / `pycraft_channel_roundtrip`: hypotheses met by `katSecret`, with a
-- non-trivial interleaving (the conclusion evaluated in `keyiv_known_answer`)
example : ∃ c, KChan.create katSecret = .ok c := ⟨_, rfl⟩

-- `cfb8_spec`: a 16-byte IV and an 18-byte plaintext; byte 17's register window is the last 16
-- ciphertext bytes
example : katSecret ≠ [] ∧ katPlain.length = 18 ∧
    (katSecret ++ katCipher.take 17).drop 17 = (katCipher.drop 1).take 16 := by decide

-- `secret_fresh` with k = 1: a prefix that contains a request and nothing terminal
example : (∀ e ∈ events (schedule 1 [.encRequest "srv" [7, 8] [9], .pluginRequest 5 "ch" [1]]),
      e.isTerminal = false) ∧
    (reqs (events (schedule 1 [.encRequest "srv" [7, 8] [9], .pluginRequest 5 "ch" [1]]))).length =
      1 := by decide

-- … and the conclusion on `demoTwice` evaluated: counter, keys, the join of the first request only
-- (the second has server id "-"), both replies in the log
example :
    let s := execK demoKP (.init 5) demoTwice
    s.nDraws = 7 ∧ s.keys = [List.replicate 16 6, List.replicate 16 7] ∧
      s.joins = ["srv/06060606060606060606060606060606/0708"] ∧
      (s.log.filter fun f => isEncResp f.pkt).map (·.pkt) =
        [.encResp (7 :: List.replicate 16 6) [7, 9], .encResp (3 :: List.replicate 16 7) [3, 6]] ∧
      s.log.map (·.encrypted) = [false, true, true, true] := by decide +kernel

-- `keys_are_consecutive_draws`: the injectivity hypothesis holds for the demo oracle
example : ∀ i j, i < 2 → j < 2 → demoKP.rng.draw (0 + i) = demoKP.rng.draw (0 + j) → i = j := by
  intro i j hi hj
  have h : ∀ i, i < 2 → ∀ j, j < 2 → demoKP.rng.draw (0 + i) = demoKP.rng.draw (0 + j) → i = j := by
    decide
  exact h i hi j hj

-- `logins_use_disjoint_draws`: two logins, one unrelated draw in between: call numbers 0 and 2
example : drawIdxs 0 (twoLogins.map fun r => (r.1, (reqs (processed (events r.2))).length)) =
    [0, 2] := by decide +kernel

-- `wire_after_request` / `wire_single_layer`: an alive, bare state that has already written a frame
example :
    let s := execK demoKP (.init 0) [.recv (.pluginRequest 300 "a" []), .flush, .recv (.setCompression 1)]
    s.alive = true ∧ s.layers = [] ∧ s.log.length = 1 ∧
      s.wire.flatten = (s.log.map (frameOfSent demoKP.z demoKP.ids)).flatten := by decide +kernel

-- `wire_two_requests`: the hypotheses are met by `demoTwice` cut at its two requests
example : demoTwice =
    [.flush] ++ .recv (.encRequest "srv" [7, 8] [9]) ::
      ([.flush, .recv (.pluginRequest 5 "ch" [1]), .flush] ++ .recv (.encRequest "-" [3, 4] [6]) ::
        [.flush, .recv (.pluginRequest 6 "ch" []), .flush, .recv .success, .flush]) := by decide

-- `wire_is_login_wire` / `reference_server_recovers`: `demoLogin` reaches one request; its wire:
-- plaintext reply, then the plugin response encrypted under AES keyed by draw 0
example : (reqs (processed (events demoLogin))).length = 1 ∧
    (execK demoKP (.init 0) demoLogin).wire.flatten =
      [0x16, 0x01, 0x11, 0x07, 1, 1, 1, 1, 1, 1, 1, 1, 1, 1, 1, 1, 1, 1, 1, 1, 0x02, 0x07, 0x09] ++
        (cfb8Enc (aes128 (List.replicate 16 1)) (List.replicate 16 1) [0x03, 0x02, 0x05, 0x00]).2 := by
  refine ⟨by decide, ?_⟩
  -- `first_request_aux` at the request: what is left to evaluate is plaintext
  have hcut : demoLogin = [.flush] ++ .recv (.encRequest "srv" [7, 8] [9]) ::
      [.flush, .recv (.pluginRequest 5 "ch" [1]), .flush, .recv .success, .flush] := by decide
  rw [hcut, execK_mid demoKP _ [.flush] _ _ (init_alive 0) (by intro e he; cases he)]
  refine (first_request_aux demoKP _ (by decide +kernel)
    (Bare.exec _ _ (bare_init demoKP 0) [.flush] (by intro e he; cases he)) _ _ _ _ _ _ rfl
    rfl).2.2.2.1.trans ?_
  refine congr (congrArg HAppend.hAppend (by decide +kernel)) (congrArg Prod.snd ?_)
  refine congr (congr (congrArg cfb8Enc (congrArg aes128 ?_)) ?_) ?_ <;> decide +kernel

-- `login_model_agrees`: on `demoLogin` both models write the same two frames (and on `demoTwice`,
-- which reaches two requests, they do not: the second reply carries another secret)
example : (execK demoKP (.init 0) demoLogin).log =
      (exec (demoKP.login (demoKP.rng.draw 0)) .init demoLogin).outbox ∧
    (execK demoKP (.init 0) demoLogin).log.length = 2 ∧
    (execK demoKP (.init 0) demoTwice).log ≠
      (exec (demoKP.login (demoKP.rng.draw 0)) .init demoTwice).outbox := by decide +kernel

-- `pkcs1_key_holder_recovers`: a toy key pair (k = 12, modulus 2^88 = 256^11, RSAEP = RSADP = flip
-- the lowest bit) and a lawful padding string for a 1-byte message; both branches occur
def toyT : Trapdoor :=
  { k := 12, n := 2 ^ 88, f := fun x => x ^^^ 1, finv := fun y => y ^^^ 1,
    n_lo := by decide, n_hi := by decide,
    f_lt := fun x hx => Nat.xor_lt_two_pow hx (by decide),
    inv := fun x _ => by simp [Nat.xor_assoc] }

example : PsOK toyT.k [9, 8, 7, 6, 5, 4, 3, 2] [0x2a] ∧
    rsaesEncrypt toyT [9, 8, 7, 6, 5, 4, 3, 2] [0x2a] = .ok [0, 2, 9, 8, 7, 6, 5, 4, 3, 2, 0, 0x2b] ∧
    rsaesDecrypt toyT [0, 2, 9, 8, 7, 6, 5, 4, 3, 2, 0, 0x2b] = .ok [0x2a] ∧
    rsaesEncrypt toyT [9, 8, 7, 6, 5, 4, 3] [0x2a, 0x2b] = .error .value := by decide +kernel

-- the decoder rejects what RFC 8017 §7.2.2 step 3 rejects: wrong first/second octet, a padding
-- string shorter than 8, no separator
example : emeDecode [1, 2, 9, 8, 7, 6, 5, 4, 3, 2, 0, 5] = .error .value ∧
    emeDecode [0, 1, 9, 8, 7, 6, 5, 4, 3, 2, 0, 5] = .error .value ∧
    emeDecode [0, 2, 9, 8, 7, 6, 5, 4, 3, 0, 5, 5] = .error .value ∧
    emeDecode [0, 2, 9, 8, 7, 6, 5, 4, 3, 2, 1, 5] = .error .value ∧
    emeDecode [0, 2, 9, 8, 7, 6, 5, 4, 3, 2, 0, 5] = .ok [5] := by decide

end PyCraft.C18Keys
