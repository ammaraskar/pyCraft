import PyCraft.Lemmas.SignNorm
import PyCraft.Lemmas.C07Named
import PyCraft.Props.C06Dispatch
/-!
# C07 — packet ids and byte layouts of the core packets equal the published protocol

Three tables meet here, all regenerated on every run:

* `PyCraft.Gen.idTables` — the ids the live `get_id` returns, per table / version / class;
* `PyCraft.Gen.layoutTables` — the field layouts the live `get_definition` returns;
* `PyCraft.Ref` — a hand-written reference of the PUBLISHED protocol (`harness/refproto.py`), which
  shares no code with pyCraft: per core packet and release, the published id and field types.

The comparison identifies the two single-byte integers (`normT`: `i8` ≡ `u8`, the same octet), which
is justified by `core_bytes_match` / `core_read_match`: layouts with equal `normT`-images write the
same bytes and read the same bytes alike.  Helper lemmas are in `Lemmas/SignNorm.lean`; the lookups
`genId` / `genLayout` and the one-pass id checker `walkIds` (with the proof that it compares exactly
what the lookups return) are in `Lemmas/RefCheck.lean`.  Both tables are compared once, exactly and
with the field names, in `Lemmas/C07Named.lean` (`checkGenNamed`); the statements made here, on the
types up to `normT`, follow.
-/
namespace PyCraft.C07
open PyCraft PyCraft.Gen

/-- Every row of the reference — whatever its release — is matched by pyCraft: for every core
packet `(name, table, class)` and every reference row `(version, id, field types)` under that name,
the id of the class in pyCraft's FIRST (and, the version column being duplicate-free, only) id row
for that version is the published id, and the field types of the FIRST variant of the class that
lists that version are the published ones up to `normT`. -/
theorem core_rows_match (c : String × String × String) (hc : c ∈ Ref.core)
    (e : String × List RefRow) (he : e ∈ Ref.table) (hname : e.1 = c.1) (row : RefRow)
    (hrow : row ∈ e.2) :
    idMatches (genId c.2.1 c.2.2 row.1) row = true ∧
    layMatches (genLayout c.2.1 c.2.2 row.1) row = true := by
  -- the row is a row of the named reference, names dropped, which both tables match exactly
  rw [← C07Named.erase_ok] at he
  obtain ⟨ne, hne, rfl⟩ := List.mem_map.mp he
  obtain ⟨nrow, hnrow, rfl⟩ := List.mem_map.mp hrow
  obtain ⟨_, _, hv⟩ := C07Named.checkGenNamed_sound _ C07Named.checkGenNamed_ok
    C06Dispatch.versions_nodup c hc ne hne hname
  obtain ⟨hid, _, _, hlay⟩ := hv nrow hnrow
  constructor
  · exact decide_eq_true hid
  · rw [C07Named.genLayout_eq_named]
    show layMatches ((C07Named.genLayoutNamed c.2.1 c.2.2 nrow.1).map _) (C07Named.eraseRow nrow) =
      true
    rw [hlay]
    simp [layMatches, C07Named.eraseRow]

/-- Ids: for every release protocol, every core packet and every row the published protocol has for
that packet in that release, the id pyCraft's `get_id` returns for the corresponding class equals the
published id. -/
theorem core_ids_match :
    ∀ rel ∈ Ref.releases, ∀ c ∈ Ref.core, ∀ e ∈ Ref.table, e.1 = c.1 →
      ∀ row ∈ e.2, row.1 = rel → genId c.2.1 c.2.2 rel = some row.2.1 := by
  intro rel _ c hc e he hname row hrow hv
  have := (core_rows_match c hc e he hname row hrow).1
  rw [← hv]; simpa [idMatches] using this

/-- Layouts: … and the class has a generic field layout under that release whose field types equal
the published ones, field for field, up to the identification of `i8` with `u8`. -/
theorem core_layouts_match :
    ∀ rel ∈ Ref.releases, ∀ c ∈ Ref.core, ∀ e ∈ Ref.table, e.1 = c.1 →
      ∀ row ∈ e.2, row.1 = rel →
        (genLayout c.2.1 c.2.2 rel).map (fun ts => ts.map normT) = some (row.2.2.map normT) := by
  intro rel _ c hc e he hname row hrow hv
  have := (core_rows_match c hc e he hname row hrow).2
  rw [← hv]; simpa [layMatches] using this

/-- Why comparing `normT`-images is enough, writing side: two types with equal `normT`-images encode
every value that is in the domain of BOTH to the same bytes (the only non-trivial case is `i8` vs
`u8` on `0 … 127`); hence two layouts with equal `normT`-images write the same packet body. -/
theorem core_bytes_match (cc : CustomCodec) (cw : CustomT → Value → Prop) :
    (∀ a b, normT a = normT b → ∀ v, WellTyped cw a v → WellTyped cw b v →
      encode cc a v = encode cc b v) ∧
    (∀ L1 L2 : Layout, normL L1 = normL L2 → ∀ vals, WellTypedFields cw L1 vals →
      WellTypedFields cw L2 vals → encodeFields cc L1 vals = encodeFields cc L2 vals) :=
  ⟨encode_norm cc cw, encodeFields_norm cc cw⟩

/-- … and reading side: on EVERY byte string two layouts with equal `normT`-images either both fail
with the same error, or both succeed, consume the same bytes, and return values that are equal once
every single byte is read unsigned (`signNorm`: `i ↦ i mod 256` at the `i8` positions). -/
theorem core_read_match (cc : CustomCodec) :
    (∀ a b, normT a = normT b → ∀ bs,
      (decode cc a bs).map (fun x => (signNorm a x.1, x.2)) =
      (decode cc b bs).map (fun x => (signNorm b x.1, x.2))) ∧
    (∀ L1 L2 : Layout, normL L1 = normL L2 → ∀ bs,
      (decodeFields cc L1 bs).map (fun x => (signNormL L1 x.1, x.2)) =
      (decodeFields cc L2 bs).map (fun x => (signNormL L2 x.1, x.2))) :=
  ⟨decode_norm cc, decodeFields_norm cc⟩

/-- `normT` merges `i8` into `u8`, also inside an array, and is idempotent; it keeps apart `i16` and
`u16`, and `varint` and `i32` (two instances of: types of different width or kind stay different). -/
theorem normT_conservative :
    (∀ t, normT (normT t) = normT t) ∧ normT (.int .i8) = .int .u8 ∧
    normT (.int .i16) ≠ normT (.int .u16) ∧ normT .varint ≠ normT (.int .i32) ∧
    normT (.array .varint (.int .i8)) = .array .varint (.int .u8) :=
  ⟨normT_idem, rfl, by decide, by decide, rfl⟩

/-- rows of the reference for one packet name -/
def refRows (name : String) : List (Nat × Int × List WType) :=
  (Ref.table.filter fun e => e.1 == name).flatMap fun e => e.2

/-- Non-vacuity of the comparison: the reference lists at least 20 core packets and 25 releases;
every core packet has rows for at least 25 of the releases; every reference row is for a listed
release (so none is skipped); in total at least 550 (packet, release) pairs are compared. -/
theorem reference_nonempty :
    Ref.core.length ≥ 20 ∧ Ref.releases.length ≥ 25 ∧
    (∀ c ∈ Ref.core, ((refRows c.1).filter fun row => Ref.releases.contains row.1).length ≥ 25) ∧
    (∀ e ∈ Ref.table, ∀ row ∈ e.2, row.1 ∈ Ref.releases) ∧
    ((Ref.core.map fun c => (refRows c.1).length).sum ≥ 550) := by
  have h : Ref.core.length ≥ 20 ∧ Ref.releases.length ≥ 25 ∧
      (Ref.core.all fun c =>
        decide (((refRows c.1).filter fun row => Ref.releases.contains row.1).length ≥ 25)) = true ∧
      (Ref.table.all fun e => e.2.all fun row => Ref.releases.contains row.1) = true ∧
      ((Ref.core.map fun c => (refRows c.1).length).sum ≥ 550) := by decide +kernel
  refine ⟨h.1, h.2.1, fun c hc => ?_, fun e he row hrow => ?_, h.2.2.2.2⟩
  · simpa using List.all_eq_true.mp h.2.2.1 c hc
  · simpa using List.all_eq_true.mp (List.all_eq_true.mp h.2.2.2.1 e he) row hrow

-- non-vacuity: concrete instances
example : genId "cbPlay" "JoinGamePacket" 757 = some 0x26 := by decide +kernel
example : genLayout "sbHandshake" "HandShakePacket" 47
    = some [.varint, .string, .int .u16, .varint] := by decide +kernel
example : ("handshake", "sbHandshake", "HandShakePacket") ∈ Ref.core := by decide +kernel
-- an `i8` / `u8` pair: same bytes for a value in both domains, different readings of 0xff
example : encode noCustomCodec (.int .i8) (.int 100) = encode noCustomCodec (.int .u8) (.int 100) :=
  (core_bytes_match noCustomCodec noCustomDom).1 (.int .i8) (.int .u8) rfl _
    (show IntT.i8.inDom 100 by decide) (show IntT.u8.inDom 100 by decide)
example : (decode noCustomCodec (.int .i8) [0xff]).map (·.2) = .ok [] ∧
    (decode noCustomCodec (.int .u8) [0xff]).map (·.2) = .ok [] := by decide +kernel
example : signNorm (.int .i8) (.int (-1)) = signNorm (.int .u8) (.int 255) := rfl
example : normL [("a", .int .i8), ("b", .string)] = normL [("x", .int .u8), ("y", .string)] := by
  decide

end PyCraft.C07
