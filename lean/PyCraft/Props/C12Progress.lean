import PyCraft.Lemmas.C12Progress
import PyCraft.Props.C12
/-!
# C12, the progress half — "packets handed to the connection … each REACH the wire"

`Props/C12.lean` (`exactly_once`) is conservation: a packet is never on the wire twice and never
lost from the accounting `issued ~ sent ++ in-flight ++ queue ++ failed`; `Props/C12Final.lean`
says what a disconnect leaves behind.  Neither forces anybody to ever SEND a queued packet: a
networking thread whose write loop never pops (`while False` at `connection.py:613`) satisfies all
of them.  This file states the missing AT-LEAST-ONCE half, for the same model
(`Model/Writers.lean`), ALL batch caps `cfg` (including `capW = 0`, `capR = 0`), ALL programs with
pairwise distinct packet ids and ALL schedules; `s := run cfg (init progs) sched` is an arbitrary
reachable state.

Vocabulary (`Model/C12Progress.lean`): `enabled cfg s t` = thread `t` can perform its next atomic
action (it is neither finished nor blocked in `RLock.acquire`); `moves cfg 0 s more` = the number of
entries of the schedule `more` that were actions actually performed by the networking thread
(entries that are not enabled are skipped by `run` and do not count); `runN cfg s σ n` = the state
after `n` picks of an infinite schedule `σ`; `WeakFair cfg s σ` = a thread that is enabled at every
pick from some pick on is picked again.  `(s.thr t).pc.dctx = some c` = thread `t` is inside
`disconnect` (between its `acq` and its `rel`).

What "reaches the wire" can mean.  A queued packet is NOT sent when a disconnect intervenes — an
immediate one by specification, a graceful one if the packet was appended after the flush
(`C12Final`) — so every liveness statement has the escape "… or a disconnect has been started"
(`interrupt` is set, or some thread is inside `disconnect`); `C12Final` says what happens then.
Forced writes need no liveness argument beyond `lock_holder_never_blocked`: the packet is sent by
the calling thread itself before `write_packet` returns (`forced_write_is_synchronous`).

The reviewer's proposal (`docs/audit_report.md`, rank 8) is `nt_drains` below, with two
corrections: (1) its bound `8·(len+1)+8` is too small — with `capW ≤ 1 < capR` the networking thread
needs ELEVEN actions per packet (`rdi acq rdi chk pop snd snd chk rel rdi sel`), e.g. `len = 8`
needs 84 > 80 (example below) — the bound proved here is `11·len + 2`; (2) "`∃ k ≤ B`" is replaced by the stronger "for all
`k ≥ B`".  Beyond the proposal, `nt_progress` removes the "only the networking thread runs"
restriction (arbitrary interleaving with user threads, counting only the networking thread's own
actions), and `queued_packet_eventually_sent` gives the genuine liveness statement over infinite
weakly fair schedules.

Only property theorems, non-vacuity examples and refutations of mutants live here; helper lemmas
are in `Lemmas/C12Progress.lean`.
-/
namespace PyCraft.C12Progress
open PyCraft PyCraft.Writers

/-! ### Deadlock freedom -/

/-- `lock_holder_never_blocked`: in every reachable state the thread that holds the write lock can
perform its next action (inside a `with self._write_lock:` block nothing blocks: no nested
acquisition by another thread's lock, and `popleft` is never reached with an empty queue). -/
theorem lock_holder_never_blocked (cfg : Cfg) (progs : List (List Op))
    (hnd : (progs.flatMap pktsOf).Nodup) (sched : List Tid) (t : Tid) :
    let s := run cfg (init progs) sched
    s.owner = some t → enabled cfg s t = true := by
  intro s ho
  have h := reach_inv cfg progs hnd sched
  exact holder_enabled cfg s t h.lock h.wire ho

/-- `blocked_only_in_acquire`: a thread that cannot move is finished (at `end`), or the lock is
held by ANOTHER thread — and that thread can move.  In particular, while the lock is free every
unfinished thread can move. -/
theorem blocked_only_in_acquire (cfg : Cfg) (progs : List (List Op))
    (hnd : (progs.flatMap pktsOf).Nodup) (sched : List Tid) (t : Tid) :
    let s := run cfg (init progs) sched
    enabled cfg s t = false →
      (s.thr t).pc.isDone = true ∨ ∃ u, u ≠ t ∧ s.owner = some u ∧ enabled cfg s u = true := by
  intro s hb
  have h := reach_inv cfg progs hnd sched
  exact blocked_cases cfg s t h.lock h.wire hb

/-- `no_deadlock`: in every reachable state in which some thread has not finished, some thread can
move; the successor state extends the log by exactly one event of that thread. -/
theorem no_deadlock (cfg : Cfg) (progs : List (List Op))
    (hnd : (progs.flatMap pktsOf).Nodup) (sched : List Tid) :
    let s := run cfg (init progs) sched
    (∃ t, (s.thr t).pc.isDone = false) →
      ∃ u s' ev, step cfg s u = some s' ∧ s'.log = s.log ++ [(u, ev)] := by
  intro s ⟨t, ht⟩
  have h := reach_inv cfg progs hnd sched
  have hen : ∃ u, enabled cfg s u = true := by
    cases hb : enabled cfg s t with
    | true => exact ⟨t, hb⟩
    | false =>
      rcases blocked_cases cfg s t h.lock h.wire hb with hd | ⟨u, -, -, hu⟩
      · rw [ht] at hd; cases hd
      · exact ⟨u, hu⟩
  obtain ⟨u, hu⟩ := hen
  obtain ⟨s', hs⟩ := Option.isSome_iff_exists.mp hu
  obtain ⟨ev, he⟩ := step_log cfg s s' u hs
  exact ⟨u, s', ev, hs, he⟩

/-- `networking_thread_runs_until_interrupted`: as long as `interrupt` is clear the networking
thread has not finished; it can move whenever the lock is free or its own. -/
theorem networking_thread_runs_until_interrupted (cfg : Cfg) (progs : List (List Op))
    (hnd : (progs.flatMap pktsOf).Nodup) (sched : List Tid) :
    let s := run cfg (init progs) sched
    s.interrupt = false →
      (s.thr 0).pc.isDone = false ∧
      ((s.owner = none ∨ s.owner = some 0) → enabled cfg s 0 = true) := by
  intro s hi
  have h := reach_inv cfg progs hnd sched
  refine ⟨nt_not_done h.lock hi, ?_⟩
  rintro (ho | ho)
  · exact free_enabled cfg s 0 h.lock ho (nt_not_done h.lock hi)
  · exact holder_enabled cfg s 0 h.lock h.wire ho

/-! ### At least once -/

/-- `nt_progress`: THE progress bound.  Let `p` be in the queue of a reachable state `s`, with
`i = s.queue.idxOf p` packets in front of it, and let `more` be ANY continuation of the schedule —
user threads appending, forcing, holding the lock, in any interleaving.  If the networking thread
gets to perform at least `11·i + 13` actions of its own in `more`, then afterwards `p` has a whole
frame on the wire, or a disconnect has been started (the `interrupt` flag is set, or some thread is
inside `disconnect`).  No action of any other thread can delay `p`: the count is of the networking
thread's own actions only. -/
theorem nt_progress (cfg : Cfg) (progs : List (List Op)) (hnd : (progs.flatMap pktsOf).Nodup)
    (sched more : List Tid) (p : Pkt) :
    let s := run cfg (init progs) sched
    let s' := run cfg s more
    p ∈ s.queue → 11 * s.queue.idxOf p + 13 ≤ moves cfg 0 s more →
      p ∈ sentPkts s'.wire ∨ s'.interrupt = true ∨ ∃ t c, (s'.thr t).pc.dctx = some c := by
  intro s s' hp hm
  have h := reach_inv cfg progs hnd sched
  have hr := rank_le s p
  rcases progress_core cfg progs p more s h (Or.inr ⟨Or.inl hp, by omega⟩) with g | g
  · exact Or.inl g
  · exact Or.inr ((discBegun_iff (run_inv cfg progs more s h).lock).mp g)

/-- `nt_drains` (the reviewer's proposal, corrected): in a reachable state with the lock free or
held by the networking thread and `interrupt` clear, let the networking thread run alone for `k ≥
11·len(queue) + 2` actions.  Then no schedule entry was skipped (it was never blocked), EVERY packet
that was in the queue has a whole frame on the wire, `interrupt` is still clear and the socket is
still open. -/
theorem nt_drains (cfg : Cfg) (progs : List (List Op)) (hnd : (progs.flatMap pktsOf).Nodup)
    (sched : List Tid) (k : Nat) :
    let s := run cfg (init progs) sched
    let s' := run cfg s (List.replicate k 0)
    (s.owner = none ∨ s.owner = some 0) → s.interrupt = false → 11 * s.queue.length + 2 ≤ k →
      (∀ p ∈ s.queue, p ∈ sentPkts s'.wire) ∧ skipped cfg s (List.replicate k 0) = 0 ∧
      s'.interrupt = false ∧ s'.sockOpen = true := by
  intro s s' ho hi hk
  exact drain_core cfg progs s (reach_inv cfg progs hnd sched) ho hi k hk

/-- `queued_packet_eventually_sent`: LIVENESS.  Let `p` be in the queue of a reachable state `s`
and let `σ` be any infinite schedule that is weakly fair for the run from `s`.  Then after finitely
many picks — and from then on for ever — `p` has a whole frame on the wire, or a disconnect has
been started.  (Weak fairness is needed only to exclude schedules that from some point on pick
nothing but blocked or finished threads: every ACTION of every thread decreases the variant
`rank s p + work s` = (actions the networking thread still needs for `p`) + (actions the user
programs have left), so no fairness towards the networking thread in particular is assumed — the
user programs are finite, and the lock holder can always move.) -/
theorem queued_packet_eventually_sent (cfg : Cfg) (progs : List (List Op))
    (hnd : (progs.flatMap pktsOf).Nodup) (sched : List Tid) (p : Pkt) (σ : Nat → Tid) :
    let s := run cfg (init progs) sched
    p ∈ s.queue → WeakFair cfg s σ →
      ∃ n, ∀ m, n ≤ m →
        let s' := runN cfg s σ m
        p ∈ sentPkts s'.wire ∨ s'.interrupt = true ∨ ∃ t c, (s'.thr t).pc.dctx = some c := by
  intro s hp hf
  have h := reach_inv cfg progs hnd sched
  have hu : UB progs.length s := UB_run cfg _ sched _ (UB_init progs)
  obtain ⟨n, hn⟩ := fair_core cfg progs progs.length p s σ h hu (Or.inl hp) hf
  refine ⟨n, fun m hm => ?_⟩
  rcases goal_runN cfg progs s σ p h n hn m hm with g | g
  · exact Or.inl g
  · exact Or.inr ((discBegun_iff (runN_inv cfg progs s σ h m).lock).mp g)

/-- `without_disconnect_every_queued_packet_is_sent`: if no program contains a `disconnect`, then
in every reachable state no disconnect has been started, and every packet in the queue has — after
finitely many picks of every weakly fair schedule, and from then on for ever — a whole frame on the
wire (exactly one, by `C12.exactly_once`). -/
theorem without_disconnect_every_queued_packet_is_sent (cfg : Cfg) (progs : List (List Op))
    (hnd : (progs.flatMap pktsOf).Nodup) (hno : ∀ prog ∈ progs, ∀ imm, Op.disconnect imm ∉ prog)
    (sched : List Tid) (p : Pkt) (σ : Nat → Tid) :
    let s := run cfg (init progs) sched
    (s.interrupt = false ∧ ∀ t, (s.thr t).pc.dctx = none) ∧
    (p ∈ s.queue → WeakFair cfg s σ → ∃ n, ∀ m, n ≤ m → p ∈ sentPkts (runN cfg s σ m).wire) := by
  intro s
  have h := reach_inv cfg progs hnd sched
  have hq : discBegun s = false :=
    nodisc_run cfg progs hno sched _ (init_inv progs hnd) (init_not_disc progs)
  have hnot : ¬ (s.interrupt = true ∨ ∃ t c, (s.thr t).pc.dctx = some c) := by
    rw [← discBegun_iff h.lock, hq]; simp
  refine ⟨⟨?_, fun t => ?_⟩, fun hp hf => ?_⟩
  · cases hi : s.interrupt with
    | false => rfl
    | true => exact absurd (Or.inl hi) hnot
  · cases hc : (s.thr t).pc.dctx with
    | none => rfl
    | some c => exact absurd (Or.inr ⟨t, c, hc⟩) hnot
  · have hu : UB progs.length s := UB_run cfg _ sched _ (UB_init progs)
    obtain ⟨n, hn⟩ := fair_core cfg progs progs.length p s σ h hu (Or.inl hp) hf
    refine ⟨n, fun m hm => ?_⟩
    rcases goal_runN cfg progs s σ p h n hn m hm with g | g
    · exact g
    · have : discBegun (runN cfg s σ m) = false := by
        rw [runN_eq_run]
        exact nodisc_run cfg progs hno _ s h hq
      rw [this] at g; cases g

/-- `fair_schedules_exist`: the fairness hypothesis is satisfiable — round robin over the threads
`0..progs.length`, and more generally every schedule that picks each of these threads infinitely
often, is weakly fair for the run from every reachable state (threads with larger ids are finished
from the start and never enabled). -/
theorem fair_schedules_exist (cfg : Cfg) (progs : List (List Op)) (sched : List Tid)
    (σ : Nat → Tid) :
    let s := run cfg (init progs) sched
    (FairUpTo progs.length σ → WeakFair cfg s σ) ∧ FairUpTo progs.length (roundRobin progs.length) := by
  intro s
  exact ⟨fair_weak cfg progs.length s σ (UB_run cfg _ sched _ (UB_init progs)),
    roundRobin_fair progs.length⟩

/-! ### Forced writes and the flush of a graceful disconnect -/

/-- `forced_write_is_synchronous`: if in a reachable state thread `t` is about to execute
`write_packet(p, force=True)` (idle, next operation `forced p`, then `rest`), then in every later
state in which `t` has returned from that call — it is outside every locked block and has at most
`rest` left to do — `p` has a whole frame on the wire, or the write failed (`p ∈ failed`: the
socket was `None`, the exception went to the caller), and then the socket is closed.  A forced
packet is never left in the queue. -/
theorem forced_write_is_synchronous (cfg : Cfg) (progs : List (List Op))
    (hnd : (progs.flatMap pktsOf).Nodup) (sched more : List Tid) (t : Tid) (p : Pkt)
    (rest : List Op) :
    let s0 := run cfg (init progs) sched
    let s := run cfg s0 more
    (s0.thr t).pc = .user .idle → (s0.thr t).todo = .forced p :: rest →
    (s.thr t).pc.crit = false → (s.thr t).todo.length ≤ rest.length →
      (p ∈ sentPkts s.wire ∨ (p ∈ s.failed ∧ s.sockOpen = false)) ∧ p ∉ s.queue := by
  intro s0 s hpc htd hcrit hlen
  have h0 := reach_inv cfg progs hnd sched
  have h := run_inv cfg progs more s0 h0
  have hj := forcedJ_run cfg t p rest more s0 (Or.inl ⟨hpc, htd⟩)
  obtain ⟨-, d1, -, d3⟩ := h.wire.disj
  rcases hj with ⟨-, e⟩ | ⟨e, -⟩ | ⟨e, -⟩ | e | e
  · have : (s.thr t).todo.length = rest.length + 1 := by
      show ((run cfg s0 more).thr t).todo.length = _
      rw [e]; rfl
    omega
  · have : (s.thr t).pc.crit = true := by
      show ((run cfg s0 more).thr t).pc.crit = _
      rw [e]; rfl
    rw [hcrit] at this; cases this
  · have : (s.thr t).pc.crit = true := by
      show ((run cfg s0 more).thr t).pc.crit = _
      rw [e]; rfl
    rw [hcrit] at this; cases this
  · exact ⟨Or.inl e, (d1 p e).2.1⟩
  · exact ⟨Or.inr ⟨e, h.wire.failed_closed (List.ne_nil_of_mem e)⟩, fun hq => d3 p hq e⟩

/-- `graceful_disconnect_sends_all_issued_before`: let `s0` be a reachable state with the lock free
and the socket open.  By `C12.disconnect_ctx_set` a `disconnect(immediate=False)` that acquires the
lock in `s0` carries the ghost context `⟨false, s0.queue, s0.wire, true⟩`.  Whenever a later state
has a thread at the final `rel` of a disconnect with that context, EVERY packet issued before the
acquisition — queued or forced, by any thread — has a whole frame on the wire, and the socket is
closed.  (`C12.graceful_flushes_then_closes` says this for the queue snapshot only.) -/
theorem graceful_disconnect_sends_all_issued_before (cfg : Cfg) (progs : List (List Op))
    (hnd : (progs.flatMap pktsOf).Nodup) (sched more : List Tid) (t : Tid) :
    let s0 := run cfg (init progs) sched
    let s := run cfg s0 more
    s0.owner = none → s0.sockOpen = true →
    (s.thr t).pc = .user (.dRel ⟨false, s0.queue, s0.wire, true⟩) →
      (∀ p ∈ s0.issued, p ∈ sentPkts s.wire) ∧ s.sockOpen = false := by
  intro s0 s ho hopen hpc
  exact issued_before_sent cfg progs s0 (reach_inv cfg progs hnd sched) more t ho hopen hpc

/-! ### Non-vacuity -/

/-- Thread 1 queues 1 and 2; thread 2 forces 3. -/
def progsA : List (List Op) := [[.queued 1, .queued 2], [.forced 3]]

/-- After `[1, 1]` the queue is `[1, 2]`.  Continuation: the networking thread reads `interrupt`,
thread 2 takes the lock for its forced write, the networking thread is blocked in `acquire` (that
entry is skipped and not counted), thread 2 finishes, then the networking thread runs. -/
def moreA : List Tid := [0, 2, 0, 2, 2, 2] ++ List.replicate 24 0

example : (progsA.flatMap pktsOf).Nodup := by decide

/-- The hypotheses of `nt_progress` hold for packet 2 (one packet in front of it: bound 24; the
networking thread performs 25 of the 30 entries, one entry is skipped), and it is sent: the wire is
the forced frame followed by the two queued frames in queue order. -/
example :
    let s := run ⟨300, 50⟩ (init progsA) [1, 1]
    s.queue = [1, 2] ∧ s.queue.idxOf 2 = 1 ∧ moves ⟨300, 50⟩ 0 s moreA = 25 ∧
    skipped ⟨300, 50⟩ s moreA = 1 ∧
    (run ⟨300, 50⟩ s moreA).wire = [(3, 0), (3, 1), (1, 0), (1, 1), (2, 0), (2, 1)] ∧
    (run ⟨300, 50⟩ s moreA).interrupt = false := by decide +kernel

/-- The hypotheses of `nt_drains` hold in the same state (`11·2 + 2 = 24`), also with batch caps
`0` (one packet per round of the outer loop: the bound is attained up to the final `rel`). -/
example :
    let s := run ⟨0, 0⟩ (init progsA) [1, 1]
    s.owner = none ∧ s.interrupt = false ∧ s.queue.length = 2 ∧
    sentPkts (run ⟨0, 0⟩ s (List.replicate 24 0)).wire = [1, 2] ∧
    sentPkts (run ⟨0, 0⟩ s (List.replicate 15 0)).wire = [1] := by decide +kernel

/-- Elevens are needed: with `capW = 1` (one packet per round of the outer loop) eight queued packets
are NOT all sent after the `8·(8+1)+8 = 80` actions of the reviewer's bound, but are after
`11·8 + 2 = 90`. -/
example :
    let s := run ⟨1, 50⟩ (init [[.queued 1, .queued 2, .queued 3, .queued 4, .queued 5, .queued 6,
      .queued 7, .queued 8]]) (List.replicate 8 1)
    s.queue.length = 8 ∧ s.owner = none ∧ s.interrupt = false ∧
    sentPkts (run ⟨1, 50⟩ s (List.replicate 80 0)).wire = [1, 2, 3, 4, 5, 6, 7] ∧
    sentPkts (run ⟨1, 50⟩ s (List.replicate 90 0)).wire = [1, 2, 3, 4, 5, 6, 7, 8] := by
  decide +kernel

/-- `no_deadlock` / `blocked_only_in_acquire`: a state in which the networking thread is blocked
(thread 2 holds the lock), thread 2 is enabled. -/
example :
    let s := run ⟨300, 50⟩ (init progsA) [1, 1, 0, 2]
    enabled ⟨300, 50⟩ s 0 = false ∧ s.owner = some 2 ∧ enabled ⟨300, 50⟩ s 2 = true ∧
    (s.thr 0).pc.isDone = false := by decide +kernel

/-- `queued_packet_eventually_sent` instantiated: under round robin over threads 0, 1, 2 packet 2 is
eventually — and then for ever — on the wire (there is no disconnect in `progsA`). -/
example : ∃ n, ∀ m, n ≤ m →
    2 ∈ sentPkts (runN ⟨300, 50⟩ (run ⟨300, 50⟩ (init progsA) [1, 1]) (roundRobin 2) m).wire := by
  have hf := (fair_schedules_exist ⟨300, 50⟩ progsA [1, 1] (roundRobin 2)).1
    (fair_schedules_exist ⟨300, 50⟩ progsA [1, 1] (roundRobin 2)).2
  exact (without_disconnect_every_queued_packet_is_sent ⟨300, 50⟩ progsA (by decide) (by decide)
    [1, 1] 2 (roundRobin 2)).2 (by decide +kernel) hf

/-- … concretely after 60 picks. -/
example :
    sentPkts (runN ⟨300, 50⟩ (run ⟨300, 50⟩ (init progsA) [1, 1]) (roundRobin 2) 60).wire
      = [3, 1, 2] := by decide +kernel

/-- `forced_write_is_synchronous`: thread 2 of `progsA` before and after its forced write. -/
example :
    let s0 := run ⟨300, 50⟩ (init progsA) [1, 1]
    let s := run ⟨300, 50⟩ s0 [0, 2, 0, 2, 2, 2]
    (s0.thr 2).pc = .user .idle ∧ (s0.thr 2).todo = [.forced 3] ∧
    (s.thr 2).pc.crit = false ∧ (s.thr 2).todo.length ≤ ([] : List Op).length ∧
    3 ∈ sentPkts s.wire := by decide +kernel

/-- … and a forced write that fails: thread 1 disconnects immediately, then thread 2 forces 3. -/
example :
    let s0 := run ⟨300, 50⟩ (init [[.disconnect true], [.forced 3]]) [1, 1, 1, 1, 1]
    let s := run ⟨300, 50⟩ s0 [2, 2, 2]
    (s0.thr 2).pc = .user .idle ∧ (s0.thr 2).todo = [.forced 3] ∧
    (s.thr 2).pc.crit = false ∧ (s.thr 2).todo = [] ∧ s.failed = [3] ∧ s.sockOpen = false := by
  decide +kernel

/-- `graceful_disconnect_sends_all_issued_before`: thread 1 queues 1, forces 2, disconnects
gracefully; thread 2 queues 3.  In `s0` (lock free, socket open) 1, 2, 3 have been issued, 2 is on
the wire; thread 1 then acquires the lock and runs its disconnect up to the final `rel`. -/
def progsG : List (List Op) := [[.queued 1, .forced 2, .disconnect false], [.queued 3]]

example :
    let s0 := run ⟨300, 50⟩ (init progsG) [1, 2, 1, 1, 1, 1]
    let s := run ⟨300, 50⟩ s0 (List.replicate 13 1)
    s0.owner = none ∧ s0.sockOpen = true ∧ s0.issued = [1, 3, 2] ∧ s0.queue = [1, 3] ∧
    (s.thr 1).pc = .user (.dRel ⟨false, s0.queue, s0.wire, true⟩) ∧
    sentPkts s.wire = [2, 1, 3] := by decide +kernel

/-! ### The mutants are refuted

Both mutants (`Model/C12Progress.lean`) are models of CHANGED code which, according to the audit
(`docs/audit_report.md`, rank 8), pass every theorem of `C12`, `C12Bytes` and `C12Final`: nothing
there forces a send.  `runWith (step cfg)` is `run cfg`
(`runWith_real`), so the statements below are the conclusions of the theorems above with the
mutant's step function in place of `step`. -/

/-- MUTANT 1 (`while False:` at `connection.py:613`, the networking thread never pops) violates
`nt_drains`: thread 1 queues packet 1; the lock is free, `interrupt` is clear, the queue is `[1]`;
but after `k` solo actions of the networking thread — for every `k` up to 60, in particular for
`k = 11·1 + 2 = 13` — packet 1 is NOT on the wire (nothing is), although no entry was skipped … -/
example :
    let s := runWith (stepNoPop ⟨300, 50⟩) (init [[.queued 1]]) [1]
    s.queue = [1] ∧ s.owner = none ∧ s.interrupt = false ∧
    ∀ k, k ≤ 60 → (runWith (stepNoPop ⟨300, 50⟩) s (List.replicate k 0)).wire = [] ∧
      (runWith (stepNoPop ⟨300, 50⟩) s (List.replicate k 0)).queue = [1] := by decide +kernel

/-- … whereas the real model sends it within 13 actions, as `nt_drains` says. -/
example :
    let s := runWith (step ⟨300, 50⟩) (init [[.queued 1]]) [1]
    s.queue = [1] ∧ s.owner = none ∧ s.interrupt = false ∧
    (runWith (step ⟨300, 50⟩) s (List.replicate 13 0)).wire = [(1, 0), (1, 1)] := by
  decide +kernel

/-- MUTANT 1 also violates `nt_progress` and `queued_packet_eventually_sent` on the same instance:
600 picks of round robin over threads 0 and 1 (300 actions of the networking thread; bound 13), no
disconnect anywhere, and packet 1 is still in the queue. -/
example :
    let s' := runWith (stepNoPop ⟨300, 50⟩) (init [[.queued 1]])
      ((List.range 600).map (roundRobin 1))
    s'.wire = [] ∧ s'.queue = [1] ∧ s'.interrupt = false ∧ s'.owner = none := by
  decide +kernel

/-- MUTANT 2 (`write_packet(p, force=True)` silently appends to the queue) violates
`forced_write_is_synchronous`: thread 1 is idle with `forced 1` next; after its one action it has
returned (outside every locked block, nothing left to do), but packet 1 is neither on the wire nor
failed — it sits in the queue … -/
example :
    let s0 := init [[.forced 1]]
    let s := runWith (stepForceQueued ⟨300, 50⟩) s0 [1]
    (s0.thr 1).pc = .user .idle ∧ (s0.thr 1).todo = [.forced 1] ∧
    (s.thr 1).pc.crit = false ∧ (s.thr 1).todo.length ≤ ([] : List Op).length ∧
    1 ∉ sentPkts s.wire ∧ 1 ∉ s.failed ∧ 1 ∈ s.queue := by decide +kernel

/-- … whereas in the real model it is on the wire when the call has returned. -/
example :
    let s := runWith (step ⟨300, 50⟩) (init [[.forced 1]]) [1, 1, 1, 1]
    (s.thr 1).pc.crit = false ∧ (s.thr 1).todo = [] ∧ s.wire = [(1, 0), (1, 1)] ∧ s.queue = [] := by
  decide +kernel

end PyCraft.C12Progress
